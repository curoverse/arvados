/-
C17 — loading manifest text into a tree (`loadManifest` / `createFileAndParents`).

What the loaded tree can contain: every entry lies on the path of some item (`loadFrags_cover`); the
invariant `Accounted` also says which of them are directories.

When it loads: `loadFrags [] fs` fails exactly when two items contradict each other: a *file* item whose
path is a proper prefix of another item's path (the file would have to be a directory), or a file item
and a directory marker at the same path. The same file named twice is not a contradiction: its segments
are appended. `FragsCompat` is that pairwise condition; `loadFrags_ok` shows it is sufficient (by
`Accounted`), `loadFrags_compat` that it is necessary (kinds persist: `KindLe`, `Placed`).
-/
import ArvVerif.Proofs.C17_Tree
import ArvVerif.Proofs.C17_Path
namespace ArvVerif.C17

theorem mkParents_get : ∀ (cs : List Name) (t t' : Tree) (pre : Path), mkParents t pre cs = some t' →
    ∀ p, t'.get p =
      if p.isPrefixOf (pre ++ cs) = true ∧ pre.length < p.length then some .dir else t.get p := by
  intro cs
  induction cs with
  | nil =>
    intro t t' pre hm p
    cases hm
    rw [if_neg]
    intro ⟨h1, h2⟩
    have := prefix_length_le _ _ h1
    simp at this; omega
  | cons c rest ih =>
    intro t t' pre hm p
    simp only [mkParents] at hm
    -- `pre ++ [c]` is the first path on the way, the others lie strictly below it
    have hsplit : (p.isPrefixOf (pre ++ c :: rest) = true ∧ pre.length < p.length) ↔
        p = pre ++ [c] ∨ (p.isPrefixOf ((pre ++ [c]) ++ rest) = true ∧ (pre ++ [c]).length < p.length) := by
      have hpc := isPrefixOf_snoc_cons pre c rest
      rw [List.append_assoc, List.singleton_append, List.length_append, List.length_singleton]
      constructor
      · intro ⟨h1, h2⟩
        by_cases hl : pre.length + 1 < p.length
        · exact Or.inr ⟨h1, hl⟩
        · exact Or.inl (isPrefixOf_eq_of_length _ _ (prefix_total p _ _ h1 hpc (by simp; omega)) (by simp; omega))
      · rintro (rfl | ⟨h1, h2⟩)
        · exact ⟨hpc, by simp⟩
        · exact ⟨h1, by omega⟩
    simp only [hsplit]
    split at hm
    · rename_i hg
      rw [ih _ _ _ hm p, Tree.get_set t _ p .dir (by simp)]
      by_cases hp : p = pre ++ [c] <;> simp [hp]
    · rename_i hg
      rw [ih _ _ _ hm p]
      by_cases hp : p = pre ++ [c]
      · subst hp; simp [hg]
      · simp [hp]
    · cases hm

/-- for `createFileAndParents`, from the root -/
theorem mkParents_nil_get {cs : List Name} {t t' : Tree} (hm : mkParents t [] cs = some t') (p : Path) :
    t'.get p = if p.isPrefixOf cs = true ∧ p ≠ [] then some .dir else t.get p := by
  simpa [List.length_pos_iff] using mkParents_get cs t t' [] hm p

/-- `mkParents` fails rather than replace a file: what was there stays -/
theorem mkParents_keep {cs : List Name} {t t' : Tree} {pre : Path} (hm : mkParents t pre cs = some t')
    {p : Path} {e : Ent} (hg : t.get p = some e) : t'.get p = some e := by
  induction cs generalizing t pre with
  | nil => cases hm; exact hg
  | cons c rest ih =>
    simp only [mkParents] at hm
    split at hm
    · rename_i hnone
      refine ih hm ?_
      rw [Tree.get_set t _ p .dir (by simp), if_neg fun hp => by rw [hp, hnone] at hg; cases hg]
      exact hg
    · exact ih hm hg
    · cases hm

theorem mkParents_ok : ∀ (cs : List Name) (t : Tree) (pre : Path),
    (∀ q c, q.isPrefixOf (pre ++ cs) = true → pre.length < q.length → t.get q ≠ some (.file c)) →
    ∃ t', mkParents t pre cs = some t' := by
  intro cs
  induction cs with
  | nil => intro t pre _; exact ⟨t, rfl⟩
  | cons c rest ih =>
    intro t pre hno
    have hrest : ∀ q c', q.isPrefixOf ((pre ++ [c]) ++ rest) = true → (pre ++ [c]).length < q.length →
        t.get q ≠ some (.file c') := fun q c' hq hl =>
      hno q c' (by simpa [List.append_assoc] using hq) (by simp at hl; omega)
    simp only [mkParents]
    split
    · apply ih
      intro q c' hq hl
      rw [Tree.get_set t (pre ++ [c]) q .dir (by simp)]
      split
      · simp
      · exact hrest q c' hq hl
    · exact ih _ _ hrest
    · rename_i c' hg
      exact absurd hg (hno _ c' (isPrefixOf_snoc_cons pre c rest) (by simp))

theorem mkParents_nil_ok {cs : List Name} {t : Tree}
    (hno : ∀ q c, q.isPrefixOf cs = true → q ≠ [] → t.get q ≠ some (.file c)) : ∃ t', mkParents t [] cs = some t' :=
  mkParents_ok cs t [] (by simpa [List.length_pos_iff] using hno)

theorem addFrag_some {t t' : Tree} {f : Frag} (ha : addFrag t f = some t') :
    (f.2 = none ∧ mkParents t [] f.1 = some t') ∨
    (f.2.isSome = true ∧ f.1 ≠ [] ∧ ∃ t1 e, mkParents t [] f.1.dropLast = some t1 ∧ t1.get f.1 ≠ some .dir ∧
      ∀ p, t'.get p = if p = f.1 then some (.file e) else t1.get p) := by
  unfold addFrag at ha
  cases hf2 : f.2 with
  | none => rw [hf2] at ha; exact Or.inl ⟨rfl, ha⟩
  | some content =>
    rw [hf2] at ha
    right
    obtain ⟨t1, hm, ha⟩ := Option.bind_eq_some_iff.mp ha
    have hne : f.1 ≠ [] := by
      intro h0; rw [h0] at ha; simp [Tree.get] at ha
    refine ⟨rfl, hne, t1, ?_⟩
    split at ha
    · cases ha; exact ⟨_, hm, by simp [*], fun p => Tree.get_set t1 f.1 p _ hne⟩
    · cases ha; exact ⟨_, hm, by simp [*], fun p => Tree.get_set t1 f.1 p _ hne⟩
    · cases ha

def Covered (S : List Frag) (t : Tree) : Prop :=
  ∀ p e, t.get p = some e → p ≠ [] →
    ∃ f ∈ S, p.isPrefixOf f.1 = true ∧ (∀ c, e = .file c → p = f.1 ∧ f.2.isSome = true)

theorem Covered.mono {S S' : List Frag} {t : Tree} (hc : Covered S t) (hs : ∀ f ∈ S, f ∈ S') : Covered S' t := by
  intro p e hg hp
  obtain ⟨f, hf, h1, h2⟩ := hc p e hg hp
  exact ⟨f, hs f hf, h1, h2⟩

/-- `Covered`, and a directory of `t` lies strictly above an item or is a directory marker: what
`addFrag_ok` needs to refute a directory where a file item is to go -/
def Accounted (S : List Frag) (t : Tree) : Prop :=
  ∀ p e, t.get p = some e → p ≠ [] → ∃ f ∈ S, p.isPrefixOf f.1 = true ∧
    (∀ c, e = .file c → p = f.1 ∧ f.2.isSome = true) ∧ (e = .dir → p ≠ f.1 ∨ f.2 = none)

theorem Accounted.covered {S : List Frag} {t : Tree} (hj : Accounted S t) : Covered S t := fun p e hg hp =>
  let ⟨f, hf, h1, h2, _⟩ := hj p e hg hp
  ⟨f, hf, h1, h2⟩

theorem accounted_nil : Accounted [] [] := fun p e hg hp => by simp [Tree.get, hp] at hg

theorem addFrag_accounted {S : List Frag} {t t' : Tree} {f : Frag} (hj : Accounted S t) (ha : addFrag t f = some t') :
    Accounted (S ++ [f]) t' := by
  intro p e hg hp
  -- an entry of a tree `t1` in which directories towards the item have been made
  have hway : ∀ cs t1, mkParents t [] cs = some t1 → cs.isPrefixOf f.1 = true → (cs ≠ f.1 ∨ f.2 = none) →
      t1.get p = some e → ∃ g ∈ S ++ [f], p.isPrefixOf g.1 = true ∧
        (∀ c, e = .file c → p = g.1 ∧ g.2.isSome = true) ∧ (e = .dir → p ≠ g.1 ∨ g.2 = none) := by
    intro cs t1 hm hcs hor hg1
    rw [mkParents_nil_get hm p] at hg1
    split at hg1
    · rename_i hon
      cases hg1
      refine ⟨f, by simp, prefix_trans' _ _ _ hon.1 hcs, nofun, fun _ => hor.imp_left fun hne heq => hne ?_⟩
      exact isPrefixOf_eq_of_length cs f.1 hcs (heq ▸ prefix_length_le _ _ hon.1)
    · obtain ⟨g, hgm, h⟩ := hj p e hg1 hp
      exact ⟨g, List.mem_append_left _ hgm, h⟩
  rcases addFrag_some ha with ⟨h2, hm⟩ | ⟨h2, hne, t1, c, hm, _, hget⟩
  · exact hway _ _ hm (isPrefixOf_self _) (Or.inr h2) hg
  · rw [hget p] at hg
    split at hg
    · rename_i hpf
      cases hg
      exact ⟨f, by simp, hpf ▸ isPrefixOf_self _, fun _ _ => ⟨hpf, h2⟩, nofun⟩
    · exact hway _ _ hm (dropLast_isPrefixOf _) (Or.inl ((prefix_dropLast hne).mp (isPrefixOf_self _)).2) hg

theorem loadFrags_accounted : ∀ (fs : List Frag) (S : List Frag) (t t' : Tree), Accounted S t →
    loadFrags t fs = some t' → Accounted (S ++ fs) t' := by
  intro fs
  induction fs with
  | nil => intro S t t' hj hl; cases hl; simpa using hj
  | cons f fs ih =>
    intro S t t' hj hl
    obtain ⟨t1, ha, hl⟩ := Option.bind_eq_some_iff.mp hl
    simpa [List.append_assoc] using ih (S ++ [f]) t1 t' (addFrag_accounted hj ha) hl

theorem loadFrags_cover (fs : List Frag) (t0 : Tree) (hl : loadFrags [] fs = some t0) : Covered fs t0 := by
  simpa using (loadFrags_accounted fs [] [] t0 accounted_nil hl).covered

def Compat (f g : Frag) : Prop :=
  f.2.isSome = true → f.1 ≠ [] ∧ (f.1.isPrefixOf g.1 = true → f.1 = g.1 ∧ g.2.isSome = true)

def FragsCompat (fs : List Frag) : Prop := ∀ f ∈ fs, ∀ g ∈ fs, Compat f g

theorem addFrag_ok {S T : List Frag} {t : Tree} {f : Frag} (hj : Accounted S t) (hcomp : FragsCompat T)
    (hS : ∀ g ∈ S, g ∈ T) (hfS : f ∈ T) : ∃ t', addFrag t f = some t' := by
  -- a file of `t` at or above the item's path is the item's own file
  have hfile : ∀ q c, q.isPrefixOf f.1 = true → q ≠ [] → t.get q = some (.file c) →
      q = f.1 ∧ f.2.isSome = true := by
    intro q c hq hne hg
    obtain ⟨g, hgS, _, h2, _⟩ := hj q _ hg hne
    obtain ⟨rfl, h4⟩ := h2 c rfl
    exact (hcomp g (hS g hgS) f hfS h4).2 hq
  unfold addFrag
  cases hf2 : f.2 with
  | none =>
    exact mkParents_nil_ok fun q c hq hne hg => by
      have := (hfile q c hq hne hg).2
      rw [hf2] at this; cases this
  | some content =>
    have hsome : f.2.isSome = true := by rw [hf2]; rfl
    have hne : f.1 ≠ [] := (hcomp f hfS f hfS hsome).1
    obtain ⟨t1, ht1⟩ := mkParents_nil_ok (t := t) (cs := f.1.dropLast) fun q c hq hne' hg =>
      have hq := (prefix_dropLast hne).mp hq
      hq.2 (hfile q c hq.1 hne' hg).1
    simp only [ht1, Option.bind]
    cases hg : t1.get f.1 with
    | none => exact ⟨_, rfl⟩
    | some ent =>
      cases ent with
      | file old => exact ⟨_, rfl⟩
      | dir =>
        -- the parents end above `f.1`, so it was a directory of `t`: above an item, or a marker
        exfalso
        rw [mkParents_nil_get ht1 f.1, if_neg fun hon => ((prefix_dropLast hne).mp hon.1).2 rfl] at hg
        obtain ⟨g, hgS, h3, _, h4⟩ := hj f.1 _ hg hne
        have := (hcomp f hfS g (hS g hgS) hsome).2 h3
        rcases h4 rfl with h4 | h4
        · exact h4 this.1
        · rw [h4] at this; cases this.2

theorem loadFrags_ok_aux : ∀ (fs : List Frag) (S : List Frag) (t : Tree), Accounted S t →
    FragsCompat (S ++ fs) → ∃ t', loadFrags t fs = some t' := by
  intro fs
  induction fs with
  | nil => intro S t _ _; exact ⟨t, rfl⟩
  | cons f fs ih =>
    intro S t hj hcomp
    obtain ⟨t1, h1⟩ := addFrag_ok (f := f) hj hcomp (fun g => List.mem_append_left _) (by simp)
    simp only [loadFrags, h1, Option.bind]
    exact ih (S ++ [f]) t1 (addFrag_accounted hj h1) (by simpa [List.append_assoc] using hcomp)

theorem loadFrags_ok (fs : List Frag) (hc : FragsCompat fs) : ∃ t0, loadFrags [] fs = some t0 :=
  loadFrags_ok_aux fs [] [] accounted_nil (by simpa using hc)

def KindLe (t t' : Tree) : Prop :=
  (∀ p, t.get p = some .dir → t'.get p = some .dir) ∧ (∀ p c, t.get p = some (.file c) → ∃ c', t'.get p = some (.file c'))

theorem KindLe.refl (t : Tree) : KindLe t t := ⟨fun _ h => h, fun _ c h => ⟨c, h⟩⟩

theorem KindLe.trans {a b c : Tree} (h1 : KindLe a b) (h2 : KindLe b c) : KindLe a c :=
  ⟨fun p h => h2.1 p (h1.1 p h), fun p x h => by obtain ⟨y, hy⟩ := h1.2 p x h; exact h2.2 p y hy⟩

def Placed (t : Tree) (f : Frag) : Prop :=
  (∀ q, q.isPrefixOf f.1 = true → q ≠ [] → (q ≠ f.1 ∨ f.2 = none) → t.get q = some .dir) ∧
  (f.2.isSome = true → f.1 ≠ [] ∧ ∃ c, t.get f.1 = some (.file c))

theorem Placed.mono {t t' : Tree} {f : Frag} (hp : Placed t f) (hk : KindLe t t') : Placed t' f :=
  ⟨fun q h1 h2 h3 => hk.1 q (hp.1 q h1 h2 h3),
   fun h => ⟨(hp.2 h).1, by obtain ⟨c, hc⟩ := (hp.2 h).2; exact hk.2 _ c hc⟩⟩

theorem addFrag_placed (t t' : Tree) (f : Frag) (ha : addFrag t f = some t') : KindLe t t' ∧ Placed t' f := by
  rcases addFrag_some ha with ⟨h2, hm⟩ | ⟨h2, hne, t1, c, hm, hnd, hget⟩
  · refine ⟨⟨fun p h => mkParents_keep hm h, fun p c h => ⟨c, mkParents_keep hm h⟩⟩, fun q hq hqne _ => ?_,
      fun h => by rw [h2] at h; cases h⟩
    rw [mkParents_nil_get hm q, if_pos ⟨hq, hqne⟩]
  · refine ⟨⟨fun p hp => ?_, fun p x hp => ?_⟩, fun q hq hqne hor => ?_, fun _ => ⟨hne, c, by rw [hget, if_pos rfl]⟩⟩
    · have := mkParents_keep hm hp
      rw [hget]; split
      · rename_i hpf; exact absurd (hpf ▸ this) hnd
      · exact this
    · rw [hget]; split
      · exact ⟨c, rfl⟩
      · exact ⟨x, mkParents_keep hm hp⟩
    · have hqf : q ≠ f.1 := hor.resolve_right fun h => by rw [h] at h2; cases h2
      rw [hget, if_neg hqf, mkParents_nil_get hm q, if_pos ⟨(prefix_dropLast hne).mpr ⟨hq, hqf⟩, hqne⟩]

theorem loadFrags_placed : ∀ (fs : List Frag) (t t' : Tree), loadFrags t fs = some t' →
    KindLe t t' ∧ ∀ f ∈ fs, Placed t' f := by
  intro fs
  induction fs with
  | nil => intro t t' hl; cases hl; exact ⟨KindLe.refl t, nofun⟩
  | cons f fs ih =>
    intro t t' hl
    obtain ⟨t1, ha, hl⟩ := Option.bind_eq_some_iff.mp hl
    obtain ⟨k1, p1⟩ := addFrag_placed t t1 f ha
    obtain ⟨k2, p2⟩ := ih t1 t' hl
    refine ⟨k1.trans k2, fun g hg => ?_⟩
    rcases List.mem_cons.mp hg with rfl | h
    · exact p1.mono k2
    · exact p2 g h

theorem loadFrags_compat (fs : List Frag) (t t0 : Tree) (hl : loadFrags t fs = some t0) : FragsCompat fs := by
  obtain ⟨_, hp⟩ := loadFrags_placed fs t t0 hl
  intro f hf g hg hfile
  obtain ⟨hne, c, hc⟩ := (hp f hf).2 hfile
  refine ⟨hne, fun hpre => ?_⟩
  -- `f.1` is a file, so it is not one of the directories towards `g`
  have := mt ((hp g hg).1 f.1 hpre hne) (by rw [hc]; nofun)
  rw [not_or, Decidable.not_not, ← ne_eq, ← Option.isSome_iff_ne_none] at this
  exact this

theorem loadFrags_iff (fs : List Frag) : (∃ t0, loadFrags [] fs = some t0) ↔ FragsCompat fs :=
  ⟨fun ⟨t0, h⟩ => loadFrags_compat fs [] t0 h, loadFrags_ok fs⟩

end ArvVerif.C17
