/- C04 interleaving layer: kernel evaluation of the table check for the 36 configurations with
Serialize = true, BlobTrashLifetime == 0 = false. -/
import ArvVerif.Proofs.C04_RaceCheck
namespace ArvVerif.C04.Race

theorem checkGroup2 : (cfgGroup true false).all checkAll = true := by decide +kernel

end ArvVerif.C04.Race
