import ArvVerif.Proofs.C17_Path
namespace ArvVerif.C17

/-- the loop body of `srcMount` -/
def pick (src : Path) (best : Option (Path × Mount)) (e : Path × Mount) : Option (Path × Mount) :=
  if e.1.isPrefixOf src ∧ rootLen best < e.1.length then some e else best

theorem srcMount_eq (cfg : Cfg) (src : Path) : srcMount cfg src = cfg.mounts.foldl (pick src) none := rfl

theorem fold_pick (src : Path) (ms : List (Path × Mount)) (acc : Option (Path × Mount)) :
    (ms.foldl (pick src) acc = acc ∨ ∃ e ∈ ms, ms.foldl (pick src) acc = some e ∧
      e.1.isPrefixOf src = true ∧ 0 < e.1.length) ∧
    rootLen acc ≤ rootLen (ms.foldl (pick src) acc) ∧
    ∀ e ∈ ms, e.1.isPrefixOf src = true → e.1.length ≤ rootLen (ms.foldl (pick src) acc) := by
  induction ms generalizing acc with
  | nil => exact ⟨Or.inl rfl, Nat.le_refl _, fun e he => nomatch he⟩
  | cons x xs ih =>
    obtain ⟨h1, h2, h3⟩ := ih (pick src acc x)
    simp only [List.foldl_cons]
    have hx : rootLen acc ≤ rootLen (pick src acc x) ∧ (x.1.isPrefixOf src = true → x.1.length ≤ rootLen (pick src acc x)) ∧
        (pick src acc x = acc ∨ pick src acc x = some x ∧ x.1.isPrefixOf src = true ∧ 0 < x.1.length) := by
      unfold pick; split
      · rename_i hc; exact ⟨Nat.le_of_lt hc.2, fun _ => Nat.le_refl _, Or.inr ⟨rfl, hc.1, by omega⟩⟩
      · rename_i hc; exact ⟨Nat.le_refl _, fun hp => Nat.not_lt.mp fun hlt => hc ⟨hp, hlt⟩, Or.inl rfl⟩
    refine ⟨?_, Nat.le_trans hx.1 h2, fun e he hp => ?_⟩
    · rcases h1 with h1 | ⟨e, he, h1⟩
      · rcases hx.2.2 with h4 | h4
        · exact Or.inl (h1.trans h4)
        · exact Or.inr ⟨x, List.mem_cons_self .., h1.trans h4.1, h4.2⟩
      · exact Or.inr ⟨e, List.mem_cons_of_mem _ he, h1⟩
    · rcases List.mem_cons.mp he with rfl | hm
      · exact Nat.le_trans (hx.2.1 hp) h2
      · exact h3 e hm hp

theorem srcMount_mem (cfg : Cfg) (src : Path) (b : Path × Mount) (hb : srcMount cfg src = some b) :
    b ∈ cfg.mounts ∧ b.1.isPrefixOf src = true ∧ 0 < b.1.length := by
  rcases (fold_pick src cfg.mounts none).1 with h | ⟨e, he, h, hp⟩
  · rw [srcMount_eq, h] at hb; cases hb
  · rw [srcMount_eq, h] at hb; cases hb; exact ⟨he, hp⟩

theorem srcMount_max (cfg : Cfg) (src : Path) (e : Path × Mount) (he : e ∈ cfg.mounts)
    (hp : e.1.isPrefixOf src = true) : e.1.length ≤ rootLen (srcMount cfg src) :=
  (fold_pick src cfg.mounts none).2.2 e he hp

theorem srcMount_self (cfg : Cfg) (e : Path × Mount) (he : e ∈ cfg.mounts) (hne : 0 < e.1.length) :
    ∃ m, srcMount cfg e.1 = some (e.1, m) := by
  have hmax := srcMount_max cfg e.1 e he (isPrefixOf_self _)
  cases hs : srcMount cfg e.1 with
  | none => rw [hs] at hmax; simp only [rootLen] at hmax; omega
  | some b =>
    rw [hs] at hmax
    obtain ⟨_, hp, _⟩ := srcMount_mem cfg e.1 b hs
    have : b.1 = e.1 := isPrefixOf_eq_of_length _ _ hp (by simpa [rootLen] using hmax)
    exact ⟨b.2, by rw [← this]⟩

def ProperPrefix (a b : Path) : Prop := a.isPrefixOf b = true ∧ a.length < b.length

instance (a b : Path) : Decidable (ProperPrefix a b) := by unfold ProperPrefix; infer_instance

theorem not_properPrefix_of_prefix (a b : Path) (h : a.isPrefixOf b = true) : ¬ ProperPrefix b a := by
  intro ⟨h1, h2⟩
  have := prefix_length_le _ _ h
  omega

theorem properPrefix_of_prefix {a b c : Path} (h1 : a.isPrefixOf b = true) (h2 : ProperPrefix b c) :
    ProperPrefix a c :=
  ⟨prefix_trans' _ _ _ h1 h2.1, Nat.lt_of_le_of_lt (prefix_length_le _ _ h1) h2.2⟩

theorem runnable_iff (cfg : Cfg) : runnable cfg = true ↔ ∀ e ∈ cfg.mounts,
    (e.2.kind = "tmp" → e.1 = cfg.ctrOut) ∧ ¬ (e.2.kind = "collection" ∧ e.2.writable = true) := by
  simp [runnable, Decidable.imp_iff_not_or]

theorem supported_iff (cfg : Cfg) : supported cfg = true ↔
    runnable cfg = true ∧ ∀ e ∈ cfg.mounts, ¬ ProperPrefix e.1 cfg.ctrOut := by
  simp only [supported, runnable, List.all_eq_true, Bool.and_eq_true, ← forall_and]
  refine forall_congr' fun e => imp_congr_right fun _ => and_congr_right fun _ => ?_
  simp [ProperPrefix, -List.isPrefixOf_iff_prefix, Decidable.imp_iff_not_or]

theorem runnable_of_supported (cfg : Cfg) (hs : supported cfg = true) : runnable cfg = true :=
  ((supported_iff cfg).mp hs).1

theorem supported_above (cfg : Cfg) (hs : supported cfg = true) (e : Path × Mount) (he : e ∈ cfg.mounts) :
    ¬ ProperPrefix e.1 cfg.ctrOut :=
  ((supported_iff cfg).mp hs).2 e he

theorem supported_writable (cfg : Cfg) (hs : supported cfg = true) (e : Path × Mount) (he : e ∈ cfg.mounts) :
    ¬ (e.2.kind = "collection" ∧ e.2.writable = true) :=
  ((runnable_iff cfg).mp (runnable_of_supported cfg hs) e he).2

/-- `x` lies in the output directory's own mount, as `walkMount` sees it: for such `x` it calls
`walkHostFS` (`Run.mount_inOut`). -/
def InOut (cfg : Cfg) (x : Path) : Prop :=
  underSecret cfg x (rootLen (srcMount cfg x)) = false ∧
  ∃ m, srcMount cfg x = some (cfg.ctrOut, m) ∧ m.kind = "tmp" ∧ m.exclude = false

theorem inOut_pre (cfg : Cfg) (x : Path) (hx : InOut cfg x) : cfg.ctrOut.isPrefixOf x = true := by
  obtain ⟨_, m, hsm, _, _⟩ := hx
  exact (srcMount_mem cfg x _ hsm).2.1

theorem below_not_inOut {cfg : Cfg} {src mnt : Path} {m : Mount} (hm : (mnt, m) ∈ cfg.mounts)
    (hpp : ¬ ProperPrefix src cfg.ctrOut) (hpre : src.isPrefixOf mnt = true) (hlt : src.length < mnt.length) :
    ¬ InOut cfg mnt := by
  intro ⟨_, m', hsm', _, _⟩
  obtain ⟨m'', hself⟩ := srcMount_self cfg (mnt, m) hm (by show 0 < mnt.length; omega)
  cases hself.symm.trans hsm'
  exact hpp ⟨hpre, hlt⟩

theorem not_above_of_srcMount {cfg : Cfg} (hs : supported cfg = true) {src root : Path} {m : Mount}
    (hsm : srcMount cfg src = some (root, m)) : ¬ ProperPrefix src cfg.ctrOut := by
  obtain ⟨hmem, hpre, _⟩ := srcMount_mem cfg src (root, m) hsm
  exact fun hpp => supported_above cfg hs (root, m) hmem (properPrefix_of_prefix hpre hpp)

end ArvVerif.C17
