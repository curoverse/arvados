/-
C02 helper lemmas: two WriteBlock runs for the same hash running concurrently (distinct
temp names), any interleaving, crash anywhere.
-/
import ArvVerif.Proofs.C02_Write
namespace ArvVerif.C02

/-- What is left to do of one writer: local steps on its temp file `tmp`, possibly followed by the
rename onto `bp` (`fin`), at which moment the temp file will hold `file`. Indexed by the present
content `x` of the temp file. -/
inductive Rem (tmp bp : Path) (file : File) : Bool → Option File → List Ev → Prop where
  | done (x : Option File) : Rem tmp bp file false x []
  | fin (pt : Option Point) : Rem tmp bp file true (some file) [⟨pt, .rename tmp bp⟩]
  | loc {b : Bool} {x : Option File} (e : Ev) (es : List Ev) : LocalAt tmp e.eff →
      Rem tmp bp file b (localStep e.eff x) es → Rem tmp bp file b x (e :: es)

theorem rem_step {tmp tmp' bp : Path} {file : File} {b : Bool} {e : Ev} {es : List Ev} {fs : FS}
    (hne : tmp ≠ tmp') (hbp : tmp ≠ bp) (hbp' : tmp' ≠ bp)
    (hr : Rem tmp bp file b (fs.get tmp) (e :: es)) :
    (e.eff.apply fs).get tmp' = fs.get tmp' ∧
    ((Rem tmp bp file b ((e.eff.apply fs).get tmp) es ∧ (e.eff.apply fs).get bp = fs.get bp) ∨
      (b = true ∧ es = [] ∧ (e.eff.apply fs).get bp = some file)) := by
  generalize hx : fs.get tmp = x at hr
  cases hr with
  | fin pt => exact ⟨by simp [get_apply, hx, hne, Ne.symm hbp'], .inr ⟨rfl, rfl, by simp [get_apply, hx]⟩⟩
  | loc _ _ hl hr =>
    exact ⟨get_apply_of_avoids (local_avoids hne hl) fs,
      .inl ⟨by rw [get_apply_local hl, hx]; exact hr, get_apply_of_avoids (local_avoids hbp hl) fs⟩⟩

theorem conc_atomic {tmpA tmpB bp : Path} {fileA fileB : File}
    (hAB : tmpA ≠ tmpB) (hA : tmpA ≠ bp) (hB : tmpB ≠ bp) :
    ∀ (sched : List Bool) (fs : FS) (as bs : List Ev) (fa fb : Bool),
      Rem tmpA bp fileA fa (fs.get tmpA) as → Rem tmpB bp fileB fb (fs.get tmpB) bs →
      (run fs (interleave sched as bs)).get bp = fs.get bp ∨
      (fa = true ∧ (run fs (interleave sched as bs)).get bp = some fileA) ∨
      (fb = true ∧ (run fs (interleave sched as bs)).get bp = some fileB) := by
  intro sched
  induction sched with
  | nil => intro fs as bs fa fb _ _; exact .inl rfl
  | cons c s ih =>
    intro fs as bs fa fb ha hb
    cases c with
    | true =>
      cases as with
      | nil => exact ih fs [] bs fa fb ha hb
      | cons e es =>
        obtain ⟨hB', ⟨hr, h3⟩ | ⟨rfl, rfl, h3⟩⟩ := rem_step hAB hA hB ha
        · exact (ih _ es bs fa fb hr (hB' ▸ hb)).imp_left (·.trans h3)
        · rcases ih _ [] bs false fb (.done _) (hB' ▸ hb) with h | ⟨h, _⟩ | h
          · exact .inr (.inl ⟨rfl, h.trans h3⟩)
          · cases h
          · exact .inr (.inr h)
    | false =>
      cases bs with
      | nil => cases as <;> exact ih fs _ [] fa fb ha hb
      | cons e es =>
        have he : interleave (false :: s) as (e :: es) = e :: interleave s as es := by cases as <;> rfl
        rw [he]
        obtain ⟨hA', ⟨hr, h3⟩ | ⟨rfl, rfl, h3⟩⟩ := rem_step hAB.symm hB hA hb
        · exact (ih _ as es fa fb (hA' ▸ ha) hr).imp_left (·.trans h3)
        · rcases ih _ as [] fa false (hA' ▸ ha) (.done _) with h | h | ⟨h, _⟩
          · exact .inr (.inr ⟨rfl, h.trans h3⟩)
          · exact .inr (.inl h)
          · cases h

theorem rem_append_local {tmp bp : Path} {file : File} {b : Bool} {l1 l2 : List Ev}
    (h : ∀ e ∈ l1, LocalAt tmp e.eff) :
    ∀ fs : FS, Rem tmp bp file b ((run fs l1).get tmp) l2 → Rem tmp bp file b (fs.get tmp) (l1 ++ l2) := by
  induction l1 with
  | nil => exact fun _ hr => hr
  | cons e es ih =>
    obtain ⟨h0, ht⟩ := List.forall_mem_cons.1 h
    exact fun fs hr => Rem.loc e _ h0 (get_apply_local h0 fs ▸ ih ht _ hr)

theorem wb_rem (fs : FS) (w : WBIn) :
    Rem (tmpPath w.h w.sfx) (blockPath w.h) ⟨w.chunks.flatten, w.now⟩ (writeBlockEvs w).2
      (fs.get (tmpPath w.h w.sfx)) (writeBlockEvs w).1 := by
  rcases wb_shape w with ⟨h2, hl⟩ | ⟨h2, _, _, he⟩
  · rw [h2, ← List.append_nil (writeBlockEvs w).1]
    exact rem_append_local hl fs (.done _)
  · rw [h2, he]
    apply rem_append_local (wbBody_local w)
    rw [get_tmp_after_body fs w]
    exact Rem.fin _

end ArvVerif.C02
