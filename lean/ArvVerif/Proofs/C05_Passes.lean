/-
C05 helper lemmas: the two passes of one class iteration (code after the F1/F2 fixes). Whatever
`trySlot` keeps, both passes keep (`pass_induct`). `replProt` is the replication of a family of
protected in-class replicas on pairwise different physical devices (`FInv.counted`); the second
pass tries every slot unless `done`, so at the end either `replProt ≥ desired` or every replica is
covered: wanted, on a wanted device, or protected (`pass2_cover`). Uses only that mount identities
are distinct — no assumption on servers, devices or the sort order.
-/
import ArvVerif.Proofs.C05_Devices
namespace ArvVerif.C05

/-- What no step of a pass ever undoes: the four membership maps, unsafeToDelete and `replProt` only
grow. (`wantSrv` and `replWant` grow too; nothing needs it.) -/
structure Grow (st st' : PassSt) : Prop where
  wantMnt : ∀ x, st.wantMnt.contains x = true → st'.wantMnt.contains x = true
  wantDev : ∀ x, st.wantDev.contains x = true → st'.wantDev.contains x = true
  protMnt : ∀ x, st.protMnt.contains x = true → st'.protMnt.contains x = true
  protDev : ∀ x, st.protDev.contains x = true → st'.protDev.contains x = true
  utd : ∀ t ∈ st.utd, t ∈ st'.utd
  replProt : st.replProt ≤ st'.replProt

theorem Grow.refl (st : PassSt) : Grow st st :=
  ⟨fun _ h => h, fun _ h => h, fun _ h => h, fun _ h => h, fun _ h => h, Nat.le_refl _⟩

theorem Grow.trans {a b c : PassSt} (h₁ : Grow a b) (h₂ : Grow b c) : Grow a c :=
  ⟨fun x h => h₂.wantMnt x (h₁.wantMnt x h), fun x h => h₂.wantDev x (h₁.wantDev x h),
   fun x h => h₂.protMnt x (h₁.protMnt x h), fun x h => h₂.protDev x (h₁.protDev x h),
   fun t h => h₂.utd t (h₁.utd t h), Nat.le_trans h₁.replProt h₂.replProt⟩

theorem le_condAdd (p : Prop) [Decidable p] (n k : Nat) : n ≤ if p then n + k else n := by
  split
  · exact Nat.le_add_right ..
  · exact Nat.le_refl _

variable (c : Class) (d : Nat) (s : Slot) (st : PassSt)

theorem protectStep_cases :
    (∃ t, s.repl = some t ∧ st.protMnt.contains s.mnt.id = false ∧
      protectStep c d s st =
        { st with utd := t :: st.utd, protMnt := s.mnt.id :: st.protMnt,
                  replProt := if inClass c s.mnt && !st.protDev.contains s.mnt.dev
                              then st.replProt + s.mnt.repl else st.replProt,
                  protDev := if s.mnt.dev != 0 then s.mnt.dev :: st.protDev else st.protDev }) ∨
    (protectStep c d s st = st ∧
      ∀ t, s.repl = some t → (d ≤ st.replProt ∨ st.protMnt.contains s.mnt.id = true)) := by
  unfold protectStep
  cases hr : s.repl with
  | none => exact Or.inr ⟨rfl, fun t h => by cases h⟩
  | some t =>
    by_cases hc : (decide (st.replProt < d) && !st.protMnt.contains s.mnt.id) = true
    · have hc2 := hc
      simp only [Bool.and_eq_true, Bool.not_eq_true'] at hc2
      exact Or.inl ⟨t, rfl, hc2.2, if_pos hc⟩
    · refine Or.inr ⟨if_neg hc, fun _ _ => ?_⟩
      simp only [Bool.and_eq_true, decide_eq_true_eq, Bool.not_eq_true', not_and, Bool.not_eq_false] at hc
      exact (Nat.lt_or_ge st.replProt d).elim (fun h => Or.inr (hc h)) Or.inl

theorem wantStep_cases :
    wantStep d s st = { st with wantSrv := s.mnt.srv :: st.wantSrv, wantMnt := s.mnt.id :: st.wantMnt,
                                wantDev := if s.mnt.dev != 0 then s.mnt.dev :: st.wantDev else st.wantDev,
                                replWant := st.replWant + s.mnt.repl } ∨
    wantStep d s st = st := by
  unfold wantStep
  split
  · exact Or.inl rfl
  · exact Or.inr rfl

theorem protectStep_grow : Grow st (protectStep c d s st) := by
  rcases protectStep_cases c d s st with ⟨t, _, _, e⟩ | ⟨e, _⟩ <;> rw [e]
  · exact ⟨fun _ h => h, fun _ h => h, fun x h => contains_cons_of _ h, fun x h => contains_condCons _ _ h,
      fun t' h => List.mem_cons_of_mem _ h, le_condAdd ..⟩
  · exact Grow.refl st

theorem wantStep_grow : Grow st (wantStep d s st) := by
  rcases wantStep_cases d s st with e | e <;> rw [e]
  · exact ⟨fun x h => contains_cons_of _ h, fun x h => contains_condCons _ _ h, fun _ h => h, fun _ h => h,
      fun _ h => h, Nat.le_refl _⟩
  · exact Grow.refl st

theorem setDone_grow (b : Bool) : Grow st { st with done := b } :=
  ⟨fun _ h => h, fun _ h => h, fun _ h => h, fun _ h => h, fun _ h => h, Nat.le_refl _⟩

theorem trySlot_wanted {c : Class} {d : Nat} {s : Slot} {st : PassSt}
    (hc : (st.wantMnt.contains s.mnt.id || st.wantDev.contains s.mnt.dev) = true) :
    trySlot c d s st = { st with done := false } := by
  unfold trySlot; rw [if_pos hc]

theorem trySlot_else
    (hc : (st.wantMnt.contains s.mnt.id || st.wantDev.contains s.mnt.dev) = false) :
    trySlot c d s st =
      { wantStep d s (protectStep c d s st) with
        done := decide (d ≤ (wantStep d s (protectStep c d s st)).replProt) &&
                decide (d ≤ (wantStep d s (protectStep c d s st)).replWant) } := by
  unfold trySlot
  rw [hc]
  simp only [Bool.false_eq_true, if_false]

theorem trySlot_grow : Grow st (trySlot c d s st) := by
  cases hc : (st.wantMnt.contains s.mnt.id || st.wantDev.contains s.mnt.dev) with
  | true => rw [trySlot_wanted hc]; exact setDone_grow st false
  | false =>
    rw [trySlot_else c d s st hc]
    exact ((protectStep_grow c d s st).trans (wantStep_grow d s _)).trans (setDone_grow _ _)

theorem pass1Step_cases :
    pass1Step c d st s = st ∨ pass1Step c d st s = trySlot c d s st := by
  unfold pass1Step
  split
  · exact Or.inl rfl
  · split
    · exact Or.inl rfl
    · exact Or.inr rfl

theorem pass2Step_cases :
    (st.done = true ∧ pass2Step c d st s = st) ∨ pass2Step c d st s = trySlot c d s st := by
  unfold pass2Step
  split
  · exact Or.inl ⟨‹_›, rfl⟩
  · exact Or.inr rfl

theorem pass_induct (S : List Slot) (P : PassSt → Prop)
    (h : ∀ st, ∀ s ∈ S, P st → P (trySlot c d s st)) :
    ∀ (l : List Slot), (∀ s ∈ l, s ∈ S) → ∀ st, P st → P (pass1 c d l st) ∧ P (pass2 c d l st) := by
  intro l hsub st hst
  -- both passes are folds whose step is the identity or `trySlot`
  constructor
  · refine List.foldlRecOn l _ hst fun st' hst' s hs => ?_
    rcases pass1Step_cases c d s st' with e | e <;> rw [e]
    · exact hst'
    · exact h st' s (hsub s hs) hst'
  · refine List.foldlRecOn l _ hst fun st' hst' s hs => ?_
    rcases pass2Step_cases c d s st' with ⟨_, e⟩ | e <;> rw [e]
    · exact hst'
    · exact h st' s (hsub s hs) hst'

theorem pass_grow (l : List Slot) : Grow st (pass1 c d l st) ∧ Grow st (pass2 c d l st) :=
  pass_induct c d l (Grow st) (fun _ s _ h => h.trans (trySlot_grow c d s _)) l (fun _ h => h) st (Grow.refl st)

theorem pass1_grow (c : Class) (d : Nat) (l : List Slot) : ∀ st : PassSt, Grow st (pass1 c d l st) := fun st =>
  (pass_grow c d st l).1

theorem pass2_grow (l : List Slot) : Grow st (pass2 c d l st) := (pass_grow c d st l).2

/-- the slot's replica cannot be trashed because of this iteration: the slot is wanted, its device
is wanted through another mount, or the replica is protected -/
def Covered (st : PassSt) (s : Slot) : Prop :=
  st.wantMnt.contains s.mnt.id = true ∨ st.wantDev.contains s.mnt.dev = true ∨ st.protMnt.contains s.mnt.id = true

variable {c d s st} {S : List Slot}

theorem Covered.mono {st' : PassSt} (g : Grow st st') {s : Slot} (h : Covered st s) : Covered st' s := by
  rcases h with h | h | h
  · exact Or.inl (g.wantMnt _ h)
  · exact Or.inr (Or.inl (g.wantDev _ h))
  · exact Or.inr (Or.inr (g.protMnt _ h))

/-- The invariant of both passes. It is indexed by the whole slot list `S` of the iteration, not by
the part a pass has run over: `prot` and `counted` speak of any slot of `S` whose mount is in
`protMnt`, and distinct mount ids in `S` are what makes a newly protected slot new to them.
`prot`: a protected replica's mtime is in unsafeToDelete. `counted`: `replProt` is the replication
of a family of protected in-class replicas on pairwise different physical devices, each non-blank
device recorded in `protDev`. `done`: the passes stop only after the protection quota is filled. -/
structure FInv (c : Class) (d : Nat) (S : List Slot) (st : PassSt) : Prop where
  prot : ∀ s ∈ S, st.protMnt.contains s.mnt.id = true → ∃ t, s.repl = some t ∧ t ∈ st.utd
  counted : ∃ C : List Slot,
    (∀ s ∈ C, s ∈ S ∧ inClass c s.mnt = true ∧ s.repl.isSome = true ∧ st.protMnt.contains s.mnt.id = true ∧
      (s.mnt.dev ≠ 0 → st.protDev.contains s.mnt.dev = true)) ∧
    (C.map (fun s => devKey s.mnt)).Nodup ∧ st.replProt = ssum (fun s => s.mnt.repl) C
  done : st.done = true → d ≤ st.replProt

theorem finv_init (c : Class) (d : Nat) (S : List Slot) (u : List Int) : FInv c d S (passInit u) where
  prot := by intro s _ h; simp [passInit] at h
  counted := ⟨[], fun _ hs => (nomatch hs), List.nodup_nil, rfl⟩
  done := fun h => nomatch h

theorem finv_setDone (h : FInv c d S st) (b : Bool)
    (hb : b = true → d ≤ st.replProt) : FInv c d S { st with done := b } where
  prot := h.prot
  counted := h.counted
  done := hb

theorem finv_protect {c : Class} {d : Nat} {S : List Slot} {st : PassSt} (hid : IdsDistinct S) (h : FInv c d S st)
    {s0 : Slot} (hs0 : s0 ∈ S) {t : Int} (hr : s0.repl = some t) (hn : st.protMnt.contains s0.mnt.id = false) :
    FInv c d S
      { st with utd := t :: st.utd, protMnt := s0.mnt.id :: st.protMnt,
                replProt := if inClass c s0.mnt && !st.protDev.contains s0.mnt.dev
                            then st.replProt + s0.mnt.repl else st.replProt,
                protDev := if s0.mnt.dev != 0 then s0.mnt.dev :: st.protDev else st.protDev } where
  prot := by
    intro s hs hc
    simp only [List.contains_cons, Bool.or_eq_true, beq_iff_eq] at hc
    rcases hc with hc | hc
    · cases eq_of_same_id hid hs hs0 hc
      exact ⟨t, hr, List.mem_cons_self ..⟩
    · obtain ⟨t', h1, h2⟩ := h.prot s hs hc
      exact ⟨t', h1, List.mem_cons_of_mem _ h2⟩
  counted := by
    obtain ⟨C, hC, hnd, hsum⟩ := h.counted
    have hold : ∀ s ∈ C, s ∈ S ∧ inClass c s.mnt = true ∧ s.repl.isSome = true ∧
        (s0.mnt.id :: st.protMnt).contains s.mnt.id = true ∧
        (s.mnt.dev ≠ 0 → (if s0.mnt.dev != 0 then s0.mnt.dev :: st.protDev else st.protDev).contains s.mnt.dev = true) :=
      fun s hs => let ⟨a1, a2, a3, a4, a5⟩ := hC s hs
        ⟨a1, a2, a3, contains_cons_of _ a4, fun h0 => contains_condCons _ _ (a5 h0)⟩
    by_cases hcnt : (inClass c s0.mnt && !st.protDev.contains s0.mnt.dev) = true
    · -- `s0` is counted: no counted slot is a view of its device
      have hcnt2 := hcnt
      simp only [Bool.and_eq_true, Bool.not_eq_true'] at hcnt2
      refine ⟨s0 :: C, List.forall_mem_cons.2 ⟨?_, hold⟩, List.nodup_cons.2 ⟨fun hmem => ?_, hnd⟩, ?_⟩
      · refine ⟨hs0, hcnt2.1, by rw [hr]; rfl, List.elem_cons_self, fun h0 => ?_⟩
        rw [if_pos (by simpa using h0)]
        exact List.elem_cons_self
      · obtain ⟨s1, hs1, hk⟩ := List.mem_map.1 hmem
        obtain ⟨_, _, _, b4, b5⟩ := hC s1 hs1
        rcases (devKey_eq_iff s1.mnt s0.mnt).1 hk with ⟨_, _, hidd⟩ | ⟨h0, hd⟩
        · rw [hidd, hn] at b4; cases b4
        · have := b5 h0
          rw [hd, hcnt2.2] at this; cases this
      · exact (if_pos hcnt).trans (by rw [ssum_cons, hsum, Nat.add_comm])
    · exact ⟨C, hold, hnd, (if_neg hcnt).trans hsum⟩
  done := fun hd => Nat.le_trans (h.done hd) (le_condAdd ..)

theorem finv_wantStep (h : FInv c d S st) (s0 : Slot) :
    FInv c d S (wantStep d s0 st) := by
  rcases wantStep_cases d s0 st with e | e <;> rw [e]
  · exact ⟨h.prot, h.counted, h.done⟩
  · exact h

theorem trySlot_finv (hid : IdsDistinct S)
    (h : FInv c d S st) {s0 : Slot} (hs0 : s0 ∈ S) :
    FInv c d S (trySlot c d s0 st) ∧
    (s0.repl.isSome = true → Covered (trySlot c d s0 st) s0 ∨ d ≤ (trySlot c d s0 st).replProt) := by
  cases hc : (st.wantMnt.contains s0.mnt.id || st.wantDev.contains s0.mnt.dev) with
  | true =>
    rw [trySlot_wanted hc]
    exact ⟨finv_setDone h false (fun hb => by cases hb),
      fun _ => Or.inl ((Bool.or_eq_true_iff.1 hc).imp_right Or.inl)⟩
  | false =>
    rw [trySlot_else c d s0 st hc]
    have hP : FInv c d S (protectStep c d s0 st) ∧
        (s0.repl.isSome = true → (protectStep c d s0 st).protMnt.contains s0.mnt.id = true ∨
          d ≤ (protectStep c d s0 st).replProt) := by
      rcases protectStep_cases c d s0 st with ⟨t, hr, hn, e⟩ | ⟨e, hg⟩ <;> rw [e]
      · exact ⟨finv_protect hid h hs0 hr hn, fun _ => Or.inl (List.elem_cons_self)⟩
      · refine ⟨h, fun hsome => ?_⟩
        obtain ⟨t, hr⟩ := Option.isSome_iff_exists.1 hsome
        exact (hg t hr).symm
    have gW := wantStep_grow d s0 (protectStep c d s0 st)
    refine ⟨finv_setDone (finv_wantStep hP.1 s0) _ fun hb => ?_, fun hsome => ?_⟩
    · exact of_decide_eq_true (Bool.and_eq_true_iff.1 hb).1
    · exact (hP.2 hsome).imp (fun h1 => Or.inr (Or.inr (gW.protMnt _ h1))) (fun h1 => Nat.le_trans h1 gW.replProt)

theorem pass_finv (hid : IdsDistinct S) (l : List Slot)
    (hsub : ∀ s ∈ l, s ∈ S) (h : FInv c d S st) :
    FInv c d S (pass1 c d l st) ∧ FInv c d S (pass2 c d l st) :=
  pass_induct c d S (FInv c d S) (fun _ _ hs h => (trySlot_finv hid h hs).1) l hsub st h

theorem pass2_cover (hid : IdsDistinct S) :
    ∀ (l : List Slot), (∀ s ∈ l, s ∈ S) → ∀ st : PassSt, FInv c d S st →
      d ≤ (pass2 c d l st).replProt ∨ ∀ s ∈ l, s.repl.isSome = true → Covered (pass2 c d l st) s := by
  intro l
  induction l with
  | nil => intro _ st _; exact Or.inr (fun s hs => by cases hs)
  | cons s l ih =>
    intro hsub st h
    show d ≤ (pass2 c d l (pass2Step c d st s)).replProt ∨
      ∀ x ∈ s :: l, x.repl.isSome = true → Covered (pass2 c d l (pass2Step c d st s)) x
    rcases pass2Step_cases c d s st with ⟨hdone, e⟩ | e <;> rw [e]
    · exact Or.inl (Nat.le_trans (h.done hdone) (pass2_grow c d st l).replProt)
    · obtain ⟨h1, g1⟩ := trySlot_finv hid h (hsub s (List.mem_cons_self ..))
      have gr := pass2_grow c d (trySlot c d s st) l
      rcases ih (fun x hx => hsub x (List.mem_cons_of_mem _ hx)) _ h1 with g2 | g2
      · exact Or.inl g2
      · by_cases hsome : s.repl.isSome = true
        · rcases g1 hsome with g | g
          · exact Or.inr (List.forall_mem_cons.2 ⟨fun _ => g.mono gr, g2⟩)
          · exact Or.inl (Nat.le_trans g gr.replProt)
        · exact Or.inr (List.forall_mem_cons.2 ⟨fun h => absurd h hsome, g2⟩)

theorem pass2_visits {c : Class} {d : Nat} {S : List Slot} (hid : IdsDistinct S) :
    ∀ (l : List Slot), (∀ s ∈ l, s ∈ S) → ∀ st : PassSt, FInv c d S st → st.done = false →
      FInv c d S (pass2 c d l st) ∧
      (d ≤ (pass2 c d l st).replProt ∨ ∀ s ∈ l, s.repl.isSome = true → Covered (pass2 c d l st) s) :=
  fun l hsub st h _ => ⟨(pass_finv hid l hsub h).2, pass2_cover hid l hsub st h⟩

end ArvVerif.C05
