/-
C07: the executable HMAC-SHA1 always returns 20 bytes, whatever the key
and message — the length hypothesis `∀ k m, (mac k m).length = 20` of the parsing theorems holds
for the MAC the implementation uses. (Only the *shape* of `SHA1.sum` matters: the five state words
are serialised as 4 bytes each after the loops, whatever the loops computed.)
-/
import ArvVerif.Model.C07_Hmac
namespace ArvVerif.C07

theorem sha1_be32_length (x : UInt32) : (SHA1.be32 x).length = 4 := rfl

theorem sha1_sum_size (msg : ByteArray) : (SHA1.sum msg).size = 20 := by
  unfold SHA1.sum
  simp only [Id.run, bind, pure, ByteArray.size, List.size_toArray, List.length_append, sha1_be32_length]

theorem sha1_hmac_size (key msg : ByteArray) : (SHA1.hmac key msg).size = 20 := by
  unfold SHA1.hmac
  exact sha1_sum_size _

theorem hmacSha1_length (key msg : Str) : (hmacSha1 key msg).length = 20 := by
  unfold hmacSha1
  rw [Array.length_toList]
  exact sha1_hmac_size _ _

end ArvVerif.C07
