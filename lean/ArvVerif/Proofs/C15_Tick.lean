/-
Lemmas about the periodic loops (Model/C15_Tick.lean): a ticker-driven loop never stalls, its runs
are at most `max (handler duration) (tick gap)` apart, the ends of its runs are again a wake-up
stream, every time window contains a run.
-/
import ArvVerif.Model.C15_Tick
namespace ArvVerif.C15

theorem mono_of_step {s : Nat → Nat} (h : ∀ i, s i ≤ s (i + 1)) : ∀ {i j}, i ≤ j → s i ≤ s j := by
  intro i j hij
  induction hij with
  | refl => exact Nat.le_refl _
  | step _ ih => exact Nat.le_trans ih (h _)

theorem lt_of_lt {s : Nat → Nat} (h : ∀ i, s i ≤ s (i + 1)) {i j : Nat} (hlt : s i < s j) : i < j :=
  Nat.lt_of_not_le fun hle => Nat.not_le_of_lt hlt (mono_of_step h hle)

theorem unbounded_of_strict {s : Nat → Nat} (h : ∀ i, s i < s (i + 1)) (T : Nat) : ∃ i, T < s i := by
  have hi : ∀ i, i ≤ s i := by
    intro i
    induction i with
    | zero => exact Nat.zero_le _
    | succ i ih => exact Nat.lt_of_le_of_lt ih (h i)
  exact ⟨T + 1, hi _⟩

theorem periodic_succ (p i : Nat) : periodic p (i + 1) = periodic p i + p := Nat.succ_mul (i + 1) p

theorem periodic_ticks {p : Nat} (hp : 0 < p) : Ticks (periodic p) := by
  intro i
  rw [periodic_succ]
  omega

theorem periodic_gap (p : Nat) : GapLe (periodic p) p := fun i => Nat.le_of_eq (periodic_succ p i)

theorem crossing {s : Nat → Nat} {x n : Nat} (h0 : s 0 ≤ x) (hn : x < s n) : ∃ k, s k ≤ x ∧ x < s (k + 1) := by
  induction n with
  | zero => omega
  | succ n ih =>
    by_cases h : x < s n
    · exact ih h
    · exact ⟨n, by omega, hn⟩

theorem firstAfter_succ {ticks : Nat → Nat} (hm : ∀ i, ticks i ≤ ticks (i + 1)) {x k : Nat}
    (hk : ticks k ≤ x) (hk' : x < ticks (k + 1)) : FirstAfter ticks x (ticks (k + 1)) :=
  ⟨⟨k + 1, rfl⟩, hk', fun _ hi => mono_of_step hm (lt_of_lt hm (Nat.lt_of_le_of_lt hk hi))⟩

theorem exists_firstAfter {ticks : Nat → Nat} (hm : ∀ i, ticks i ≤ ticks (i + 1)) (hu : ∀ T, ∃ i, T < ticks i)
    (x : Nat) : ∃ t, FirstAfter ticks x t := by
  by_cases h0 : ticks 0 ≤ x
  · obtain ⟨n, hn⟩ := hu x
    obtain ⟨k, hk, hk'⟩ := crossing h0 hn
    exact ⟨_, firstAfter_succ hm hk hk'⟩
  · exact ⟨ticks 0, ⟨0, rfl⟩, by omega, fun i _ => mono_of_step hm (Nat.zero_le i)⟩

theorem firstAfter_le {ticks : Nat → Nat} {G x t : Nat} (hg : GapLe ticks G) (h0 : ticks 0 ≤ x)
    (hf : FirstAfter ticks x t) : t ≤ x + G := by
  obtain ⟨⟨n, hn⟩, hx, hmin⟩ := hf
  obtain ⟨k, hk, hk'⟩ := crossing h0 (hn ▸ hx)
  have := hmin (k + 1) hk'
  have := hg k
  omega

section driven
variable {ticks start dur : Nat → Nat}

theorem driven_strict (h : Driven ticks start dur) (j : Nat) : start j < start (j + 1) := by
  obtain ⟨t, hf, he⟩ := h.2 j
  have := hf.2.1
  rw [he]; omega

theorem driven_after_handler (h : Driven ticks start dur) (j : Nat) : start j + dur j ≤ start (j + 1) := by
  obtain ⟨t, _, he⟩ := h.2 j
  rw [he]; omega

theorem driven_ge_first (h : Driven ticks start dur) (j : Nat) : ticks 0 ≤ start j :=
  h.1 ▸ mono_of_step (fun i => Nat.le_of_lt (driven_strict h i)) (Nat.zero_le j)

/-- A slow handler delays the next run only by its own duration (the tick that arrived meanwhile
waits in the buffer), a fast one waits for the next tick. -/
theorem driven_gap {G : Nat} (hg : GapLe ticks G) (h : Driven ticks start dur) (j : Nat) :
    start (j + 1) ≤ start j + max (dur j) G := by
  obtain ⟨t, hf, he⟩ := h.2 j
  have := firstAfter_le hg (driven_ge_first h j) hf
  rw [he]; omega

theorem ends_stream (h : Driven ticks start dur) :
    (∀ i, ends start dur i ≤ ends start dur (i + 1)) ∧ ∀ T, ∃ i, T < ends start dur i :=
  ⟨fun i => Nat.le_trans (driven_after_handler h i) (Nat.le_add_right _ _),
    fun T => (unbounded_of_strict (driven_strict h) T).imp fun _ hi => Nat.lt_of_lt_of_le hi (Nat.le_add_right _ _)⟩

theorem ends_gap {G D : Nat} (hg : GapLe ticks G) (h : Driven ticks start dur) (hd : ∀ j, dur j ≤ D) :
    GapLe (ends start dur) (G + D) := by
  intro i
  have h1 := driven_gap hg h i
  have h2 := hd (i + 1)
  show start (i + 1) + dur (i + 1) ≤ start i + dur i + (G + D)
  omega

end driven

theorem window {s : Nat → Nat} {W : Nat} (hs : ∀ j, s j < s (j + 1)) (hw : ∀ j, s (j + 1) ≤ s j + W)
    (x : Nat) (hx : s 0 ≤ x) : ∃ j, x < s j ∧ s j ≤ x + W := by
  obtain ⟨n, hn⟩ := unbounded_of_strict hs x
  obtain ⟨k, hk, hk'⟩ := crossing hx hn
  exact ⟨k + 1, hk', by have := hw k; omega⟩

end ArvVerif.C15
