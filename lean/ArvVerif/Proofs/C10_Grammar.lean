/-
C10 — the specification's grammar read backwards: what a file token, a locator, a line and a text that
`specFileTok`, `locatorSizeDigits`, `specLine`, `parseSpec` accept look like, byte by byte and token by token.
Every text-level codec proof starts from these; with them, what the Go recognisers (`LocatorPattern`,
`strings.Split` on `+`) make of such a locator.
-/
import ArvVerif.Proofs.C10_Text
namespace ArvVerif.C10

theorem specFileTok_shape (t : Bytes) (f : FTok) (h : specFileTok t = some f) :
    ∃ p l nm, t = p ++ bColon :: (l ++ bColon :: nm) ∧ splitN3 bColon t = [p, l, nm] ∧ p ≠ [] ∧ p.all isDigit = true ∧
      l ≠ [] ∧ l.all isDigit = true ∧ nm ≠ [] ∧ specUnescape nm = some f.name ∧
      specFileNameOk f.name = true ∧ f.pos = natOfDigits p ∧ f.len = natOfDigits l := by
  revert h
  fun_cases specFileTok t with
  | case1 p c r hd hc l c' nm hd2 hc' name hu hok =>
    rintro ⟨⟩
    obtain rfl : c = bColon := by simpa using hc.1
    obtain rfl : c' = bColon := by simpa using hc'.1
    have ht : t = p ++ bColon :: (l ++ bColon :: nm) := by
      rw [← hd2, List.takeWhile_append_dropWhile, ← hd, List.takeWhile_append_dropWhile]
    refine ⟨p, l, nm, ht, ?_, hc.2, List.all_takeWhile, hc'.2.1, List.all_takeWhile, hc'.2.2, hu, hok, rfl, rfl⟩
    -- Go's `SplitN(tok, ":", 3)` cuts at the same two colons: digits hold none
    conv => lhs; rw [ht]
    exact splitN3_three bColon _ _ nm (not_mem_of_all List.all_takeWhile colon_not_digit)
      (not_mem_of_all List.all_takeWhile colon_not_digit)
  | _ => nofun

theorem specFileTok_has_colon (t : Bytes) (f : FTok) (h : specFileTok t = some f) : bColon ∈ t := by
  obtain ⟨p, l, nm, ht, _⟩ := specFileTok_shape t f h
  rw [ht]; simp

theorem specFileTok_nameOk {t : Bytes} {f : FTok} (h : specFileTok t = some f) : specFileNameOk f.name = true := by
  obtain ⟨_, _, _, _, _, _, _, _, _, _, _, hfn, _⟩ := specFileTok_shape t f h
  exact hfn

theorem hintsOk_chars : ∀ (tl : Bytes) (a b : Bool), hintsOk tl a b = true →
    ∀ c ∈ tl, c = bPlus ∨ isHintChar c = true := by
  intro tl a b
  fun_induction hintsOk tl a b with
  | case1 => simp
  | case2 x rest _ ih =>
    intro h
    simp only [Bool.and_eq_true] at h
    exact List.forall_mem_cons.mpr ⟨Or.inr (by simp [isHintChar, h.1]), ih h.2⟩
  | case3 x rest _ _ _ hx ih =>
    exact fun h => List.forall_mem_cons.mpr ⟨Or.inl (by simpa using hx), ih h⟩
  | case4 x rest _ _ _ _ ih =>
    intro h
    simp only [Bool.and_eq_true] at h
    exact List.forall_mem_cons.mpr ⟨Or.inr h.1.2, ih h.2⟩

theorem hintsOk_head {tl : Bytes} (h : hintsOk tl false false = true) : tl = [] ∨ ∃ tl', tl = bPlus :: tl' := by
  cases tl with
  | nil => exact Or.inl rfl
  | cons x xs =>
    unfold hintsOk at h
    simp only [Bool.false_eq_true, if_false, Bool.false_and] at h
    split at h
    · exact Or.inr ⟨xs, by rw [show x = bPlus by simpa using ‹(x == bPlus) = true›]⟩
    · cases h

theorem locatorSizeDigits_shape (hex : UInt8 → Bool) (t ds : Bytes) (h : locatorSizeDigits hex t = some ds) :
    ∃ hs tl, t = hs ++ bPlus :: (ds ++ tl) ∧ hs.length = 32 ∧ hs.all hex = true ∧ ds ≠ [] ∧
      ds.all isDigit = true ∧ (tl = [] ∨ (hintsOk tl false false = true ∧ ∃ tl', tl = bPlus :: tl')) := by
  revert h
  fun_cases locatorSizeDigits hex t with
  | case1 hs r h32 p r' hr hp ds' tl hok =>
    intro h
    obtain rfl : ds' = ds := Option.some.inj h
    obtain rfl : p = bPlus := by simpa using hp
    refine ⟨hs, tl, ?_, h32.1, h32.2, hok.1, List.all_takeWhile, ?_⟩
    · rw [List.takeWhile_append_dropWhile, ← hr, List.take_append_drop]
    · exact hok.2.elim Or.inl fun h1 => (hintsOk_head h1).imp_right fun e => ⟨h1, e⟩
  | _ => nofun

theorem stripLoc_eq (t ds : Bytes) (h : locatorSizeDigits isLowerHex t = some ds) :
    stripLoc t = t.take 32 ++ bPlus :: ds := by
  obtain ⟨hs, tl, ht, hlen, _⟩ := locatorSizeDigits_shape isLowerHex t ds h
  unfold stripLoc
  rw [h]
  simp only []
  have e33 : (hs ++ bPlus :: (ds ++ tl)).take 33 = hs ++ [bPlus] := by
    rw [List.take_append, List.take_of_length_le (by omega)]
    simp [hlen]
  rw [ht, e33, List.take_left' hlen]
  simp

theorem locatorSizeDigits_mono (hex1 hex2 : UInt8 → Bool) (hm : ∀ c, hex1 c = true → hex2 c = true)
    (t ds : Bytes) (h : locatorSizeDigits hex1 t = some ds) : locatorSizeDigits hex2 t = some ds := by
  unfold locatorSizeDigits at h ⊢
  simp only [] at h ⊢
  split at h
  · rename_i h32
    rw [if_pos ⟨h32.1, List.all_eq_true.mpr fun x hx => hm x (List.all_eq_true.mp h32.2 x hx)⟩]
    exact h
  · cases h

theorem isLowerHex_isAnyHex (c : UInt8) (h : isLowerHex c = true) : isAnyHex c = true := by
  simp [isAnyHex, h]

theorem goLocatorDigits_of_lower {t ds : Bytes} (h : locatorSizeDigits isLowerHex t = some ds) :
    goLocatorDigits t = some ds :=
  locatorSizeDigits_mono _ _ isLowerHex_isAnyHex t ds h

theorem specLocator_eq_some {t : Bytes} {l : Loc} :
    specLocator t = some l ↔ ∃ ds, locatorSizeDigits isLowerHex t = some ds ∧ l = ⟨t, natOfDigits ds⟩ := by
  unfold specLocator
  cases locatorSizeDigits isLowerHex t <;> simp [eq_comm]

theorem specLocator_go (t : Bytes) (l : Loc) (h : specLocator t = some l) :
    ∃ ds, goLocatorDigits t = some ds ∧ l = ⟨t, natOfDigits ds⟩ := by
  obtain ⟨ds, hd, hl⟩ := specLocator_eq_some.mp h
  exact ⟨ds, goLocatorDigits_of_lower hd, hl⟩

theorem isGoLocator_iff {t : Bytes} : isGoLocator t = true ↔ ∃ ds, goLocatorDigits t = some ds :=
  Option.isSome_iff_exists

theorem specLocator_locSize {t : Bytes} {b : Loc} (h : specLocator t = some b) :
    isGoLocator t = true ∧ b = ⟨t, locSize t⟩ := by
  obtain ⟨ds, hd, rfl⟩ := specLocator_go t b h
  exact ⟨isGoLocator_iff.mpr ⟨ds, hd⟩, by rw [locSize, hd]⟩

theorem locator_no_byte (hex : UInt8 → Bool) (c : UInt8) (h1 : hex c = false) (h2 : c ≠ bPlus)
    (h3 : isDigit c = false) (h4 : isHintChar c = false) (t ds : Bytes)
    (h : locatorSizeDigits hex t = some ds) : c ∉ t := by
  obtain ⟨hs, tl, ht, _, hall, _, hd, htl⟩ := locatorSizeDigits_shape hex t ds h
  rw [ht]
  intro hm
  simp only [List.mem_append, List.mem_cons] at hm
  rcases hm with hm | hm | hm | hm
  · exact not_mem_of_all hall h1 hm
  · exact h2 hm
  · exact not_mem_of_all hd h3 hm
  · rcases htl with rfl | ⟨hok, _⟩
    · simp at hm
    · rcases hintsOk_chars tl _ _ hok c hm with e | e
      · exact h2 e
      · rw [h4] at e; cases e

theorem locator_no_colon (hex : UInt8 → Bool) (hh : hex bColon = false) (t ds : Bytes)
    (h : locatorSizeDigits hex t = some ds) : bColon ∉ t :=
  locator_no_byte hex bColon hh (by decide) colon_not_digit (by decide) t ds h

theorem goLocator_no_colon (t : Bytes) (h : isGoLocator t = true) : bColon ∉ t := by
  obtain ⟨ds, hd⟩ := isGoLocator_iff.mp h
  exact locator_no_colon isAnyHex (by decide) t ds hd

theorem goLocator_no_space (t : Bytes) (h : isGoLocator t = true) : bSpace ∉ t ∧ bNL ∉ t := by
  obtain ⟨ds, hd⟩ := isGoLocator_iff.mp h
  exact ⟨locator_no_byte isAnyHex bSpace (by decide) (by decide) (by decide) (by decide) t ds hd,
    locator_no_byte isAnyHex bNL (by decide) (by decide) (by decide) (by decide) t ds hd⟩

theorem fileTok_not_goLocator (t : Bytes) (f : FTok) (h : specFileTok t = some f) : isGoLocator t = false := by
  cases hg : isGoLocator t with
  | false => rfl
  | true => exact absurd (specFileTok_has_colon t f h) (goLocator_no_colon t hg)

/-- `strings.Split(s, "+")` on a token `LocatorPattern` accepts -/
theorem locator_split (t ds : Bytes) (h : goLocatorDigits t = some ds) :
    ∃ hints, splitOn bPlus t = t.take 32 :: ds :: hints ∧ (t.take 32).length = 32 ∧
      (t.take 32).all isAnyHex = true ∧ ds ≠ [] ∧ ds.all isDigit = true ∧
      t = joinWith bPlus (t.take 32 :: ds :: hints) := by
  obtain ⟨hs, tl, ht, hlen, hall, hdne, hd, htl⟩ := locatorSizeDigits_shape isAnyHex t ds h
  have hnp : bPlus ∉ hs := not_mem_of_all hall (by decide)
  have hnd : bPlus ∉ ds := not_mem_of_all hd plus_not_digit
  have htake : t.take 32 = hs := by rw [ht, List.take_left' hlen]
  rw [htake]
  rcases htl with rfl | ⟨_, tl', rfl⟩
  · refine ⟨[], ?_, hlen, hall, hdne, hd, ?_⟩
    · rw [ht, splitOn_append_sep bPlus hs _ hnp, List.append_nil, splitOn_of_no_sep bPlus ds hnd]
    · rw [ht]; simp [joinWith]
  · refine ⟨splitOn bPlus tl', ?_, hlen, hall, hdne, hd, ?_⟩
    · rw [ht, splitOn_append_sep bPlus hs _ hnp, splitOn_append_sep bPlus ds _ hnd]
    · have hj := joinWith_splitOn bPlus tl'
      obtain ⟨x, xs, hsp⟩ := List.exists_cons_of_ne_nil (splitOn_ne_nil bPlus tl')
      rw [hsp] at hj ⊢
      rw [ht]
      simp only [joinWith, hj]

theorem specLocators_spec : ∀ (toks : List Bytes) (blocks : List Loc) (ftoks : List Bytes),
    specLocators toks = (blocks, ftoks) →
    toks = blocks.map (·.text) ++ ftoks ∧ (∀ b ∈ blocks, specLocator b.text = some b) ∧
      (∀ t rest, ftoks = t :: rest → specLocator t = none)
  | [], blocks, ftoks, h => by
    simp [specLocators] at h
    obtain ⟨rfl, rfl⟩ := h
    simp
  | t :: rest, blocks, ftoks, h => by
    unfold specLocators at h
    split at h
    · rename_i l hl
      obtain ⟨rfl, rfl⟩ := Prod.mk.inj h
      obtain ⟨h1, h2, h3⟩ := specLocators_spec rest _ _ rfl
      obtain ⟨_, _, rfl⟩ := specLocator_eq_some.mp hl
      refine ⟨by rw [List.map_cons, List.cons_append, ← h1], fun b hb => ?_, h3⟩
      rcases List.mem_cons.mp hb with rfl | hb
      · exact hl
      · exact h2 b hb
    · rename_i hl
      obtain ⟨rfl, rfl⟩ := Prod.mk.inj h
      refine ⟨rfl, fun _ hb => (nomatch hb), fun t' rest' he => ?_⟩
      cases he
      exact hl

theorem specLine_tokens (line : Bytes) (s : Stream) (h : specLine line = some s) :
    ∃ nm ftoks, splitOn bSpace line = nm :: (s.blocks.map (·.text) ++ ftoks) ∧
      (∀ t ∈ nm :: (s.blocks.map (·.text) ++ ftoks), tokenBytesOk t = true) ∧
      specUnescape nm = some s.name ∧ specStreamNameOk s.name = true ∧
      (∀ b ∈ s.blocks, specLocator b.text = some b) ∧ mapOpt specFileTok ftoks = some s.files ∧
      s.blocks ≠ [] ∧ ftoks ≠ [] ∧ ∀ f ∈ s.files, f.pos + f.len ≤ streamLen s.blocks := by
  revert h
  fun_cases specLine line with
  | case1 toks htok nm rest hs name hu hname blocks ftoks hloc files hfiles hok =>
    rintro ⟨⟩
    obtain ⟨hr, hlocs, _⟩ := specLocators_spec rest blocks ftoks hloc
    have hs' : toks = nm :: (blocks.map (·.text) ++ ftoks) := hs.trans (congrArg (nm :: ·) hr)
    refine ⟨nm, ftoks, hs', fun t ht => List.all_eq_true.mp htok t (hs' ▸ ht), hu, hname, hlocs, hfiles, hok.1,
      fun he => ?_, fun f hf => ?_⟩
    · rw [he] at hfiles
      exact hok.2.1 (by simpa [mapOpt] using hfiles.symm)
    · simpa using List.all_eq_true.mp hok.2.2 f hf
  | _ => nofun

theorem specLine_ne_nil {line : Bytes} {s : Stream} (h : specLine line = some s) : line ≠ [] := by
  obtain ⟨nm, ftoks, hs, htok, _⟩ := specLine_tokens line s h
  rintro rfl
  obtain ⟨rfl, _⟩ := List.cons.inj hs
  exact absurd (htok [] List.mem_cons_self) (by decide)

theorem parseSpec_lines (txt : Bytes) (M : Manifest) (h : parseSpec txt = some M) :
    ∃ lines, splitOn bNL txt = lines ++ [[]] ∧ mapOpt specLine lines = some M := by
  unfold parseSpec at h
  split at h
  · rename_i h0
    cases h
    exact ⟨[], by rw [h0]; rfl, rfl⟩
  · simp only [] at h
    split at h
    · rename_i hl
      obtain ⟨ys, hys⟩ := List.getLast?_eq_some_iff.mp hl
      rw [hys, List.dropLast_concat] at h
      exact ⟨ys, hys, h⟩
    · cases h

end ArvVerif.C10
