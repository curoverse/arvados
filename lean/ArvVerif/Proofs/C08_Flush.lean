/-
C08: `commitBlock` / `flushFiles` (dirnode.flush) are invisible: every file
keeps its per-segment bytes and lengths, its size and its `repacked` counter, whatever groups of
refs are committed.
-/
import ArvVerif.Proofs.C08_Key
namespace ArvVerif.C08

variable {max : Nat} {hash : Bytes → Loc} {st : Store}

def AllWF (max : Nat) (hash : Bytes → Loc) (st : Store) (fs : List FileNode) : Prop :=
  ∀ fn ∈ fs, ∀ s ∈ fn.segs, SegWF max hash st s

theorem refBuf_some {files : List FileNode} {r : Ref} {buf : Bytes} (h : refBuf files r = some buf) :
    ∃ fn fl, files[r.1]? = some fn ∧ fn.segs[r.2]? = some (Seg.mem buf fl) := by
  unfold refBuf at h
  split at h
  · next b fl heq =>
    cases h
    unfold segAt at heq
    split at heq
    · next fn hfn => exact ⟨fn, fl, hfn, heq⟩
    · cases heq
  · cases h

theorem setSeg_same {fs : List FileNode} {r : Ref} {fn : FileNode} {s s' : Seg} (hwf : AllWF max hash st fs)
    (hfn : fs[r.1]? = some fn) (hs : fn.segs[r.2]? = some s) (hw : SegWF max hash st s')
    (hb : s'.bytes st = s.bytes st) (hl : s'.len = s.len) :
    AllWF max hash st (setSeg fs r s') ∧ (setSeg fs r s').map (fileKey st) = fs.map (fileKey st) := by
  have hset : setSeg fs r s' = fs.set r.1 { fn with segs := fn.segs.set r.2 s' } := by unfold setSeg; rw [hfn]
  rw [hset]
  constructor
  · intro x hx y hy
    rcases List.mem_or_eq_of_mem_set hx with h | rfl
    · exact hwf x h y hy
    · rcases List.mem_or_eq_of_mem_set hy with h | rfl
      · exact hwf fn (List.mem_of_getElem? hfn) y h
      · exact hw
  · rw [List.map_set, fileKey_set hs hb hl]
    exact set_eq_self (by simp [hfn])

/-- Contract of a flush step with result `R`: Keep only grows and stays consistent, the files are
well-formed over the new store, and every file keeps its key. -/
def FlushOK (max : Nat) (hash : Bytes → Loc) (st : Store) (files : List FileNode) (R : Store × List FileNode) :
    Prop :=
  StoreExt st R.1 ∧ StoreOK hash R.1 ∧ AllWF max hash R.1 R.2 ∧ R.2.map (fileKey R.1) = files.map (fileKey st)

/-- Induction principle for `commitBlock`: it visits the refs in order; the buffer of a ref'd mem
segment lies in the block at the length of the buffers before it, and that is where the stored
segment replacing it points. -/
theorem commitBlock_ind {P : List Ref → List FileNode → Prop} (st : Store) (files : List FileNode) (refs : List Ref)
    (h0 : P [] files)
    (hstep : ∀ (done : List Ref) (r : Ref) (todo : List Ref) (fs : List FileNode), refs = done ++ r :: todo → P done fs →
      P (done ++ [r]) (match refBuf files r with
        | some buf => setSeg fs r (Seg.stored (hash (refs.flatMap fun r => (refBuf files r).getD []))
            (refs.flatMap fun r => (refBuf files r).getD []).length
            (done.flatMap fun r => (refBuf files r).getD []).length buf.length)
        | none => fs)) :
    P refs (commitBlock hash st files refs).2 := by
  unfold commitBlock
  dsimp only
  generalize hgo : (fun (acc : List FileNode × Nat) (r : Ref) => _) = go
  have fold : ∀ (todo done : List Ref) (fs : List FileNode), refs = done ++ todo → P done fs →
      P refs (todo.foldl go (fs, (done.flatMap fun r => (refBuf files r).getD []).length)).1 := by
    intro todo
    induction todo with
    | nil => intro done fs hrefs h; rw [hrefs, List.append_nil]; exact h
    | cons r todo ih =>
      intro done fs hrefs h
      have hs := hstep done r todo fs hrefs h
      have := ih (done ++ [r]) _ (by rw [hrefs]; simp) hs
      rw [List.foldl_cons, ← hgo]
      cases hrb : refBuf files r <;> simpa [hrb, ← hgo] using this
  exact fold refs [] files rfl h0

theorem commitBlock_spec (hinj : Function.Injective hash) (hok : StoreOK hash st) (files : List FileNode)
    (hwf : AllWF max hash st files) (refs : List Ref) :
    StoreExt st (commitBlock hash st files refs).1 ∧ StoreOK hash (commitBlock hash st files refs).1 ∧
    AllWF max hash (commitBlock hash st files refs).1 (commitBlock hash st files refs).2 ∧
    (commitBlock hash st files refs).2.map (fileKey (commitBlock hash st files refs).1) = files.map (fileKey st) := by
  have hst : (commitBlock hash st files refs).1 = st.put hash (refs.flatMap fun r => (refBuf files r).getD []) := rfl
  rw [hst]
  generalize hblock : (refs.flatMap fun r => (refBuf files r).getD []) = block
  have hext : StoreExt st (st.put hash block) := Store.put_ext hinj hok block
  have hget : (st.put hash block) (hash block) = some block := Store.put_get hash st block
  refine ⟨hext, Store.put_ok hok block, ?_⟩
  refine commitBlock_ind (P := fun _ fs => AllWF max hash (st.put hash block) fs ∧
      fs.map (fileKey (st.put hash block)) = files.map (fileKey st)) st files refs
    ⟨fun fn hfn s hs => (hwf fn hfn s hs).ext hext, List.map_congr_left fun fn hfn => fileKey_ext hext (hwf fn hfn)⟩ ?_
  rintro done r todo fs hrefs ⟨h1, h2⟩
  rw [hblock]
  cases hrb : refBuf files r with
  | none => exact ⟨h1, h2⟩
  | some buf =>
    obtain ⟨fn0, fl, hf0, hs0⟩ := refBuf_some hrb
    have hbufwf : SegWF max hash st (Seg.mem buf fl) := hwf fn0 (List.mem_of_getElem? hf0) _ (mem_of_getElem? hs0)
    generalize hboff : (done.flatMap fun r => (refBuf files r).getD []).length = boff
    have hblk : (block.drop boff).take buf.length = buf := by
      rw [← hblock, hrefs, List.flatMap_append, List.flatMap_cons, ← hboff, List.drop_left' rfl, hrb]
      exact List.take_left' rfl
    have hroom : boff + buf.length ≤ block.length := by
      rw [← hblock, hrefs]
      simp only [List.flatMap_append, List.flatMap_cons, List.length_append, hrb, Option.getD_some, hboff]
      omega
    -- the current file at r.1 has the key of `fn0`, so its segment at r.2 has the bytes `buf`
    obtain ⟨fn, hfn, hkey⟩ := getElem?_of_map_eq h2 hf0
    obtain ⟨s, hs, hsb, hsl⟩ := fileKey_get hkey hs0
    obtain ⟨h1', h2'⟩ := setSeg_same (s' := Seg.stored (hash block) block.length boff buf.length) h1 hfn hs
      ⟨hbufwf.1, hroom, block, hget, rfl⟩ (by rw [Seg.bytes_stored hget, hblk]; exact hsb.symm) hsl.symm
    exact ⟨h1', h2'.trans h2⟩

theorem flushFiles_spec (hinj : Function.Injective hash) (hok : StoreOK hash st) (files : List FileNode)
    (hwf : AllWF max hash st files) (short : Bool) :
    StoreExt st (flushFiles hash max st files short).1 ∧ StoreOK hash (flushFiles hash max st files short).1 ∧
    AllWF max hash (flushFiles hash max st files short).1 (flushFiles hash max st files short).2 ∧
    (flushFiles hash max st files short).2.map (fileKey (flushFiles hash max st files short).1) = files.map (fileKey st) := by
  unfold flushFiles
  generalize flushGroups max short files = groups
  -- the contract relative to the ORIGINAL files and store is an invariant of the fold
  exact List.foldlRecOn groups _ (motive := FlushOK max hash st files) ⟨StoreExt.refl _, hok, hwf, rfl⟩
    fun acc ⟨h1, h2, h3, h4⟩ g _ =>
      have ⟨c1, c2, c3, c4⟩ := commitBlock_spec hinj h2 acc.2 h3 g
      ⟨h1.trans c1, c2, c3, c4.trans h4⟩

end ArvVerif.C08
