/-
C14 layer L3: the inductive invariant of the protocol model; for each component of the state, what
a change of that component has to respect for the invariant to survive (a worker enters and leaves
these lemmas through `Fits`); then every step as a composition of such changes (`Inv_step`).
-/
import ArvVerif.Model.C14_Proto
import ArvVerif.Proofs.C14_L2
namespace ArvVerif.C14

/-- The inductive invariant. `m1` is mutual exclusion; the rest is what makes it inductive:
`pJ`/`pJ3`/`pJ2` are what a fresh `probeDone` needs of the sample it applies; `m2`, `m3`, `kf` what
`schedStart` and `startExec` need to create a pending start resp. a process. -/
structure Inv (s : PState) : Prop where
  clkW : ∀ i w, s.wk i = some w → w.updated ≤ s.clock
  clkP : ∀ i st smp, s.probe i = some (st, smp) → st ≤ s.clock
  idleEmpty : ∀ i w, s.wk i = some w → w.state = .idle → w.running = [] ∧ w.starting = []
  activeProbed : ∀ i w, s.wk i = some w → (w.state = .idle ∨ w.state = .running) → s.probed i = true
  outProbed : ∀ i, s.probed i = false → s.out i = none
  /-- a start command not yet executed is in its worker's `starting` -/
  outStarting : ∀ i c, s.out i = some (c, false) → ∃ w, s.wk i = some w ∧ c ∈ w.starting
  deadEmpty : ∀ i, s.live i = false → s.procs i = []
  tracked : ∀ i c, s.probed i = true → c ∈ s.procs i → s.claims i c
  /-- from A1: while scheduling, unprobed instances run nothing -/
  unprobedEmpty : s.phase = .scheduling → ∀ i, s.probed i = false → s.procs i = []
  /-- a fresh sampled probe: everything running now was sampled or is still starting -/
  pJ : ∀ i st seen w, s.probe i = some (st, some seen) → s.wk i = some w → st = w.updated →
        ∀ c ∈ s.procs i, c ∈ seen ∨ c ∈ w.starting
  /-- … everything it sampled is still claimed -/
  pJ3 : ∀ i st seen w, s.probe i = some (st, some seen) → s.wk i = some w → st = w.updated →
        s.probed i = true → ∀ c ∈ seen, c ∈ w.running ∨ c ∈ w.starting
  /-- … and is not about to be started again on this worker -/
  pJ2 : ∀ i st seen w, s.probe i = some (st, some seen) → s.wk i = some w → st = w.updated →
        ∀ c ∈ seen, s.out i ≠ some (c, false)
  /-- **mutual exclusion**: a container has processes on at most one instance -/
  m1 : ∀ c i j, c ∈ s.procs i → c ∈ s.procs j → i = j
  m2 : ∀ c i j, c ∈ s.procs i → s.out j ≠ some (c, false)
  m3 : ∀ c i j, s.out i = some (c, false) → s.out j = some (c, false) → i = j
  /-- after `KillContainer(c) = false` (and until the next scheduler call) `c` has no process and
  no pending start -/
  kf : ∀ c, s.lastKillFalse = some c → (∀ i, c ∉ s.procs i) ∧ (∀ i, s.out i ≠ some (c, false))

theorem upd_eq {α : Type} (f : Nat → α) (i j : Nat) (v : α) :
    upd f i v j = if j = i then v else f j := rfl

theorem upd_self {α : Type} (f : Nat → α) (i : Nat) : upd f i (f i) = f :=
  funext fun j => by rw [upd_eq]; split <;> simp [*]

theorem upd_cases {α : Type} {f : Nat → α} {i j : Nat} {v x : α} (h : upd f i v j = x) :
    j = i ∧ v = x ∨ j ≠ i ∧ f j = x := by
  grind [upd_eq]

theorem upd_none {α : Type} {f : Nat → Option α} {i j : Nat} {x : α} (hx : upd f i none j = some x) :
    j ≠ i ∧ f j = some x := by
  grind [upd_eq]

theorem mem_upd_sub {f : Nat → List Uuid} {i : Nat} {l : List Uuid} (hl : ∀ c, c ∈ l → c ∈ f i)
    (j : Nat) (c : Uuid) (hc : c ∈ upd f i l j) : c ∈ f j := by
  grind [upd_eq]

theorem nil_of_sub {l l' : List Uuid} (hl : ∀ c, c ∈ l' → c ∈ l) (e : l = []) : l' = [] :=
  List.eq_nil_iff_forall_not_mem.mpr fun c hc => List.not_mem_nil (e ▸ hl c hc)

/-- What a worker `r` has to satisfy to stand for instance `i` of `s`, the instance counting as
probed iff `b`: the clauses of `Inv` about a worker, read at `i`. -/
structure Fits (s : PState) (i : Nat) (r : Worker) (b : Bool) : Prop where
  clk : r.updated ≤ s.clock
  idle : r.state = .idle → r.running = [] ∧ r.starting = []
  act : r.state = .idle ∨ r.state = .running → b = true
  out : ∀ c, s.out i = some (c, false) → c ∈ r.starting
  tr : b = true → ∀ c ∈ s.procs i, c ∈ r.running ∨ c ∈ r.starting
  pr : ∀ st seen, s.probe i = some (st, some seen) → st = r.updated →
    (∀ c ∈ s.procs i, c ∈ seen ∨ c ∈ r.starting) ∧
    (b = true → ∀ c ∈ seen, c ∈ r.running ∨ c ∈ r.starting) ∧
    ∀ c ∈ seen, s.out i ≠ some (c, false)

namespace Inv
variable {s : PState} (h : Inv s)
include h

/-! Each lemma below changes one component of the state and lists the clauses that read it; the
other clauses are those of `h`, which hold of the new state by unfolding its projections. -/

theorem tick : Inv { s with clock := s.clock + 1 } :=
  { h with
    clkW := fun i w hw => Nat.le_succ_of_le (h.clkW i w hw)
    clkP := fun i st smp hp => Nat.le_succ_of_le (h.clkP i st smp hp) }

theorem shrink (p : Nat → List Uuid) (hp : ∀ j c, c ∈ p j → c ∈ s.procs j) :
    Inv { s with procs := p } :=
  { h with
    deadEmpty := fun j hj => nil_of_sub (hp j) (h.deadEmpty j hj)
    tracked := fun j c hq hc => h.tracked j c hq (hp j c hc)
    unprobedEmpty := fun hph j hj => nil_of_sub (hp j) (h.unprobedEmpty hph j hj)
    pJ := fun j st seen w hq hw e c hc => h.pJ j st seen w hq hw e c (hp j c hc)
    m1 := fun c i j hi hj => h.m1 c i j (hp i c hi) (hp j c hj)
    m2 := fun c i j hi => h.m2 c i j (hp i c hi)
    kf := fun c hk => ⟨fun i hi => (h.kf c hk).1 i (hp i c hi), (h.kf c hk).2⟩ }

theorem setOut (i : Nat) (o : Option (Uuid × Bool)) (hp : s.probed i = false → o = none)
    (ho : ∀ c, o = some (c, false) → s.out i = some (c, false)) :
    Inv { s with out := upd s.out i o } := by
  have old : ∀ j c, upd s.out i o j = some (c, false) → s.out j = some (c, false) := by
    grind [upd_eq]
  exact { h with
    outProbed := by have := h.outProbed; grind [upd_eq]
    outStarting := fun j c hj => h.outStarting j c (old j c hj)
    pJ2 := fun j st seen w hq hw e c hc hj => h.pJ2 j st seen w hq hw e c hc (old j c hj)
    m2 := fun c j k hj hk => h.m2 c j k hj (old k c hk)
    m3 := fun c j k hj hk => h.m3 c j k (old j c hj) (old k c hk)
    kf := fun c hk => ⟨(h.kf c hk).1, fun j hj => (h.kf c hk).2 j (old j c hj)⟩ }

theorem setProbe (i : Nat) (q : Option (Nat × Option (List Uuid)))
    (hclk : ∀ st smp, q = some (st, smp) → st ≤ s.clock)
    (hq : ∀ st seen w, q = some (st, some seen) → s.wk i = some w → st = w.updated →
      (∀ c ∈ s.procs i, c ∈ seen ∨ c ∈ w.starting) ∧
      (s.probed i = true → ∀ c ∈ seen, c ∈ w.running ∨ c ∈ w.starting) ∧
      ∀ c ∈ seen, s.out i ≠ some (c, false)) :
    Inv { s with probe := upd s.probe i q } :=
  { h with
    clkP := by have := h.clkP; grind [upd_eq]
    pJ := fun j st seen w hj hw e => by
      rcases upd_cases hj with ⟨rfl, e'⟩ | ⟨_, e'⟩
      · exact (hq st seen w e' hw e).1
      · exact h.pJ j st seen w e' hw e
    pJ3 := fun j st seen w hj hw e => by
      rcases upd_cases hj with ⟨rfl, e'⟩ | ⟨_, e'⟩
      · exact (hq st seen w e' hw e).2.1
      · exact h.pJ3 j st seen w e' hw e
    pJ2 := fun j st seen w hj hw e => by
      rcases upd_cases hj with ⟨rfl, e'⟩ | ⟨_, e'⟩
      · exact (hq st seen w e' hw e).2.2
      · exact h.pJ2 j st seen w e' hw e }

theorem setWorkerProbed (i : Nat) (r : Worker) (b : Bool) (hb : b = false → s.probed i = false)
    (hr : Fits s i r b) :
    Inv { s with wk := upd s.wk i (some r), probed := upd s.probed i b } :=
  { h with
    clkW := by have := h.clkW; have := hr.clk; grind [upd_eq]
    idleEmpty := by have := h.idleEmpty; have := hr.idle; grind [upd_eq]
    activeProbed := by have := h.activeProbed; have := hr.act; grind [upd_eq]
    outProbed := by have := h.outProbed; grind [upd_eq]
    outStarting := by have := h.outStarting; have := hr.out; grind [upd_eq]
    tracked := by have := h.tracked; have := hr.tr; grind [upd_eq, PState.claims]
    unprobedEmpty := by have := h.unprobedEmpty; grind [upd_eq]
    pJ := fun j st seen w hq hw e => by
      have := h.pJ j st seen w hq; have := hr.pr st seen; grind [upd_eq]
    pJ3 := fun j st seen w hq hw e => by
      have := h.pJ3 j st seen w hq; have := hr.pr st seen; grind [upd_eq]
    pJ2 := fun j st seen w hq hw e => by
      have := h.pJ2 j st seen w hq; have := hr.pr st seen; grind [upd_eq] }

theorem setWorker (i : Nat) (r : Worker) (hr : Fits s i r (s.probed i)) :
    Inv { s with wk := upd s.wk i (some r) } := by
  have := h.setWorkerProbed i r (s.probed i) id hr
  rwa [upd_self] at this

theorem fits {i : Nat} {w : Worker} (hw : s.wk i = some w) : Fits s i w (s.probed i) where
  clk := h.clkW i w hw
  idle := h.idleEmpty i w hw
  act := h.activeProbed i w hw
  out := by have := h.outStarting i; grind
  tr := by have := h.tracked i; grind [PState.claims]
  pr st seen hq e := ⟨h.pJ i st seen w hq hw e, h.pJ3 i st seen w hq hw e, h.pJ2 i st seen w hq hw e⟩

/-- A worker stamped with the new time: every probe in flight is stale for it. -/
theorem setWorkerNow (i : Nat) {r : Worker} (hu : r.updated = s.clock + 1)
    (hidle : r.state = .idle → r.running = [] ∧ r.starting = [])
    (hact : r.state = .idle ∨ r.state = .running → s.probed i = true)
    (hout : ∀ c, s.out i = some (c, false) → c ∈ r.starting)
    (htr : s.probed i = true → ∀ c ∈ s.procs i, c ∈ r.running ∨ c ∈ r.starting) :
    Inv { s with wk := upd s.wk i (some r), clock := s.clock + 1 } :=
  h.tick.setWorker i r ⟨Nat.le_of_eq hu, hidle, hact, hout, htr,
    fun st seen hq e => absurd (h.clkP i st _ hq) (by omega)⟩

theorem restamp (i : Nat) {w r : Worker} (h1 : s.wk i = some w) (hr : r.running = w.running)
    (hs : r.starting = w.starting) (hst : r.state = w.state ∨ r.state = .shutdown)
    (hu : r.updated = w.updated ∨ r.updated = s.clock + 1) :
    Inv { s with wk := upd s.wk i (some r), clock := s.clock + 1 } := by
  -- `r` stands where `w` stood: each field of `Fits` from the same field for `w`; a probe in flight
  -- was begun before the new time
  have f := h.fits h1
  have := h.clkP i
  exact h.tick.setWorker i r ⟨by have := f.clk; grind, by have := f.idle; grind, by have := f.act; grind,
    by have := f.out; grind, by have := f.tr; grind, by have := f.pr; grind⟩

theorem dropWorker (i : Nat) (ho : s.out i = none) (hp : s.procs i = []) :
    Inv { s with wk := upd s.wk i none } :=
  { h with
    clkW := fun j w hw => h.clkW j w (upd_none hw).2
    idleEmpty := fun j w hw => h.idleEmpty j w (upd_none hw).2
    activeProbed := fun j w hw => h.activeProbed j w (upd_none hw).2
    outStarting := by have := h.outStarting; grind [upd_eq]
    tracked := by have := h.tracked; grind [upd_eq, PState.claims]
    pJ := fun j st seen w hq hw => h.pJ j st seen w hq (upd_none hw).2
    pJ3 := fun j st seen w hq hw => h.pJ3 j st seen w hq (upd_none hw).2
    pJ2 := fun j st seen w hq hw => h.pJ2 j st seen w hq (upd_none hw).2 }

end Inv

/-- The state after a restart, and the initial one: nothing but the cloud's side is left. -/
theorem Inv.blank (live : Nat → Bool) (procs : Nat → List Uuid) (clock : Nat)
    (hd : ∀ i, live i = false → procs i = [])
    (hm : ∀ c i j, c ∈ procs i → c ∈ procs j → i = j) :
    Inv { wk := fun _ => none, live := live, procs := procs, probed := fun _ => false,
          out := fun _ => none, probe := fun _ => none, lastKillFalse := none,
          phase := .recovering, clock := clock } where
  clkW := nofun
  clkP := nofun
  idleEmpty := nofun
  activeProbed := nofun
  outProbed _ _ := rfl
  outStarting := nofun
  deadEmpty := hd
  tracked := nofun
  unprobedEmpty := nofun
  pJ := nofun
  pJ3 := nofun
  pJ2 := nofun
  m1 := hm
  m2 := nofun
  m3 := nofun
  kf := nofun

theorem Inv_init : Inv PState.init :=
  Inv.blank _ _ 0 (fun _ _ => rfl) nofun

theorem Inv_step {s t : PState} (h : Inv s) (st : Step s t) : Inv t := by
  cases st with
  | instCreate i h1 h2 h3 h4 =>
    -- the instance did not exist, so it had no process: only `live` and `probed` change
    have h' := h.shrink (upd s.procs i []) (mem_upd_sub nofun)
    exact { h' with
      deadEmpty := by have := h.deadEmpty; grind [upd_eq]
      activeProbed := by have := h.activeProbed; grind [upd_eq]
      outProbed := by have := h.outProbed; grind [upd_eq]
      tracked := by have := h'.tracked; grind [upd_eq, PState.claims]
      unprobedEmpty := by have := h'.unprobedEmpty; grind [upd_eq]
      pJ3 := by have := h.pJ3; grind [upd_eq] }
  | instDestroy i =>
    have h' := h.shrink (upd s.procs i []) (mem_upd_sub nofun)
    exact { h' with deadEmpty := by have := h.deadEmpty; grind [upd_eq] }
  | procExit i c => exact h.shrink _ (mem_upd_sub fun _ hv => (mem_sRemove.mp hv).1)
  | poolAdd i st ib it h1 h2 =>
    -- the new worker is neither Idle nor Running, and there was none before: nothing to claim
    have := h.outStarting i
    have := h.tracked i
    exact h.setWorkerNow i rfl (by grind) (by grind) (by grind) (by grind [PState.claims])
  | poolTouch i w h1 => exact h.restamp i h1 rfl rfl (.inl rfl) (.inr rfl)
  | poolRemove i h1 =>
    have h' := (h.setOut i none (fun _ => rfl) nofun).setProbe i none nofun nofun
    exact h'.dropWorker i (upd_same ..) (h.deadEmpty i h1)
  | probeBegin i w h1 h2 h3 =>
    exact h.setProbe i _ (fun _ _ e => by cases e; exact h.clkW i w h1) nofun
  | probeSample i st h1 h2 =>
    refine h.setProbe i _ (fun _ _ e => by cases e; exact h.clkP i st none h1) ?_
    intro _ _ w e hw _
    cases e
    exact ⟨fun c hc => .inl hc, (h.fits hw).tr, fun c hc => h.m2 c i i hc⟩
  | probeDone i w p smp h1 h2 h3 =>
    have hlt : p.stamp < s.clock + 1 := Nat.lt_succ_of_le (h.clkP i _ _ h2)
    obtain ⟨sp1, sp2, sp3⟩ := Worker.probeApply_spec w p (s.clock + 1) (h.idleEmpty i w h1)
    have h' := h.setProbe i none nofun nofun
    cases hf : Worker.probeFresh w p (s.clock + 1)
    · obtain ⟨n1, n2, _, n4⟩ := sp1 hf
      rw [Bool.or_false, upd_self]
      exact h'.restamp i h1 n1 n2 n4 sp3
    · -- a fresh probe: the sample it carries is what the worker now tracks as running
      obtain ⟨hst, hok⟩ := Worker.probeFresh_stamp hlt hf
      obtain ⟨f1, f2, f3⟩ := sp2 hf
      cases h3 hok
      rw [Bool.or_true]
      have f := h.fits h1
      have := f.pr _ _ h2 hst
      exact h'.tick.setWorkerProbed i _ true nofun ⟨by have := f.clk; grind, f3, fun _ => rfl,
        by have := f.out; grind, by grind, fun _ _ e => nomatch (upd_same ..).symm.trans e⟩
  | schedKillTrue c h1 h2 | schedOther => exact { h with kf := nofun }
  | schedKillFalse c h1 h2 =>
    refine { h with kf := fun _ e => ?_ }
    cases e
    refine ⟨fun i hc => ?_, fun i ho => h2 i ?_⟩
    · -- a process of `c` would be claimed; an unprobed instance runs nothing while scheduling
      cases hp : s.probed i
      · exact List.not_mem_nil (h.unprobedEmpty h1 i hp ▸ hc)
      · exact h2 i (h.tracked i c hp hc)
    · obtain ⟨w, hw, hc⟩ := h.outStarting i c ho
      exact ⟨w, hw, .inr hc⟩
  | schedStart i c w h1 h2 h3 h4 h5 =>
    obtain ⟨hnp, hno⟩ := h.kf c h2
    have f := h.fits h3
    obtain ⟨er, es⟩ := f.idle h4
    have hp := f.act (.inl h4)
    have := f.out
    have := f.tr hp
    -- the worker was idle: it claimed nothing, so its instance runs nothing, no start is
    -- outstanding on it and a sample that is still fresh is empty
    have hseen : ∀ st seen, s.probe i = some (st, some seen) → st = w.updated → ∀ x, x ∉ seen :=
      fun st seen hq e x hx => by have := (f.pr st seen hq e).2.1 hp x hx; grind
    have := Worker.accept_starting w c
    have := Worker.accept_updated w c
    have h' := h.setWorker i (w.accept c)
      ⟨f.clk, nofun, fun _ => hp, by grind, by grind, by grind⟩
    -- then the start command: `c` runs nowhere and has no other start pending
    exact { h' with
      outProbed := by have := h.outProbed; grind [upd_eq]
      outStarting := by have := h'.outStarting; grind [upd_eq]
      pJ2 := by have := h'.pJ2; grind [upd_eq]
      m2 := by have := h.m2; grind [upd_eq]
      m3 := by have := h.m3; grind [upd_eq]
      kf := nofun }
  | startExec i c b h1 =>
    have hp : s.probed i = true := by have := h.outProbed i; grind
    have h' := h.setOut i (some (c, true)) (by grind) nofun
    by_cases hb : (s.live i && b) = true
    · -- a process of `c` appears on `i`: `c` is in the worker's `starting`, ran nowhere, and this
      -- was its only pending start
      rw [if_pos hb]
      obtain ⟨w, hw, hcs⟩ := h.outStarting i c h1
      have hnew : ∀ j x, x ∈ upd s.procs i (sInsert (s.procs i) c) j →
          x ∈ s.procs j ∨ j = i ∧ x = c := by grind [upd_eq, mem_sInsert]
      exact { h' with
        deadEmpty := by have := h.deadEmpty; grind [upd_eq]
        tracked := by have := h.tracked; grind [PState.claims]
        unprobedEmpty := by have := h.unprobedEmpty; grind [upd_eq]
        pJ := by have := h.pJ; grind
        m1 := by have := h.m1; have := h.m2; grind
        m2 := by have := h.m2; have := h.m3; grind [upd_eq]
        kf := by have := h.kf; grind [upd_eq] }
    · rw [if_neg hb]
      exact h'
  | startDone i c w h1 h2 =>
    have h' := h.setOut i none (fun _ => rfl) nofun
    by_cases hc : c ∈ w.starting
    · -- `c` moves from `starting` to `running`: the worker claims what it claimed, and is not Idle
      have f := h.fits h2
      have := Worker.startDone_state w c (s.clock + 1)
      have := Worker.startDone_running w c
      have := Worker.startDone_starting w c
      exact h'.setWorkerNow i (by rw [Worker.startDone_updated, if_pos hc]) (by have := f.idle; grind)
        (by have := f.act; grind) (fun _ e => nomatch (upd_same ..).symm.trans e) (by have := f.tr; grind)
    · rw [Worker.startDone_of_not_mem _ hc, ← h2, upd_self]
      exact h'.tick
  | killed i c w h1 h2 =>
    obtain ⟨c1, c2, _, c4, c5, c6⟩ := Worker.closeRunner_spec w c (s.clock + 1)
    by_cases hc : c ∈ w.running
    · -- `c` leaves `running`; it had no process on `i`, so every process is still claimed
      have f := h.fits h1
      exact h.setWorkerNow i (c4 hc) (by have := f.idle; grind) (by have := f.act; grind)
        (by have := f.out; grind) (by have := f.tr; grind)
    · rw [c5 hc, ← h1, upd_self]
      exact h.tick
  | shutdown i w h1 => exact h.restamp i h1 rfl rfl (.inr rfl) (.inr rfl)
  | setIdle i w b t g h1 =>
    obtain ⟨a1, a2, _, a4⟩ := Worker.setIdleBehavior_spec w b t g (s.clock + 1)
    exact h.restamp i h1 a1 a2 (by grind) (by grind)
  | restart => exact Inv.blank _ _ _ h.deadEmpty h.m1
  | recoveryDone h1 hA1 => exact { h with unprobedEmpty := fun _ => hA1 }

theorem Inv_reach {s : PState} (h : Reach s) : Inv s := by
  induction h with
  | init => exact Inv_init
  | step _ st ih => exact Inv_step ih st

end ArvVerif.C14
