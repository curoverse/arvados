/- C04 interleaving layer: kernel evaluation of the table check for the 36 configurations with
Serialize = true, BlobTrashLifetime == 0 = true. -/
import ArvVerif.Proofs.C04_RaceCheck
namespace ArvVerif.C04.Race

theorem checkGroup3 : (cfgGroup true true).all checkAll = true := by decide +kernel

end ArvVerif.C04.Race
