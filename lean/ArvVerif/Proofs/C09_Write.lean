/-
C09 helper lemmas: `filenode.Write` with a Keep that can fail. `pruneMemSegments` (`pruneSegsK`): whatever
Keep answers, no segment is replaced at this point, every segment keeps its bytes and length, the list stays
well-formed; a segment marked "pending" has its snapshot acknowledged by Keep (so the goroutine may later swap
in the stored segment — C08's `settle`), a failed one is only marked (`PruneOK`). The loop around it (`writeK`)
is C08's with `pruneSegsK` in the place of `pruneSegs`, and C08 states the tail of an iteration for any prune
result (`RestrOK.written`), the loop step (`LoopOK.cons`) and the start of a write (`write_start`) apart from
its own loop; so each of the three theorems runs the Keep version and hands `pruneSegsK_spec` to them.
-/
import ArvVerif.Proofs.C09_Keep
import ArvVerif.Proofs.C08_Write
namespace ArvVerif.C09

open ArvVerif.C08 (Seg FileNode Ptr Flush Store StoreOK StoreExt SegWF WF WPos RestrOK StepOK LoopOK SameLens Pos
  specWrite abs absSegs sumLen)

variable {max : Nat} {hash : Bytes → C08.Loc}

structure PruneOK (max : Nat) (hash : Bytes → C08.Loc) (k : Keep) (segs : List Seg) (k' : Keep) (segs' : List Seg) :
    Prop where
  ok : KeepOK hash k'
  step : KeepStep hash k k'
  wf : ∀ s ∈ segs', SegWF max hash k'.store s
  abs : absSegs k'.store segs' = absSegs k.store segs
  lens : SameLens segs' segs
  kinds : segs'.map Seg.isMem = segs.map Seg.isMem

theorem PruneOK.refl {k : Keep} {segs : List Seg} (hk : KeepOK hash k) (hwf : ∀ s ∈ segs, SegWF max hash k.store s) :
    PruneOK max hash k segs k segs :=
  ⟨hk, KeepStep.refl k, hwf, rfl, rfl, rfl⟩

theorem pruneSegsK_spec (hinj : Function.Injective hash) : ∀ (segs : List Seg) (idx : Nat) (k : Keep),
    KeepOK hash k → (∀ s ∈ segs, SegWF max hash k.store s) →
    PruneOK max hash k segs (pruneSegsK hash max segs idx k).2 (pruneSegsK hash max segs idx k).1
  | [], _, k, hk, hwf => .refl hk hwf
  | s :: rest, idx, k, hk, hwf => by
    have hs := hwf s (List.mem_cons_self ..)
    have hrest : ∀ x ∈ rest, SegWF max hash k.store x := fun x hx => hwf x (List.mem_cons_of_mem _ hx)
    -- the head becomes `s'` over `k1`, the rest is pruned from there
    have cons : ∀ (k1 : Keep) (s' : Seg), KeepOK hash k1 → KeepStep hash k k1 → SegWF max hash k1.store s' →
        s'.bytes k1.store = s.bytes k.store → s'.len = s.len → s'.isMem = s.isMem →
        PruneOK max hash k (s :: rest) (pruneSegsK hash max rest (idx + 1) k1).2
          (s' :: (pruneSegsK hash max rest (idx + 1) k1).1) := by
      intro k1 s' hk1 hstep hs' hb hl hm
      have r := pruneSegsK_spec hinj rest (idx + 1) k1 hk1 (fun x hx => (hrest x hx).ext hstep.ext)
      refine ⟨r.ok, hstep.trans r.step, ?_, ?_, ?_, ?_⟩
      · intro x hx
        rcases List.mem_cons.mp hx with rfl | hx
        · exact hs'.ext r.step.ext
        · exact r.wf x hx
      · rw [C08.absSegs_cons, C08.absSegs_cons, r.abs, hs'.bytes_ext r.step.ext, hb, C08.absSegs_ext hstep.ext hrest]
      · have := r.lens
        unfold SameLens at *
        rw [List.map_cons, List.map_cons, hl, this]
      · rw [List.map_cons, List.map_cons, hm, r.kinds]
    have same := cons k s hk (KeepStep.refl k) hs rfl rfl rfl
    unfold pruneSegsK
    split
    · next buf =>
      simp only []
      split
      · exact same
      · obtain ⟨p1, p2, p3⟩ := putB_spec hinj hk buf
        split
        · next hok =>
          exact cons _ _ p1 p2 ⟨hs.1, hs.2.1, fun i l h => (by cases h; exact ⟨Nat.le_refl _, fun _ => p3 hok⟩)⟩ rfl rfl rfl
        · exact cons _ _ p1 p2 ⟨hs.1, hs.2.1, nofun⟩ rfl rfl rfl
    · exact same

/-- the C08 view of a writer state over Keep -/
abbrev viewK (w : WStateK) : C08.WState := ⟨w.fn, w.ptr, w.k.store⟩

theorem overwriteK_spec (hinj : Function.Injective hash) {w : WStateK} {p : Bytes} {r : C08.Restr}
    (hk : KeepOK hash w.k) (hpos : WPos w.fn w.ptr) (hr : RestrOK max hash w.k.store w.fn w.ptr p r) :
    ∃ w', overwriteK hash max w r = some (w', r.cando.length) ∧
      StepOK max hash (viewK w) p (viewK w') r.cando.length ∧ KeepOK hash w'.k ∧ KeepStep hash w.k w'.k := by
  obtain ⟨buf, fl, nb, hget, hwa, hwf1, hstep⟩ := hr.written hpos
  simp only [overwriteK, hget, hwa]
  -- pruned or not, the list keeps its content and lengths
  generalize hpr : (if r.off + r.cando.length ≥ max
      then pruneSegsK hash max (r.segs.set r.idx (Seg.mem nb Flush.none)) 0 w.k
      else (r.segs.set r.idx (Seg.mem nb Flush.none), w.k)) = pr
  have h : PruneOK max hash w.k (r.segs.set r.idx (Seg.mem nb Flush.none)) pr.2 pr.1 := by
    rw [← hpr]
    split
    · exact pruneSegsK_spec hinj _ 0 w.k hk hwf1
    · exact .refl hk hwf1
  exact ⟨_, rfl, hstep (pr.1, pr.2.store) ⟨h.step.ext, h.ok.ok, h.lens, h.wf, h.abs⟩, h.ok, h.step⟩

theorem loopK_spec (hinj : Function.Injective hash) (hmax : 1 ≤ max) :
    ∀ (fuel : Nat) (w : WStateK) (p : Bytes) (n : Nat), p.length ≤ fuel →
      KeepOK hash w.k → WF max hash w.k.store w.fn → WPos w.fn w.ptr →
      ∃ w', writeLoopK hash max fuel w p n = WriteResK.done w' (n + p.length) ∧
        LoopOK max hash (viewK w) p (viewK w') ∧ KeepOK hash w'.k ∧ KeepStep hash w.k w'.k
  | _, w, [], n, _, hk, hwf, hpos =>
    ⟨w, by rw [writeLoopK]; rfl, C08.LoopOK.refl (w := viewK w) hk.ok hwf hpos, hk, KeepStep.refl _⟩
  | 0, _, _ :: _, _, hlen, _, _, _ => by simp at hlen
  | fuel + 1, w, b :: p', n, hlen, hk, hwf, hpos => by
    obtain ⟨r, hr, hrok⟩ := C08.restructure_spec (p := b :: p') hmax (by simp) hwf hpos
    obtain ⟨w1, hov, hs, hk1, hst1⟩ := overwriteK_spec hinj hk hpos hrok
    generalize r.cando.length = m at hov hs
    have hm1 := hs.k_pos
    have hm2 := hs.k_le
    have hdrop : ((b :: p').drop m).length = (b :: p').length - m := List.length_drop
    obtain ⟨w2, hloop, hl, hk2, hst2⟩ := loopK_spec hinj hmax fuel w1 ((b :: p').drop m) (n + m)
      (by simp only [List.length_cons] at hlen hm2 hdrop; omega) hk1 hs.wf hs.pos
    refine ⟨w2, ?_, hl.cons (w := viewK w) hwf hpos hs, hk2, hst1.trans hst2⟩
    simp only [writeLoopK, writeStepK, hr, hov]
    rw [hloop, hdrop]
    congr 1
    omega

theorem writeK_spec (hinj : Function.Injective hash) (hmax : 1 ≤ max) {k : Keep} (hk : KeepOK hash k) {fn : FileNode}
    {ptr : Ptr} (hwf : WF max hash k.store fn) (hrep : 0 ≤ fn.repacked) (hptr : C08.PtrOK fn ptr) (p : Bytes) :
    ∃ w, writeK hash max k fn ptr p = WriteResK.done w p.length ∧ KeepOK hash w.k ∧ KeepStep hash k w.k ∧
      WF max hash w.k.store w.fn ∧ 0 ≤ w.fn.repacked ∧ C08.PtrOK w.fn w.ptr ∧ w.ptr.off = ptr.off + p.length ∧
      abs w.k.store w.fn = specWrite (abs k.store fn) ptr.off p ∧
      (∀ q, C08.PtrOK fn q → C08.PtrOK w.fn q) := by
  obtain ⟨fn1, q, h1, h2, hwf1, hpos, fin⟩ := C08.write_start hmax hwf hrep hptr p
  obtain ⟨w, hloop, hl, hk', hst⟩ := loopK_spec hinj hmax p.length ⟨fn1, q, k⟩ p 0 (Nat.le_refl _) hk hwf1 hpos
  have hw := fin (viewK w) hl
  exact ⟨w, by simp only [writeK, h1, h2, hloop, Nat.zero_add], hk', hst, hw.wf, hw.rep, hw.ptr_ok, hw.off, hw.abs_eq,
    hw.others⟩

end ArvVerif.C09
