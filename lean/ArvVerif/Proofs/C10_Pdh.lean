/-
C10 — `PortableDataHash`: on every text inside the grammar the bytes fed to MD5 are the manifest
text with every locator reduced to hash+size (`stripHints`).
-/
import ArvVerif.Model.C10_Fs
import ArvVerif.Proofs.C10_Grammar
namespace ArvVerif.C10

theorem pdhScan_nospace : ∀ (t rest : Bytes), bSpace ∉ t →
    pdhScan .copy (t ++ rest) = t ++ pdhScan .copy rest ∧ pdhScan .drop (t ++ rest) = pdhScan .drop rest
  | [], _, _ => ⟨rfl, rfl⟩
  | c :: t, rest, h => by
    have ⟨hc, ht⟩ : bSpace ≠ c ∧ bSpace ∉ t := by simpa using h
    simp [pdhScan, Ne.symm hc, pdhScan_nospace t rest ht]

theorem pdhScan_take : ∀ (a rest : Bytes), a ≠ [] → pdhScan (.take a.length) (a ++ rest) = a ++ pdhScan .drop rest
  | [c], rest, _ => by simp [pdhScan]
  | c :: d :: a, rest, _ => by
    have ih := pdhScan_take (d :: a) rest (by simp)
    simp only [List.length_cons, List.cons_append] at ih ⊢
    simp [pdhScan, ih]

theorem pdhScan_space (rest : Bytes) :
    pdhScan .copy (bSpace :: rest) =
      bSpace :: match blkPrefixLen rest with
        | some n => pdhScan (.take n) rest
        | none => pdhScan .copy rest := by
  simp only [pdhScan, beq_self_eq_true, if_true]
  cases blkPrefixLen rest <;> rfl

theorem pdhScan_drop_space (rest : Bytes) : pdhScan .drop (bSpace :: rest) = pdhScan .copy (bSpace :: rest) := by
  simp [pdhScan]

/-- `blkRe` matches 32 hex digits, `+` and the longest run of digits -/
theorem blkPrefixLen_match (hs ds rest : Bytes) (hlen : hs.length = 32) (hall : hs.all isLowerHex = true)
    (hdne : ds ≠ []) (hd : ds.all isDigit = true) (hstop : rest.takeWhile isDigit = []) :
    blkPrefixLen (hs ++ bPlus :: ds ++ rest) = some (hs ++ bPlus :: ds).length := by
  have h33 : (hs ++ [bPlus]).length = 33 := by simp [hlen]
  have e : hs ++ bPlus :: ds ++ rest = hs ++ [bPlus] ++ (ds ++ rest) := by simp
  unfold blkPrefixLen
  simp only [e, List.drop_left' h33, List.takeWhile_append_of_pos (List.all_eq_true.mp hd), hstop]
  simp [List.take_left' hlen, List.drop_left' hlen, hlen, hall, hdne]
  omega

theorem locator_scan (t ds : Bytes) (h : locatorSizeDigits isLowerHex t = some ds) (hns : bSpace ∉ t)
    (rest : Bytes) (hr : rest.head? = some bSpace) :
    pdhScan .copy (bSpace :: (t ++ rest)) = bSpace :: (stripLoc t ++ pdhScan .copy rest) := by
  obtain ⟨hs, tl, ht, hlen, hall, hdne, hd, htl⟩ := locatorSizeDigits_shape isLowerHex t ds h
  match rest, hr with
  | _ :: rest, rfl =>
    -- what follows the digits is the space or the `+` of a hint
    have hstop : (tl ++ bSpace :: rest).takeWhile isDigit = [] := by
      rcases htl with rfl | ⟨_, tl', rfl⟩ <;> rfl
    have hnt : bSpace ∉ tl := fun hm => hns (by simp [ht, hm])
    have e : t ++ bSpace :: rest = hs ++ bPlus :: ds ++ (tl ++ bSpace :: rest) := by simp [ht]
    rw [pdhScan_space, e, blkPrefixLen_match hs ds _ hlen hall hdne hd hstop]
    simp only []
    rw [pdhScan_take _ _ (by simp), (pdhScan_nospace tl _ hnt).2, pdhScan_drop_space, stripLoc_eq t ds h, ht,
      List.take_left' hlen]

theorem blkPrefixLen_fileTok (t rest : Bytes) (f : FTok) (h : specFileTok t = some f) :
    blkPrefixLen (t ++ rest) = none := by
  obtain ⟨p, l, nm, rfl, _, _, hp, _⟩ := specFileTok_shape t f h
  unfold blkPrefixLen
  rw [if_neg]
  rintro ⟨_, hall, hplus⟩
  have e : p ++ bColon :: (l ++ bColon :: nm) ++ rest = p ++ [bColon] ++ (l ++ bColon :: nm ++ rest) := by simp
  rw [e] at hall hplus
  by_cases hpl : p.length < 32
  · -- the colon after the position lies inside the 32-byte window
    refine not_mem_of_all hall (c := bColon) (by decide) (List.mem_of_getElem? (i := p.length) ?_)
    rw [List.getElem?_take_of_lt hpl, List.getElem?_append_left (by simp)]
    simp
  · -- 32 or more digits: byte 32 is a digit or the colon, never '+'
    rw [List.head?_drop, List.getElem?_append_left (by simp; omega)] at hplus
    rcases List.mem_append.mp (List.mem_of_getElem? hplus) with hm | hm
    · exact not_mem_of_all hp plus_not_digit hm
    · cases List.mem_singleton.mp hm

theorem stripLoc_fileTok (t : Bytes) (f : FTok) (h : specFileTok t = some f) : stripLoc t = t := by
  unfold stripLoc
  split
  · exact absurd (specFileTok_has_colon t f h) (locator_no_colon isLowerHex (by decide) t _ ‹_›)
  · rfl

theorem fileTok_scan (t : Bytes) (f : FTok) (h : specFileTok t = some f) (hns : bSpace ∉ t) (rest : Bytes) :
    pdhScan .copy (bSpace :: (t ++ rest)) = bSpace :: (stripLoc t ++ pdhScan .copy rest) := by
  rw [pdhScan_space, blkPrefixLen_fileTok t rest f h, (pdhScan_nospace t rest hns).1, stripLoc_fileTok t f h]

def spaced (toks : List Bytes) : Bytes := toks.flatMap (bSpace :: ·)

theorem spaced_cons (t : Bytes) (ts : List Bytes) : spaced (t :: ts) = bSpace :: (t ++ spaced ts) := rfl

theorem joinWith_space (nm : Bytes) (toks : List Bytes) : joinWith bSpace (nm :: toks) = nm ++ spaced toks := by
  induction toks generalizing nm with
  | nil => simp [joinWith, spaced]
  | cons t rest ih => rw [joinWith_cons_cons, ih]; rfl

/-- a run of tokens each of which is scanned to its `stripLoc` when what follows satisfies `P` -/
theorem scan_toks (P : Bytes → Prop) (hP : ∀ r, P (bSpace :: r)) : ∀ (ts : List Bytes) (rest : Bytes), P rest →
    (∀ t ∈ ts, ∀ r, P r → pdhScan .copy (bSpace :: (t ++ r)) = bSpace :: (stripLoc t ++ pdhScan .copy r)) →
    pdhScan .copy (spaced ts ++ rest) = spaced (ts.map stripLoc) ++ pdhScan .copy rest
  | [], _, _, _ => rfl
  | t :: ts, rest, hr, h => by
    have hr' : P (spaced ts ++ rest) := by
      cases ts
      · exact hr
      · exact hP _
    simp only [spaced_cons, List.map_cons, List.cons_append, List.append_assoc]
    rw [h t (List.mem_cons_self ..) _ hr', scan_toks P hP ts rest hr fun x hx => h x (List.mem_cons_of_mem _ hx)]

theorem scan_line (line : Bytes) (s : Stream) (h : specLine line = some s) (rest : Bytes) :
    pdhScan .copy (line ++ bNL :: rest) = stripLine line ++ bNL :: pdhScan .copy rest := by
  obtain ⟨nm, ftoks, hs, _, _, _, hr2, hfiles, _, hftne, _⟩ := specLine_tokens line s h
  have hnosp : ∀ t ∈ nm :: (s.blocks.map (·.text) ++ ftoks), bSpace ∉ t := hs ▸ splitOn_no_sep bSpace line
  have hline : line = nm ++ spaced (s.blocks.map (·.text) ++ ftoks) := by
    rw [← joinWith_space, ← hs, joinWith_splitOn]
  have hnl : pdhScan .copy (bNL :: rest) = bNL :: pdhScan .copy rest := by simp [pdhScan, bNL, bSpace]
  -- the locators are each followed by a space, since a file token comes after them
  have hsp : (spaced ftoks ++ bNL :: rest).head? = some bSpace := by
    obtain ⟨t0, ts0, rfl⟩ := List.exists_cons_of_ne_nil hftne
    rfl
  have hlocs := scan_toks (·.head? = some bSpace) (fun _ => rfl) (s.blocks.map (·.text)) _ hsp fun t ht r hr => by
    obtain ⟨b, hb, rfl⟩ := List.mem_map.mp ht
    obtain ⟨ds, hd, _⟩ := specLocator_eq_some.mp (hr2 b hb)
    exact locator_scan _ ds hd (hnosp _ (by simp [ht])) r hr
  have hfts := scan_toks (fun _ => True) (fun _ => trivial) ftoks (bNL :: rest) trivial fun t ht r _ => by
    obtain ⟨f, hf⟩ := mapOpt_isSome specFileTok ftoks _ hfiles t ht
    exact fileTok_scan t f hf (hnosp _ (by simp [ht])) r
  unfold stripLine
  rw [hs]
  simp only []
  rw [joinWith_space, List.map_append]
  conv => lhs; rw [hline]
  simp only [spaced, List.flatMap_append, List.append_assoc] at hlocs hfts ⊢
  rw [(pdhScan_nospace nm _ (hnosp nm (by simp))).1, hlocs, hfts, hnl]

theorem scan_lines : ∀ (lines : List Bytes) (M : Manifest), mapOpt specLine lines = some M →
    pdhScan .copy (joinWith bNL (lines ++ [[]])) = joinWith bNL (lines.map stripLine ++ [[]])
  | [], _, _ => rfl
  | l :: ls, M, h => by
    obtain ⟨s, ss, h1, h2, _⟩ := mapOpt_cons_some specLine l ls M h
    have e (p : Bytes) (qs : List Bytes) : joinWith bNL (p :: (qs ++ [[]])) = p ++ bNL :: joinWith bNL (qs ++ [[]]) :=
      joinWith_append bNL [p] _ (by simp) (by simp)
    rw [List.map_cons, List.cons_append, List.cons_append, e, e]
    exact (scan_line l s h1 _).trans (congrArg _ (congrArg _ (scan_lines ls ss h2)))

theorem pdhInput_valid (txt : Bytes) (M : Manifest) (h : parseSpec txt = some M) :
    pdhInput txt = stripHints txt := by
  obtain ⟨ys, hys, h⟩ := parseSpec_lines txt M h
  unfold pdhInput stripHints
  rw [hys, List.map_append]
  conv => lhs; rw [← joinWith_splitOn bNL txt, hys]
  exact scan_lines ys M h

end ArvVerif.C10
