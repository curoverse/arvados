/-
C08: lists of segments, and Keep growing (`StoreExt`): a well-formed file stays well-formed and reads the same over
a larger store.
-/
import ArvVerif.Model.C08
namespace ArvVerif.C08

section Mid
variable {α : Type}

theorem drop_mid_succ (pre : List α) (x : α) (post : List α) :
    (pre ++ x :: post).drop (pre.length + 1) = post := by
  have : pre ++ x :: post = (pre ++ [x]) ++ post := by simp
  rw [this]; exact List.drop_left' (by simp)

theorem get_mid (pre : List α) (x : α) (post : List α) : (pre ++ x :: post)[pre.length]? = some x := by
  simp

theorem set_mid (pre : List α) (x y : α) (post : List α) :
    (pre ++ x :: post).set pre.length y = pre ++ y :: post := by
  induction pre with
  | nil => rfl
  | cons a pre ih => simp [ih]

theorem set_eq_self {l : List α} {i : Nat} {a : α} (h : l[i]? = some a) : l.set i a = l := by
  obtain ⟨hi, rfl⟩ := List.getElem?_eq_some_iff.mp h
  exact List.set_getElem_self hi

theorem split3 (l : List α) (o k : Nat) : l = l.take o ++ (l.drop o).take k ++ l.drop (o + k) := by
  rw [List.append_assoc, ← List.drop_drop, List.take_append_drop, List.take_append_drop]

theorem getElem?_of_map_eq {β γ : Type} {g : α → γ} {g' : β → γ} {l : List α} {l' : List β} (h : l'.map g' = l.map g)
    {i : Nat} {x : α} (hx : l[i]? = some x) : ∃ y, l'[i]? = some y ∧ g' y = g x := by
  have h1 : (l.map g)[i]? = some (g x) := by simp [hx]
  rw [← h] at h1
  simpa only [List.getElem?_map, Option.map_eq_some_iff] using h1

end Mid

variable {max : Nat} {hash : Bytes → Loc} {st : Store}

@[simp] theorem sumLen_nil : sumLen [] = 0 := rfl

@[simp] theorem sumLen_cons (s : Seg) (l : List Seg) : sumLen (s :: l) = s.len + sumLen l := by
  simp [sumLen]

@[simp] theorem sumLen_append (a b : List Seg) : sumLen (a ++ b) = sumLen a + sumLen b := by
  simp [sumLen]

@[simp] theorem absSegs_nil : absSegs st [] = [] := rfl

@[simp] theorem absSegs_cons (s : Seg) (l : List Seg) : absSegs st (s :: l) = s.bytes st ++ absSegs st l := by
  simp [absSegs]

@[simp] theorem absSegs_append (a b : List Seg) : absSegs st (a ++ b) = absSegs st a ++ absSegs st b := by
  simp [absSegs]

@[simp] theorem zeros_length (n : Nat) : (zeros n).length = n := by simp [zeros]

@[simp] theorem zeros_zero : zeros 0 = [] := rfl

theorem zeros_append (a b : Nat) : zeros a ++ zeros b = zeros (a + b) := by
  simp [zeros, List.replicate_append_replicate]

@[simp] theorem Seg.len_mem (b : Bytes) (fl : Flush) : (Seg.mem b fl).len = b.length := rfl

@[simp] theorem Seg.len_stored (l : Loc) (a b c : Nat) : (Seg.stored l a b c).len = c := rfl

@[simp] theorem Seg.bytes_mem (b : Bytes) (fl : Flush) : (Seg.mem b fl).bytes st = b := rfl

theorem Seg.bytes_stored {loc : Loc} {size off l : Nat} {b : Bytes} (h : st loc = some b) :
    (Seg.stored loc size off l).bytes st = (b.drop off).take l := by
  simp [Seg.bytes, h]

theorem SegWF.len_pos {s : Seg} (h : SegWF max hash st s) : 0 < s.len := by
  cases s <;> exact h.1

theorem SegWF.bytes_length {s : Seg} (h : SegWF max hash st s) : (s.bytes st).length = s.len := by
  cases s with
  | mem buf fl => rfl
  | stored loc size off l =>
    obtain ⟨_, hle, b, hb, hlen⟩ := h
    rw [Seg.bytes_stored hb]
    simp only [List.length_take, List.length_drop, Seg.len_stored]
    omega

theorem absSegs_length {segs : List Seg} (h : ∀ s ∈ segs, SegWF max hash st s) :
    (absSegs st segs).length = sumLen segs := by
  induction segs with
  | nil => rfl
  | cons s rest ih =>
    rw [List.forall_mem_cons] at h
    rw [absSegs_cons, List.length_append, sumLen_cons, h.1.bytes_length, ih h.2]

theorem WF.abs_length {fn : FileNode} (h : WF max hash st fn) : (abs st fn).length = fn.size := by
  rw [h.size_eq]; exact absSegs_length h.segs

theorem WF.empty : WF max hash st FileNode.empty := ⟨rfl, fun _ h => by cases h⟩

theorem segs_split {segs : List Seg} {i : Nat} {s : Seg} (h : segs[i]? = some s) :
    segs = segs.take i ++ s :: segs.drop (i + 1) := by
  obtain ⟨hi, rfl⟩ := List.getElem?_eq_some_iff.mp h
  rw [List.getElem_cons_drop, List.take_append_drop]

theorem take_succ_of_get {segs : List Seg} {i : Nat} {s : Seg} (h : segs[i]? = some s) :
    segs.take (i + 1) = segs.take i ++ [s] := by
  rw [List.take_add_one, h]; rfl

theorem drop_of_get {segs : List Seg} {i : Nat} {s : Seg} (h : segs[i]? = some s) :
    segs.drop i = s :: segs.drop (i + 1) := by
  obtain ⟨hi, rfl⟩ := List.getElem?_eq_some_iff.mp h
  exact List.drop_eq_getElem_cons hi

theorem length_take_of_get {segs : List Seg} {i : Nat} {s : Seg} (h : segs[i]? = some s) :
    (segs.take i).length = i :=
  List.length_take_of_le (Nat.le_of_lt (List.getElem?_eq_some_iff.mp h).1)

theorem exists_split {segs : List Seg} {i : Nat} {s : Seg} (h : segs[i]? = some s) :
    ∃ pre post, segs = pre ++ s :: post ∧ pre.length = i :=
  ⟨_, _, segs_split h, length_take_of_get h⟩

theorem mem_of_getElem? {segs : List Seg} {i : Nat} {s : Seg} (h : segs[i]? = some s) : s ∈ segs :=
  List.mem_of_getElem? h

theorem absSegs_split {segs : List Seg} {i : Nat} {s : Seg} (h : segs[i]? = some s) :
    absSegs st segs = absSegs st (segs.take i) ++ s.bytes st ++ absSegs st (segs.drop (i + 1)) := by
  conv => lhs; rw [segs_split h]
  simp

theorem WF.split {fn : FileNode} {i : Nat} {s : Seg} (hwf : WF max hash st fn) (h : fn.segs[i]? = some s) :
    (∀ x ∈ fn.segs.take i, SegWF max hash st x) ∧ SegWF max hash st s ∧
    (∀ x ∈ fn.segs.drop (i + 1), SegWF max hash st x) ∧
    fn.size = sumLen (fn.segs.take i) + s.len + sumLen (fn.segs.drop (i + 1)) ∧
    (absSegs st (fn.segs.take i)).length = sumLen (fn.segs.take i) := by
  have hpre : ∀ x ∈ fn.segs.take i, SegWF max hash st x := fun x hx => hwf.segs x (List.mem_of_mem_take hx)
  refine ⟨hpre, hwf.segs s (mem_of_getElem? h), fun x hx => hwf.segs x (List.mem_of_mem_drop hx), ?_,
    absSegs_length hpre⟩
  rw [hwf.size_eq]
  conv => lhs; rw [segs_split h]
  rw [sumLen_append, sumLen_cons, Nat.add_assoc]

theorem sumLen_take_le (segs : List Seg) (i : Nat) : sumLen (segs.take i) ≤ sumLen segs := by
  have := sumLen_append (segs.take i) (segs.drop i)
  rw [List.take_append_drop] at this
  omega

theorem sumLen_take_succ {segs : List Seg} {i : Nat} {s : Seg} (h : segs[i]? = some s) :
    sumLen (segs.take (i + 1)) = sumLen (segs.take i) + s.len := by
  rw [List.take_add_one, h]
  simp

theorem sumLen_take_lt_iff {segs : List Seg} (hpos : ∀ s ∈ segs, 0 < s.len) (i : Nat) :
    sumLen (segs.take i) < sumLen segs ↔ i < segs.length := by
  constructor
  · intro h
    apply Classical.byContradiction
    intro hn
    rw [List.take_of_length_le (by omega)] at h
    omega
  · intro h
    have := sumLen_take_succ (List.getElem?_eq_getElem h)
    have := sumLen_take_le segs (i + 1)
    have := hpos _ (List.getElem_mem h)
    omega

def StoreExt (st st' : Store) : Prop := ∀ l b, st l = some b → st' l = some b

def StoreOK (hash : Bytes → Loc) (st : Store) : Prop := ∀ l b, st l = some b → l = hash b

theorem StoreExt.refl (st : Store) : StoreExt st st := fun _ _ h => h

theorem StoreExt.trans {a b c : Store} (h1 : StoreExt a b) (h2 : StoreExt b c) : StoreExt a c :=
  fun l x h => h2 l x (h1 l x h)

theorem Store.put_get (hash : Bytes → Loc) (st : Store) (b : Bytes) : (st.put hash b) (hash b) = some b := by
  simp [Store.put]

theorem Store.put_ext (hinj : Function.Injective hash) (hok : StoreOK hash st) (b : Bytes) :
    StoreExt st (st.put hash b) := by
  intro l x hx
  simp only [Store.put]
  split
  · next heq => rw [hinj ((hok l x hx).symm.trans heq)]
  · exact hx

theorem Store.put_ok (hok : StoreOK hash st) (b : Bytes) : StoreOK hash (st.put hash b) := by
  intro l x hx
  simp only [Store.put] at hx
  split at hx
  · next heq => cases hx; exact heq
  · exact hok l x hx

theorem SegWF.ext {st' : Store} {s : Seg} (he : StoreExt st st') (h : SegWF max hash st s) :
    SegWF max hash st' s := by
  cases s with
  | mem buf fl => exact ⟨h.1, h.2.1, fun i l h1 => ⟨(h.2.2 i l h1).1, fun h2 => he _ _ ((h.2.2 i l h1).2 h2)⟩⟩
  | stored loc size off l =>
    obtain ⟨h1, h2, b, hb, hl⟩ := h
    exact ⟨h1, h2, b, he _ _ hb, hl⟩

theorem SegWF.bytes_ext {st' : Store} {s : Seg} (he : StoreExt st st') (h : SegWF max hash st s) :
    s.bytes st' = s.bytes st := by
  cases s with
  | mem buf fl => rfl
  | stored loc size off l =>
    obtain ⟨_, _, b, hb, _⟩ := h
    rw [Seg.bytes_stored hb, Seg.bytes_stored (he _ _ hb)]

theorem absSegs_ext {st' : Store} {segs : List Seg} (he : StoreExt st st')
    (h : ∀ s ∈ segs, SegWF max hash st s) : absSegs st' segs = absSegs st segs := by
  induction segs with
  | nil => rfl
  | cons s rest ih =>
    rw [List.forall_mem_cons] at h
    rw [absSegs_cons, absSegs_cons, h.1.bytes_ext he, ih h.2]

theorem WF.ext {st' : Store} {fn : FileNode} (he : StoreExt st st') (h : WF max hash st fn) :
    WF max hash st' fn :=
  ⟨h.size_eq, fun s hs => (h.segs s hs).ext he⟩

theorem WF.abs_ext {st' : Store} {fn : FileNode} (he : StoreExt st st') (h : WF max hash st fn) :
    abs st' fn = abs st fn := absSegs_ext he h.segs

end ArvVerif.C08
