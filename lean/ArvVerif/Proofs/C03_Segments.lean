/-
C03: the segments of a file (fs_collection.go). storedSegment.ReadAt is one call of the block reader,
cut at the segment's end (`segReadAt_of_lt`, `segReadAt_of_le`), and on a verified block returns the
bytes of the segment (`segReadAt_verified`, `vRead_eq`). The flat content of a list of segments, and
where segment `k` starts in it (`fileContent_drop`).
-/
import ArvVerif.Model.C03
namespace ArvVerif.C03

theorem slice_length {blk : Bytes} {a n : Nat} (h : a + n ≤ blk.length) : ((blk.drop a).take n).length = n := by
  rw [List.length_take, List.length_drop]; omega

theorem segReadAt_of_lt {backend : Nat → Nat → Bytes × Option Err} {se : Seg} {off plen : Nat}
    (h : se.length < off) : segReadAt backend se plen off = ([], some .eof) := by
  rw [segReadAt, if_pos h]

theorem segReadAt_of_le {backend : Nat → Nat → Bytes × Option Err} {se : Seg} {off plen : Nat}
    (h : off ≤ se.length) :
    segReadAt backend se plen off =
      ((backend (min plen (se.length - off)) (off + se.offset)).1,
       if se.length - off < plen then
         (backend (min plen (se.length - off)) (off + se.offset)).2.or (some .eof)
       else (backend (min plen (se.length - off)) (off + se.offset)).2) := by
  rw [segReadAt, if_neg (Nat.not_lt.mpr h)]
  by_cases h2 : se.length - off < plen
  · simp only [if_pos h2, Nat.min_eq_right (Nat.le_of_lt h2)]
    cases (backend (se.length - off) (off + se.offset)).2 <;> rfl
  · simp only [if_neg h2, Nat.min_eq_left (Nat.not_lt.mp h2)]

theorem segReadAt_verified {blk : Bytes} {se : Seg} (plen : Nat) {off : Nat}
    (hoff : off ≤ se.length) (hin : se.offset + se.length ≤ blk.length) :
    segReadAt (fun l o => readAtEntry { data := blk, err := none } o l) se plen off =
      ((((blk.drop se.offset).take se.length).drop off).take plen,
       if se.length - off < plen then some .eof else none) := by
  rw [segReadAt_of_le hoff, List.drop_take, List.drop_drop, List.take_take]
  have : ¬ blk.length < off + se.offset := by omega
  simp only [readAtEntry, if_neg this, Nat.add_comm, Option.none_or]

def segSlice (blocks : Nat → Bytes) (s : Seg) : Bytes := ((blocks s.blk).drop s.offset).take s.length

def fileContent (blocks : Nat → Bytes) (segs : List Seg) : Bytes := (segs.map (segSlice blocks)).flatten

def SegsIn (blocks : Nat → Bytes) (segs : List Seg) : Prop :=
  ∀ s ∈ segs, s.offset + s.length ≤ (blocks s.blk).length

/-- no empty segments (loadManifest appends a segment only when `blkLen > 0`) -/
def SegsPos (segs : List Seg) : Prop := ∀ s ∈ segs, 0 < s.length

theorem segSlice_length {blocks : Nat → Bytes} {s : Seg} (h : s.offset + s.length ≤ (blocks s.blk).length) :
    (segSlice blocks s).length = s.length := slice_length h

/-- storedSegment.ReadAt over a verified block store (BlockCache.ReadAt on an error-free entry that
holds block `s.blk`) -/
def vRead (blocks : Nat → Bytes) : Seg → Nat → Nat → Bytes × Option Err :=
  fun s pl off => segReadAt (fun l o => readAtEntry { data := blocks s.blk, err := none } o l) s pl off

theorem vRead_eq {blocks : Nat → Bytes} {s : Seg} (pl : Nat) {off : Nat} (hoff : off ≤ s.length)
    (hin : s.offset + s.length ≤ (blocks s.blk).length) :
    vRead blocks s pl off = (((segSlice blocks s).drop off).take pl,
      if s.length - off < pl then some .eof else none) := by
  unfold vRead segSlice
  exact segReadAt_verified pl hoff hin

theorem fileSize_nil : fileSize [] = 0 := rfl

theorem fileSize_cons (s : Seg) (rest : List Seg) : fileSize (s :: rest) = s.length + fileSize rest := by
  simp [fileSize]

theorem fileSize_append (a b : List Seg) : fileSize (a ++ b) = fileSize a + fileSize b := by
  simp [fileSize]

theorem fileSize_take_succ {segs : List Seg} {k : Nat} {s : Seg} (hk : segs[k]? = some s) :
    fileSize (segs.take (k + 1)) = fileSize (segs.take k) + s.length := by
  rw [List.take_add_one, hk, fileSize_append]
  rfl

theorem fileSize_at_last {segs : List Seg} {k : Nat} {s : Seg} (hk : segs[k]? = some s)
    (hn : segs[k + 1]? = none) : fileSize (segs.take k) + s.length = fileSize segs := by
  rw [← fileSize_take_succ hk, List.take_of_length_le (List.getElem?_eq_none_iff.mp hn)]

theorem fileContent_cons (blocks : Nat → Bytes) (s : Seg) (rest : List Seg) :
    fileContent blocks (s :: rest) = segSlice blocks s ++ fileContent blocks rest := rfl

theorem fileContent_length {blocks : Nat → Bytes} {segs : List Seg} (hin : SegsIn blocks segs) :
    (fileContent blocks segs).length = fileSize segs := by
  induction segs with
  | nil => rfl
  | cons s rest ih =>
    have ⟨hs, hrest⟩ := List.forall_mem_cons.mp hin
    rw [fileContent_cons, List.length_append, fileSize_cons, segSlice_length hs, ih hrest]

theorem fileContent_drop {blocks : Nat → Bytes} {segs : List Seg} (hin : SegsIn blocks segs)
    {k : Nat} {s : Seg} (hk : segs[k]? = some s) {o : Nat} (ho : o ≤ s.length) :
    (fileContent blocks segs).drop (fileSize (segs.take k) + o) =
      (segSlice blocks s).drop o ++ fileContent blocks (segs.drop (k + 1)) := by
  induction segs generalizing k with
  | nil => cases hk
  | cons t rest ih =>
    have ⟨ht, hrest⟩ := List.forall_mem_cons.mp hin
    have hl := segSlice_length ht
    rw [fileContent_cons]
    cases k with
    | zero =>
      cases Option.some.inj hk
      rw [List.take_zero, fileSize_nil, Nat.zero_add, List.drop_append_of_le_length (hl ▸ ho)]
      rfl
    | succ k =>
      rw [List.take_succ_cons, fileSize_cons, Nat.add_assoc, ← hl, List.drop_length_add_append]
      exact ih hrest hk

end ArvVerif.C03
