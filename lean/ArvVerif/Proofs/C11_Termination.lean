/-
Termination of the putReplicas machine: the counting invariant `Bound` and the variant `mu`, which
every answer received and every change of round decreases.
-/
import ArvVerif.Proofs.C11_Step
namespace ArvVerif.C11

/-- `N` is the number of writable services (length of the initial probe order). `flight` is what
lets the variant fall at a change of round (the next round's list is `retrySv`, no longer than what
this round has started); `resp` and `req` give the counts of `C11_terminates`. -/
structure Bound (c : Cfg) (N : Nat) (s : St) : Prop where
  flight : s.retrySv.length + s.active.length ≤ s.next
  nextLe : s.next ≤ s.sv.length
  svLe : s.sv.length ≤ N
  rounds : s.round + s.retriesRemaining = c.retries
  resp : s.respLog.length + s.active.length ≤ s.round * N + s.next
  req : s.reqLog.length = s.respLog.length + s.active.length

theorem bound_init (c : Cfg) (sv : List Srv) : Bound c sv.length (init c sv) :=
  ⟨Nat.le_refl _, Nat.zero_le _, Nat.le_refl _, Nat.zero_add _, Nat.zero_le _, rfl⟩

theorem length_erase_mem {l : List Srv} {a : Srv} (h : a ∈ l) :
    (l.erase a).length + 1 = l.length := by
  have := List.length_erase_of_mem h
  have : 0 < l.length := List.length_pos_of_mem h
  omega

theorem bound_preserved (c : Cfg) (N : Nat) : Preserved c (Bound c N) where
  start s h hb := by
    obtain ⟨h1, _, h3, h4, h5, h6⟩ := hb
    refine ⟨?_, h, h3, h4, ?_, ?_⟩ <;>
      simp only [startOne, List.length_append, List.length_cons, List.length_nil] <;> omega
  recv s srv hm hb := by
    obtain ⟨h1, h2, h3, h4, h5, h6⟩ := hb
    have hl := length_erase_mem hm
    rw [receive_eq]
    refine ⟨?_, h2, h3, h4, ?_, ?_⟩ <;> dsimp only [List.length_cons]
    · split
      · rw [List.length_append, List.length_singleton]; omega
      · omega
    · omega
    · omega
  round s hact hnext hrr _ hb := by
    obtain ⟨h1, h2, h3, h4, h5, h6⟩ := hb
    rw [hact, List.length_nil, Nat.add_zero] at h1 h5 h6
    refine ⟨?_, ?_, ?_, ?_, ?_, ?_⟩ <;>
      simp only [nextRound, hact, List.length_nil, Nat.add_zero, Nat.succ_mul] <;> omega

/-- A round weighs `N + 1`: at a change of round the rest of `mu` becomes `|retrySv|`, which
`Bound.flight` keeps `≤ next ≤ N`. For the initial state `mu` is `retries * (N + 1) + N`, that is
`fuelFor c sv - 2`. -/
def mu (N : Nat) (s : St) : Nat :=
  s.retriesRemaining * (N + 1) + (s.sv.length - s.next) + s.active.length

theorem mu_startOne (N : Nat) {s : St} (h : s.next < s.sv.length) :
    mu N (startOne s h) = mu N s := by
  simp only [mu, startOne, List.length_append, List.length_singleton]
  omega

theorem mu_receive (N : Nat) (c : Cfg) {s : St} {srv : Srv} (hm : srv ∈ s.active) :
    mu N (receive c s srv) + 1 = mu N s := by
  have := length_erase_mem hm
  simp only [mu, receive_eq]
  omega

theorem mu_nextRound {c : Cfg} {N : Nat} {s : St} (hb : Bound c N s)
    (hpos : 0 < s.retriesRemaining) : mu N (nextRound s) < mu N s := by
  have := hb.flight; have := hb.nextLe; have := hb.svLe
  obtain ⟨k, hk⟩ : ∃ k, s.retriesRemaining = k + 1 := ⟨_, (Nat.succ_pred_eq_of_pos hpos).symm⟩
  simp only [mu, nextRound, hk, Nat.add_sub_cancel, Nat.succ_mul, Nat.sub_zero]
  omega

theorem step_mu {c : Cfg} {N : Nat} {s : St} (hb : Bound c N s) (pick : Nat) :
    (step c s pick).Sat (fun s' => mu N s' < mu N s) fun _ _ => True := by
  refine step_cases c s pick (Q := fun t => mu N t = mu N s ∧ Bound c N t)
    (fun t h ⟨hm, hb⟩ => ⟨(mu_startOne N h).trans hm, (bound_preserved c N).start t h hb⟩) ⟨rfl, hb⟩
    (fun _ _ => trivial) ?_ ?_
  · intro s1 srv hsrv ⟨hm, _⟩
    have := mu_receive N c hsrv
    show mu N (receive c s1 srv) < mu N s
    omega
  · intro s1 _ _ hpos _ ⟨hm, hb1⟩
    exact hm ▸ mu_nextRound hb1 hpos

theorem run_terminates {c : Cfg} {N : Nat} {fuel : Nat} {s : St} {picks : List Nat}
    (hb : Bound c N s) (hmu : mu N s < fuel) : ∃ r, run c fuel s picks = some r := by
  fun_induction run c fuel s picks with
  | case1 => omega
  | case2 => exact ⟨_, rfl⟩
  | case3 n s picks s' hst ih =>
    have hs := hst ▸ step_spec (bound_preserved c N) s _ hb
    have hm := hst ▸ step_mu hb (picks.headD 0)
    exact ih hs (Nat.lt_of_lt_of_le hm (Nat.le_of_lt_succ hmu))
  | case4 n s picks s' hst ih =>
    have hs := hst ▸ step_spec (bound_preserved c N) s _ hb
    have hm := hst ▸ step_mu hb (picks.headD 0)
    exact ih hs (Nat.lt_of_lt_of_le hm (Nat.le_of_lt_succ hmu))

theorem put_terminates (c : Cfg) (sv : List Srv) (picks : List Nat) :
    ∃ r, put c sv picks = some r := by
  refine run_terminates (bound_init c sv) ?_
  simp only [mu, init, fuelFor, List.length_nil, Nat.sub_zero, Nat.add_zero, Nat.add_mul, Nat.one_mul]
  omega

theorem put_bound {c : Cfg} {sv : List Srv} {picks : List Nat} {r : Res} {s : St}
    (h : put c sv picks = some (r, s)) : Bound c sv.length s :=
  put_preserved (bound_preserved c sv.length) (bound_init c sv) h

end ArvVerif.C11
