/-
C06(c') proofs, liveness: `GetCurrentState` cannot deadlock. In every reachable state of the
small-step system in which some goroutine has not ended, some goroutine can take a step
(`collQ` capacity ≥ 1): `wg.Wait()` is never left waiting for goroutines that all block.

The blocking statements are the processor's receive / drain on an empty, open `collQ` and the
scanner's send on a full `collQ`. From the annotations: `collQ` is closed exactly when the scanner
is past `close(collQ)`, and the processor ends only after the close; besides, `len(collQ) ≤ cap(collQ)`.
-/
import ArvVerif.Proofs.C06_GCS
namespace ArvVerif.C06.GCS

theorem wStep_enabled {sh : Sh} {l : Loc} (h : WInv sh l) (h0 : l.pc ≠ 0) : ∃ x, x ∈ wStep sh l := by
  obtain ⟨pc, f, a⟩ := l
  simp only [wStep]
  split
  all_goals (try split)
  all_goals first | exact ⟨_, List.mem_cons_self⟩ | skip
  -- a counter outside the program, where the annotation is `False`
  simp only [WInv] at h

theorem pStep_enabled {sh : Sh} {l : Loc} (h : PInv sh l) (h0 : l.pc ≠ 0)
    (hq : 0 < sh.q ∨ sh.closed = true) : ∃ x, x ∈ pStep sh l := by
  obtain ⟨pc, f, a⟩ := l
  simp only [pStep, pRecv]
  split
  all_goals (try split)
  all_goals (try split)
  all_goals first | exact ⟨_, List.mem_cons_self⟩ | exact absurd (hq.resolve_left ‹_›) ‹_› | skip
  simp only [PInv] at h

theorem sStep_enabled {sh : Sh} {l : Loc} (h : SInv sh l) (h0 : l.pc ≠ 0)
    (hq : l.pc = 3 → sh.q < sh.cap) : ∃ x, x ∈ sStep sh l := by
  obtain ⟨pc, f, a⟩ := l
  simp only [sStep, sInside]
  split
  all_goals (try split)
  all_goals first | exact ⟨_, List.mem_cons_self⟩ | exact absurd (hq rfl) ‹_› | skip
  simp only [SInv] at h

theorem no_deadlock {n cap : Nat} (hc : 1 ≤ cap) {g : G} (r : Reach n cap g) (hnt : ¬ Terminal g) :
    ∃ g', Step g g' := by
  have hi := reach_inv r
  have hcap := hi.cap
  by_cases hw : ∃ l ∈ g.ws, l.pc ≠ 0
  · obtain ⟨l, hl, h0⟩ := hw
    obtain ⟨pre, post, hdec⟩ := List.append_of_mem hl
    obtain ⟨x, hx⟩ := wStep_enabled (hi.ws l hl) h0
    exact ⟨_, Step.worker pre post l x.1 x.2 hdec hx⟩
  · have hws : ∀ l ∈ g.ws, l.pc = 0 := fun l hl => Decidable.byContradiction fun h => hw ⟨l, hl, h⟩
    by_cases hs0 : g.s.pc = 0
    · -- the scanner has ended, so collQ is closed and the processor is never blocked
      have hp0 : g.p.pc ≠ 0 := fun h => hnt ⟨hws, h, hs0⟩
      obtain ⟨x, hx⟩ := pStep_enabled hi.p hp0 (Or.inr (hi.s.exit hs0).1)
      exact ⟨_, Step.proc x.1 x.2 hx⟩
    · by_cases hblk : g.s.pc = 3 ∧ g.sh.cap ≤ g.sh.q
      · -- the scanner waits on a full queue: the queue is open and non-empty, the processor has
        -- not ended, so it can receive (or drain)
        have hopen : g.sh.closed ≠ true := by
          intro hcl
          have := hi.s.closed_pc hcl
          omega
        have hp0 : g.p.pc ≠ 0 := fun h => hopen (hi.p.exit h).1
        obtain ⟨x, hx⟩ := pStep_enabled hi.p hp0 (Or.inl (by omega))
        exact ⟨_, Step.proc x.1 x.2 hx⟩
      · obtain ⟨x, hx⟩ := sStep_enabled hi.s hs0 (by intro h3; omega)
        exact ⟨_, Step.scan x.1 x.2 hx⟩

end ArvVerif.C06.GCS
