/-
C13: partial functions (`Option`-valued model functions, `none` = the code panics) are followed in
goal form: `OptAll P (f x)` says `P` of the value if there is one. A proof walks the definition by
`cases` on the scrutinee of each `match` and `OptAll.ite` for each `if`; `split` on a hypothesis
`f x = some y` over these definitions is several times slower to check.
-/
namespace ArvVerif.C13

def OptAll {α : Type} (P : α → Prop) : Option α → Prop
  | none => True
  | some a => P a

theorem OptAll.ite {α : Type} {P : α → Prop} {c : Prop} [Decidable c] {a b : Option α} (h1 : OptAll P a)
    (h2 : OptAll P b) : OptAll P (if c then a else b) := by
  split <;> assumption

theorem OptAll.ite_neg {α : Type} {P : α → Prop} {c : Prop} [Decidable c] {a b : Option α} (h1 : OptAll P a)
    (h2 : ¬c → OptAll P b) : OptAll P (if c then a else b) := by
  split
  · exact h1
  · next hc => exact h2 hc

theorem OptAll.of_eq {α : Type} {P : α → Prop} {o : Option α} {a : α} (h : OptAll P o) (e : o = some a) : P a := by
  rw [e] at h
  exact h

end ArvVerif.C13
