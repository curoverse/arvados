/-
C04 interleaving layer, what holds of every step and every schedule by argument, without the tables: no step
changes the configuration or the other thread's program counter, and a step that moves its own lowers its rank
(`stepP_pc`, `stepT_pc`), so a round P, T in which one of the two moves lowers the rank of the state
(`round_rank`); a finished state stays as it is; the controller's eager-wake runner `runE` only produces states
that `run` produces.
-/
import ArvVerif.Proofs.C04_RaceCode
namespace ArvVerif.C04.Race

@[simp] theorem setFlock_keeps (s : St) (i : Ino) (v : Option Thr) :
    (s.setFlock i v).cfg = s.cfg ∧ (s.setFlock i v).pcP = s.pcP ∧ (s.setFlock i v).pcT = s.pcT := by
  cases i <;> exact ⟨rfl, rfl, rfl⟩
@[simp] theorem setLoc_keeps (s : St) (i : Ino) (l : Loc) :
    (s.setLoc i l).cfg = s.cfg ∧ (s.setLoc i l).pcP = s.pcP ∧ (s.setLoc i l).pcT = s.pcT := by
  cases i <;> exact ⟨rfl, rfl, rfl⟩
@[simp] theorem stamp_keeps (s : St) (i : Ino) :
    (s.stamp i).cfg = s.cfg ∧ (s.stamp i).pcP = s.pcP ∧ (s.stamp i).pcT = s.pcT := by
  cases i <;> exact ⟨rfl, rfl, rfl⟩
@[simp] theorem unlinkBlk_keeps (s : St) :
    s.unlinkBlk.cfg = s.cfg ∧ s.unlinkBlk.pcP = s.pcP ∧ s.unlinkBlk.pcT = s.pcT := by
  unfold St.unlinkBlk; split <;> simp
@[simp] theorem takeMutex_keeps (s : St) (x : Thr) :
    (s.takeMutex x).cfg = s.cfg ∧ (s.takeMutex x).pcP = s.pcP ∧ (s.takeMutex x).pcT = s.pcT := by
  unfold St.takeMutex; split <;> exact ⟨rfl, rfl, rfl⟩

theorem stepP_pc (s : St) : (stepP s).cfg = s.cfg ∧ (stepP s).pcT = s.pcT ∧
    ((stepP s).pcP = s.pcP ∨ rankP (stepP s).pcP < rankP s.pcP) := by
  unfold stepP
  dsimp only
  split <;> (repeat' split) <;> simp [St.dropMutex, St.dropFlocks, St.blockP, St.pFail, rankP, *]
  -- the two failures of a TOUCH: to `done` or to `wMkdir`
  · split <;> simp
  · split <;> simp

theorem stepT_pc (s : St) : (stepT s).cfg = s.cfg ∧ (stepT s).pcP = s.pcP ∧
    ((stepT s).pcT = s.pcT ∨ rankT (stepT s).pcT < rankT s.pcT) := by
  unfold stepT
  dsimp only
  split <;> (repeat' split) <;> simp [St.dropMutex, St.dropFlocks, St.blockT, St.tReturn, rankT, *]

theorem round_rank (s : St) (h : (stepP s).pcP ≠ s.pcP ∨ (stepT (stepP s)).pcT ≠ s.pcT) :
    rank (stepT (stepP s)) < rank s := by
  obtain ⟨-, hT, hP⟩ := stepP_pc s
  obtain ⟨-, hP', hT'⟩ := stepT_pc (stepP s)
  unfold rank
  rw [hP']
  rw [hT] at hT'
  rcases hP with e | l <;> rcases hT' with e' | l'
  · exact absurd e' (h.resolve_left (fun hne => hne e))
  · rw [e]; omega
  · rw [e']; omega
  · omega

theorem run_cfg (c : Cfg) (sched : List Bool) : (run sched (init c)).cfg = c := by
  suffices ∀ s, (run sched s).cfg = s.cfg from this _
  induction sched with
  | nil => exact fun _ => rfl
  | cons x xs ih =>
    intro s
    cases x
    · exact (ih _).trans (stepT_pc s).1
    · exact (ih _).trans (stepP_pc s).1

theorem run_append (a b : List Bool) (s : St) : run (a ++ b) s = run b (run a s) := by
  induction a generalizing s with
  | nil => rfl
  | cons x xs ih => simp [run, ih]

def pairs : Nat → List Bool
  | 0 => []
  | k+1 => true :: false :: pairs k

def drain : List Bool := pairs 30

theorem step_finished {s : St} (h : finished s = true) (x : Bool) : step x s = s := by
  simp only [finished, Bool.and_eq_true, decide_eq_true_eq] at h
  cases x
  · simp [step, stepT, h.2]
  · simp [step, stepP, h.1]

theorem run_finished {s : St} (h : finished s = true) (sched : List Bool) : run sched s = s := by
  induction sched with
  | nil => rfl
  | cons x xs ih => simp [run, step_finished h, ih]

theorem rank_zero_finished {s : St} (h : rank s = 0) : finished s = true := by
  have h1 : rankP s.pcP = 0 := by unfold rank at h; omega
  have h2 : rankT s.pcT = 0 := by unfold rank at h; omega
  have hp : s.pcP = .done := by cases hq : s.pcP <;> simp [hq, rankP] at h1 <;> rfl
  have ht : s.pcT = .done := by cases hq : s.pcT <;> simp [hq, rankT] at h2 <;> rfl
  simp [finished, hp, ht]

theorem rank_le (s : St) : rank s ≤ 24 := by
  unfold rank
  have h1 : rankP s.pcP ≤ 17 := by cases s.pcP <;> simp [rankP]
  have h2 : rankT s.pcT ≤ 7 := by cases s.pcT <;> simp [rankT]
  omega

theorem stepE_is_run (x : Bool) (s : St) : ∃ sched, (stepE x s).1 = run sched s := by
  unfold stepE
  split
  · exact ⟨[], rfl⟩
  · simp only
    split
    · split
      · exact ⟨[x], rfl⟩
      · exact ⟨[x, !x], rfl⟩
    · exact ⟨[x], rfl⟩

theorem runE_is_run (sched : List Bool) (s : St) (tr : List String) :
    ∃ sched', (runE sched s tr).1 = run sched' s := by
  induction sched generalizing s tr with
  | nil => exact ⟨[], rfl⟩
  | cons x xs ih =>
    obtain ⟨a, ha⟩ := stepE_is_run x s
    simp only [runE]
    obtain ⟨b, hb⟩ := ih (stepE x s).1 (tr ++ (stepE x s).2)
    exact ⟨a ++ b, by rw [hb, ha, run_append]⟩

end ArvVerif.C04.Race
