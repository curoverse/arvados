/-
Runner objects of one worker (Model/C15_O1.lean): the invariant that rules out a double close, and
its preservation by `accept`, `probe` and the start completion (guarded since /repo 18910db).
-/
import ArvVerif.Model.C15_O1
namespace ArvVerif.C15
open ArvVerif.C14

def ids (l : List (Uuid × Nat)) : List Nat := l.map (·.2)

/-- `lt` and `clt` are there so that `next` is an object nobody holds. -/
structure Good (w : RW) : Prop where
  nodup : (ids (w.running ++ w.starting)).Nodup
  open_ : ∀ r ∈ ids (w.running ++ w.starting), r ∉ w.closed
  lt : ∀ r ∈ ids (w.running ++ w.starting), r < w.next
  clt : ∀ r ∈ w.closed, r < w.next

theorem ids_append (a b : List (Uuid × Nat)) : ids (a ++ b) = ids a ++ ids b := by simp [ids]

theorem ids_erase_sub (l : List (Uuid × Nat)) (u : Uuid) : (ids (erase l u)).Sublist (ids l) :=
  List.Sublist.map _ List.filter_sublist

theorem ids_sub {a a' b b' : List (Uuid × Nat)} (ha : (ids a').Sublist (ids a)) (hb : (ids b').Sublist (ids b)) :
    (ids (a' ++ b')).Sublist (ids (a ++ b)) := by
  rw [ids_append, ids_append]
  exact ha.append hb

theorem lookup_mem {l : List (Uuid × Nat)} {u : Uuid} {r : Nat} (h : lookup l u = some r) : (u, r) ∈ l := by
  obtain ⟨p, hf, rfl⟩ := Option.map_eq_some_iff.mp h
  have hk : p.1 = u := by simpa using List.find?_some hf
  exact hk ▸ List.mem_of_find?_eq_some hf

/-- The list splits into the entries with another key and those with this key, and the ids of the
two parts are disjoint. -/
theorem erase_gone {l : List (Uuid × Nat)} (hn : (ids l).Nodup) {u : Uuid} {r : Nat} (h : (u, r) ∈ l) :
    r ∉ ids (erase l u) := by
  have hp := (List.filter_append_perm (fun p => p.1 != u) l).map (·.2)
  rw [List.map_append] at hp
  exact fun hr => (List.nodup_append.mp (hp.nodup_iff.mpr hn)).2.2 r hr r
    (List.mem_map.mpr ⟨(u, r), List.mem_filter.mpr ⟨h, by simp⟩, rfl⟩) rfl

theorem good_add {w w' : RW} (hg : Good w) (x : Nat) (l : List Nat)
    (hp : (ids (w'.running ++ w'.starting)).Perm (x :: l)) (hl : l.Sublist (ids (w.running ++ w.starting)))
    (hx : x ∉ l) (hxo : x ∉ w.closed) (hxn : x < w'.next) (hc : w'.closed = w.closed) (hn : w.next ≤ w'.next) :
    Good w' := by
  have hmem : ∀ r ∈ ids (w'.running ++ w'.starting), r = x ∨ r ∈ ids (w.running ++ w.starting) := fun r hr =>
    (List.mem_cons.mp (hp.mem_iff.mp hr)).imp id (fun h => hl.subset h)
  refine ⟨hp.nodup_iff.mpr (List.nodup_cons.mpr ⟨hx, hg.nodup.sublist hl⟩), fun r hr => ?_, fun r hr => ?_, fun r hr => ?_⟩
  · rw [hc]
    exact (hmem r hr).elim (fun e => e ▸ hxo) (hg.open_ r)
  · exact (hmem r hr).elim (fun e => e ▸ hxn) (fun h => Nat.lt_of_lt_of_le (hg.lt r h) hn)
  · exact Nat.lt_of_lt_of_le (hg.clt r (hc ▸ hr)) hn

/-- `running[u] = r; delete(starting, u)` for the runner `r` that `starting` holds for `u` -/
theorem good_move (w : RW) (hg : Good w) (u : Uuid) (r : Nat) (hs : lookup w.starting u = some r) :
    Good { w with running := insert w.running u r, starting := erase w.starting u } :=
  -- what stays is the two maps, taken as one list, without the key `u`
  have hm : (u, r) ∈ w.running ++ w.starting := List.mem_append_right _ (lookup_mem hs)
  have hr : r ∈ ids (w.running ++ w.starting) := List.mem_map.mpr ⟨_, hm, rfl⟩
  good_add hg r _ (by simp [ids, insert, erase]) (ids_erase_sub _ u) (erase_gone hg.nodup hm) (hg.open_ r hr)
    (hg.lt r hr) rfl (Nat.le_refl _)

theorem good_new {w w' : RW} (hg : Good w) (l : List Nat)
    (hp : (ids (w'.running ++ w'.starting)).Perm (w.next :: l)) (hl : l.Sublist (ids (w.running ++ w.starting)))
    (hc : w'.closed = w.closed) (hn : w'.next = w.next + 1) : Good w' :=
  good_add hg w.next l hp hl (fun h => Nat.lt_irrefl _ (hg.lt _ (hl.subset h))) (fun h => Nat.lt_irrefl _ (hg.clt _ h))
    (hn ▸ Nat.lt_succ_self _) hc (hn ▸ Nat.le_succ _)

theorem Good.frame {w : RW} (hg : Good w) (st : WState) (p : List (Uuid × Nat)) (ex : List Uuid) :
    Good { w with state := st, pending := p, exited := ex } := ⟨hg.1, hg.2, hg.3, hg.4⟩

theorem good_close {w w' : RW} (hg : Good w) {r : Nat} (hr : r ∈ ids (w.running ++ w.starting))
    (hl : (ids (w'.running ++ w'.starting)).Sublist (ids (w.running ++ w.starting)))
    (hgone : r ∉ ids (w'.running ++ w'.starting)) (hc : w'.closed = r :: w.closed) (hn : w'.next = w.next) :
    Good w' := by
  refine ⟨hg.nodup.sublist hl, fun x hx => ?_, fun x hx => ?_, ?_⟩
  · rw [hc]
    exact fun hcl => (List.mem_cons.mp hcl).elim (fun e => hgone (e ▸ hx)) (hg.open_ x (hl.subset hx))
  · rw [hn]
    exact hg.lt x (hl.subset hx)
  · rw [hc, hn]
    exact List.forall_mem_cons.mpr ⟨hg.lt r hr, hg.clt⟩

/-- `closeRunner` never closes twice on a good worker -/
theorem good_closeRunner (w : RW) (hg : Good w) (u : Uuid) : ∃ w', w.closeRunner u = some w' ∧ Good w' := by
  unfold RW.closeRunner
  cases hl : lookup w.running u with
  | none => exact ⟨w, rfl, hg⟩
  | some r =>
    have hm := lookup_mem hl
    have hr : r ∈ ids (w.running ++ w.starting) := List.mem_map.mpr ⟨_, List.mem_append_left _ hm, rfl⟩
    have hn := hg.nodup
    rw [ids_append, List.nodup_append] at hn
    have hgone : r ∉ ids (erase w.running u ++ w.starting) := by
      rw [ids_append, List.mem_append, not_or]
      exact ⟨erase_gone hn.1 hm, fun h => hn.2.2 r (List.mem_map.mpr ⟨_, hm, rfl⟩) r h rfl⟩
    have hcf : w.closed.contains r = false := by simpa using hg.open_ r hr
    simp only [hcf, Bool.false_eq_true, if_false]
    refine ⟨_, rfl, ?_⟩
    -- whichever way the tests on `exited` and on `state` go
    split <;> split <;> exact good_close hg hr (ids_sub (ids_erase_sub _ _) (List.Sublist.refl _)) hgone rfl rfl

theorem good_adopt (alive : List Uuid) (w : RW) (hg : Good w) : Good (w.adopt alive).1 := by
  induction alive generalizing w with
  | nil => exact hg
  | cons u rest ih =>
    unfold RW.adopt
    split
    · exact ih w hg
    · cases hs : lookup w.starting u with
      | some r => exact ih _ (good_move w hg u r hs)
      | none => exact ih _ (good_new hg _ (by simp [ids, insert])
          (ids_sub (ids_erase_sub _ u) (List.Sublist.refl _)) rfl rfl)

theorem good_closeDead (alive us : List Uuid) (w : RW) (hg : Good w) :
    ∃ r, RW.closeDead alive us w = some r ∧ Good r.1 := by
  induction us generalizing w with
  | nil => exact ⟨(w, false), rfl, hg⟩
  | cons u rest ih =>
    unfold RW.closeDead
    split
    · exact ih w hg
    · obtain ⟨w1, h1, hg1⟩ := good_closeRunner w hg u
      rw [h1]
      obtain ⟨r, hr, hgr⟩ := ih w1 hg1
      exact ⟨(r.1, true), by simp [hr], hgr⟩

theorem good_probe (w : RW) (hg : Good w) (alive : List Uuid) : ∃ w', w.probe alive = some w' ∧ Good w' := by
  unfold RW.probe
  dsimp only
  obtain ⟨⟨w1, c⟩, hr, hgr⟩ := good_closeDead alive ((w.adopt alive).1.running.map (·.1)) _ (good_adopt alive w hg)
  rw [hr]
  dsimp only
  -- every branch returns `w1` with some `state`
  repeat' split
  all_goals exact ⟨_, rfl, hgr.frame _ _ _⟩

theorem good_accept (w : RW) (hg : Good w) (u : Uuid) : Good (w.accept u) := by
  unfold RW.accept
  split
  · exact hg
  · exact good_new hg _ (by simp [ids, insert, ← List.append_assoc])
      (ids_sub (List.Sublist.refl _) (ids_erase_sub _ u)) rfl rfl

theorem good_startDone (w : RW) (hg : Good w) (u : Uuid) : Good (w.startDone u) := by
  unfold RW.startDone
  cases hp : lookup w.pending u with
  | none => exact hg
  | some r =>
    dsimp only
    split
    · rename_i hs
      exact (good_move w hg u r hs).frame _ _ _
    · exact hg.frame _ _ _

theorem good_fresh : Good RW.fresh := ⟨List.nodup_nil, nofun, nofun, nofun⟩

/-- no operation panics on a good worker -/
theorem good_step (w : RW) (hg : Good w) : ∀ op, ∃ w', w.step op = some w' ∧ Good w'
  | .accept u => ⟨_, rfl, good_accept w hg u⟩
  | .probe alive => good_probe w hg alive
  | .startDone u => ⟨_, rfl, good_startDone w hg u⟩

theorem run_total (ops : List RWOp) (w : RW) (hg : Good w) : (w.run ops).isSome = true := by
  induction ops generalizing w with
  | nil => rfl
  | cons op rest ih =>
    obtain ⟨w', h, hg'⟩ := good_step w hg op
    rw [RW.run, h]
    exact ih w' hg'

end ArvVerif.C15
