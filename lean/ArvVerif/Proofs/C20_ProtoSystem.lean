/-
The system of goroutines, channel and collector. `PInv` adds to the goroutines' `LInv` what ties them
to the collector: who can have seen a cancellation, where a queued or kept error came from, one send
per finished goroutine. It holds in every reachable state if the slots are distinct (`reach_inv`);
every step uses up `PState.measure` (`pstep_measure`, no invariant needed), and a state that is not
complete has a step (`pstep_progress`).
-/
import ArvVerif.Proofs.C20_ProtoGoroutine
import ArvVerif.Proofs.Lib_List
namespace ArvVerif.C20

structure PInv (cfg : Cfg) (ropts : Opts) (st : List (ClusterId × List Uuid × ClusterId)) (s : PState) : Prop where
  static : s.gs.map staticOf = st
  loc : ∀ g ∈ s.gs, LInv cfg ropts s.vars g
  /-- nobody sees a cancellation before `cancel()` was called -/
  nocancel : s.cancelled = false → ∀ g ∈ s.gs, g.sawCancel = none
  first_iff : s.firstErr = none ↔ s.cancelled = false
  /-- the error kept by the collector was sent by a goroutine that failed by itself -/
  first_src : ∀ e, s.firstErr = some e → ∃ g ∈ s.gs, g.phase = .finished (.failed e) ∧ g.sawCancel = none
  chan_src : ∀ e, some e ∈ s.chan → ∃ g ∈ s.gs, g.phase = .finished (.failed e)
  /-- exactly one send per finished goroutine -/
  count : s.chan.length + s.received = (s.gs.filter GState.isFinished).length
  /-- a failure does not go unnoticed: with an empty channel and `firstErr = none` nobody has failed -/
  failed_seen : ∀ g ∈ s.gs, ∀ e, g.phase = .finished (.failed e) → s.firstErr ≠ none ∨ ∃ e', some e' ∈ s.chan

variable {cfg : Cfg} {ropts : Opts} {st : List (ClusterId × List Uuid × ClusterId)}

theorem map_ne_middle {α β : Type} {f : α → β} {pre post : List α} {a x : α}
    (hnd : ((pre ++ a :: post).map f).Nodup) (hx : x ∈ pre ∨ x ∈ post) : f x ≠ f a := by
  rw [List.map_append, List.map_cons] at hnd
  have hnot := (List.nodup_cons.mp (List.perm_middle.nodup_iff.mp hnd)).1
  intro heq
  apply hnot
  rw [← heq, ← List.map_append]
  exact List.mem_map_of_mem (List.mem_append.mpr hx)

theorem collect_cases (v : Sent) (s : PState) :
    (collect v s = s ∧ ∀ e, v = some e → s.firstErr ≠ none) ∨
    ∃ e, v = some e ∧ s.firstErr = none ∧
      collect v s = { s with firstErr := some e, cancelled := true } := by
  unfold collect
  cases v with
  | none => exact Or.inl ⟨rfl, nofun⟩
  | some e =>
    cases hf : s.firstErr with
    | none => exact Or.inr ⟨e, rfl, rfl, rfl⟩
    | some e' => exact Or.inl ⟨rfl, fun _ _ => nofun⟩

theorem collect_gs (v : Sent) (s : PState) : (collect v s).gs = s.gs := by
  rcases collect_cases v s with ⟨h, _⟩ | ⟨_, _, _, h⟩ <;> rw [h]

theorem pstep_inv (hst : (st.map (·.2.2)).Nodup) {s t : PState} (h : PInv cfg ropts st s) (hs : PStep cfg ropts s t) :
    PInv cfg ropts st t := by
  have hfinP : ∀ {x : GState} {e : Nat}, x.phase = .finished (.failed e) → x.isFinished = true := by
    intro x e hx; simp [GState.isFinished, hx]
  cases hs with
  | gor pre post g g' vars' sent hgs hstep =>
    have hg : g ∈ s.gs := by rw [hgs]; simp
    obtain ⟨hstat, hfin, hframe, hsent, hsaw, hl'⟩ := gstep_facts hstep (h.loc g hg)
    have hnd : ((pre ++ g :: post).map (·.slot)).Nodup := by
      rw [← h.static, List.map_map, hgs] at hst; exact hst
    have hrest : ∀ x, x ∈ pre ∨ x ∈ post → x ∈ s.gs := fun x hx => by
      rw [hgs, List.mem_append, List.mem_cons]
      exact hx.elim Or.inl (Or.inr ∘ Or.inr)
    -- a finished goroutine of the old state is not the one that moved
    have hkeep : ∀ x ∈ s.gs, x.isFinished = true → x ∈ pre ++ g' :: post := by
      rw [hgs]
      simp only [List.mem_append, List.mem_cons]
      rintro x (hx | rfl | hx) hxf
      · exact Or.inl hx
      · rw [hfin] at hxf; cases hxf
      · exact Or.inr (Or.inr hx)
    refine ⟨?_, ?_, ?_, h.first_iff, ?_, ?_, ?_, ?_⟩
    · rw [← h.static, hgs]; simp [hstat]
    · exact Lib.forall_mem_middle.mpr
        ⟨hl', fun x hx => hframe x (map_ne_middle hnd hx) (h.loc x (hrest x hx))⟩
    · intro hcn
      refine Lib.forall_mem_middle.mpr ⟨?_, fun x hx => h.nocancel hcn x (hrest x hx)⟩
      rcases hsaw with hsaw | hsaw
      · rw [hsaw]; exact h.nocancel hcn g hg
      · rw [hcn] at hsaw; cases hsaw
    · intro e he
      obtain ⟨x, hx, hxp, hxs⟩ := h.first_src e he
      exact ⟨x, hkeep x hx (hfinP hxp), hxp, hxs⟩
    · intro e he
      rcases List.mem_append.mp he with he | he
      · obtain ⟨x, hx, hxp⟩ := h.chan_src e he
        exact ⟨x, hkeep x hx (hfinP hxp), hxp⟩
      · rcases hsent with ⟨rfl, _⟩ | ⟨st', rfl, hp', hns⟩
        · cases he
        · refine ⟨g', by simp, ?_⟩
          rcases (status_eq_some_iff st' e).mp (List.mem_singleton.mp he).symm with h1 | ⟨h1, _⟩
          · rw [hp', h1]
          · exact absurd h1 hns
    · have hcount := h.count
      rw [hgs] at hcount
      simp only [List.filter_append, List.filter_cons, hfin, List.length_append] at hcount ⊢
      rcases hsent with ⟨rfl, hf'⟩ | ⟨st', rfl, hp', _⟩
      · simpa [hf'] using hcount
      · have : g'.isFinished = true := by simp [GState.isFinished, hp']
        simp [this]
        simp at hcount
        omega
    · refine Lib.forall_mem_middle.mpr ⟨fun e hxp => ?_, fun x hx e hxp => ?_⟩
      · rcases hsent with ⟨_, hf'⟩ | ⟨st', rfl, hp', _⟩
        · rw [hfinP hxp] at hf'; cases hf'
        · rw [hxp] at hp'; cases hp'
          exact Or.inr ⟨e, by simp⟩
      · exact (h.failed_seen x (hrest x hx) e hxp).imp id
          fun ⟨e', h1⟩ => ⟨e', List.mem_append_left _ h1⟩
  | recv v rest hch hlt =>
    have hchan : ∀ e, some e ∈ rest → ∃ g ∈ s.gs, g.phase = .finished (.failed e) :=
      fun e he => h.chan_src e (hch ▸ List.mem_cons_of_mem _ he)
    have hcount : rest.length + (s.received + 1) = (s.gs.filter GState.isFinished).length := by
      have := h.count; rw [hch] at this; simp at this ⊢; omega
    rcases collect_cases v s with ⟨hcol, hnf⟩ | ⟨e, rfl, hf, hcol⟩ <;> rw [hcol]
    · refine ⟨h.static, h.loc, h.nocancel, h.first_iff, h.first_src, hchan, hcount, ?_⟩
      intro x hx e' hxp
      rcases h.failed_seen x hx e' hxp with h1 | ⟨e2, h1⟩
      · exact Or.inl h1
      · rw [hch] at h1
        rcases List.mem_cons.mp h1 with h1 | h1
        · exact Or.inl (hnf e2 h1.symm)
        · exact Or.inr ⟨e2, h1⟩
    · refine ⟨h.static, h.loc, nofun, by simp, ?_, hchan, hcount, fun _ _ _ _ => Or.inl nofun⟩
      rintro _ ⟨⟩
      obtain ⟨x, hx, hxp⟩ := h.chan_src e (by rw [hch]; simp)
      exact ⟨x, hx, hxp, h.nocancel (h.first_iff.mp hf) x hx⟩

theorem init_inv {slotOf : ClusterId → ClusterId} {o : Opts}
    {gs : List (ClusterId × List Uuid)} :
    PInv cfg ropts (gs.map (fun g => (g.1, g.2, slotOf g.1))) (initP slotOf o gs) := by
  have hnf : (List.map (initG slotOf) gs).filter GState.isFinished = [] :=
    List.filter_eq_nil_iff.mpr (List.forall_mem_map.mpr fun _ _ => nofun)
  refine ⟨?_, List.forall_mem_map.mpr fun g _ => ?_, fun _ => List.forall_mem_map.mpr fun _ _ => rfl,
    by simp [initP], nofun, nofun, ?_, List.forall_mem_map.mpr fun _ _ _ => nofun⟩
  · simp [initP, List.map_map, Function.comp_def, staticOf, initG]
  · refine ⟨rfl, rfl, fun _ => rfl, fun B hb cut _ => ?_⟩
    have hb' : backendFor cfg g.1 = some B := hb
    simp [full, hb', prependAcc, initG]
  · simp only [initP, hnf]; rfl

theorem reach_inv {slotOf : ClusterId → ClusterId} {o : Opts} {gs : List (ClusterId × List Uuid)}
    (hslots : (gs.map (fun g => slotOf g.1)).Nodup) {s : PState}
    (hrun : PSteps cfg ropts (initP slotOf o gs) s) :
    PInv cfg ropts (gs.map (fun g => (g.1, g.2, slotOf g.1))) s := by
  induction hrun with
  | refl => exact init_inv
  | tail t u _ hstep ih =>
    exact pstep_inv (by simpa [List.map_map, Function.comp_def] using hslots) ih hstep

theorem pstep_measure {s t : PState} (hs : PStep cfg ropts s t) : t.measure < s.measure := by
  cases hs with
  | gor pre post g g' vars' sent hgs hstep =>
    -- only the summand of the goroutine that moved changes
    have := gstep_measure hstep
    simp only [PState.measure, hgs, List.map_append, List.map_cons, List.sum_append, List.sum_cons,
      List.length_append, List.length_cons]
    omega
  | recv v rest hch hlt =>
    simp only [PState.measure, collect_gs]
    omega

theorem pstep_progress {s : PState} (h : PInv cfg ropts st s) (hnc : ¬ s.complete) : ∃ t, PStep cfg ropts s t := by
  by_cases hall : ∀ g ∈ s.gs, g.isFinished = true
  · -- everyone has sent: the collector can receive
    have hflt : s.gs.filter GState.isFinished = s.gs := List.filter_eq_self.mpr hall
    have hcount := h.count
    rw [hflt] at hcount
    have hrec : s.received ≠ s.gs.length := fun hr => hnc ⟨hall, hr⟩
    cases hch : s.chan with
    | nil => rw [hch] at hcount; simp at hcount; exact absurd hcount hrec
    | cons v rest => exact ⟨_, PStep.recv s v rest hch (by omega)⟩
  · obtain ⟨g, hg, hf⟩ : ∃ g ∈ s.gs, g.isFinished = false := by simpa using hall
    obtain ⟨pre, post, hgs⟩ := List.append_of_mem hg
    obtain ⟨g', vars', sent, hstep⟩ := gstep_progress s.cancelled (h.loc g hg) hf
    exact ⟨_, PStep.gor s pre post g g' vars' sent hgs hstep⟩

end ArvVerif.C20
