/-
C16 part A: ChooseInstanceType's loop. For tables with RAM, VCPUs ≥ 0 the loop is the fold of
Proofs/C16_Keep.lean over the adequate types and the relation `Pref` (`chooseLoop_toAcc`), and `allowed`
is the set of `Maximal` types (`mem_allowed_pref`): hence the result lies in `allowed`, and every member
of `allowed` is the result for some iteration order.
-/
import ArvVerif.Model.C16
import ArvVerif.Proofs.C16_Keep
namespace ArvVerif.C16

theorem chooseStep_eq (n : Need) (acc : Bool × IType) (x : IType) :
    chooseStep n acc x =
      if Adequate n x ∧ (acc.1 = true → x.price ≤ acc.2.price) ∧
          ¬ (x.price = acc.2.price ∧ (x.ram < acc.2.ram ∨ x.vcpus < acc.2.vcpus)) then (true, x) else acc := by
  unfold chooseStep Adequate
  -- case by case in the order of the `switch`; `split` on the chain is several times slower to check
  by_cases h1 : acc.1 = true ∧ x.price > acc.2.price
  · rw [if_pos h1, if_neg]; exact fun h => absurd (h.2.1 h1.1) (by omega)
  rw [if_neg h1]
  by_cases h2 : x.scratch < n.scratch
  · rw [if_pos h2, if_neg]; omega
  rw [if_neg h2]
  by_cases h3 : x.ram < n.ram
  · rw [if_pos h3, if_neg]; omega
  rw [if_neg h3]
  by_cases h4 : x.vcpus < n.vcpus
  · rw [if_pos h4, if_neg]; omega
  rw [if_neg h4]
  by_cases h5 : x.preemptible ≠ n.preemptible
  · rw [if_pos h5, if_neg]; exact fun h => h5 h.1.2.2.2
  rw [if_neg h5]
  by_cases h6 : x.price = acc.2.price ∧ (x.ram < acc.2.ram ∨ x.vcpus < acc.2.vcpus)
  · rw [if_pos h6, if_neg]; exact fun h => h.2.2 h6
  rw [if_neg h6, if_pos]
  exact ⟨⟨by omega, by omega, by omega, Decidable.not_not.mp h5⟩,
    fun hok => Int.not_lt.mp fun hgt => h1 ⟨hok, hgt⟩, h6⟩

/-- holds without the non-negativity hypothesis -/
theorem chooseLoop_ok_sound (n : Need) (order : List IType) (h : (chooseLoop n order).1 = true) :
    (chooseLoop n order).2 ∈ order ∧ Adequate n (chooseLoop n order).2 := by
  have hstep : ∀ acc x, chooseStep n acc x = acc ∨ (chooseStep n acc x = (true, x) ∧ Adequate n x) :=
    fun acc x => by rw [chooseStep_eq]; split <;> simp [*]
  unfold chooseLoop at h ⊢
  rcases foldl_start_or_mem hstep order (false, zeroType) with h' | ⟨x, hx, h', hax⟩
  · rw [h'] at h; cases h
  · rw [h']; exact ⟨hx, hax⟩

theorem chooseWith_eq {order : List IType} (h : order ≠ []) (avail : List IType) (reserve : Int) (c : Ctr) :
    chooseWith order avail reserve c =
      if (chooseLoop (needOf reserve c) order).1 = true then .ok (chooseLoop (needOf reserve c) order).2
      else .unsat avail := by
  unfold chooseWith
  rw [if_neg (mt List.eq_nil_of_length_eq_zero h)]
  dsimp only
  cases (chooseLoop (needOf reserve c) order).1 <;> rfl

theorem chooseWith_ok {order avail : List IType} {reserve : Int} {c : Ctr} {it : IType}
    (h : chooseWith order avail reserve c = .ok it) :
    (chooseLoop (needOf reserve c) order).1 = true ∧ (chooseLoop (needOf reserve c) order).2 = it := by
  have hne : order ≠ [] := by rintro rfl; cases h
  rw [chooseWith_eq hne] at h
  split at h
  · exact ⟨‹_›, Result.ok.inj h⟩
  · cases h

theorem mem_allowed {n : Need} {table : List IType} {x : IType} :
    x ∈ allowed n table ↔
      x ∈ table ∧ Adequate n x ∧ (∀ y ∈ table, Adequate n y → x.price ≤ y.price) ∧
      (∀ y ∈ table, Adequate n y → y.price = x.price → ¬ SDom y x) := by
  unfold allowed
  simp only [List.mem_filter, List.all_eq_true, decide_eq_true_eq, Bool.not_eq_true', decide_eq_false_iff_not,
    and_imp]
  constructor
  · rintro ⟨⟨⟨hx, hax⟩, hmin⟩, hdom⟩
    refine ⟨hx, hax, hmin, fun y hy hay hp => hdom y hy hay (fun z hz haz => ?_)⟩
    have := hmin z hz haz
    omega
  · rintro ⟨hx, hax, hmin, hdom⟩
    refine ⟨⟨⟨hx, hax⟩, hmin⟩, fun y hy hay hle => hdom y hy hay ?_⟩
    have h1 := hmin y hy hay
    have h2 := hle x hx hax
    omega

theorem allowed_perm {n : Need} {l1 l2 : List IType} (h : l1.Perm l2) {x : IType} :
    x ∈ allowed n l1 ↔ x ∈ allowed n l2 := by
  simp only [mem_allowed, h.mem_iff]

/-- `x` takes the place of `y` as `best` -/
def Pref (y x : IType) : Prop := x.price < y.price ∨ (x.price = y.price ∧ y.ram ≤ x.ram ∧ y.vcpus ≤ x.vcpus)

instance (y x : IType) : Decidable (Pref y x) := by unfold Pref; infer_instance

theorem Pref.trans {a b c : IType} (h1 : Pref a b) (h2 : Pref b c) : Pref a c := by
  unfold Pref at *; omega

theorem pref_max_iff (x y : IType) :
    (Pref x y → Pref y x) ↔ x.price ≤ y.price ∧ (y.price = x.price → ¬ SDom y x) := by
  unfold Pref SDom; omega

theorem mem_allowed_pref {n : Need} {table : List IType} {x : IType} :
    x ∈ allowed n table ↔ Maximal (Adequate n) Pref table x := by
  simp only [Maximal, mem_allowed, pref_max_iff, ← forall_and]

def toAcc : Option IType → Bool × IType
  | none => (false, zeroType)
  | some b => (true, b)

/-- This is where the comparison with the zero-valued `best` needs RAM and VCPUs to be non-negative. -/
theorem chooseStep_toAcc (n : Need) (b : Option IType) {x : IType} (hx : 0 ≤ x.ram ∧ 0 ≤ x.vcpus) :
    chooseStep n (toAcc b) x = toAcc (keep (Adequate n) Pref b x) := by
  rw [chooseStep_eq, keep, apply_ite toAcc]
  refine ite_congr (propext (and_congr_right fun _ => ?_)) (fun _ => rfl) (fun _ => rfl)
  cases b <;> simp [toAcc, zeroType, Pref] <;> omega

theorem chooseLoop_toAcc (n : Need) (order : List IType) (hl : ∀ x ∈ order, 0 ≤ x.ram ∧ 0 ≤ x.vcpus) :
    chooseLoop n order = toAcc (order.foldl (keep (Adequate n) Pref) none) := by
  unfold chooseLoop
  change List.foldl _ (toAcc none) _ = _
  generalize none = b
  induction order generalizing b with
  | nil => rfl
  | cons x rest ih =>
    obtain ⟨hx, hrest⟩ := List.forall_mem_cons.mp hl
    rw [List.foldl_cons, chooseStep_toAcc n b hx, ih hrest]; rfl

theorem chooseLoop_ok (n : Need) (order : List IType) (hl : ∀ x ∈ order, 0 ≤ x.ram ∧ 0 ≤ x.vcpus)
    {y : IType} (hy : y ∈ order) (hay : Adequate n y) : (chooseLoop n order).1 = true := by
  obtain ⟨r, hr⟩ := foldl_keep_isSome (le := Pref) Pref.trans hy hay
  rw [chooseLoop_toAcc n order hl, hr]; rfl

theorem chooseLoop_allowed (n : Need) (order : List IType) (hl : ∀ x ∈ order, 0 ≤ x.ram ∧ 0 ≤ x.vcpus)
    (hok : (chooseLoop n order).1 = true) : (chooseLoop n order).2 ∈ allowed n order := by
  rw [chooseLoop_toAcc n order hl] at hok ⊢
  cases hb : order.foldl (keep (Adequate n) Pref) none with
  | none => rw [hb] at hok; cases hok
  | some r => exact mem_allowed_pref.mpr (foldl_keep_maximal (le := Pref) Pref.trans hb)

theorem allowed_complete (n : Need) (table : List IType) (x : IType)
    (hnn : ∀ y ∈ table, 0 ≤ y.ram ∧ 0 ≤ y.vcpus) (hx : x ∈ allowed n table) :
    ∃ order, order.Perm table ∧ chooseLoop n order = (true, x) := by
  obtain ⟨order, hp, h⟩ := exists_perm_foldl_keep (mem_allowed_pref.mp hx)
  exact ⟨order, hp, by rw [chooseLoop_toAcc n order fun y hy => hnn y (hp.mem_iff.mp hy), h]; rfl⟩

/-- used for the error path's price sort and runQueue's priority sort -/
theorem pairwise_mergeSort_decide {α : Type} (r : α → α → Prop) [DecidableRel r]
    (ht : ∀ a b c, r a b → r b c → r a c) (htot : ∀ a b, r a b ∨ r b a) (l : List α) :
    (l.mergeSort (fun a b => decide (r a b))).Pairwise r :=
  (List.pairwise_mergeSort (by simpa using ht) (by simpa using htot) l).imp (by simp)

end ArvVerif.C16
