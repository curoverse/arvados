/-
C12 lemmas for the keep-balance sweep model (Model/C12.lean `sweepRun`): every task stays
consistent with its own block under any interleaving of the workers' steps.
-/
import ArvVerif.Model.C12
namespace ArvVerif.C12
variable {α β γ : Type}

-- `updAt f i l` is core's `l.modify i f`; core has neither of the next two facts for it.
theorem forall_updAt {P : γ → Prop} {f : γ → γ} (hf : ∀ t, P t → P (f t)) (i : Nat) (l : List γ)
    (h : ∀ t ∈ l, P t) : ∀ t ∈ updAt f i l, P t := by
  induction l generalizing i with
  | nil => rwa [updAt]
  | cons a l ih =>
    rw [List.forall_mem_cons] at h
    cases i with
    | zero => exact List.forall_mem_cons.mpr ⟨hf a h.1, h.2⟩
    | succ i => exact List.forall_mem_cons.mpr ⟨h.1, ih i h.2⟩

theorem map_updAt {δ : Type} (g : γ → δ) (f : γ → γ) (hf : ∀ t, g (f t) = g t) (i : Nat) (l : List γ) :
    (updAt f i l).map g = l.map g := by
  induction l generalizing i with
  | nil => rw [updAt]
  | cons a l ih =>
    cases i with
    | zero => exact congrArg (· :: l.map g) (hf a)
    | succ i => exact congrArg (g a :: ·) (ih i)

/-- The invariant of a task under any schedule. The second part is what `C12_sweep_any_schedule`
says; the first is what `placeTask` needs to keep the second. -/
def TaskOK (w : β → α → Nat) (svcs : List α) (d : Nat) (t : Task β α) : Prop :=
  (∀ r, t.rank = some r → r = probeOrder (w t.blk) svcs) ∧
  (∀ x, t.wanted = some x → x = wantedServers d (probeOrder (w t.blk) svcs))

theorem rankTask_ok (w : β → α → Nat) (svcs : List α) (d : Nat) (t : Task β α)
    (h : TaskOK w svcs d t) : TaskOK w svcs d (rankTask w svcs t) :=
  ⟨fun _ hr => (Option.some.inj hr).symm, h.2⟩

theorem placeTask_ok (w : β → α → Nat) (svcs : List α) (d : Nat) (t : Task β α)
    (h : TaskOK w svcs d t) : TaskOK w svcs d (placeTask d t) := by
  unfold placeTask
  split
  · next r hr => exact ⟨h.1, fun _ hx => (Option.some.inj hx).symm.trans (congrArg _ (h.1 r hr))⟩
  · exact h

theorem placeTask_blk (d : Nat) (t : Task β α) : (placeTask d t).blk = t.blk := by
  unfold placeTask; split <;> rfl

theorem sweepRun_ok (w : β → α → Nat) (svcs : List α) (d : Nat) (blks : List β)
    (sched : List SweepStep) :
    (sweepRun w svcs d blks sched).map (·.blk) = blks ∧
    ∀ t ∈ sweepRun w svcs d blks sched, TaskOK w svcs d t := by
  refine List.foldlRecOn
    (motive := fun ts : List (Task β α) => ts.map (·.blk) = blks ∧ ∀ t ∈ ts, TaskOK w svcs d t)
    sched _ ⟨?_, ?_⟩ fun ts ⟨hb, hok⟩ s _ => ?_
  · rw [List.map_map]; exact List.map_id' _
  · intro t ht
    obtain ⟨b, _, rfl⟩ := List.mem_map.mp ht
    exact ⟨nofun, nofun⟩
  · cases s with
    | rank i => exact ⟨(map_updAt _ (rankTask w svcs) (fun _ => rfl) i ts).trans hb,
        forall_updAt (rankTask_ok w svcs d) i ts hok⟩
    | place i => exact ⟨(map_updAt _ _ (placeTask_blk d) i ts).trans hb,
        forall_updAt (placeTask_ok w svcs d) i ts hok⟩

end ArvVerif.C12
