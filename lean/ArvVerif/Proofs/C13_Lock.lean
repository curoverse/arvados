/-
C13: the hierarchical locking rule excludes wait-for cycles, and the lock
acquisition scripts of Rename and Flush follow the rule on every tree.
-/
import ArvVerif.Model.C13_Lock
namespace ArvVerif.C13.Lock

/-- The hierarchical locking rule, as a property of what one operation holds and waits for. -/
structure OpOK (parent : Lk → Lk) (depth : Lk → Nat) (o : OpState) : Prop where
  held : ∀ n ∈ o.held, n = o.start ∨ (parent n ∈ o.held ∧ depth (parent n) < depth n)
  wants : ∀ w ∈ o.wants, w ∉ o.held ∧ (o.held ≠ [] → parent w ∈ o.held ∧ depth (parent w) < depth w)

def Exclusive (ops : List OpState) : Prop :=
  ∀ (i j : Nat) (oi oj : OpState), ops[i]? = some oi → ops[j]? = some oj → i ≠ j → ∀ l ∈ oi.held, l ∉ oj.held

def Waits (ops : List OpState) (i j : Nat) : Prop :=
  ∃ oi oj, ops[i]? = some oi ∧ ops[j]? = some oj ∧ ∃ w ∈ oi.wants, w ∈ oj.held

inductive Path (ops : List OpState) : Nat → Nat → Prop
  | single {i j : Nat} : Waits ops i j → Path ops i j
  | cons {i j k : Nat} : Waits ops i j → Path ops j k → Path ops i k

variable {parent : Lk → Lk} {depth : Lk → Nat}

theorem held_depth_ge {o : OpState} (hok : OpOK parent depth o) {n : Lk} (hn : n ∈ o.held) :
    depth o.start ≤ depth n := by
  generalize hd : depth n = d
  induction d using Nat.strongRecOn generalizing n with
  | _ d ih =>
    rcases hok.held n hn with h | ⟨h1, h2⟩
    · rw [← hd, h]; exact Nat.le_refl _
    · have := ih (depth (parent n)) (by omega) h1 rfl
      omega

def startDepth (depth : Lk → Nat) (ops : List OpState) (i : Nat) : Nat :=
  match ops[i]? with
  | some o => depth o.start
  | none => 0

def Holding (ops : List OpState) (i : Nat) : Prop :=
  ∃ o, ops[i]? = some o ∧ o.held ≠ []

theorem Waits.holding {ops : List OpState} {i j : Nat} (hw : Waits ops i j) : Holding ops j := by
  obtain ⟨_, oj, _, hj, w, _, hwj⟩ := hw
  exact ⟨oj, hj, fun h => by rw [h] at hwj; cases hwj⟩

/-- If i (holding something) is blocked on a lock held by j, that lock is j's first lock, and j's
first lock lies strictly deeper than i's. -/
theorem waits_depth {ops : List OpState} (hok : ∀ o ∈ ops, OpOK parent depth o) (hex : Exclusive ops)
    {i j : Nat} (hw : Waits ops i j) (hh : Holding ops i) :
    startDepth depth ops i < startDepth depth ops j := by
  obtain ⟨oi, oj, hi, hj, w, hwi, hwj⟩ := hw
  obtain ⟨oi', hi', hne'⟩ := hh
  rw [hi] at hi'; cases hi'
  have hoi := hok oi (List.mem_of_getElem? hi)
  have hoj := hok oj (List.mem_of_getElem? hj)
  obtain ⟨hnot, hpar⟩ := hoi.wants w hwi
  obtain ⟨hp, hd⟩ := hpar hne'
  have hne : i ≠ j := by
    intro h; subst h
    rw [hi] at hj; cases hj
    exact hnot hwj
  have hws : w = oj.start := by
    rcases hoj.held w hwj with h | ⟨h1, _⟩
    · exact h
    · exact absurd h1 (hex i j oi oj hi hj hne (parent w) hp)
  have := held_depth_ge hoi hp
  simp only [startDepth, hi, hj, ← hws]
  omega

theorem Path.holding {ops : List OpState} {i k : Nat} (hp : Path ops i k) : Holding ops k := by
  induction hp with
  | single hw => exact hw.holding
  | cons _ _ ih => exact ih

theorem path_depth {ops : List OpState} (hok : ∀ o ∈ ops, OpOK parent depth o) (hex : Exclusive ops)
    {i k : Nat} (hp : Path ops i k) : Holding ops i → startDepth depth ops i < startDepth depth ops k := by
  induction hp with
  | single hw => exact waits_depth hok hex hw
  | cons hw _ ih =>
    intro hh
    have h1 := waits_depth hok hex hw hh
    have h2 := ih hw.holding
    omega

theorem no_cycle {ops : List OpState} (hok : ∀ o ∈ ops, OpOK parent depth o) (hex : Exclusive ops) (i : Nat) :
    ¬ Path ops i i := by
  intro hp
  have := path_depth hok hex hp hp.holding
  omega

def ScriptOK (parent : Lk → Lk) (depth : Lk → Nat) (script : List Lk) : Prop :=
  ∀ k w, script[k]? = some w → w ∉ script.take k ∧
    (k ≠ 0 → parent w ∈ script.take k ∧ depth (parent w) < depth w)

theorem script_opOK {script : List Lk} {s : Lk} (hs : script[0]? = some s) (h : ScriptOK parent depth script) (k : Nat) :
    OpOK parent depth ⟨s, script.take k, (script[k]?).toList⟩ := by
  refine ⟨?_, ?_⟩
  · intro n hn
    obtain ⟨j, hj, rfl⟩ := List.mem_take_iff_getElem.mp hn
    have hjs : script[j]? = some script[j] := List.getElem?_eq_getElem _
    by_cases h0 : j = 0
    · subst h0; exact Or.inl (Option.some.inj (hjs.symm.trans hs))
    · obtain ⟨h3, h4⟩ := (h j _ hjs).2 h0
      exact Or.inr ⟨List.take_subset_take_left _ (by omega) h3, h4⟩
  · intro w hw
    obtain ⟨h1, h2⟩ := h k w (Option.mem_toList.mp hw)
    exact ⟨h1, fun hne => h2 (fun h0 => hne (by rw [h0]; rfl))⟩

theorem scriptOK_snoc {script : List Lk} {x : Lk} (h : ScriptOK parent depth script) (hx : x ∉ script)
    (hp : parent x ∈ script ∧ depth (parent x) < depth x) : ScriptOK parent depth (script ++ [x]) := by
  intro k w hk
  rw [List.getElem?_append] at hk
  split at hk
  · next hlt =>
    rw [List.take_append_of_le_length (Nat.le_of_lt hlt)]
    exact h k w hk
  · rw [List.getElem?_singleton] at hk
    split at hk
    · cases hk
      have hkl : k = script.length := by omega
      subst hkl
      rw [List.take_left' rfl]
      exact ⟨hx, fun _ => hp⟩
    · cases hk

theorem scriptOK_single {x : Lk} : ScriptOK parent depth [x] := by
  intro k w hk
  cases k with
  | zero => exact ⟨by simp, fun h => absurd rfl h⟩
  | succ k => simp at hk

structure TreeOK (par : Nat → Nat) (dep : Nat → Nat) : Prop where
  root : par 0 = 0
  up : ∀ n, n ≠ 0 → par n ≠ n ∧ dep (par n) + 1 = dep n

variable {par : Nat → Nat} {dep : Nat → Nat}

theorem ldepth_lt (ht : TreeOK par dep) {l : Lk} (hl : l ≠ 0) : ldepth dep (lparent par l) < ldepth dep l := by
  match l, hl with
  | 1, _ => simp [lparent, ldepth]
  | n + 2, _ =>
    simp only [lparent, ldepth]
    have := (ht.up (n + 1) (by omega)).2
    omega

theorem lparent_succ {c : Nat} (hc : c ≠ 0) : lparent par (c + 1) = par c + 1 := by
  cases c with
  | zero => exact absurd rfl hc
  | succ n => rfl

theorem mem_chainUp (fuel d : Nat) : d ∈ chainUp par fuel d := by
  cases fuel with
  | zero => exact List.mem_cons_self ..
  | succ n =>
    unfold chainUp
    split <;> exact List.mem_cons_self ..

/-- `seen` already holds the parent of every element when its turn comes -/
def OKfrom (par : Nat → Nat) : List Lk → List Lk → Prop
  | _, [] => True
  | seen, x :: rest => x ≠ 0 ∧ lparent par x ∈ seen ∧ OKfrom par (x :: seen) rest

theorem OKfrom.append : ∀ (A B : List Lk) {seen : List Lk}, OKfrom par seen A → OKfrom par (A.reverse ++ seen) B →
    OKfrom par seen (A ++ B) := by
  intro A
  induction A with
  | nil => intro B seen _ h; simpa using h
  | cons x rest ih =>
    intro B seen h hB
    refine ⟨h.1, h.2.1, ih B h.2.2 ?_⟩
    simp only [List.reverse_cons, List.append_assoc, List.singleton_append] at hB
    exact hB

theorem mem_addNew {acc : List Lk} {x y : Lk} : y ∈ addNew acc x ↔ y ∈ acc ∨ y = x := by
  unfold addNew
  split
  · next h => exact ⟨Or.inl, fun h' => h'.elim id (fun e => e ▸ h)⟩
  · exact List.mem_append.trans (or_congr Iff.rfl List.mem_singleton)

theorem mem_foldl_addNew {y : Lk} : ∀ (L acc : List Lk), y ∈ L.foldl addNew acc ↔ y ∈ acc ∨ y ∈ L
  | [], acc => by simp
  | x :: rest, acc => by rw [List.foldl_cons, mem_foldl_addNew rest, mem_addNew, List.mem_cons, or_assoc]

/-- the locked-map loop of Rename -/
theorem foldl_addNew_ok (ht : TreeOK par dep) : ∀ (L : List Lk) (acc seen : List Lk), (∀ y ∈ seen, y ∈ acc) →
    OKfrom par seen L → acc ≠ [] → ScriptOK (lparent par) (ldepth dep) acc →
    ScriptOK (lparent par) (ldepth dep) (L.foldl addNew acc) ∧ (L.foldl addNew acc)[0]? = acc[0]? := by
  intro L
  induction L with
  | nil => intro acc seen _ _ _ h; exact ⟨h, rfl⟩
  | cons x rest ih =>
    intro acc seen hsub hL hne hacc
    rw [List.foldl_cons, addNew]
    split
    · next hx => exact ih acc (x :: seen) (fun y hy => (List.mem_cons.mp hy).elim (· ▸ hx) (hsub y)) hL.2.2 hne hacc
    · next hx =>
      obtain ⟨i1, i4⟩ := ih (acc ++ [x]) (x :: seen)
        (fun y hy => List.mem_append.mpr ((List.mem_cons.mp hy).symm.imp (hsub y) List.mem_singleton.mpr)) hL.2.2
        (by simp) (scriptOK_snoc hacc hx ⟨hsub _ hL.2.1, ldepth_lt ht hL.1⟩)
      exact ⟨i1, i4.trans (List.getElem?_append_left (List.length_pos_iff.mpr hne))⟩

theorem chain_ok (ht : TreeOK par dep) : ∀ (fuel d : Nat) (seen : List Lk), dep d ≤ fuel → 0 ∈ seen →
    OKfrom par seen ((chainUp par fuel d).reverse.map (· + 1)) := by
  have root : ∀ seen : List Lk, 0 ∈ seen → OKfrom par seen (([0] : List Nat).reverse.map (· + 1)) :=
    fun seen h0 => ⟨Nat.succ_ne_zero _, h0, trivial⟩
  intro fuel
  induction fuel with
  | zero =>
    intro d seen hd h0
    have hd0 : d = 0 := Classical.byContradiction (fun hne => by have := (ht.up d hne).2; omega)
    subst hd0
    exact root seen h0
  | succ fuel ih =>
    intro d seen hd h0
    unfold chainUp
    split
    · next heq =>
      have hd0 : d = 0 := Classical.byContradiction (fun hne => (ht.up d hne).1 heq)
      subst hd0
      exact root seen h0
    · next hne =>
      have hd0 : d ≠ 0 := fun h => hne (h ▸ ht.root)
      have hdp := (ht.up d hd0).2
      simp only [List.reverse_cons, List.map_append, List.map_cons, List.map_nil]
      apply OKfrom.append _ _ (ih (par d) seen (by omega) h0)
      refine ⟨Nat.succ_ne_zero _, ?_, trivial⟩
      -- the parent of d heads the chain of (par d)
      rw [lparent_succ hd0]
      simp [mem_chainUp]

/-- **Rename** follows the rule on every tree, for any olddir, newdir and moved inode (a child of
olddir that is not one of the locked ancestors — the `locked[oldinode]` check of the code). -/
theorem renameScript_ok (ht : TreeOK par dep) (fuel od nd moved : Nat) (hod : dep od ≤ fuel) (hnd : dep nd ≤ fuel)
    (hmoved : moved ≠ 0) (hpar : par moved = od)
    (hnot : moved + 1 ∉ ((chainUp par fuel od ++ chainUp par fuel nd).reverse.map (· + 1)).foldl addNew [0]) :
    ScriptOK (lparent par) (ldepth dep) (renameScript par fuel od nd moved) ∧
    (renameScript par fuel od nd moved)[0]? = some 0 := by
  unfold renameScript
  have hL : OKfrom par [0] ((chainUp par fuel od ++ chainUp par fuel nd).reverse.map (· + 1)) := by
    rw [List.reverse_append, List.map_append]
    apply OKfrom.append
    · exact chain_ok ht fuel nd [0] hnd (List.mem_singleton.mpr rfl)
    · exact chain_ok ht fuel od _ hod (List.mem_append_right _ (List.mem_singleton.mpr rfl))
  obtain ⟨h1, h4⟩ := foldl_addNew_ok ht _ [0] [0] (fun _ h => h) hL (by simp) scriptOK_single
  refine ⟨scriptOK_snoc h1 hnot ⟨?_, ldepth_lt ht (Nat.succ_ne_zero _)⟩, ?_⟩
  · -- the moved inode's parent lock is olddir's lock, taken as part of the chain
    rw [lparent_succ hmoved, hpar]
    exact (mem_foldl_addNew _ _).mpr (by simp [mem_chainUp])
  · have h0 := h4.trans List.getElem?_cons_zero
    rw [List.getElem?_append_left (List.getElem?_eq_some_iff.mp h0).1]
    exact h0

theorem OKfrom.of_seen : ∀ (level : List Nat) {seen : List Lk}, (∀ c ∈ level, c ≠ 0 ∧ par c + 1 ∈ seen) →
    OKfrom par seen (level.map (· + 1))
  | [], _, _ => trivial
  | c :: rest, _, h =>
    have ⟨hc0, hcp⟩ := h c (List.mem_cons_self ..)
    ⟨Nat.succ_ne_zero c, lparent_succ hc0 ▸ hcp,
     of_seen rest (fun x hx => (h x (List.mem_cons_of_mem _ hx)).imp_right (List.mem_cons_of_mem _))⟩

theorem bfs_ok {kids : Nat → List Nat} (hk : ∀ d c, c ∈ kids d → par c = d ∧ c ≠ 0) :
    ∀ (fuel : Nat) (level : List Nat) (seen : List Lk), (∀ c ∈ level, c ≠ 0 ∧ par c + 1 ∈ seen) →
      OKfrom par seen ((bfs kids fuel level).map (· + 1)) := by
  intro fuel
  induction fuel with
  | zero => intro level seen h; exact OKfrom.of_seen level h
  | succ fuel ih =>
    intro level seen h
    unfold bfs
    split
    · trivial
    · rw [List.map_append]
      refine OKfrom.append _ _ (OKfrom.of_seen level h) (ih _ _ (fun c hc => ?_))
      obtain ⟨d, hd, hcd⟩ := List.mem_flatMap.mp hc
      obtain ⟨rfl, h2⟩ := hk d c hcd
      exact ⟨h2, by simp [hd]⟩

theorem foldl_addNew_nodup : ∀ (L acc : List Lk), (acc ++ L).Nodup → L.foldl addNew acc = acc ++ L := by
  intro L
  induction L with
  | nil => intro acc _; exact (List.append_nil _).symm
  | cons x rest ih =>
    intro acc hnd
    have hx : x ∉ acc := fun hmem => (List.nodup_append.mp hnd).2.2 x hmem x (List.mem_cons_self ..) rfl
    rw [List.foldl_cons, addNew, if_neg hx, ih _ (by simpa using hnd), List.append_assoc]
    rfl

/-- **Flush / MarshalManifest** (directory, then its descendants level by level, children in name
order) follows the rule on every tree (a tree: the enumeration has no repetitions). -/
theorem flushScript_ok (ht : TreeOK par dep) {kids : Nat → List Nat} (hk : ∀ d c, c ∈ kids d → par c = d ∧ c ≠ 0)
    (fuel d : Nat) (hnd : (flushScript kids fuel d).Nodup) :
    ScriptOK (lparent par) (ldepth dep) (flushScript kids fuel d) := by
  have h := bfs_ok hk fuel (kids d) [d + 1] (fun c hc => ⟨(hk d c hc).2, by rw [(hk d c hc).1]; exact List.mem_singleton.mpr rfl⟩)
  -- without repetitions the script is what Rename's locked-map loop would make of it, so Rename's lemma applies
  show ScriptOK _ _ ([d + 1] ++ _)
  rw [← foldl_addNew_nodup _ [d + 1] hnd]
  exact (foldl_addNew_ok ht _ [d + 1] [d + 1] (fun _ h => h) h (by simp) scriptOK_single).1

end ArvVerif.C13.Lock
