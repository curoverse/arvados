/-
C08: `readAt` (filenode.Read) against `specRead`.
-/
import ArvVerif.Proofs.C08_Seek
import ArvVerif.Proofs.C08_SegOps
namespace ArvVerif.C08

variable {max : Nat} {hash : Bytes → Loc} {st : Store}

theorem specRead_split (A : Bytes) (off a b : Nat) :
    specRead A off a ++ specRead A (off + a) b = specRead A off (a + b) := by
  unfold specRead
  rw [List.take_add, List.drop_drop]

theorem specRead_length (A : Bytes) (off n : Nat) : (specRead A off n).length = min n (A.length - off) := by
  simp [specRead]

theorem specRead_at_end {A d : Bytes} {off m : Nat} (hd : d = specRead A off d.length)
    (hend : A.length ≤ off + d.length) (hm : d.length ≤ m) : specRead A off m = d := by
  rw [hd]
  unfold specRead
  rw [List.take_of_length_le (by rw [List.length_drop]; omega),
    List.take_of_length_le (by rw [List.length_drop]; omega)]

theorem drop_take_mid (X S Y : Bytes) (o k : Nat) (hk : o + k ≤ S.length) :
    ((X ++ S ++ Y).drop (X.length + o)).take k = (S.drop o).take k := by
  rw [List.append_assoc, List.drop_length_add_append, List.drop_append_of_le_length (by omega),
    List.take_append_of_le_length (by simp; omega)]

structure ReadOK (st : Store) (fn : FileNode) (p : Ptr) (want : Nat) (r : ReadRes) : Prop where
  data_eq : r.data = specRead (abs st fn) p.off r.data.length
  len_le : r.data.length ≤ want
  off_eq : r.ptr.off = p.off + r.data.length
  ptr_ok : PtrOK fn r.ptr
  not_io : r.err ≠ IOErr.io
  eof_iff : r.err = IOErr.eof ↔
    (p.off ≥ fn.size ∨ (p.off + r.data.length = fn.size ∧ r.data.length < want))
  progress : r.err = IOErr.ok → 0 < want → 0 < r.data.length
  /-- exactly which prefix: up to the end of the segment that holds the offset -/
  exact : p.off < fn.size → ∃ i s o, fn.segs[i]? = some s ∧ o < s.len ∧
    sumLen (fn.segs.take i) + o = p.off ∧ r.data.length = min want (s.len - o)

theorem readAt_spec {fn : FileNode} {p : Ptr} (hwf : WF max hash st fn) (hp : PtrOK fn p) (want : Nat) :
    ∃ r, readAt st fn p want = some r ∧ ReadOK st fn p want r := by
  obtain ⟨q, hq, hoff, hrep, hcase⟩ := seek_spec hwf hp
  have hrep' : q.repacked ≤ fn.repacked := Int.le_of_eq hrep
  unfold readAt
  rw [hq]
  rcases hcase with ⟨hge, hidx, hso⟩ | ⟨hlt, s, hs, hso, hsum⟩
  ·
    have hnone : fn.segs[q.segIdx]? = none := by rw [hidx]; simp
    simp only [hnone]
    rw [if_pos (by omega)]
    exact ⟨_, rfl, by simp [specRead], by simp, by simp [hoff], ⟨hrep', fun _ => Or.inl (by rw [hoff]; exact hge)⟩,
      by simp, by simp; exact Or.inl hge, by simp, fun h => by omega⟩
  · have hpos : ∀ s ∈ fn.segs, 0 < s.len := fun s hs => (hwf.segs s hs).len_pos
    obtain ⟨_, hswf, _, hsz, hX⟩ := hwf.split hs
    have hblen := hswf.bytes_length
    simp only [hs]
    rw [Seg.readAt_spec hswf want q.segOff (Nat.le_of_lt hso)]
    simp only []
    generalize hd : ((s.bytes st).drop q.segOff).take want = d
    have hdlen : d.length = min want (s.len - q.segOff) := by
      rw [← hd]; simp only [List.length_take, List.length_drop, hblen]
    have hdata : d = specRead (abs st fn) p.off d.length := by
      unfold specRead abs
      rw [absSegs_split hs, ← hsum, ← hX, drop_take_mid _ _ _ _ _ (by rw [hblen, hdlen]; omega), ← hd]
      simp [List.length_take, List.take_eq_take_iff]
    -- omega is slow on `min` and `-`: the case analysis below sees only these bounds
    have hd' : d.length ≤ want ∧ q.segOff + d.length ≤ s.len ∧ (d.length = want ∨ q.segOff + d.length = s.len) ∧
        (0 < want → 0 < d.length) := by omega
    -- in each branch only the new pointer and the error differ
    have fin : ∀ (ptr : Ptr) (err : IOErr), ptr.off = p.off + d.length → PtrOK fn ptr → err ≠ IOErr.io →
        (err = IOErr.eof ↔ p.off + d.length = fn.size ∧ d.length < want) →
        ∃ r, some (ReadRes.mk d ptr err) = some r ∧ ReadOK st fn p want r := fun ptr err h1 h2 h3 h4 =>
      ⟨_, rfl, hdata, hd'.1, h1, h2, h3, h4.trans ⟨Or.inr, fun h => h.resolve_left (Nat.not_le.mpr hlt)⟩,
        fun _ => hd'.2.2.2, fun _ => ⟨q.segIdx, s, q.segOff, hs, hso, hsum, hdlen⟩⟩
    clear hdlen hblen hX
    by_cases hend : q.segOff + d.length = s.len
    · -- the read reaches the end of `s`: the pointer moves to the next segment
      rw [if_pos (by omega), if_pos hend]
      refine fin _ _ (by dsimp only; omega) ⟨hrep', fun _ => ?_⟩ ?_ ?_
      · have := (Pos.next hpos hs).located
        rwa [← hwf.size_eq, show sumLen (fn.segs.take q.segIdx) + s.len = q.off + d.length by omega] at this
      · split <;> split <;> simp
      · -- `s` is the last segment exactly when it ends at the file size
        have hlast : q.segIdx + 1 < fn.segs.length ↔ sumLen (fn.segs.take q.segIdx) + s.len < fn.size := by
          rw [← sumLen_take_lt_iff hpos, sumLen_take_succ hs, hwf.size_eq]
        by_cases hw : want > s.len - q.segOff <;> by_cases hl : q.segIdx + 1 < fn.segs.length <;>
          simp [hw, hl] <;> omega
    · -- the read stays inside `s` (or is empty, and then `want = 0`)
      have hin := fin { q with off := q.off + d.length, segOff := q.segOff + d.length }
        (if want > s.len - q.segOff then IOErr.eof else IOErr.ok) (by dsimp only; omega)
        ⟨hrep', fun _ => Or.inr ⟨s, hs, by dsimp only; omega, by dsimp only; omega⟩⟩ (by split <;> simp)
        (by rw [if_neg (by omega)]; exact ⟨nofun, by omega⟩)
      by_cases hd0 : d.length > 0
      · rw [if_pos hd0, if_neg hend]; exact hin
      · rw [if_neg hd0]
        rw [show d.length = 0 by omega] at hin
        exact hin

end ArvVerif.C08
