/-
C10 — the kernel of `segmentedStream.normalizedText` (and of the Python `normalize_stream`, which
is the same algorithm keyed by locator string): each digest once as a block, each file's segments
collapsed into stream spans. The spans, resolved over the new block list, give back exactly the
bytes of the file's segments.
-/
import ArvVerif.Proofs.C10_Bytes
namespace ArvVerif.C10

def slice (S : Bytes) (a l : Nat) : Bytes := (S.drop a).take l

theorem slice_append_slice (S : Bytes) (a b l : Nat) (hab : a ≤ b) :
    slice S a (b - a) ++ slice S b l = slice S a (b + l - a) := by
  unfold slice
  have e : b + l - a = (b - a) + l := by omega
  rw [e, List.take_add, List.drop_drop]
  congr 3; omega

theorem slice_of_prefix (S X : Bytes) (a l : Nat) (h : a + l ≤ S.length) : slice (S ++ X) a l = slice S a l := by
  unfold slice
  rw [List.drop_append, List.take_append, List.length_drop]
  have : l - (S.length - a) = 0 := by omega
  rw [this]; simp

theorem slice_slice (S : Bytes) (o n off len : Nat) (h : off + len ≤ n) :
    ((slice S o n).drop off).take len = slice S (o + off) len := by
  unfold slice
  rw [List.drop_take, List.take_take, List.drop_drop]
  congr 1; omega

theorem slice_append_of_full (S X : Bytes) (a l : Nat) (h : (slice S a l).length = l) :
    slice (S ++ X) a l = slice S a l := by
  by_cases hz : l = 0
  · subst hz; simp [slice]
  · unfold slice at h
    rw [List.length_take, List.length_drop] at h
    exact slice_of_prefix S X a l (by omega)

theorem slice_append_right (S X : Bytes) : slice (S ++ X) S.length X.length = X := by
  unfold slice
  rw [List.drop_append, List.drop_eq_nil_of_le (Nat.le_refl _), Nat.sub_self, List.drop_zero, List.nil_append,
    List.take_length]

/-- structured second pass: the spans (position, length) of one file -/
def normSpansS (tbl : List (Bytes × Nat)) : List Seg → Option (Nat × Nat) → List (Nat × Nat)
  | [], none => []
  | [], some (a, b) => [(a, b - a)]
  | s :: rest, cur =>
    let so := tblLookup tbl (digestKey s.loc) + s.off
    match cur with
    | none => normSpansS tbl rest (some (so, so + s.len))
    | some (a, b) =>
      if so = b then normSpansS tbl rest (some (a, b + s.len))
      else (a, b - a) :: normSpansS tbl rest (some (so, so + s.len))

def spanTok (fout : Bytes) (p : Nat × Nat) : Bytes := fileTokText (p.1 : Int) (p.2 : Int) fout

theorem normSpans_eq (tbl : List (Bytes × Nat)) (fout : Bytes) : ∀ (segs : List Seg) (cur : Option (Nat × Nat)),
    (∀ a b, cur = some (a, b) → a ≤ b) →
    normSpans tbl fout segs cur = (normSpansS tbl segs cur).map (spanTok fout) := by
  intro segs cur
  fun_induction normSpansS tbl segs cur with
  | case1 => intro; rfl
  | case2 a b =>
    intro h
    simp [normSpans, spanTok, Int.ofNat_sub (h a b rfl)]
  | case3 s rest so ih =>
    intro
    simp only [normSpans]
    exact ih (by simp)
  | case4 s rest so a ih =>
    intro h
    have := h _ _ rfl
    simp only [normSpans, so, ↓reduceIte]
    exact ih (by simp; omega)
  | case5 s rest so a b hne ih =>
    intro h
    simp [normSpans, hne, spanTok, Int.ofNat_sub (h a b rfl), so, ih]

def spanSlice (S : Bytes) (p : Nat × Nat) : Bytes := slice S p.1 p.2

def SegsPlaced (blk : Bytes → Bytes) (S : Bytes) (tbl : List (Bytes × Nat)) (segs : List Seg) : Prop :=
  ∀ s ∈ segs, ((blk s.loc).drop s.off).take s.len = slice S (tblLookup tbl (digestKey s.loc) + s.off) s.len

theorem normSpansS_bytes (blk : Bytes → Bytes) (S : Bytes) (tbl : List (Bytes × Nat)) (segs : List Seg)
    (cur : Option (Nat × Nat)) (hp : SegsPlaced blk S tbl segs) (hcur : ∀ p ∈ cur, p.1 ≤ p.2) :
    (normSpansS tbl segs cur).flatMap (spanSlice S) =
      (normSpansS tbl [] cur).flatMap (spanSlice S) ++ segBytes blk segs := by
  fun_induction normSpansS tbl segs cur with
  | case1 => rfl
  | case2 => exact (List.append_nil _).symm
  | case3 s rest so ih =>
    obtain ⟨hs, hp⟩ := List.forall_mem_cons.mp hp
    rw [ih hp (by simp), segBytes_cons, hs]
    simp [normSpansS, spanSlice, so]
  | case4 s rest so a ih =>
    obtain ⟨hs, hp⟩ := List.forall_mem_cons.mp hp
    have hle : a ≤ so := hcur _ rfl
    rw [ih hp (by simp; omega), segBytes_cons, hs]
    simp [normSpansS, spanSlice, ← slice_append_slice S a so s.len hle, so]
  | case5 s rest so a b h ih =>
    obtain ⟨hs, hp⟩ := List.forall_mem_cons.mp hp
    rw [segBytes_cons, hs, List.flatMap_cons, ih hp (by simp)]
    simp [normSpansS, spanSlice, so]

/-- block contents and sizes depend on the digest only (true of real MD5 digests) -/
structure DigestConsistent (blk : Bytes → Bytes) (segs : List Seg) : Prop where
  len : ∀ s ∈ segs, (blk s.loc).length = locSize s.loc
  same : ∀ s ∈ segs, ∀ s' ∈ segs, digestKey s.loc = digestKey s'.loc → blk s.loc = blk s'.loc
  inside : ∀ s ∈ segs, s.off + s.len ≤ locSize s.loc

theorem tblLookup_append_of_mem (tbl : List (Bytes × Nat)) (x : Bytes × Nat) (k : Bytes)
    (h : tbl.any (·.1 = k) = true) : tblLookup (tbl ++ [x]) k = tblLookup tbl k := by
  obtain ⟨e, he⟩ := Option.isSome_iff_exists.mp (List.find?_isSome.mpr (List.any_eq_true.mp h))
  simp only [tblLookup, List.find?_append, he, Option.some_or]

theorem tblLookup_append_new (tbl : List (Bytes × Nat)) (k : Bytes) (o : Nat)
    (h : tbl.any (·.1 = k) = false) : tblLookup (tbl ++ [(k, o)]) k = o := by
  have : tbl.find? (·.1 = k) = none := by simpa using h
  simp [tblLookup, List.find?_append, this]

/-- invariant of `normBlocks`: the table places every listed digest at a block of the stream built
so far (`S` = concatenation of the listed blocks, `off` = its length) -/
theorem normBlocks_placed (blk : Bytes → Bytes) (all : List Seg) (hc : DigestConsistent blk all) :
    ∀ (segs : List Seg) (tbl : List (Bytes × Nat)) (toks : List Bytes) (off : Nat),
      (∀ s ∈ segs, s ∈ all) →
      (streamBytes blk (toks.map fun t => ⟨t, locSize t⟩)).length = off →
      (∀ t ∈ toks, ∃ s ∈ all, s.loc = t) →
      (∀ s ∈ all, tbl.any (·.1 = digestKey s.loc) = true →
        slice (streamBytes blk (toks.map fun t => ⟨t, locSize t⟩)) (tblLookup tbl (digestKey s.loc)) (locSize s.loc)
          = blk s.loc) →
      let r := normBlocks segs tbl toks off
      (streamBytes blk (r.2.1.map fun t => ⟨t, locSize t⟩)).length = r.2.2 ∧
      (∀ t ∈ r.2.1, ∃ s ∈ all, s.loc = t) ∧
      (∀ s ∈ all, (tbl.any (·.1 = digestKey s.loc) = true ∨ s ∈ segs) →
        slice (streamBytes blk (r.2.1.map fun t => ⟨t, locSize t⟩)) (tblLookup r.1 (digestKey s.loc)) (locSize s.loc)
          = blk s.loc) := by
  intro segs tbl toks off
  fun_induction normBlocks segs tbl toks off with
  | case1 tbl toks off =>
    intro _ hlen htoks hinv
    exact ⟨hlen, htoks, fun s hs h => hinv s hs (h.resolve_right (by simp))⟩
  | case2 x rest tbl toks off hany ih =>
    intro hsub hlen htoks hinv
    obtain ⟨r1, r2, r3⟩ := ih (fun s hs => hsub s (List.mem_cons_of_mem _ hs)) hlen htoks hinv
    refine ⟨r1, r2, fun s hs h => r3 s hs ?_⟩
    simp only [List.mem_cons] at h
    rcases h with h | rfl | h
    · exact Or.inl h
    · exact Or.inl hany
    · exact Or.inr h
  | case3 x rest tbl toks off hany ih =>
    intro hsub hlen htoks hinv
    have hx : x ∈ all := hsub x (by simp)
    have hany' := Bool.eq_false_iff.mpr hany
    have hS : streamBytes blk ((toks ++ [x.loc]).map fun t => ⟨t, locSize t⟩) =
        streamBytes blk (toks.map fun t => ⟨t, locSize t⟩) ++ blk x.loc := by
      simp [streamBytes]
    obtain ⟨r1, r2, r3⟩ := ih (fun s hs => hsub s (List.mem_cons_of_mem _ hs))
      (by rw [hS, List.length_append, hlen, hc.len x hx])
      (fun t ht => (List.mem_append.mp ht).elim (htoks t) fun ht => ⟨x, hx, (List.mem_singleton.mp ht).symm⟩)
      (fun s hs hin => by
        rw [hS]
        by_cases hk : digestKey s.loc = digestKey x.loc
        · rw [hk, tblLookup_append_new tbl _ off hany', ← hlen, ← hc.len s hs, hc.same s hs x hx hk,
            slice_append_right]
        · have hold : tbl.any (·.1 = digestKey s.loc) = true := by
            simpa [Ne.symm hk] using hin
          have hold' := hinv s hs hold
          rw [tblLookup_append_of_mem tbl _ _ hold, slice_append_of_full _ _ _ _ (by rw [hold', hc.len s hs]),
            hold'])
    refine ⟨r1, r2, fun s hs h => r3 s hs ?_⟩
    simp only [List.mem_cons, List.any_append] at h ⊢
    rcases h with h | rfl | h
    · simp [h]
    · simp
    · exact Or.inr h

/-- Both passes of `normalizedText`: the spans of the second pass cut each file's bytes out of the
concatenation of the blocks the first pass lists. -/
theorem normalize_preserves_bytes (blk : Bytes → Bytes) (files : List (List Seg))
    (hc : DigestConsistent blk files.flatten) :
    let r := normBlocks files.flatten [] [] 0
    let S := streamBytes blk (r.2.1.map fun t => ⟨t, locSize t⟩)
    ∀ segs ∈ files, (normSpansS r.1 segs none).flatMap (spanSlice S) = segBytes blk segs := by
  intro r S segs hsegs
  obtain ⟨_, _, r3⟩ := normBlocks_placed blk files.flatten hc files.flatten [] [] 0 (fun _ h => h) rfl
    (by simp) (by simp)
  have hplaced : SegsPlaced blk S r.1 segs := by
    intro s hs
    have hsall : s ∈ files.flatten := List.mem_flatten.mpr ⟨segs, hsegs, hs⟩
    have h := r3 s hsall (Or.inr hsall)
    rw [← h]
    exact slice_slice S _ _ _ _ (hc.inside s hsall)
  simpa [normSpansS] using normSpansS_bytes blk S r.1 segs none hplaced (by simp)

end ArvVerif.C10
