/-
C08: the flushes (`flushDir`, `doFlush`, `doSync`) refine the identity of the
plain model.
-/
import ArvVerif.Proofs.C08_AbsFS
import ArvVerif.Proofs.C08_Flush
import ArvVerif.Proofs.Lib_List
namespace ArvVerif.C08

variable {max : Nat} {hash : Bytes → Loc}

theorem filterMap_full {α β : Type} (g : α → Option β) :
    ∀ (l : List α), (l.filterMap g).length = l.length →
      ∀ (i : Nat) (x : α), l[i]? = some x → ∃ y, g x = some y ∧ (l.filterMap g)[i]? = some y := by
  intro l
  induction l with
  | nil => intro _ i x h; simp at h
  | cons a rest ih =>
    intro hlen i x hx
    cases hg : g a with
    | none =>
      rw [List.filterMap_cons_none hg] at hlen
      have := List.length_filterMap_le g rest
      simp at hlen; omega
    | some y =>
      rw [List.filterMap_cons_some hg] at hlen ⊢
      cases i with
      | zero => simp at hx; subst hx; exact ⟨y, hg, by simp⟩
      | succ i =>
        simp only [List.getElem?_cons_succ] at hx ⊢
        exact ih (by simpa using hlen) i x hx

theorem map_abs_of_key {st st' : Store} {cs cs' : List FileNode}
    (h : cs'.map (fileKey st') = cs.map (fileKey st)) : cs'.map (abs st') = cs.map (abs st) := by
  have e : ∀ x : Store, abs x = (fun k => k.1.flatten) ∘ fileKey x := by
    intro x; funext fn; unfold abs absSegs fileKey; rw [List.flatMap_def]; rfl
  rw [e, e, ← List.map_map, ← List.map_map, h]

theorem sortedFiles_abs (s : CFS) (d : Nat) : sortedFiles (absFS s) d = sortedFiles s d := rfl

section
variable {F P W : Type}

theorem mem_filePairs {s : FS F P W} {d : Nat} {fc : Nat × F}
    (h : fc ∈ (sortedFiles s d).filterMap (fun e => (s.files[e.2]?).map (fun nf => (e.2, nf.2)))) :
    ∃ n, s.files[fc.1]? = some (n, fc.2) := by
  obtain ⟨e, _, he⟩ := List.mem_filterMap.mp h
  obtain ⟨nf, hfile, rfl⟩ := Option.map_eq_some_iff.mp he
  exact ⟨nf.1, hfile⟩

theorem flushDir_files (impl : FileImpl F P W) (short : Bool) (s : FS F P W) (d : Nat) :
    ∃ cs : List F, (∀ c ∈ cs, ∃ nf ∈ s.files, nf.2 = c) ∧
      (flushDir impl short s d).world = (impl.flush s.world cs short).1 ∧
      ∀ nf ∈ (flushDir impl short s d).files, nf ∈ s.files ∨ nf.2 ∈ (impl.flush s.world cs short).2 := by
  refine ⟨_, fun c hc => ?_, List.foldlRecOn _ _
    (motive := fun (s' : FS F P W) => s'.world = _ ∧ ∀ nf ∈ s'.files, nf ∈ s.files ∨ nf.2 ∈ _)
    ⟨rfl, fun _ h => Or.inl h⟩ fun s' h fc hfc => ⟨(setFile_world ..).trans h.1, fun nf hnf =>
      (mem_setFile hnf).elim (h.2 nf) fun e => Or.inr (e ▸ (List.of_mem_zip hfc).2)⟩⟩
  obtain ⟨fc, hfc, rfl⟩ := List.mem_map.mp hc
  obtain ⟨n, h0⟩ := mem_filePairs hfc
  exact ⟨_, List.mem_of_getElem? h0, rfl⟩

end

/-- In the plain model a flush hands every file its own content back. -/
theorem flushDir_spec_id (S : SFS) (short : Bool) (d : Nat) : flushDir specImpl short S d = S := by
  unfold flushDir
  generalize hpairs : (sortedFiles S d).filterMap (fun e => (S.files[e.2]?).map (fun nf => (e.2, nf.2))) = pairs
  show List.foldl _ S ((pairs.map (·.1)).zip (pairs.map (·.2))) = S
  rw [← List.unzip_fst, ← List.unzip_snd, List.zip_unzip]
  refine Lib.foldl_fixed fun fc hfc => ?_
  obtain ⟨n, hn⟩ := mem_filePairs (hpairs ▸ hfc)
  exact setFile_self S fc.1 hn

theorem doSync_spec_id (S : SFS) : (doSync specImpl S).1 = S :=
  Lib.foldl_fixed fun d _ => flushDir_spec_id S true d

/-- Writing back over `w`, one after the other, files that are other representations of what `s` has at
their ids. -/
theorem fold_setFile_key {s : CFS} {w : Store} (hinv : Inv max hash { s with world := w }) (L : List (Nat × FileNode))
    (hgood : ∀ fc ∈ L, ∃ nf0 : String × FileNode, s.files[fc.1]? = some nf0 ∧ fileKey w fc.2 = fileKey w nf0.2 ∧
      ∀ sg ∈ fc.2.segs, SegWF max hash w sg) :
    Inv max hash (L.foldl (fun s (fc : Nat × FileNode) => setFile s fc.1 fc.2) { s with world := w }) ∧
    absFS (L.foldl (fun s (fc : Nat × FileNode) => setFile s fc.1 fc.2) { s with world := w }) = absFS { s with world := w } := by
  -- kept by every write-back: the store, the invariant, the abstract state, and "every file is another
  -- representation of what `s` has at its id" (`s1` is `s` with some of them already written back)
  refine (fun h => ⟨h.2.1, h.2.2.1⟩) (List.foldlRecOn L (fun s (fc : Nat × FileNode) => setFile s fc.1 fc.2)
    (motive := fun s1 : CFS => s1.world = w ∧ Inv max hash s1 ∧ absFS s1 = absFS { s with world := w } ∧
      ∀ (f : Nat) (nf1 : String × FileNode), s1.files[f]? = some nf1 →
        ∃ nf0 : String × FileNode, s.files[f]? = some nf0 ∧ fileKey w nf1.2 = fileKey w nf0.2)
    ⟨rfl, hinv, rfl, fun f nf1 h => ⟨nf1, h, rfl⟩⟩ fun s1 ⟨hw, hinv1, ha, hrel⟩ fc hfc => ?_)
  obtain ⟨nf0, h0, hk, hwf⟩ := hgood fc hfc
  cases hcur : s1.files[fc.1]? with
  | none => rw [setFile_none hcur]; exact ⟨hw, hinv1, ha, hrel⟩
  | some cur =>
    obtain ⟨nf0', h0', hk'⟩ := hrel _ _ hcur
    cases h0.symm.trans h0'
    subst hw
    obtain ⟨i1, a1⟩ := hinv1.setFile_key hcur (hk.trans hk'.symm) hwf
    refine ⟨setFile_world .., i1, a1.trans ha, fun f nf1 hnf1 => ?_⟩
    by_cases hff : fc.1 = f
    · subst hff
      rw [setFile_get hcur] at hnf1
      cases hnf1
      exact ⟨nf0, h0, hk⟩
    · exact hrel f nf1 ((setFile_get_ne s1 hff fc.2).symm.trans hnf1)

/-- The i-th output of `flushFiles` has the key of its i-th input, which is the file at id `pairs[i].1`; so the
write-backs are key-equal replacements. An id that occurs twice is harmless: `fold_setFile_key` compares every
output with the ORIGINAL file at its id, not with what an earlier write-back left there. -/
theorem flushDir_ref (hinj : Function.Injective hash) {s : CFS} (hinv : Inv max hash s) (short : Bool) (d : Nat) :
    absFS (flushDir (concImpl hash max) short s d) = flushDir specImpl short (absFS s) d ∧
    Inv max hash (flushDir (concImpl hash max) short s d) := by
  rw [flushDir_spec_id]
  unfold flushDir
  dsimp only
  generalize hpairs : (sortedFiles s d).filterMap (fun e => (s.files[e.2]?).map (fun nf => (e.2, nf.2))) = pairs
  have hpair : ∀ fc ∈ pairs, ∃ n, s.files[fc.1]? = some (n, fc.2) := fun fc hfc => mem_filePairs (hpairs ▸ hfc)
  generalize hcs : pairs.map (·.2) = cs
  have hcswf : AllWF max hash s.world cs := by
    intro fn hfn
    rw [← hcs] at hfn
    obtain ⟨fc, hfc, rfl⟩ := List.mem_map.mp hfn
    obtain ⟨n, h0⟩ := hpair fc hfc
    exact (hinv.files _ (List.mem_of_getElem? h0)).1.segs
  obtain ⟨f1, f2, f3, f4⟩ := flushFiles_spec hinj hinv.ok cs hcswf short
  dsimp only [concImpl]
  generalize flushFiles hash max s.world cs short = r at f1 f2 f3 f4 ⊢
  obtain ⟨w, cs'⟩ := r
  dsimp only at f1 f2 f3 f4 ⊢
  have key0 : ∀ nf ∈ s.files, fileKey w nf.2 = fileKey s.world nf.2 :=
    fun nf hnf => fileKey_ext f1 (hinv.files nf hnf).1.segs
  suffices ∀ fc ∈ (pairs.map (·.1)).zip cs', ∃ nf0 : String × FileNode, s.files[fc.1]? = some nf0 ∧
      fileKey w fc.2 = fileKey w nf0.2 ∧ ∀ sg ∈ fc.2.segs, SegWF max hash w sg by
    obtain ⟨i, a⟩ := fold_setFile_key (hinv.ext_world f1 f2) _ this
    exact ⟨a.trans (absFS_ext_world hinv f1), i⟩
  intro fc hfc
  obtain ⟨i, hi⟩ := List.mem_iff_getElem?.mp hfc
  obtain ⟨hi1, hi2⟩ := List.getElem?_zip_eq_some.mp hi
  simp only [List.getElem?_map, Option.map_eq_some_iff] at hi1
  obtain ⟨pc, hpc, hpc1⟩ := hi1
  obtain ⟨n, h0⟩ := hpair pc (List.mem_of_getElem? hpc)
  have hci : cs[i]? = some pc.2 := by rw [← hcs]; simp [hpc]
  have hk : fileKey w fc.2 = fileKey s.world pc.2 := by
    simpa [hi2, hci] using congrArg (·[i]?) f4
  exact ⟨_, hpc1 ▸ h0, by rw [hk, key0 _ (List.mem_of_getElem? h0)], f3 fc.2 (List.mem_of_getElem? hi2)⟩

theorem foldl_flushDir_ref (hinj : Function.Injective hash) (short : Bool) :
    ∀ (ds : List Nat) (s : CFS), Inv max hash s →
      absFS (ds.foldl (flushDir (concImpl hash max) short) s) = ds.foldl (flushDir specImpl short) (absFS s) ∧
      Inv max hash (ds.foldl (flushDir (concImpl hash max) short) s) := by
  intro ds s hinv
  rw [Lib.foldl_fixed fun d _ => flushDir_spec_id _ short d]
  exact List.foldlRecOn ds _ (motive := fun s' => absFS s' = absFS s ∧ Inv max hash s') ⟨rfl, hinv⟩ fun s' h d _ =>
    have r := flushDir_ref hinj h.2 short d
    ⟨(r.1.trans (flushDir_spec_id ..)).trans h.1, r.2⟩

theorem doSync_ref (hinj : Function.Injective hash) {s : CFS} (hinv : Inv max hash s) :
    Ref3 max hash (doSync (concImpl hash max) s) (doSync specImpl (absFS s)) := by
  unfold doSync
  exact ⟨rfl, foldl_flushDir_ref hinj true _ s hinv⟩

theorem step_hsync (hinj : Function.Injective hash) {s : CFS} (hinv : Inv max hash s) (h : Nat) :
    StepRef max hash s (Op.hsync h) := by
  unfold StepRef step
  simp only [getHandle_abs]
  cases getHandle s h with
  | none => exact Ref3.same hinv _
  | some hd => exact doSync_ref hinj hinv

theorem doFlush_ref (hinj : Function.Injective hash) {s : CFS} (hinv : Inv max hash s) (path : String) (short : Bool) :
    Ref3 max hash (doFlush (concImpl hash max) s path short) (doFlush specImpl (absFS s) path short) := by
  unfold doFlush
  simp only [absFS_ents, absFS_dirs]
  cases walk s.ents s.dirs (Node.dir 0) (splitPath path) with
  | error e => exact Ref3.same hinv _
  | ok n =>
    cases n with
    | file f => exact Ref3.same hinv _
    | dir d =>
      exact ⟨rfl, foldl_flushDir_ref hinj short _ s hinv⟩

end ArvVerif.C08
