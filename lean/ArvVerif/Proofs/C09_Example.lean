/-
C09 helper lemmas: a locator function that satisfies `HashOK` (non-vacuity of the
hypothesis). A 32-digit digest cannot be collision-free on all byte strings, so the example carries
the block in a hint: `0…0+<size>+Z<hex of the block>` — a locator of the published grammar, injective.
-/
import ArvVerif.Proofs.C09_Stream
namespace ArvVerif.C09

open ArvVerif.C10 (isDigit isLowerHex natToDec natOfDigits bPlus)

def hexNib (n : UInt8) : UInt8 := if n < 10 then 48 + n else 87 + n

def hexPairs : Bytes → Bytes
  | [] => []
  | c :: rest => hexNib (c / 16) :: hexNib (c % 16) :: hexPairs rest

def exHash (b : Bytes) : Bytes :=
  List.replicate 32 48 ++ bPlus :: (natToDec b.length ++ bPlus :: 90 :: hexPairs b)

def unNib (x : UInt8) : UInt8 := if x < 58 then x - 48 else x - 87

theorem hexNib_all : ∀ k : Fin 16, C10.isHintChar (hexNib (UInt8.ofNat k)) = true ∧ hexNib (UInt8.ofNat k) ≠ bPlus ∧
    unNib (hexNib (UInt8.ofNat k)) = UInt8.ofNat k := by decide

theorem hexNib_ok (n : UInt8) (h : n < 16) :
    C10.isHintChar (hexNib n) = true ∧ hexNib n ≠ bPlus ∧ unNib (hexNib n) = n := by
  have := hexNib_all ⟨n.toNat, UInt8.lt_iff_toNat_lt.mp h⟩
  simpa using this

theorem nibbles (c : UInt8) : c / 16 < 16 ∧ c % 16 < 16 ∧ c / 16 * 16 + c % 16 = c := by
  have := c.toNat_lt
  refine ⟨?_, ?_, UInt8.toNat_inj.mp ?_⟩
  · rw [UInt8.lt_iff_toNat_lt, UInt8.toNat_div]; simp; omega
  · rw [UInt8.lt_iff_toNat_lt, UInt8.toNat_mod]; simp; omega
  · simp [UInt8.toNat_add, UInt8.toNat_mul, UInt8.toNat_div, UInt8.toNat_mod]; omega

theorem hexPairs_inj : ∀ (a b : Bytes), hexPairs a = hexPairs b → a = b
  | [], [], _ => rfl
  | [], _ :: _, h => by simp [hexPairs] at h
  | _ :: _, [], h => by simp [hexPairs] at h
  | x :: xs, y :: ys, h => by
    simp only [hexPairs, List.cons.injEq] at h
    obtain ⟨h1, h2, h3⟩ := h
    obtain ⟨x1, x2, hx⟩ := nibbles x
    obtain ⟨y1, y2, hy⟩ := nibbles y
    have e1 := congrArg unNib h1
    have e2 := congrArg unNib h2
    rw [(hexNib_ok _ x1).2.2, (hexNib_ok _ y1).2.2] at e1
    rw [(hexNib_ok _ x2).2.2, (hexNib_ok _ y2).2.2] at e2
    rw [← hx, ← hy, e1, e2, hexPairs_inj xs ys h3]

theorem hintsOk_hintChar {c : UInt8} {rest : Bytes} (h : C10.isHintChar c = true) (hp : c ≠ bPlus) :
    C10.hintsOk (c :: rest) false true = C10.hintsOk rest false true := by
  simp [C10.hintsOk, h, hp]

theorem hintsOk_hexPairs : ∀ (b : Bytes), C10.hintsOk (hexPairs b) false true = true
  | [] => rfl
  | c :: rest => by
    obtain ⟨c1, c2, _⟩ := nibbles c
    obtain ⟨h1, h3, _⟩ := hexNib_ok _ c1
    obtain ⟨h2, h4, _⟩ := hexNib_ok _ c2
    rw [hexPairs, hintsOk_hintChar h1 h3, hintsOk_hintChar h2 h4]
    exact hintsOk_hexPairs rest

theorem exHash_ok : HashOK exHash := by
  -- reading digits stops at the `+` after the size
  have stop := fun (n : Nat) (r : Bytes) => takeWhile_stop isDigit (natToDec n) bPlus r (C10.natToDec_spec n).2.1 C10.plus_not_digit
  constructor
  · intro a b h
    unfold exHash at h
    have h1 := List.append_cancel_left h
    simp only [List.cons.injEq, true_and] at h1
    have := congrArg (List.dropWhile isDigit) h1
    rw [(stop _ _).2, (stop _ _).2] at this
    exact hexPairs_inj a b (List.cons.inj (List.cons.inj this).2).2
  · intro b
    unfold C10.specLocator C10.locatorSizeDigits exHash
    simp only [List.take_left' (List.length_replicate (n := 32) (a := (48 : UInt8))),
      List.drop_left' (List.length_replicate (n := 32) (a := (48 : UInt8)))]
    rw [if_pos ⟨by simp, by decide⟩]
    simp only [beq_self_eq_true, if_true]
    obtain ⟨t1, t2⟩ := stop b.length (90 :: hexPairs b)
    simp only [t1, t2]
    rw [if_pos ⟨(C10.natToDec_spec _).1, Or.inr (by
      rw [C10.hintsOk, if_neg (by decide), if_pos (by decide), C10.hintsOk, if_pos rfl, hintsOk_hexPairs]
      decide)⟩]
    simp [(C10.natToDec_spec _).2.2]

end ArvVerif.C09
