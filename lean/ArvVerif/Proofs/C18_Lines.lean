/-
C18: line-level view of rewriteManifest. The code works on space-delimited tokens (a token may
contain newlines); here it is shown to coincide, for every text, with the line-by-line
description of the manifest format: split into lines, split each line into tokens, keep the first
token of every line (the stream name), rewrite the block tokens.
-/
import ArvVerif.Proofs.C18_Rewrite
namespace ArvVerif.C18

/-- a token of one line (no newline inside) -/
def rwTok1 (id t : Str) : Str := if locPrefix t then replaceSig id t else t

def rwLine (id l : Str) : Str := joinWith ' ' (mapTail (rwTok1 id) (splitOn ' ' l))

def rewriteByLines (mt id : Str) : Str := joinWith '\n' ((splitOn '\n' mt).map (rwLine id))

theorem not_mem_rwTok1 {id t : Str} {x : Char} (ht : x ∉ t) (hid : x ∉ id) (hR : x ≠ 'R') (hm : x ≠ '-') :
    x ∉ rwTok1 id t := by
  unfold rwTok1
  split
  · exact not_mem_replaceSig ht hid hR hm
  · exact ht

section
variable (id : Str)

theorem rewriteTok_eq (t : Str) : rewriteTok id t = rwTok1 id (linePart t) ++ restPart t := by
  unfold rewriteTok rwTok1
  rw [locPrefix_linePart]
  split
  · rfl
  · exact (linePart_append_restPart t).symm

theorem rewriteTok_of_no_nl {t : Str} (h : '\n' ∉ t) : rewriteTok id t = rwTok1 id t := by
  rw [rewriteTok_eq, linePart_of_no_nl h, restPart_of_no_nl h, List.append_nil]

theorem rewriteTok_append_nl {a : Str} (b : Str) (h : '\n' ∉ a) :
    rewriteTok id (a ++ '\n' :: b) = rwTok1 id a ++ '\n' :: b := by
  rw [rewriteTok_eq, linePart_append_nl b h, restPart_append_nl b h]

theorem rewriteManifest_line {l : Str} (h : '\n' ∉ l) : rewriteManifest l id = rwLine id l := by
  unfold rewriteManifest rwLine
  congr 1
  exact mapTail_eq_mapTail_iff.mpr fun t ht =>
    rewriteTok_of_no_nl id (not_mem_token h t (List.mem_of_mem_tail ht))

/-- a line without newline, followed by more text: the last token of the line and the first token
of the rest form one space-delimited token, rewritten only before its newline -/
theorem rewriteManifest_line_append {l : Str} (rest : Str) (h : '\n' ∉ l) :
    rewriteManifest (l ++ '\n' :: rest) id = rwLine id l ++ '\n' :: rewriteManifest rest id := by
  obtain ⟨b0, bs, hb⟩ := List.exists_cons_of_ne_nil (splitOn_ne_nil (sep := ' ') rest)
  obtain ⟨init, last, h1, h2⟩ := splitOn_append_cons ' ' '\n' (by decide) rest b0 bs hb l
  have hnl : ∀ t ∈ init ++ [last], '\n' ∉ t := h1 ▸ not_mem_token h
  unfold rewriteManifest rwLine
  rw [h2, h1, hb]
  cases init with
  | nil => exact joinWith_append_singleton [] last b0 _ '\n'
  | cons i0 is =>
    have hinit : mapTail (rewriteTok id) (i0 :: is) = mapTail (rwTok1 id) (i0 :: is) :=
      mapTail_eq_mapTail_iff.mpr fun t ht =>
        rewriteTok_of_no_nl id (hnl t (List.mem_append_left _ (List.mem_of_mem_tail ht)))
    rw [mapTail_append _ (by simp), mapTail_append _ (by simp), hinit, List.map_cons,
      rewriteTok_append_nl id b0 (hnl last (by simp))]
    exact joinWith_append_singleton _ _ b0 _ '\n'

end

theorem rewriteManifest_eq_byLines (mt id : Str) : rewriteManifest mt id = rewriteByLines mt id := by
  unfold rewriteByLines
  induction mt using sep_induction '\n' with
  | base a h => rw [splitOn_of_not_mem h]; exact rewriteManifest_line id h
  | step a b h ih =>
    rw [rewriteManifest_line_append id b h, ih, splitOn_append_sep h, List.map_cons,
      joinWith_cons (by simp [splitOn_ne_nil])]

theorem rwLine_no_nl {id l : Str} (hid : '\n' ∉ id) (hl : '\n' ∉ l) : '\n' ∉ rwLine id l :=
  not_mem_joinWith (by decide) <|
    forall_mem_mapTail (not_mem_token hl) fun _ hy => not_mem_rwTok1 hy hid (by decide) (by decide)

theorem lines_rewriteManifest (mt : Str) {id : Str} (hid : '\n' ∉ id) :
    splitOn '\n' (rewriteManifest mt id) = (splitOn '\n' mt).map (rwLine id) := by
  rw [rewriteManifest_eq_byLines]
  apply splitOn_joinWith
  · simp [splitOn_ne_nil]
  · intro t ht
    obtain ⟨l, hl, rfl⟩ := List.mem_map.mp ht
    exact rwLine_no_nl hid (not_mem_of_mem_splitOn mt l hl)

theorem tokens_rwLine {id : Str} (l : Str) (hid : ' ' ∉ id) :
    splitOn ' ' (rwLine id l) = mapTail (rwTok1 id) (splitOn ' ' l) :=
  splitOn_joinWith_mapTail (fun _ ht => not_mem_rwTok1 ht hid (by decide) (by decide)) l

end ArvVerif.C18
