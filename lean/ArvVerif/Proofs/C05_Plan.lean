/-
C05 helper lemmas: the hypotheses of the block-level theorems follow from the discovered
layout — distinct mount identities and device consistency survive cleanupMounts and
setupLookupTables. `RawDistinctIds` and `RawDeviceConsistent` are the hypotheses of the `_plan`
theorems, on what the keepstore servers report.
-/
import ArvVerif.Proofs.C05_Devices
import ArvVerif.Proofs.C05_Setup
namespace ArvVerif.C05

/-- the reported mounts are distinct objects -/
def RawDistinctIds (svcs : List RawService) : Prop := (allRawMounts svcs).Pairwise (fun a b => a.id ≠ b.id)

/-- reported mounts of one device agree on storage classes and replication -/
def RawDeviceConsistent (svcs : List RawService) : Prop :=
  ∀ a ∈ allRawMounts svcs, ∀ b ∈ allRawMounts svcs, a.dev ≠ 0 → a.dev = b.dev → a.classes = b.classes ∧ a.repl = b.repl

/-- the mounts `plan` hands to balanceBlock, from the reported layout -/
theorem plan_mounts_eq (dflt : Class) (svcs : List RawService) : effMounts dflt (cleanupMounts svcs) =
    svcs.flatMap fun s => (s.mounts.filter (keepMount svcs)).map fun m => effMount dflt s (fixRepl m) := by
  unfold effMounts cleanupMounts
  rw [List.flatMap_map]
  simp only [List.map_map]
  rfl

theorem mem_plan_mounts {dflt : Class} {svcs : List RawService} {m : Mount} :
    m ∈ effMounts dflt (cleanupMounts svcs) ↔
      ∃ s0 ∈ svcs, ∃ m0 ∈ s0.mounts, keepMount svcs m0 = true ∧ m = effMount dflt s0 (fixRepl m0) := by
  rw [plan_mounts_eq]
  simp only [List.mem_flatMap, List.mem_map, List.mem_filter]
  constructor
  · rintro ⟨s0, hs0, m0, ⟨hm0, hk⟩, rfl⟩; exact ⟨s0, hs0, m0, hm0, hk, rfl⟩
  · rintro ⟨s0, hs0, m0, hm0, hk, rfl⟩; exact ⟨s0, hs0, m0, ⟨hm0, hk⟩, rfl⟩

theorem plan_distinctIds (dflt : Class) (svcs : List RawService) (h : RawDistinctIds svcs) :
    DistinctIds (effMounts dflt (cleanupMounts svcs)) := by
  unfold DistinctIds
  rw [plan_mounts_eq]
  obtain ⟨h1, h2⟩ := List.pairwise_flatMap.1 h
  refine List.pairwise_flatMap.2 ⟨fun s hs => ?_, h2.imp fun hx x hx' y hy' => ?_⟩
  · exact List.pairwise_map.2 (((h1 s hs).sublist List.filter_sublist).imp fun hab => by simpa [effMount, fixRepl_eq] using hab)
  · obtain ⟨x0, hx0, rfl⟩ := List.mem_map.1 hx'
    obtain ⟨y0, hy0, rfl⟩ := List.mem_map.1 hy'
    simpa [effMount, fixRepl_eq] using hx x0 (List.mem_filter.1 hx0).1 y0 (List.mem_filter.1 hy0).1

theorem plan_deviceConsistent (dflt : Class) (svcs : List RawService) (h : RawDeviceConsistent svcs) :
    DeviceConsistent (effMounts dflt (cleanupMounts svcs)) := by
  intro a ha b hb h0 hd
  obtain ⟨sa, hsa, a0, ha0, _, rfl⟩ := mem_plan_mounts.1 ha
  obtain ⟨sb, hsb, b0, hb0, _, rfl⟩ := mem_plan_mounts.1 hb
  have := h a0 (List.mem_flatMap.2 ⟨sa, hsa, ha0⟩) b0 (List.mem_flatMap.2 ⟨sb, hsb, hb0⟩)
    (by simpa [effMount, fixRepl_eq] using h0) (by simpa [effMount, fixRepl_eq] using hd)
  simp only [effMount, fixRepl_eq, this.1, this.2, and_self]

instance (svcs : List RawService) : Decidable (RawDistinctIds svcs) :=
  inferInstanceAs (Decidable (List.Pairwise _ _))

instance (svcs : List RawService) : Decidable (RawDeviceConsistent svcs) :=
  inferInstanceAs (Decidable (∀ a ∈ allRawMounts svcs, ∀ b ∈ allRawMounts svcs, _))

end ArvVerif.C05
