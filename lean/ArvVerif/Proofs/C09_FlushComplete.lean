/-
C09 helper lemmas: completeness of the synchronous flush. With `shortBlocks` every mem
segment of the directory's files is in one of the groups `dirnode.flush` hands to `commitBlock`, and
when every `commitBlock` succeeds no mem segment is left — so `marshalManifest` never reaches its
"can't marshal segment type" panic after a successful flush (`flushTree9_no_mem`). Conversely a tree
without mem segments has no group at all: saving it attempts no Keep write (`treeGroups_stored`).
-/
import ArvVerif.Proofs.C09_FlushTree
import ArvVerif.Proofs.Lib_List
namespace ArvVerif.C09

open ArvVerif.C08 (Seg FileNode Ptr Flush Store Ref)

variable {max : Nat} {hash : Bytes → C08.Loc}

theorem segAt_setSeg (fs : List FileNode) (r : Ref) (s : Seg) (r' : Ref) :
    C08.segAt (C08.setSeg fs r s) r' =
      if r' = r ∧ (C08.segAt fs r).isSome then some s else C08.segAt fs r' := by
  unfold C08.setSeg C08.segAt
  cases hf : fs[r.1]? with
  | none => simp
  | some fn =>
    by_cases h : r' = r
    · subst h
      cases hs : fn.segs[r'.2]? <;> simp [hf, List.getElem?_set', hs]
    · have : r.1 = r'.1 → r.2 ≠ r'.2 := fun h1 h2 => h (Prod.ext h1.symm h2.symm)
      by_cases h1 : r.1 = r'.1
      · simp [List.getElem?_set', ← h1, hf, this h1, h]
      · simp [h1, h]

theorem refBuf_setSeg_stored (fs : List FileNode) (r r' : Ref) (a : Bytes) (b c d : Nat) :
    (C08.refBuf (C08.setSeg fs r (Seg.stored a b c d)) r').isSome =
      ((C08.refBuf fs r').isSome && decide (r' ≠ r)) := by
  unfold C08.refBuf
  rw [segAt_setSeg]
  by_cases h : r' = r
  · subst h
    cases hs : C08.segAt fs r' <;> simp
  · simp [h]

theorem commitBlock_refBuf (st : Store) (files : List FileNode) (refs : List Ref) (r' : Ref) :
    (C08.refBuf (C08.commitBlock hash st files refs).2 r').isSome = ((C08.refBuf files r').isSome && decide (r' ∉ refs)) := by
  refine C08.commitBlock_ind (P := fun done fs =>
    (C08.refBuf fs r').isSome = ((C08.refBuf files r').isSome && decide (r' ∉ done))) st files refs (by simp) ?_
  intro done r _ fs _ h
  cases hrb : C08.refBuf files r with
  | none =>
    simp only []
    rw [h]
    by_cases heq : r' = r
    · subst heq; simp [hrb]
    · simp [heq]
  | some buf =>
    simp only []
    rw [refBuf_setSeg_stored, h]
    by_cases heq : r' = r <;> simp [heq]

theorem commitGroups_allOk : ∀ (groups : List (List Ref)) (k : Keep) (files : List FileNode) (ok : Bool) (r' : Ref),
    allOk groups.length k = true →
    (C08.refBuf (commitGroups hash groups (k, files, ok)).2.1 r').isSome =
      ((C08.refBuf files r').isSome && decide (r' ∉ groups.flatten))
  | [], k, files, ok, r', _ => by simp [commitGroups]
  | g :: rest, k, files, ok, r', hall => by
    unfold allOk at hall
    simp only [List.length_cons, Bool.and_eq_true, beq_iff_eq] at hall
    unfold commitGroups
    simp only []
    rw [commitK_eq, hall.1]
    simp only []
    have hse : ScriptEq (k.next.2.record hash (blockOf files g)) k.next.2 := ⟨rfl, rfl⟩
    rw [commitGroups_allOk rest _ _ _ r' ((allOk_congr _ hse).trans hall.2), commitBlock_refBuf]
    by_cases h1 : r' ∈ g <;> simp [h1]

def allRefs (files : List FileNode) : List (Ref × Seg) :=
  (files.zipIdx).flatMap (fun (fn, fi) => (fn.segs.zipIdx).map (fun (s, si) => ((fi, si), s)))

theorem mem_allRefs {files : List FileNode} {r : Ref} {s : Seg} :
    (r, s) ∈ allRefs files ↔ C08.segAt files r = some s := by
  unfold allRefs C08.segAt
  simp only [List.mem_flatMap, List.mem_map, Prod.exists, List.mem_zipIdx_iff_getElem?, Prod.mk.injEq]
  constructor
  · rintro ⟨fn, fi, hf, s', si, hs, rfl, rfl⟩
    simp only [hf, hs]
  · intro h
    cases hf : files[r.1]? with
    | none => rw [hf] at h; cases h
    | some fn =>
      rw [hf] at h
      exact ⟨fn, r.1, hf, s, r.2, h, rfl, rfl⟩

def groupStep (max : Nat) (acc : List (List Ref) × List Ref × Nat) (r : Ref × Seg) : List (List Ref) × List Ref × Nat :=
  match r.2 with
  | Seg.stored .. => acc
  | Seg.mem buf _ =>
    if buf.length > max / 2 then (acc.1 ++ [[r.1]], acc.2.1, acc.2.2)
    else if acc.2.2 + buf.length > max then (acc.1 ++ [acc.2.1], [r.1], buf.length)
    else (acc.1, acc.2.1 ++ [r.1], acc.2.2 + buf.length)

theorem flushGroups_eq (max : Nat) (short : Bool) (files : List FileNode) :
    C08.flushGroups max short files =
      (if short then ((allRefs files).foldl (groupStep max) ([], [], 0)).1 ++ [((allRefs files).foldl (groupStep max) ([], [], 0)).2.1]
       else ((allRefs files).foldl (groupStep max) ([], [], 0)).1).filter (fun g => !g.isEmpty) := by
  unfold C08.flushGroups allRefs
  rfl

theorem mem_groupStep (max : Nat) (acc : List (List Ref) × List Ref × Nat) (x : Ref × Seg) (r : Ref) :
    r ∈ (groupStep max acc x).1.flatten ++ (groupStep max acc x).2.1 ↔
      r ∈ acc.1.flatten ++ acc.2.1 ∨ (r = x.1 ∧ x.2.isMem = true) := by
  unfold groupStep
  rcases x with ⟨r0, ⟨buf, fl⟩ | _⟩
  · simp only [Seg.isMem]
    split
    · simp [or_assoc, or_comm]
    · split <;> simp [or_assoc, or_comm]
  · simp [Seg.isMem]

theorem groupStep_covers (max : Nat) : ∀ (l : List (Ref × Seg)) (acc : List (List Ref) × List Ref × Nat) (r : Ref),
    (r ∈ acc.1.flatten ++ acc.2.1 ∨ ∃ buf fl, (r, Seg.mem buf fl) ∈ l) →
    ∃ g ∈ (l.foldl (groupStep max) acc).1 ++ [(l.foldl (groupStep max) acc).2.1], r ∈ g
  | [], acc, r, h => by simpa [or_and_right, exists_or] using h
  | x :: l, acc, r, h => by
    apply groupStep_covers max l
    rw [mem_groupStep]
    rcases h with h | ⟨buf, fl, h⟩
    · exact Or.inl (Or.inl h)
    · rcases List.mem_cons.mp h with rfl | h
      · exact Or.inl (Or.inr ⟨rfl, rfl⟩)
      · exact Or.inr ⟨buf, fl, h⟩

theorem flushGroups_covers (max : Nat) (files : List FileNode) (r : Ref) (buf : Bytes)
    (h : C08.refBuf files r = some buf) : r ∈ (C08.flushGroups max true files).flatten := by
  obtain ⟨fn, fl, hf, hs⟩ := C08.refBuf_some h
  have hs : C08.segAt files r = some (Seg.mem buf fl) := by unfold C08.segAt; rw [hf]; exact hs
  -- the group that holds `r` is not empty, so the filter keeps it
  obtain ⟨g, hg, hr⟩ := groupStep_covers max (allRefs files) ([], [], 0) r (Or.inr ⟨buf, fl, mem_allRefs.mpr hs⟩)
  rw [flushGroups_eq, if_pos rfl]
  exact List.mem_flatten.mpr ⟨g, List.mem_filter.mpr ⟨hg, by cases g with | nil => cases hr | cons => rfl⟩, hr⟩

theorem flushFilesK_no_mem (k : Keep) (files : List FileNode)
    (hall : allOk (C08.flushGroups max true files).length k = true) :
    ∀ fn ∈ (flushFilesK hash max k files true).2.1, ∀ s ∈ fn.segs, s.isMem = false := by
  intro fn hfn s hs
  unfold flushFilesK at hfn
  obtain ⟨i, hi⟩ := List.mem_iff_getElem?.mp hfn
  obtain ⟨j, hj⟩ := List.mem_iff_getElem?.mp hs
  have hleft := commitGroups_allOk (hash := hash) (C08.flushGroups max true files) k files true (i, j) hall
  cases s with
  | stored => rfl
  | mem buf fl =>
    exfalso
    have hat : C08.refBuf (commitGroups hash (C08.flushGroups max true files) (k, files, true)).2.1 (i, j) = some buf := by
      unfold C08.refBuf C08.segAt; simp only [hi, hj]
    rw [hat] at hleft
    cases hb : C08.refBuf files (i, j) with
    | none => simp [hb] at hleft
    | some b => simp [hb, flushGroups_covers max files (i, j) b hb] at hleft

theorem flushDir9_no_mem (k : Keep) (d : Dir9) (hall : allOk (dirGroups max d) k = true) :
    ∀ f ∈ (flushDir9 hash max k d).2.1.files, ∀ s ∈ f.2.segs, s.isMem = false := by
  unfold flushDir9
  unfold dirGroups at hall
  by_cases he : d.isEmpty = true
  · simp only [he, if_true]
    intro f hf
    rw [(Dir9.isEmpty_iff.mp he).1] at hf; cases hf
  · simp only [he, if_false, Bool.false_eq_true] at hall ⊢
    intro f hf s hs
    simp only [Dir9.setFiles] at hf
    exact flushFilesK_no_mem (hash := hash) k _ hall f.2 (List.of_mem_zip (a := f.1) (b := f.2) hf).2 s hs

theorem flushTree9_no_mem : ∀ (t : Tree9) (k : Keep), allOk (treeGroups max t) k = true →
    ∀ d ∈ (flushTree9 hash max k t).2.1, ∀ f ∈ d.files, ∀ s ∈ f.2.segs, s.isMem = false
  | [], _, _, d, hd => by simp [flushTree9] at hd
  | d0 :: rest, k, hall, d, hd => by
    unfold treeGroups at hall
    rw [allOk_add, Bool.and_eq_true] at hall
    unfold flushTree9 at hd
    simp only [List.mem_cons] at hd
    rcases hd with rfl | hd
    · exact flushDir9_no_mem (hash := hash) k d0 hall.1
    · exact flushTree9_no_mem rest _ (by rw [allOk_congr _ (flushDir9_script k d0).2]; exact hall.2) d hd

theorem foldl_groupStep_stored (max : Nat) (l : List (C08.Ref × Seg)) (acc : List (List C08.Ref) × List C08.Ref × Nat)
    (h : ∀ x ∈ l, x.2.isMem = false) : l.foldl (groupStep max) acc = acc := by
  refine Lib.foldl_fixed fun x hx => ?_
  unfold groupStep
  cases hs : x.2 with
  | stored => rfl
  | mem => have := h x hx; rw [hs] at this; cases this

theorem flushGroups_stored (max : Nat) (short : Bool) (files : List (Bytes × FileNode))
    (h : ∀ f ∈ files, ∀ s ∈ f.2.segs, s.isMem = false) : C08.flushGroups max short (files.map (·.2)) = [] := by
  rw [flushGroups_eq]
  rw [foldl_groupStep_stored max (allRefs (files.map (·.2))) ([], [], 0) (by
    intro x hx
    simp only [allRefs, List.mem_flatMap, List.mem_map, Prod.exists, List.mem_zipIdx_iff_getElem?] at hx
    obtain ⟨fn, fi, hfn, s, si, hs, rfl⟩ := hx
    obtain ⟨f, hf, rfl⟩ := List.mem_map.mp (List.mem_of_getElem? hfn)
    exact h f hf s (List.mem_of_getElem? hs))]
  cases short <;> rfl

theorem treeGroups_stored (max : Nat) : ∀ (t : Tree9), (∀ d ∈ t, ∀ f ∈ d.files, ∀ s ∈ f.2.segs, s.isMem = false) →
    treeGroups max t = 0
  | [], _ => rfl
  | d :: rest, h => by
    obtain ⟨hd, hr⟩ := List.forall_mem_cons.mp h
    unfold treeGroups
    rw [treeGroups_stored max rest hr]
    unfold dirGroups
    split
    · rfl
    · rw [flushGroups_stored max true _ hd]
      rfl

end ArvVerif.C09
