/-
C08, the loader: what each step of `loadManifest` does to the state, and that each step keeps the invariant `Inv`
(with no handles) and `TreeInv`.
-/
import ArvVerif.Proofs.C08_AbsFS
import ArvVerif.Proofs.C08_TreeInv
namespace ArvVerif.C08

variable {max : Nat} {hash : Bytes → Loc}

/-- What holds of a state and a directory in it, and is kept when the walk of `createFileAndParents` goes
up, goes down into an existing directory, or creates a missing one, holds where the walk ends. -/
theorem loadDirs_ind {Q : CFS → Nat → Prop}
    (hup : ∀ {s d}, Q s d → Q s (parentOf s.dirs d))
    (hdown : ∀ {s d name k}, Q s d → child s.ents d name = some (Node.dir k) → Q s k)
    (hnew : ∀ (impl : FileImpl FileNode Ptr Store) s d name, Q s d → Q (addNode impl s d name true).1 s.dirs.length)
    {comps : List String} {s : CFS} {d : Nat} {s' : CFS} {d' : Nat}
    (h1 : Q s d) (h2 : loadDirs s d comps = some (s', d')) : Q s' d' := by
  induction comps generalizing s d with
  | nil => cases h2; exact h1
  | cons name rest ih =>
    unfold loadDirs at h2
    split at h2
    · exact ih h1 h2
    · split at h2
      · split at h2
        · cases h2
        · exact ih (hup h1) h2
      · split at h2
        · exact ih (hnew (concImpl (fun _ => []) 1) s d name h1) h2
        · next k hc => exact ih (hdown h1 hc) h2
        · cases h2

/-- The loader calls `addNode` with `concImpl` at dummy parameters (`concImpl (fun _ => []) 1`, `concImpl hash 1`);
`addNode` reads only `newFile` from it, which is `FileNode.empty` whatever the parameters. -/
theorem addNode_false_eq (h : Bytes → Loc) (m : Nat) (s : CFS) (d : Nat) (name : String) :
    addNode (concImpl h m) s d name false =
      ({ s with files := s.files ++ [(name, FileNode.empty)], ents := setEnt s.ents d name (Node.file s.files.length) },
       Node.file s.files.length) := by
  simp [addNode, concImpl]

theorem loadFile_cases {s s' : CFS} {d f : Nat} {base : String} (h : loadFile hash s d base = some (s', f)) :
    s' = s ∨ s' = (addNode (concImpl hash 1) s d base false).1 := by
  unfold loadFile at h
  split at h
  · rw [addNode_false_eq] at h ⊢
    cases h; exact Or.inr rfl
  · cases h; exact Or.inl rfl
  · cases h

/-- What one file token does: the directories of its path are walked/created; then either nothing
more (a `.` token) or some segments are appended to the file named by the last component. -/
theorem loadTok_cases {dirname : String} {segs : List LoadSeg} {acc : Option (CFS × Nat × Nat)}
    {tok : Nat × Nat × String} {r : CFS × Nat × Nat} (hr : loadTok hash dirname segs acc tok = some r) :
    ∃ s segIdx pos s1 d, acc = some (s, segIdx, pos) ∧
      loadDirs s 0 (splitPath (dirname ++ "/" ++ tok.2.2)).dropLast = some (s1, d) ∧
      (r.1 = s1 ∨ ∃ base s2 f nf fuel i p, loadFile hash s1 d base = some (s2, f) ∧ s2.files[f]? = some nf ∧
        r.1 = setFile s2 f { nf.2 with
          segs := nf.2.segs ++ (loadToken segs tok.1 tok.2.1 fuel i p []).1,
          size := nf.2.size + sumLen (loadToken segs tok.1 tok.2.1 fuel i p []).1 }) := by
  unfold loadTok at hr
  -- the `split`s follow the matches and `if`s of `loadTok` in the order they are written
  split at hr
  · cases hr
  · next s segIdx pos =>
    simp only [] at hr
    split at hr
    · cases hr
    · next s1 d hd =>
      refine ⟨s, segIdx, pos, s1, d, rfl, hd, ?_⟩
      split at hr
      · split at hr
        · cases hr; exact Or.inl rfl
        · cases hr
      · have hr := (Option.ite_none_left_eq_some.mp hr).2
        split at hr
        · cases hr
        · next s2 f hlf =>
          have hr := (Option.ite_none_left_eq_some.mp hr).2
          split at hr
          · cases hr
          · next nm fn hfile => cases hr; exact Or.inr ⟨_, s2, f, (nm, fn), _, _, _, hlf, hfile, rfl⟩

theorem loadStream_cases {s s' : CFS} {dirname : String} {blocks : List Bytes} {toks : List (Nat × Nat × String)}
    (h : loadStream hash s dirname blocks toks = some s') :
    ∃ r, toks.foldl (loadTok hash dirname (blocks.map (fun b => (⟨hash b, b.length⟩ : LoadSeg))))
        (some ({ s with world := blocks.foldl (fun st b => Store.put hash st b) s.world }, 0, 0)) = some r ∧
      s' = r.1 := by
  unfold loadStream at h
  obtain ⟨r, hf, e⟩ := Option.map_eq_some_iff.mp (Option.ite_none_left_eq_some.mp h).2
  exact ⟨r, hf, e.symm⟩

theorem foldl_some_inv {α β : Type} {f : Option α → β → Option α} {Q : α → Prop}
    (hf : ∀ acc b r, (∀ a, acc = some a → Q a) → f acc b = some r → Q r)
    {l : List β} {acc : Option α} {r : α} (hacc : ∀ a, acc = some a → Q a) (hr : l.foldl f acc = some r) : Q r :=
  List.foldlRecOn l f (motive := fun acc => ∀ a, acc = some a → Q a) hacc (fun acc h b _ a => hf acc b a h) r hr

theorem loadManifest_ind {Q : CFS → Prop} (h0 : Q (FS.init (fun _ => none)))
    (hstep : ∀ {s s' : CFS} {dirname : String} {blocks : List Bytes} {toks : List (Nat × Nat × String)},
      Q s → loadStream hash s dirname blocks toks = some s' → Q s')
    {streams : List (String × List Bytes × List (Nat × Nat × String))} {s : CFS}
    (h : loadManifest hash streams = some s) : Q s := by
  refine foldl_some_inv ?_ (fun a ha => by cases ha; exact h0) h
  intro acc x r hacc hr
  cases acc with
  | none => cases hr
  | some s0 => exact hstep (hacc s0 rfl) hr

/-- What the loader keeps: `Inv` and no handles (appending segments to a file would invalidate pointers into it). -/
def LInv (max : Nat) (hash : Bytes → Loc) (s : CFS) : Prop := Inv max hash s ∧ s.handles = []

def BlocksIn (st : Store) (segs : List LoadSeg) : Prop :=
  ∀ sg ∈ segs, ∃ b, st sg.loc = some b ∧ b.length = sg.size

theorem puts_spec (hinj : Function.Injective hash) : ∀ (blocks : List Bytes) (st : Store), StoreOK hash st →
    StoreExt st (blocks.foldl (fun st b => Store.put hash st b) st) ∧
    StoreOK hash (blocks.foldl (fun st b => Store.put hash st b) st) ∧
    ∀ b ∈ blocks, (blocks.foldl (fun st b => Store.put hash st b) st) (hash b) = some b := by
  intro blocks
  induction blocks with
  | nil => intro st hok; exact ⟨StoreExt.refl _, hok, fun _ h => by cases h⟩
  | cons b rest ih =>
    intro st hok
    simp only [List.foldl_cons]
    obtain ⟨h1, h2, h3⟩ := ih (st.put hash b) (Store.put_ok hok b)
    refine ⟨(Store.put_ext hinj hok b).trans h1, h2, ?_⟩
    intro x hx
    rcases List.mem_cons.mp hx with h | h
    · rw [h]; exact h1 _ _ (Store.put_get hash st b)
    · exact h3 x h

theorem loadToken_wf {st : Store} {segs : List LoadSeg} (hb : BlocksIn st segs) {offset length fuel segIdx pos : Nat}
    {acc : List Seg} (hacc : ∀ s ∈ acc, SegWF max hash st s) :
    ∀ s ∈ (loadToken segs offset length fuel segIdx pos acc).1, SegWF max hash st s := by
  induction fuel generalizing segIdx pos acc with
  | zero => simpa [loadToken] using hacc
  | succ fuel ih =>
    unfold loadToken
    cases hsg : segs[segIdx]? with
    | none => simpa using hacc
    | some sg =>
      simp only []
      obtain ⟨b, hb1, hb2⟩ := hb sg (List.mem_of_getElem? hsg)
      by_cases h1 : (decide (pos + sg.size ≤ offset) || sg.size == 0) = true
      · rw [if_pos h1]; exact ih hacc
      · rw [if_neg h1]
        by_cases h2 : pos ≥ offset + length
        · rw [if_pos h2]; exact hacc
        · rw [if_neg h2]
          simp only [Bool.or_eq_true, decide_eq_true_eq, beq_iff_eq, not_or] at h1
          generalize hbo : (if pos < offset then offset - pos else 0) = blkOff
          generalize hbl : (if pos + blkOff + (sg.size - blkOff) > offset + length
              then offset + length - pos - blkOff else sg.size - blkOff) = blkLen
          have hroom : blkOff + blkLen ≤ sg.size := by
            rw [← hbl, ← hbo]; split <;> split <;> omega
          have hacc' : ∀ s ∈ (if blkLen > 0 then acc ++ [Seg.stored sg.loc sg.size blkOff blkLen] else acc),
              SegWF max hash st s := by
            intro s hs
            split at hs
            · rcases List.mem_append.mp hs with h | h
              · exact hacc s h
              · rw [List.mem_singleton.mp h]; exact ⟨‹_›, hroom, b, hb1, hb2⟩
            · exact hacc s hs
          by_cases h3 : pos + sg.size > offset + length
          · rw [if_pos h3]; exact hacc'
          · rw [if_neg h3]; exact ih hacc'

theorem loadDirs_inv {comps : List String} {s s' : CFS} {d d' : Nat} (h1 : LInv max hash s)
    (h2 : loadDirs s d comps = some (s', d')) : LInv max hash s' ∧ s'.world = s.world :=
  loadDirs_ind (Q := fun t _ => LInv max hash t ∧ t.world = s.world) (fun h => h) (fun h _ => h)
    (fun impl _ d name h => ⟨⟨h.1.1.addDir impl d name, h.1.2⟩, h.2⟩) ⟨h1, rfl⟩ h2

theorem loadFile_inv {s s' : CFS} {d f : Nat} {base : String} (h1 : LInv max hash s)
    (h2 : loadFile hash s d base = some (s', f)) : LInv max hash s' ∧ s'.world = s.world := by
  rcases loadFile_cases h2 with rfl | rfl
  · exact ⟨h1, rfl⟩
  · have hi := h1.1.addNode (max := max) d base false
    rw [addNode_false_eq] at hi ⊢
    exact ⟨⟨hi, h1.2⟩, rfl⟩

theorem LInv.appendSegs {s : CFS} (h1 : LInv max hash s) {f : Nat} {nf : String × FileNode}
    (hf : s.files[f]? = some nf) {newSegs : List Seg} (hnew : ∀ sg ∈ newSegs, SegWF max hash s.world sg) :
    LInv max hash (setFile s f { nf.2 with segs := nf.2.segs ++ newSegs, size := nf.2.size + sumLen newSegs }) := by
  obtain ⟨hwf, hrep⟩ := h1.1.files nf (List.mem_of_getElem? hf)
  unfold setFile
  rw [hf]
  refine ⟨⟨h1.1.ok, ?_, ?_, by simp only [List.length_set]; exact h1.1.ents⟩, h1.2⟩
  · intro x hx
    rcases List.mem_or_eq_of_mem_set hx with h | h
    · exact h1.1.files x h
    · rw [h]
      refine ⟨⟨?_, ?_⟩, hrep⟩
      · show nf.2.size + sumLen newSegs = sumLen (nf.2.segs ++ newSegs)
        rw [sumLen_append, hwf.size_eq]
      · intro sg hsg
        rcases List.mem_append.mp hsg with h' | h'
        · exact hwf.segs sg h'
        · exact hnew sg h'
  · intro e he
    rw [h1.2] at he; cases he

theorem loadTok_inv {dirname : String} {segs : List LoadSeg} {st : Store} (hb : BlocksIn st segs)
    (acc : Option (CFS × Nat × Nat)) (tok : Nat × Nat × String) (r : CFS × Nat × Nat)
    (hacc : ∀ a, acc = some a → LInv max hash a.1 ∧ a.1.world = st)
    (hr : loadTok hash dirname segs acc tok = some r) : LInv max hash r.1 ∧ r.1.world = st := by
  obtain ⟨s, segIdx, pos, s1, d, hacc', hd, hcase⟩ := loadTok_cases hr
  obtain ⟨hs1, hs2⟩ := hacc _ hacc'
  obtain ⟨hi1, hw1⟩ := loadDirs_inv hs1 hd
  rcases hcase with e | ⟨base, s2, f, nf, fuel, i, p, hlf, hfile, e⟩
  · rw [e]; exact ⟨hi1, hw1.trans hs2⟩
  · obtain ⟨hi2, hw2⟩ := loadFile_inv hi1 hlf
    have hw : s2.world = st := (hw2.trans hw1).trans hs2
    rw [e]
    refine ⟨hi2.appendSegs hfile (by rw [hw]; exact loadToken_wf hb (fun _ h => by cases h)), ?_⟩
    exact (setFile_world ..).trans hw

theorem loadStream_inv (hinj : Function.Injective hash) {s s' : CFS} {dirname : String} {blocks : List Bytes}
    {toks : List (Nat × Nat × String)} (h1 : LInv max hash s)
    (h2 : loadStream hash s dirname blocks toks = some s') : LInv max hash s' := by
  obtain ⟨r, hfold, e⟩ := loadStream_cases h2
  obtain ⟨p1, p2, p3⟩ := puts_spec hinj blocks s.world h1.1.ok
  have hB : BlocksIn (blocks.foldl (fun st b => Store.put hash st b) s.world)
      (blocks.map (fun b => (⟨hash b, b.length⟩ : LoadSeg))) := by
    intro sg hsg
    obtain ⟨b, hb, rfl⟩ := List.mem_map.mp hsg
    exact ⟨b, p3 b hb, rfl⟩
  rw [e]
  refine (foldl_some_inv (loadTok_inv (max := max) hB) ?_ hfold).1
  intro a ha
  cases ha
  exact ⟨⟨h1.1.ext_world p1 p2, h1.2⟩, rfl⟩

theorem loadDirs_tree {comps : List String} {s s' : CFS} {d d' : Nat} (h1 : TreeInv s) (hd : d < s.dirs.length)
    (h2 : loadDirs s d comps = some (s', d')) : TreeInv s' ∧ d' < s'.dirs.length := by
  refine loadDirs_ind (Q := fun t k => TreeInv t ∧ k < t.dirs.length) ?_ ?_ ?_ ⟨h1, hd⟩ h2
  · exact fun h => ⟨h.1, h.1.dirs.closed _ h.2⟩
  · intro _ _ _ k h hc
    obtain ⟨e, he1, he2⟩ := child_mem hc
    exact ⟨h.1, h.1.ents e he1 k he2⟩
  · exact fun impl t k name h => ⟨h.1.addNode impl h.2 name true, by simp [addNode]⟩

theorem loadFile_tree {s s' : CFS} {d f : Nat} {base : String} (h1 : TreeInv s) (hd : d < s.dirs.length)
    (h2 : loadFile hash s d base = some (s', f)) : TreeInv s' := by
  rcases loadFile_cases h2 with rfl | rfl
  · exact h1
  · exact h1.addNode (concImpl hash 1) hd base false

theorem loadTok_tree {dirname : String} {segs : List LoadSeg}
    (acc : Option (CFS × Nat × Nat)) (tok : Nat × Nat × String) (r : CFS × Nat × Nat)
    (hacc : ∀ a, acc = some a → TreeInv a.1) (hr : loadTok hash dirname segs acc tok = some r) : TreeInv r.1 := by
  obtain ⟨s, segIdx, pos, s1, d, hacc', hd, hcase⟩ := loadTok_cases hr
  have hs := hacc _ hacc'
  obtain ⟨ht1, hd1⟩ := loadDirs_tree hs hs.dirs.nonempty hd
  rcases hcase with e | ⟨base, s2, f, nf, fuel, i, p, hlf, hfile, e⟩
  · rw [e]; exact ht1
  · rw [e]; exact TreeInv.of_same (setFile_tree ..) (loadFile_tree ht1 hd1 hlf)

theorem loadStream_tree {s s' : CFS} {dirname : String} {blocks : List Bytes} {toks : List (Nat × Nat × String)}
    (h1 : TreeInv s) (h2 : loadStream hash s dirname blocks toks = some s') : TreeInv s' := by
  obtain ⟨r, hf, e⟩ := loadStream_cases h2
  rw [e]
  exact foldl_some_inv (Q := fun a => TreeInv a.1) loadTok_tree
    (fun a ha => by cases ha; exact TreeInv.of_same (b := s) ⟨rfl, rfl⟩ h1) hf

end ArvVerif.C08
