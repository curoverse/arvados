/-
C08 directory/handle layer, for every file implementation: what an operation of `step` can do to the
state. `Eff impl io s s'` is generated by the elementary updates `step` is made of; `step_eff` walks
`step` once and places every operation in it, so that a property of states kept by each elementary
update is kept by every operation (`Eff.tree` in `C08_TreeInv` is such a use).
-/
import ArvVerif.Proofs.C08_Dir
namespace ArvVerif.C08

/-- the operations that hand file content to the file layer's `write` or `flush` (and so may change
the world the files live in) -/
def Op.io : Op → Bool
  | Op.write .. => true
  | Op.hsync _ => true
  | Op.flush .. => true
  | Op.sync => true
  | _ => false

section
variable {F P W : Type}

/-- `s'` comes from `s` by elementary updates of `step`; those that go through the file layer's
`write` and `flush` only when `io` is set. -/
inductive Eff (impl : FileImpl F P W) (io : Bool) : FS F P W → FS F P W → Prop
  | refl (s : FS F P W) : Eff impl io s s
  | trans {s t u : FS F P W} : Eff impl io s t → Eff impl io t u → Eff impl io s u
  | handle (s : FS F P W) (h : Nat) (v : Handle P) : Eff impl io s (setHandle s h v)
  | close (s : FS F P W) (h : Nat) : Eff impl io s { s with handles := s.handles.filter (fun e => !(e.1 == h)) }
  | add {s : FS F P W} {comps : List String} {d : Nat} (name : String) (isDir : Bool) :
      lookupDir s comps = Except.ok d → Eff impl io s (addNode impl s d name isDir).1
  | erase (s : FS F P W) (d : Nat) (name : String) : Eff impl io s { s with ents := eraseEnt s.ents d name }
  | rename {s : FS F P W} {o nw : List String × String} {od nd : Nat} {n : Node} :
      RenOK s o nw od nd n → Eff impl io s (renamed s od o.2 nd (newName o nw) n)
  | trunc {s : FS F P W} {f : Nat} {nc : String × F} {n : Nat} {c : F} :
      s.files[f]? = some nc → impl.trunc nc.2 n = Except.ok c → Eff impl io s (setFile s f c)
  | write {s : FS F P W} {f : Nat} {nc : String × F} {p p' : P} {app : Bool} {data : Bytes} {w : W} {c : F} {n : Nat} :
      io = true → s.files[f]? = some nc → impl.write s.world nc.2 p app data = Except.ok (w, c, p', n) →
      Eff impl io s (setFile { s with world := w } f c)
  | flush (s : FS F P W) (short : Bool) (d : Nat) : io = true → Eff impl io s (flushDir impl short s d)

variable {impl : FileImpl F P W} {io : Bool}

theorem Eff.ite {α : Type} {s : FS F P W} {c : Prop} [Decidable c] {a b : FS F P W × α}
    (ha : Eff impl io s a.1) (hb : Eff impl io s b.1) : Eff impl io s (if c then a else b).1 := by
  split <;> assumption

theorem Eff.foldl {α : Type} {f : FS F P W → α → FS F P W} (hf : ∀ s a, Eff impl io s (f s a)) :
    ∀ (l : List α) (s : FS F P W), Eff impl io s (l.foldl f s) :=
  fun l s => List.foldlRecOn l f (motive := Eff impl io s) (.refl s) fun b hb a _ => hb.trans (hf b a)

theorem openFile_eff (s : FS F P W) (path : String) (acc : Nat) (app cre excl trunc sync dirPerm : Bool) :
    Eff impl io s (openFile impl s path acc app cre excl trunc sync dirPerm).1 := by
  rcases openFile_cases impl s path acc app cre excl trunc sync dirPerm with e | ⟨d, _, hl, e⟩ | ⟨f, nc, c, _, hf, hc, e⟩
  · rw [e]; exact .refl s
  · rw [e]; exact .add _ dirPerm hl
  · rw [e]; exact .trunc hf hc

theorem doOpen_eff (s : FS F P W) (h : Nat) (path : String) (acc : Nat) (app cre excl trunc sync dirPerm : Bool) :
    Eff impl io s (doOpen impl s h path acc app cre excl trunc sync dirPerm).1 := by
  unfold doOpen
  have ht := openFile_eff (impl := impl) (io := io) s path acc app cre excl trunc sync dirPerm
  generalize openFile impl s path acc app cre excl trunc sync dirPerm = r at ht
  obtain ⟨s', res⟩ := r
  cases res with
  | error e => exact ht
  | ok hd => exact ht.trans (.handle s' h hd)

theorem doMkdir_eff (s : FS F P W) (path : String) : Eff impl io s (doMkdir impl s path).1 := by
  unfold doMkdir
  obtain ⟨dcomps, name⟩ := splitDirBase path
  dsimp only
  cases hl : lookupDir s dcomps with
  | error e => exact .refl s
  | ok d =>
    refine Eff.ite (.refl s) ?_
    cases child s.ents d name with
    | some n => exact .refl s
    | none => exact .add name true hl

theorem doRemove_eff (s : FS F P W) (path : String) (rec : Bool) : Eff impl io s (doRemove s path rec).1 := by
  unfold doRemove
  obtain ⟨dcomps, name⟩ := splitDirBase (trimSlashes path)
  refine Eff.ite (.refl s) ?_
  cases lookupDir s dcomps with
  | error e => exact .refl s
  | ok d =>
    dsimp only
    cases child s.ents d name with
    | none => exact .refl s
    | some n => exact Eff.ite (.refl s) (.erase s d name)

theorem doRename_eff (s : FS F P W) (old new : String) : Eff impl io s (doRename s old new).1 := by
  have hspec := renameCheck_spec s old new
  rw [doRename_eq]
  cases hr : renameCheck s old new with
  | error e => exact .refl s
  | ok t =>
    rw [hr] at hspec
    obtain ⟨od, oldname, nd, newname, n⟩ := t
    obtain ⟨rfl, rfl, h⟩ := hspec
    exact .rename h

theorem handleRead_eff (s : FS F P W) (h : Nat) (hd : Handle P) (n : Nat) :
    Eff impl io s (handleRead impl s h hd n).1 := by
  unfold handleRead
  refine Eff.ite (.refl s) ?_
  cases hd.node with
  | dir d => exact .handle ..
  | file f =>
    dsimp only
    cases s.files[f]? with
    | none => exact .refl s
    | some nc =>
      dsimp only
      cases impl.read s.world nc.2 hd.ptr n with
      | error e => exact .refl s
      | ok r => exact .handle ..

theorem readLoop_eff : ∀ (fuel : Nat) (s : FS F P W) (h want : Nat) (acc : Bytes),
    Eff impl io s (readLoop impl fuel s h want acc).1 := by
  intro fuel
  induction fuel with
  | zero => intro s h want acc; exact .refl s
  | succ fuel ih =>
    intro s h want acc
    unfold readLoop
    refine Eff.ite (.refl s) ?_
    cases getHandle s h with
    | none => exact .refl s
    | some hd =>
      dsimp only
      have hr := handleRead_eff (impl := impl) (io := io) s h hd (want - acc.length)
      generalize handleRead impl s h hd (want - acc.length) = r at hr
      exact Eff.ite (hr.trans (ih ..)) hr

theorem doSync_eff (s : FS F P W) : Eff impl true s (doSync impl s).1 :=
  Eff.foldl (fun s d => .flush s true d rfl) _ s

theorem doFlush_eff (s : FS F P W) (path : String) (short : Bool) : Eff impl true s (doFlush impl s path short).1 := by
  unfold doFlush
  cases walk s.ents s.dirs (Node.dir 0) (splitPath path) with
  | error e => exact .refl s
  | ok n =>
    cases n with
    | file f => exact .refl s
    | dir d => exact Eff.foldl (fun s d => .flush s short d rfl) _ s

theorem step_eff (impl : FileImpl F P W) (s : FS F P W) (op : Op) : Eff impl op.io s (step impl s op).1 := by
  cases op with
  | openF hn path acc app cre excl trunc sync dirPerm => exact doOpen_eff ..
  | create hn path => exact doOpen_eff ..
  | mkdir path => exact doMkdir_eff s path
  | rename a b => exact doRename_eff s a b
  | remove path => exact doRemove_eff s path false
  | removeAll path => exact doRemove_eff s path true
  | flush path short => exact doFlush_eff s path short
  | sync => exact doSync_eff s
  | stat path =>
    simp only [step]
    cases walk s.ents s.dirs (Node.dir 0) (splitPath path) <;> exact .refl s
  | readdir path =>
    simp only [step]
    generalize openFile impl s path 0 false false false false false false = r
    obtain ⟨s', res⟩ := r
    cases res with
    | error e => exact .refl s
    | ok hd => dsimp only; cases hd.node <;> exact .refl s
  | hsync hn =>
    simp only [step]
    cases getHandle s hn with
    | none => exact .refl s
    | some _ => exact doSync_eff s
  | write hn data =>
    simp only [step]
    cases getHandle s hn with
    | none => exact .refl s
    | some hd =>
      dsimp only
      refine Eff.ite (.refl s) ?_
      cases hd.node with
      | dir d => exact .handle ..
      | file f =>
        dsimp only
        cases hf : s.files[f]? with
        | none => exact .refl s
        | some nc =>
          dsimp only
          cases hw : impl.write s.world nc.2 hd.ptr hd.app data with
          | error e => exact .refl s
          | ok r =>
            obtain ⟨w, c', p, n⟩ := r
            exact (Eff.write rfl hf hw).trans (.handle ..)
  | read hn n =>
    simp only [step]
    cases getHandle s hn with
    | none => exact .refl s
    | some hd => exact handleRead_eff s hn hd n
  | readn hn n =>
    simp only [step]
    cases getHandle s hn with
    | none => exact .refl s
    | some hd => exact readLoop_eff (n + 2) s hn n []
  | seek hn off whence =>
    simp only [step]
    cases getHandle s hn with
    | none => exact .refl s
    | some hd => exact Eff.ite (.refl s) (.handle ..)
  | trunc hn size =>
    simp only [step]
    cases getHandle s hn with
    | none => exact .refl s
    | some hd =>
      dsimp only
      cases hd.node with
      | dir d => exact .refl s
      | file f =>
        dsimp only
        cases hf : s.files[f]? with
        | none => exact .refl s
        | some nc =>
          dsimp only
          cases hc : impl.trunc nc.2 size with
          | error e => exact .refl s
          | ok c' => exact .trunc hf hc
  | close hn =>
    simp only [step]
    cases getHandle s hn with
    | none => exact .refl s
    | some _ => exact .close s hn
  | hstat hn =>
    simp only [step]
    cases getHandle s hn <;> exact .refl s
  | hreaddir hn =>
    simp only [step]
    cases getHandle s hn with
    | none => exact .refl s
    | some hd => dsimp only; cases hd.node <;> exact .refl s

end
end ArvVerif.C08
