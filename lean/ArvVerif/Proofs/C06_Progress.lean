/-
C06(a) proofs: the termination measure.  On a table that does not change, every loop iteration
strictly decreases  μ = 3·(number of rows after the cursor in (modified_at, uuid) order) + rank(mode),
rank(first page, `>=`) = 2, rank(`=`) = 1, rank(`>`) = 0, for any server whose pages satisfy `PageOf`.
-/
import ArvVerif.Proofs.C06_Paging
namespace ArvVerif.C06

def aheadCount (db : List Coll) (last : Option Key) : Nat :=
  match last with
  | none => db.length
  | some k => (db.filter (fun c => decide (klt k c.key))).length

def rank : Filt → Nat
  | .all => 2
  | .ge _ _ => 2
  | .eq _ _ => 1
  | .gt _ => 0

def mu (db : List Coll) (s : St) : Nat := 3 * aheadCount db s.last + rank s.filt

theorem rank_le (f : Filt) : rank f ≤ 2 := by cases f <;> simp [rank]

theorem filter_length_lt {α} (p q : α → Bool) (l : List α) (himp : ∀ x ∈ l, q x = true → p x = true)
    (hex : ∃ a ∈ l, p a = true ∧ q a = false) : (l.filter q).length < (l.filter p).length := by
  obtain ⟨a, ha, hpa, hqa⟩ := hex
  have : l.filter q = (l.filter p).filter q := by
    rw [List.filter_filter]
    exact List.filter_congr fun x hx => by cases hq : q x <;> simp [himp x hx, hq]
  rw [this]
  exact List.length_filter_lt_length_iff_exists.2 ⟨a, List.mem_filter.2 ⟨ha, hpa⟩, by simp [hqa]⟩

theorem aheadCount_le (db : List Coll) (last : Option Key) : aheadCount db last ≤ db.length := by
  unfold aheadCount
  split
  · exact Nat.le_refl _
  · exact List.length_filter_le _ _

theorem mu_le (db : List Coll) (s : St) : mu db s ≤ 3 * db.length + 2 := by
  unfold mu
  have := aheadCount_le db s.last
  have := rank_le s.filt
  omega

theorem aheadCount_lt {db : List Coll} {last : Option Key} {p : Coll} (hp : p ∈ db) (ha : ahead last p) :
    aheadCount db (some p.key) < aheadCount db last := by
  unfold aheadCount
  cases last with
  | none => exact List.length_filter_lt_length_iff_exists.2 ⟨p, hp, by simp [klt]⟩
  | some k =>
    simp only
    apply filter_length_lt
    · intro x _ hx
      simp only [decide_eq_true_eq] at hx ⊢
      exact klt_trans ha hx
    · exact ⟨p, hp, by simpa [ahead] using ha, by simp [klt]⟩

theorem mu_decreases {P db s limit pg s' cbFail} (h : Inv P db s) (hp : PageOf db s.filt limit pg)
    (hn : next cbFail s pg = .cont s') : mu db s' < mu db s := by
  obtain ⟨-, -, ⟨-, hft, hex⟩, hlast⟩ := after_page h hp
  -- the cursor either advanced to a row of the table, or stayed; a non-empty page leaves it only
  -- under the `>=` filter, when every row is skipped
  have hA : aheadCount db (processPage s pg).last < aheadCount db s.last ∨
      ((processPage s pg).last = s.last ∧ (pg ≠ [] → ∃ t u, s.filt = .ge t u)) := by
    rcases hlast with ⟨h1, h2⟩ | ⟨p, hpp, h1, h2⟩
    · refine .inr ⟨h2, fun hne => Classical.byContradiction fun hge => ?_⟩
      obtain ⟨a, t, rfl⟩ := List.exists_cons_of_ne_nil hne
      have := (skip_ahead h (hp.sub a (by simp)).2).2 fun t u hf => hge ⟨t, u, hf⟩
      rw [h1 a (by simp)] at this
      cases this
    · exact .inl (h1 ▸ aheadCount_lt (hp.sub p hpp).1 h2)
  have hr := rank_le s.filt
  obtain ⟨lt, lu, hl, hne, ⟨he, -, rfl⟩ | ⟨-, hex', rfl⟩ | ⟨hc, hex', rfl⟩⟩ :=
    advance_cont (next_advance hn nofun).1
  all_goals simp only [mu, rank]
  · rcases hA with hlt | ⟨hsame, hge⟩
    · omega
    · obtain ⟨t, u, hf⟩ := hge (List.isEmpty_eq_false_iff.1 he)
      rw [hsame, hf]
      simp only
      omega
  · obtain ⟨t, u, hf, -, -⟩ := eq_of_exact h (hex ▸ hex')
    have : aheadCount db (processPage s pg).last ≤ aheadCount db s.last := by
      rcases hA with hlt | ⟨hsame, -⟩
      · omega
      · rw [hsame]; exact Nat.le_refl _
    rw [hf]
    simp only
    omega
  · rcases hA with hlt | ⟨hsame, hge⟩
    · omega
    · -- the cursor cannot have stayed: it would still carry the filter time
      have he : pg.isEmpty = false :=
        Bool.eq_false_iff.2 fun hb => Bool.false_ne_true (hex'.symm.trans (hne hb))
      obtain ⟨t, u, hf⟩ := hge (List.isEmpty_eq_false_iff.1 he)
      have hm := h.mode
      rw [hf] at hm
      rw [hsame, hm.1] at hl
      exact (hc ⟨he, ((Prod.mk.inj (Option.some.inj hl)).1.symm.trans hm.2.1.symm).trans hft.symm⟩).elim

end ArvVerif.C06
