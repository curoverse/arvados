/-
C07: the whitespace layout of a text. Every string is, in exactly one way (`exists_layout`,
`layoutOf_render`), a first whitespace-free field followed by (whitespace character, field) pairs
(`render`); `mapFields f` applies `f` to the fields of that layout and changes nothing else.
-/
import ArvVerif.Model.C07
namespace ArvVerif.C07

def NoSpace (s : Str) : Prop := ∀ c ∈ s, isSpace c = false

def render (f0 : Str) (rest : List (Char × Str)) : Str :=
  f0 ++ rest.flatMap (fun p => p.1 :: p.2)

structure IsLayout (f0 : Str) (rest : List (Char × Str)) : Prop where
  first : NoSpace f0
  seps : ∀ p ∈ rest, isSpace p.1 = true
  fields : ∀ p ∈ rest, NoSpace p.2

theorem render_cons (f0 : Str) (c : Char) (g : Str) (rest : List (Char × Str)) :
    render f0 ((c, g) :: rest) = f0 ++ c :: render g rest := by
  simp [render]

theorem isLayout_cons {f0 g : Str} {c : Char} {rest : List (Char × Str)} :
    IsLayout f0 ((c, g) :: rest) ↔ NoSpace f0 ∧ isSpace c = true ∧ IsLayout g rest :=
  ⟨fun h => ⟨h.first, (List.forall_mem_cons.mp h.seps).1, (List.forall_mem_cons.mp h.fields).1,
      (List.forall_mem_cons.mp h.seps).2, (List.forall_mem_cons.mp h.fields).2⟩,
    fun ⟨h0, hc, h⟩ => ⟨h0, List.forall_mem_cons.mpr ⟨hc, h.seps⟩,
      List.forall_mem_cons.mpr ⟨h.first, h.fields⟩⟩⟩

theorem isLayout_map {f : Str → Str} (hf : ∀ t, NoSpace t → NoSpace (f t)) {f0 : Str}
    {rest : List (Char × Str)} (hl : IsLayout f0 rest) :
    IsLayout (f f0) (rest.map fun p => (p.1, f p.2)) :=
  ⟨hf _ hl.first, fun _ hp => by obtain ⟨q, hq, rfl⟩ := List.mem_map.mp hp; exact hl.seps q hq,
    fun _ hp => by obtain ⟨q, hq, rfl⟩ := List.mem_map.mp hp; exact hf _ (hl.fields q hq)⟩

theorem exists_layout (m : Str) : ∃ f0 rest, IsLayout f0 rest ∧ m = render f0 rest := by
  induction m with
  | nil => exact ⟨[], [], ⟨nofun, nofun, nofun⟩, rfl⟩
  | cons c cs ih =>
    obtain ⟨f0, rest, hl, rfl⟩ := ih
    cases hc : isSpace c with
    | true => exact ⟨[], (c, f0) :: rest, isLayout_cons.mpr ⟨nofun, hc, hl⟩, by simp [render]⟩
    | false =>
      refine ⟨c :: f0, rest, ⟨List.forall_mem_cons.mpr ⟨hc, hl.first⟩, hl.seps, hl.fields⟩, rfl⟩

/-- the layout read off the text; it serves uniqueness only (`layoutOf_render`) -/
def layoutOf : Str → Str × List (Char × Str)
  | [] => ([], [])
  | c :: cs =>
    if isSpace c then ([], (c, (layoutOf cs).1) :: (layoutOf cs).2)
    else (c :: (layoutOf cs).1, (layoutOf cs).2)

theorem layoutOf_append {a : Str} (t : Str) (ha : NoSpace a) :
    layoutOf (a ++ t) = (a ++ (layoutOf t).1, (layoutOf t).2) := by
  induction a with
  | nil => rfl
  | cons c cs ih =>
    obtain ⟨hc, hcs⟩ := List.forall_mem_cons.mp ha
    simp [layoutOf, hc, ih hcs]

theorem layoutOf_render {f0 : Str} {rest : List (Char × Str)} (hl : IsLayout f0 rest) :
    layoutOf (render f0 rest) = (f0, rest) := by
  induction rest generalizing f0 with
  | nil => simpa [render, layoutOf] using layoutOf_append [] hl.first
  | cons p rest ih =>
    obtain ⟨c, g⟩ := p
    obtain ⟨h0, hc, hl'⟩ := isLayout_cons.mp hl
    rw [render_cons, layoutOf_append _ h0, layoutOf, if_pos hc, ih hl', List.append_nil]

theorem mapFields_noSpace (f : Str → Str) (cur a : Str) (tail : Str) (ha : NoSpace a) :
    mapFields f cur (a ++ tail) = mapFields f (cur ++ a) tail := by
  induction a generalizing cur with
  | nil => simp
  | cons c cs ih =>
    obtain ⟨hc, hcs⟩ := List.forall_mem_cons.mp ha
    simp only [List.cons_append, mapFields, hc, Bool.false_eq_true, if_false]
    rw [ih _ hcs]
    simp

theorem mapFields_render (f : Str → Str) (cur f0 : Str) (rest : List (Char × Str))
    (hl : IsLayout f0 rest) :
    mapFields f cur (render f0 rest) = render (f (cur ++ f0)) (rest.map (fun p => (p.1, f p.2))) := by
  induction rest generalizing cur f0 with
  | nil => simpa [render, mapFields] using mapFields_noSpace f cur f0 [] hl.first
  | cons p rest ih =>
    obtain ⟨c, g⟩ := p
    obtain ⟨h0, hc, hl'⟩ := isLayout_cons.mp hl
    rw [render_cons, mapFields_noSpace f cur f0 _ h0]
    simp only [mapFields, hc, if_true]
    rw [ih [] g hl']
    simp [render]

theorem filter_isSpace_render {f0 : Str} {rest : List (Char × Str)} (hl : IsLayout f0 rest) :
    (render f0 rest).filter isSpace = rest.map (·.1) := by
  have h0 : ∀ a : Str, NoSpace a → a.filter isSpace = [] := fun a ha =>
    List.filter_eq_nil_iff.mpr fun c hc => by simp [ha c hc]
  induction rest generalizing f0 with
  | nil => simp [render, h0 f0 hl.first]
  | cons p rest ih =>
    obtain ⟨c, g⟩ := p
    obtain ⟨hf, hc, hl'⟩ := isLayout_cons.mp hl
    rw [render_cons, List.filter_append, h0 f0 hf, List.nil_append, List.filter_cons, if_pos hc,
      ih hl']
    rfl

end ArvVerif.C07
