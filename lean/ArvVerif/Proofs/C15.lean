import ArvVerif.Model.C15
import ArvVerif.Props.C14_L2
namespace ArvVerif.C15
open ArvVerif.C14

theorem find_updateWorker_other {p : Pool} {l : Pool.Listed} {now i : Nat} (h : l.id ≠ i) :
    (p.updateWorker l now).find i = p.find i := by
  unfold Pool.updateWorker
  cases hf : p.find l.id with
  | some w => exact (Pool.find_put ..).trans (if_neg fun e => h ((Pool.mem_of_find hf).2.symm.trans e.symm))
  | none => simp [Pool.find, List.find?_append, h]

theorem find_updateWorker_self (p : Pool) (l : Pool.Listed) (now : Nat) (w : Worker) (hf : p.find l.id = some w) :
    (p.updateWorker l now).find l.id = some { w with updated := now } := by
  unfold Pool.updateWorker
  rw [hf]
  exact (Pool.find_put ..).trans ((if_pos (Pool.mem_of_find hf).2.symm).trans (congrArg _ hf))

theorem poolSync_fst (p : Pool) (threshold : Nat) (listed : List Pool.Listed) (retry : Nat → Bool) (now : Nat) :
    (poolSync p threshold listed retry now).1 = p.sync threshold listed retry now := by
  unfold poolSync Pool.sync
  dsimp only
  -- the first component of the fold is the fold of the first component; what is left to show is
  -- that one `syncStep` does to the pool what one step of `Pool.sync` does
  rw [← List.foldl_hom Prod.fst (g₁ := syncStep retry now) (init := (p, [])) (l := listed)]
  intro acc l
  unfold syncStep
  dsimp only
  cases (acc.1.updateWorker l now).find l.id with
  | none => rfl
  | some w => dsimp only; split <;> rfl

section
variable (retry : Nat → Bool) (now : Nat)

theorem syncStep_mono (acc : Pool × List Nat) (l : Pool.Listed) (x : Nat)
    (h : x ∈ acc.2) : x ∈ (syncStep retry now acc l).2 := by
  unfold syncStep
  dsimp only
  split
  · split
    · exact List.mem_append_left _ h
    · exact h
  · exact h

theorem fold_mono (ls : List Pool.Listed) (acc : Pool × List Nat) (x : Nat)
    (h : x ∈ acc.2) : x ∈ (ls.foldl (syncStep retry now) acc).2 :=
  List.foldlRecOn ls _ (motive := (x ∈ ·.2)) h fun a ha l _ => syncStep_mono retry now a l x ha

theorem syncStep_other (acc : Pool × List Nat) (l : Pool.Listed) (i : Nat)
    (h : l.id ≠ i) : (syncStep retry now acc l).1.find i = acc.1.find i := by
  unfold syncStep
  dsimp only
  split
  · rename_i w hw
    split
    · exact ((Pool.find_put ..).trans (if_neg fun e => h ((Pool.mem_of_find hw).2.symm.trans e.symm))).trans
        (find_updateWorker_other h)
    · exact find_updateWorker_other h
  · exact find_updateWorker_other h

theorem syncStep_retry (acc : Pool × List Nat) (l : Pool.Listed) (w : Worker)
    (hf : acc.1.find l.id = some w) (hs : w.state = .shutdown) (hr : retry l.id = true) :
    l.id ∈ (syncStep retry now acc l).2 ∧
    (syncStep retry now acc l).1.find l.id = some (({ w with updated := now } : Worker).shutdown now) := by
  have hu := find_updateWorker_self acc.1 l now w hf
  unfold syncStep
  dsimp only
  rw [hu, hf]
  simp only [Option.isSome_some, hs, beq_self_eq_true, hr, Bool.and_self, if_true]
  exact ⟨List.mem_append_right _ List.mem_cons_self,
    (Pool.find_put ..).trans ((if_pos (Pool.mem_of_find hf).2.symm).trans (congrArg _ hu))⟩

theorem fold_other (i : Nat) (xs : List Pool.Listed) (acc : Pool × List Nat)
    (h : ∀ x ∈ xs, x.id ≠ i) : (xs.foldl (syncStep retry now) acc).1.find i = acc.1.find i :=
  List.foldlRecOn xs _ (motive := (·.1.find i = acc.1.find i)) rfl
    fun a ha x hx => (syncStep_other retry now a x i (h x hx)).trans ha

end

theorem probeApply_timeout (w : Worker) (p : Probe) (now : Nat) (hh : w.idleB ≠ .hold)
    (hf : (w.drainStep p now).probeFailed p = true) (ht : p.timedOut = true) :
    (w.probeApply p now).1.state = .shutdown := by
  unfold Worker.probeApply
  dsimp only
  rw [if_pos hf]
  unfold Worker.applyFailed
  split
  · rename_i h
    simp only [Bool.and_eq_true, beq_iff_eq] at h
    exact h.1
  · have hib : (w.drainStep p now).idleB ≠ .hold := by
      rw [Worker.drainStep_idleB]
      split
      · intro h; cases h
      · exact hh
    have : ((w.drainStep p now).idleB != .hold && p.timedOut) = true := by
      simp [ht, hib]
    rw [if_pos this]
    rfl

theorem probeAndUpdate_of_ne {w : Worker} {T : Timeouts} {gu : List Uuid} {pi : ProbeIn} {now : Nat}
    (hs : w.state ≠ .shutdown) : probeAndUpdate w T gu pi now = w.probeApply (mkProbe w T gu pi) now := by
  unfold probeAndUpdate
  rw [if_neg (by simpa using hs)]

theorem runSync_cons (x : ListRes) (rest : List ListRes) :
    runSync (x :: rest) = .list x :: .rearm :: runSync rest := rfl

theorem onUnkillable_idleB (w : Worker) (gu : List Uuid) (now : Nat) :
    (onUnkillable w gu now).idleB = if w.idleB = .hold then .hold else .drain := by
  unfold onUnkillable
  by_cases h : w.idleB = .hold
  · simp [h]
  · have : (w.idleB == .hold) = false := by simpa using h
    rw [this, if_neg h]
    exact Worker.setIdleBehavior_idleB w .drain false _ now

/-- one clause for each way the Kill goroutine can end -/
theorem killRun_spec (T : Timeouts) (u : Uuid) (now : Nat) (script : List KTick) (s : KState) :
    ((killRun T u now script s).2 = .waiting → ∀ t ∈ script, t.elapsed ≤ T.term) ∧
    ((killRun T u now script s).2 = .closed → tracked s.w u = false ∨ ∃ t ∈ script, t.sigOk = true) ∧
    ((killRun T u now script s).2 = .gaveUp → u ∈ (killRun T u now script s).1.gu ∧
      (killRun T u now script s).1.w.idleB = if s.w.idleB = .hold then .hold else .drain) := by
  fun_induction killRun T u now script s with
  | case1 => exact ⟨fun _ _ h => (nomatch h), nofun, nofun⟩
  | case2 t rest s h => exact ⟨nofun, fun _ => .inl (by simpa using h), nofun⟩
  | case3 t rest s => exact ⟨nofun, nofun, fun _ => ⟨List.mem_cons_self, onUnkillable_idleB s.w (u :: s.gu) now⟩⟩
  | case4 t rest s _ hle hs r ih =>
    -- a kill command that succeeds closes the runner, which leaves the idle behaviour alone
    have hib : r.1.idleB = s.w.idleB := Worker.closeRunner_idleB s.w u now
    rw [← hib]
    exact ⟨fun h => List.forall_mem_cons.mpr ⟨Nat.le_of_not_lt hle, ih.1 h⟩,
      fun _ => .inr ⟨t, List.mem_cons_self, hs⟩, ih.2.2⟩
  | case5 t rest s _ hle _ ih =>
    exact ⟨fun h => List.forall_mem_cons.mpr ⟨Nat.le_of_not_lt hle, ih.1 h⟩,
      fun h => (ih.2.1 h).imp id fun ⟨x, hx, hp⟩ => ⟨x, List.mem_cons_of_mem _ hx, hp⟩, ih.2.2⟩

/-- one clause for each way `fixStaleLocks` can be found: still waiting, or returned -/
theorem fslRun_spec (script : List (FslSnap × Wake)) (stale : List Uuid) :
    (fslRun script stale = none → ∀ x ∈ script, x.1.anyUnknown = true ∧ x.2 = .notify) ∧
    ∀ us, fslRun script stale = some us → ∀ u,
      (∀ x ∈ script, x.1.anyUnknown = true → u ∈ staleLocks x.1.entries x.1.running) →
      (u ∈ stale ∨ ∃ x, script.head? = some x ∧ x.1.anyUnknown = true) → u ∈ us := by
  fun_induction fslRun script stale with
  | case1 => exact ⟨fun _ _ h => (nomatch h), nofun⟩
  | case2 s wk rest stale hunk =>
    refine ⟨nofun, fun us h u _ hinit => Option.some.inj h ▸ hinit.elim id fun ⟨x, hx, hx'⟩ => ?_⟩
    cases hx
    have : s.anyUnknown = true := hx'
    rw [this] at hunk; cases hunk
  | case3 s wk rest stale hunk st hemp =>
    refine ⟨nofun, fun us _ u hall _ => ?_⟩
    have hu : u ∈ st := hall (s, wk) List.mem_cons_self (Bool.not_not_eq.mp hunk)
    rw [List.isEmpty_iff.mp hemp] at hu; cases hu
  | case4 s rest stale hunk st _ =>
    exact ⟨nofun, fun us h u hall _ => Option.some.inj h ▸ hall (s, .timeout) List.mem_cons_self (Bool.not_not_eq.mp hunk)⟩
  | case5 s rest stale hunk st _ ih =>
    exact ⟨fun h => List.forall_mem_cons.mpr ⟨⟨Bool.not_not_eq.mp hunk, rfl⟩, ih.1 h⟩,
      fun us h u hall _ => ih.2 us h u (fun y hy => hall y (List.mem_cons_of_mem _ hy))
        (Or.inl (hall (s, .notify) List.mem_cons_self (Bool.not_not_eq.mp hunk)))⟩

end ArvVerif.C15
