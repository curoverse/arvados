/-
C17 — `NoCollide` derived. If every mount beneath the output path is a mount point that the entry
loop skips and it and the directories above it are real host directories (`MountsReal`: what a
container that could be started looks like), then what the mounted collections contribute and what
the host walk plans never claim the same output path.
-/
import ArvVerif.Proofs.C17_Det
import ArvVerif.Proofs.C17_Load
import ArvVerif.Proofs.C17_RunPlan
import ArvVerif.Proofs.C17_Sound
import ArvVerif.Proofs.C17_ScanShape
namespace ArvVerif.C17

structure MountsReal (h : Host) (cfg : Cfg) : Prop where
  skip : ∀ e ∈ cfg.mounts, ProperPrefix cfg.ctrOut e.1 → copyRegular e.2 = false → skipMount cfg e.1 = true
  real : ∀ e ∈ cfg.mounts, ProperPrefix cfg.ctrOut e.1 → copyRegular e.2 = false →
    ∀ y, ProperPrefix cfg.ctrOut y → y.isPrefixOf e.1 = true → nodeAt h cfg y = some .dir

/-- `MountsReal` as finitely many conditions, for concrete configurations -/
theorem MountsReal.of_range {h : Host} {cfg : Cfg}
    (hskip : ∀ e ∈ cfg.mounts, ProperPrefix cfg.ctrOut e.1 → copyRegular e.2 = false → skipMount cfg e.1 = true)
    (hreal : ∀ e ∈ cfg.mounts, ProperPrefix cfg.ctrOut e.1 → copyRegular e.2 = false →
      ∀ k ∈ List.range (e.1.length + 1), ProperPrefix cfg.ctrOut (e.1.take k) → nodeAt h cfg (e.1.take k) = some .dir) :
    MountsReal h cfg := by
  refine ⟨hskip, fun e he hp hc y hy hye => ?_⟩
  have hpre := List.isPrefixOf_iff_prefix.mp hye
  rw [List.prefix_iff_eq_take.mp hpre] at hy ⊢
  exact hreal e he hp hc _ (List.mem_range.mpr (Nat.lt_succ_of_le hpre.length_le)) hy

theorem link_blocks {h : Host} {cfg : Cfg} {d s0 : Path} {ab : Bool} {t : Path} (hs0 : Shows h cfg d s0)
    (hn0 : nodeAt h cfg s0 = some (.link ab t)) (hno : ¬ InOut cfg (linkTarget s0 ab t)) {r s : Path}
    (hs : Shows h cfg (d ++ r) s) (hn : NonLink h cfg s) : False := by
  have hal := shows_all_links h cfg d s0 ab t hs0 hn0 hno
  by_cases hr : r = []
  · subst hr
    obtain ⟨ab, t, hl⟩ := hal s (by simpa using hs)
    exact hn ab t hl
  · obtain ⟨s0, hs0, hd0⟩ := shows_parent_dir r hr hs
    obtain ⟨ab, t, hl⟩ := hal s0 hs0
    rw [hd0] at hl; cases hl

theorem children_ne_of_child {h : Host} {cfg : Cfg} {s : Path} {c : Name} {n : Node}
    (hpre : cfg.ctrOut.isPrefixOf s = true) (hn : nodeAt h cfg (s ++ [c]) = some n) :
    h.children (hostPath cfg s) ≠ [] := by
  rw [nodeAt_child h c hpre] at hn
  have hm := mem_of_get h _ _ (by simp) hn
  have := children_of_mem h (hostPath cfg s) c n hm
  intro h0; rw [h0] at this; cases this

structure BelowJump (h : Host) (cfg : Cfg) (d x mnt : Path) (m : Mount) : Prop where
  shows : Shows h cfg d x
  inOut : InOut cfg x
  mem : (mnt, m) ∈ cfg.mounts
  pre : x.isPrefixOf mnt = true
  lt : x.length < mnt.length
  notRegular : copyRegular m = false

theorem BelowJump.proper {h : Host} {cfg : Cfg} {d x mnt : Path} {m : Mount} (b : BelowJump h cfg d x mnt m) :
    ProperPrefix cfg.ctrOut mnt :=
  properPrefix_of_prefix (inOut_pre cfg x b.inOut) ⟨b.pre, b.lt⟩

theorem BelowJump.dirAt {h : Host} {cfg : Cfg} {d x mnt : Path} {m : Mount} (b : BelowJump h cfg d x mnt m)
    (mr : MountsReal h cfg) (hout : h.get cfg.hostOut = some .dir) (r1 r2 : Path) (hm : mnt = x ++ r1 ++ r2) :
    nodeAt h cfg (x ++ r1) = some .dir := by
  have hp := isPrefixOf_append_right _ _ r1 (inOut_pre cfg x b.inOut)
  by_cases hl : (x ++ r1).length = cfg.ctrOut.length
  · rw [← isPrefixOf_eq_of_length _ _ hp (by omega)]; unfold nodeAt; rw [hostPath_out]; exact hout
  · refine mr.real (mnt, m) b.mem b.proper b.notRegular (x ++ r1) ⟨hp, ?_⟩ ?_
    · have := prefix_length_le _ _ hp; omega
    · rw [hm]; exact isPrefixOf_append _ _

/-- between the jump position and the mount point the directories are real, so nothing else is shown there -/
theorem BelowJump.only {h : Host} {cfg : Cfg} {d x mnt : Path} {m : Mount} (b : BelowJump h cfg d x mnt m)
    (mr : MountsReal h cfg) (hout : h.get cfg.hostOut = some .dir) :
    ∀ (r1 : Path) {r2 s : Path}, mnt = x ++ r1 ++ r2 → r2 ≠ [] → Shows h cfg (d ++ r1) s → NonLink h cfg s →
      s = x ++ r1 := by
  intro r1
  induction r1 using snoc_induction with
  | nil =>
    intro r2 s hm _ hs hn
    have hdx := b.dirAt mr hout [] r2 hm
    simp only [List.append_nil] at hdx hs ⊢
    exact shows_terminal_unique h cfg d s x hs b.shows hn (nonLink_of_dir hdx)
  | snoc r c ih =>
    intro r2 s hm _ hs hn
    rw [← List.append_assoc] at hs
    obtain ⟨s0, hsh, hdir0, _, _, hreach⟩ := shows_snoc hs
    -- the directory shown one level up is the real one; so is its entry `c`, which ends the chain
    cases ih (r2 := [c] ++ r2) (by simpa [List.append_assoc] using hm) (by simp) hsh (nonLink_of_dir hdir0)
    have hde := b.dirAt mr hout (r ++ [c]) r2 hm
    rw [← List.append_assoc] at hde ⊢
    exact hreach.stuck (fun ab t hl => by rw [hde] at hl; cases hl)

theorem BelowJump.unique {h : Host} {cfg : Cfg} {d x mnt : Path} {m : Mount} (b : BelowJump h cfg d x mnt m)
    (mr : MountsReal h cfg) (hout : h.get cfg.hostOut = some .dir) :
    ∀ (k : Nat) (r1 r2 : Path), r1.length = k → mnt = x ++ r1 ++ r2 → r2 ≠ [] →
      ∀ s, Shows h cfg (d ++ r1) s → NonLink h cfg s → s = x ++ r1 :=
  fun _ r1 _ _ hm hr2 _ => b.only mr hout r1 hm hr2

theorem BelowJump.noShow {h : Host} {cfg : Cfg} {d x mnt : Path} {m : Mount} (b : BelowJump h cfg d x mnt m)
    (mr : MountsReal h cfg) (hout : h.get cfg.hostOut = some .dir) {rel r s : Path} (hm : mnt = x ++ rel)
    (hs : Shows h cfg (d ++ rel ++ r) s) : False := by
  have hrel : rel ≠ [] := by
    intro h0; have := b.lt; rw [hm, h0] at this; simp at this
  obtain ⟨r', c, rfl⟩ : ∃ r' c, rel = r' ++ [c] := ⟨_, _, (List.dropLast_concat_getLast hrel).symm⟩
  obtain ⟨s1, hs1⟩ := shows_prefix hs
  rw [← List.append_assoc] at hs1
  obtain ⟨s0, hsh, hdir0, _, hskip, _⟩ := shows_snoc hs1
  -- the mount point is an entry of a real directory, and the entry loop skips it
  cases b.only mr hout r' (r2 := [c]) (by rw [hm, List.append_assoc]) (by simp) hsh (nonLink_of_dir hdir0)
  rw [← List.append_assoc] at hm
  rw [← hm, mr.skip (mnt, m) b.mem b.proper b.notRegular] at hskip
  cases hskip

theorem shows_above {h : Host} {cfg : Cfg} {F : Path} {c : Name} {r s1 s : Path}
    (hs1 : Shows h cfg (F ++ c :: r) s1) (hs : Shows h cfg F s) (hn : NonLink h cfg s) :
    nodeAt h cfg s = some .dir ∧ ∃ n, nodeAt h cfg (s ++ [c]) = some n := by
  obtain ⟨s2, hs2⟩ := shows_prefix (d := F ++ [c]) (r := r) (by simpa using hs1)
  obtain ⟨s0, hsh, hdir, hex, _⟩ := shows_snoc hs2
  cases shows_terminal_unique h cfg F s s0 hs hsh hn (nonLink_of_dir hdir)
  exact ⟨hdir, hex⟩

/-- an output path that host content cannot claim: nothing but links is shown at or below `P` (`none`),
and what is shown above `P` is a directory that has the next component of `P` as an entry (`above`) —
so no planned file, and no `.keep` of an empty directory, lies on the way to `P` either (`Dead.file`,
`Dead.keep`) -/
structure Dead (h : Host) (cfg : Cfg) (P : Path) : Prop where
  none : ∀ r s, Shows h cfg (P ++ r) s → NonLink h cfg s → False
  above : ∀ F c r, P = F ++ c :: r → ∀ s, Shows h cfg F s → NonLink h cfg s →
    nodeAt h cfg s = some .dir ∧ ∃ n, nodeAt h cfg (s ++ [c]) = some n

/-- at or above the output path of a site outside the output directory there is a dead path: the
output path of a link that is not followed, or of a mount point under a jump position in the output
directory -/
theorem Site.dead {h : Host} {cfg : Cfg} (mr : MountsReal h cfg) (hout : h.get cfg.hostOut = some .dir)
    (hx : InOut cfg cfg.ctrOut) {D y : Path} (hsite : Site h cfg D y) (hy : ¬ InOut cfg y) :
    ∃ P, P.isPrefixOf D = true ∧ Dead h cfg P := by
  have hlink : ∀ {d x}, Jumps h cfg d x → ¬ InOut cfg x → Dead h cfg d := by
    intro d x hjump hin
    cases hjump with
    | root => exact absurd hx hin
    | link hsh hnode =>
      exact ⟨fun _ _ => link_blocks hsh hnode hin, fun F c r hP s hs hn => shows_above (hP ▸ hsh) hs hn⟩
  rcases hsite with hjump | ⟨d, x, hjump, _, m, hm, h1, h2, h3, rfl⟩
  · exact ⟨D, isPrefixOf_self D, hlink hjump hy⟩
  · by_cases hin : InOut cfg x
    · have hshow := hjump.shows hin
      have b : BelowJump h cfg d x y m := ⟨hshow, hin, hm, h1, h2, h3⟩
      have hmy : y = x ++ y.drop x.length := (prefix_append_drop _ _ h1).symm
      refine ⟨_, isPrefixOf_self _, fun _ _ hs _ => b.noShow mr hout hmy hs, fun F c r hP s hs hn => ?_⟩
      rcases prefix_cases d F (d ++ y.drop x.length) (isPrefixOf_append _ _) (hP ▸ isPrefixOf_append _ _)
        with ⟨r1, rfl⟩ | ⟨c', r'', rfl⟩
      · -- `F` lies between the jump position and the mount point: it shows the real directory
        have hrel : y.drop x.length = r1 ++ c :: r := by simpa [List.append_assoc] using hP
        have hm' : y = x ++ r1 ++ (c :: r) := by rw [hmy, hrel, List.append_assoc]
        cases b.only mr hout r1 hm' (by simp) hs hn
        refine ⟨b.dirAt mr hout r1 (c :: r) hm', .dir, ?_⟩
        simpa using b.dirAt mr hout (r1 ++ [c]) r (by simpa using hm')
      · have hc : c' = c := by simp [List.append_assoc] at hP; exact hP.1
        subst hc
        exact shows_above hshow hs hn
    · exact ⟨d, isPrefixOf_append d _, hlink hjump hin⟩

variable {h : Host} {cfg : Cfg} {P q : Path}

theorem Dead.dir (hd : Dead h cfg P) {D s : Path} (hP : P.isPrefixOf D = true) (hD : Shows h cfg D s)
    (hdir : nodeAt h cfg s = some .dir) : False := by
  obtain ⟨r, rfl⟩ := prefix_split P D hP
  exact hd.none r s hD (nonLink_of_dir hdir)

theorem Dead.file (hd : Dead h cfg P) (hP : P.isPrefixOf q = true) {F s : Path} {c : Bytes}
    (hF : Shows h cfg F s) (hfile : nodeAt h cfg s = some (.file c)) (hq : F.isPrefixOf q = true) : False := by
  rcases prefix_cases P F q hP hq with ⟨r, rfl⟩ | ⟨c', r', rfl⟩
  · exact hd.none r s hF (nonLink_of_file hfile)
  · have := (hd.above F c' r' rfl s hF (nonLink_of_file hfile)).1
    rw [hfile] at this; cases this

theorem Dead.keep (hd : Dead h cfg P) (hP : P.isPrefixOf q = true) {D sD : Path} (hD : Shows h cfg D sD)
    (hdir : nodeAt h cfg sD = some .dir) (hempty : h.children (hostPath cfg sD) = [])
    (hq : (D ++ [".keep"]).isPrefixOf q = true) : False := by
  rcases prefix_cases P D q hP (prefix_trans' _ _ _ (isPrefixOf_append D _) hq) with ⟨r, rfl⟩ | ⟨c, r', rfl⟩
  · exact hd.none r sD hD (nonLink_of_dir hdir)
  · -- `P` continues `D` with `.keep`, so the directory shown at `D` has that entry
    cases sibling_prefix D c ".keep" q
      (prefix_trans' _ _ _ (isPrefixOf_snoc_cons D c r') hP) hq
    obtain ⟨_, n, hn⟩ := hd.above D ".keep" r' rfl sD hD (nonLink_of_dir hdir)
    exact children_ne_of_child (shows_pre h cfg _ _ hD) hn hempty

theorem nocollide_of_just {h : Host} {cfg : Cfg} {plan : Plan} {t0 : Tree} (mr : MountsReal h cfg)
    (hout : h.get cfg.hostOut = some .dir) (hx : InOut cfg cfg.ctrOut) (hj : Just h cfg plan)
    (hfj : ∀ f ∈ plan.frags, ∃ D y, Site h cfg D y ∧ f ∈ fragOf cfg D y) (hne : ∀ f ∈ plan.files, f.1 ≠ [])
    (hload : loadFrags [] plan.frags = some t0) : NoCollide t0 plan := by
  have hcov := loadFrags_cover plan.frags t0 hload
  have horigin : ∀ f ∈ plan.frags, ∃ P, P.isPrefixOf f.1 = true ∧ Dead h cfg P := by
    intro f hf
    obtain ⟨D, y, hsite, hfD⟩ := hfj f hf
    obtain ⟨P, hP, hdead⟩ := hsite.dead mr hout hx (fragOf_not_inOut cfg D y f hfD)
    exact ⟨P, prefix_trans' _ _ _ hP (fragOf_prefix cfg D y f hfD), hdead⟩
  constructor
  · intro D hD
    cases hg : t0.get D with
    | none => exact Or.inl rfl
    | some e =>
      cases e with
      | dir => exact Or.inr rfl
      | file c =>
        exfalso
        obtain ⟨hne, s, hshow, hdir⟩ := hj.dirs D hD
        obtain ⟨f, hf, _, h2⟩ := hcov D _ hg hne
        obtain ⟨hDf, _⟩ := h2 c rfl
        obtain ⟨P, hP, hdead⟩ := horigin f hf
        exact hdead.dir (hDf ▸ hP) hshow hdir
  · rintro ⟨d, src⟩ hf
    cases hg : t0.get d with
    | none => rfl
    | some e =>
      exfalso
      obtain ⟨q, hq, hpre, _⟩ := hcov d e hg (hne _ hf)
      obtain ⟨P, hP, hdead⟩ := horigin q hq
      have hfj' := hj.files _ hf
      cases src with
      | some p =>
        obtain ⟨s, c, hshow, rfl, hgp⟩ := hfj'
        exact hdead.file hP hshow hgp hpre
      | none =>
        obtain ⟨D, sD, rfl, _, hshow, hdir, hempty⟩ := hfj'
        exact hdead.keep hP hshow hdir hempty hpre

theorem scan_nocollide (h : Host) (cfg : Cfg) (hwf : HostWF h) (wf : CfgWF h cfg)
    (hout : h.get cfg.hostOut = some .dir) (hs : supported cfg = true) (hx : InOut cfg cfg.ctrOut)
    (hdirect : Direct h cfg) (mr : MountsReal h cfg) (fuel : Nat) (plan : Plan)
    (hscan : scan h cfg fuel = .ok plan) (t0 : Tree) (hload : loadFrags [] plan.frags = some t0) :
    NoCollide t0 plan :=
  have ⟨hj, hfj⟩ := scan_sound_both hwf wf hs hdirect hscan
  nocollide_of_just mr hout hx hj (fragJust_site h cfg plan hfj)
    (fun f hf => ((scan_shape h cfg hwf hs wf.real fuel plan hscan).parents f hf).1) hload

end ArvVerif.C17
