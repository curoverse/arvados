/-
What `uploadToKeepServer` reads out of a response — the replica count
(`rep := 1; fmt.Sscanf(header, "%d", &rep)`, model `parseRep`) and the locator
(`strings.TrimSpace` of the first 4096 body bytes, model `trimSpace`).
-/
import ArvVerif.Model.C11
namespace ArvVerif.C11

theorem of_mem_takeWhile {α} {p : α → Bool} {l : List α} {a : α} (h : a ∈ l.takeWhile p) :
    p a = true :=
  List.all_eq_true.mp List.all_takeWhile a h

theorem decVal_eq_ofDigitChars (cs : List Char) : decVal cs = Nat.ofDigitChars 10 cs 0 := by
  unfold decVal Nat.ofDigitChars
  congr 1
  funext a c
  show a * 10 + (c.toNat - 48) = 10 * a + (c.toNat - '0'.toNat)
  rw [Nat.mul_comm]; rfl

/-- `isDecDigit` is core's `Char.isDigit`, so core's lemma about `Nat.toDigits` applies -/
theorem toDigits_all_digits (n : Nat) : ∀ c ∈ Nat.toDigits 10 n, isDecDigit c = true :=
  fun _ hc => Nat.isDigit_of_mem_toDigits (by decide) (by decide) hc

theorem decVal_toDigits (n : Nat) : decVal (Nat.toDigits 10 n) = n := by
  rw [decVal_eq_ofDigitChars, Nat.ofDigitChars_ten_toDigits]

/-- what `%d` / `strconv.Itoa` write -/
theorem toString_toList (n : Nat) : (toString n).toList = Nat.toDigits 10 n := by
  rw [Nat.toString_eq_repr, Nat.toList_repr]

theorem digit_not_blank_sign (c : Char) (h : isDecDigit c = true) :
    isScanSpace c = false ∧ c ≠ '-' ∧ c ≠ '+' := by
  refine ⟨?_, ?_, ?_⟩
  · rw [isScanSpace, Bool.or_eq_false_iff, beq_eq_false_iff_ne, beq_eq_false_iff_ne]
    constructor <;> (rintro rfl; cases h)
  · rintro rfl; cases h
  · rintro rfl; cases h

theorem takeWhile_append_head {α} (p : α → Bool) (l rest : List α) (hl : ∀ a ∈ l, p a = true)
    (hrest : ∀ a, rest.head? = some a → p a = false) : (l ++ rest).takeWhile p = l := by
  rw [List.takeWhile_append_of_pos hl]
  cases rest with
  | nil => exact List.append_nil l
  | cons c t => rw [List.takeWhile_cons_of_neg (by simp [hrest c rfl]), List.append_nil]

theorem dropWhile_append_head {α} (p : α → Bool) (l rest : List α) (hl : ∀ a ∈ l, p a = true)
    (hrest : ∀ a, rest.head? = some a → p a = false) : (l ++ rest).dropWhile p = rest := by
  rw [List.dropWhile_append_of_pos hl]
  cases rest with
  | nil => rfl
  | cons c t => exact List.dropWhile_cons_of_neg (by simp [hrest c rfl])

/-- what `Sscanf` stores for a sign and a magnitude: the number if it fits int64; otherwise the
default 1 stays -/
def stored (neg : Bool) (v : Nat) : Int :=
  if neg then (if v ≤ 2^63 then - (v : Int) else 1) else (if v < 2^63 then (v : Int) else 1)

theorem stored_range (neg : Bool) (v : Nat) :
    -(2^63 : Int) ≤ stored neg v ∧ stored neg v < 2^63 := by
  unfold stored
  split <;> split <;> omega

theorem stored_backed (neg : Bool) (v : Nat) :
    stored neg v = 1 ∨ stored neg v = if neg then - (v : Int) else (v : Int) := by
  unfold stored
  split <;> split <;> simp

/-- what `Sscanf` stores for the digit run `ds` read after the sign: the default 1 stays if there
is no digit -/
def runVal (neg : Bool) (ds : List Char) : Int :=
  if ds.isEmpty then 1 else stored neg (decVal ds)

theorem runVal_range (neg : Bool) (ds : List Char) :
    -(2^63 : Int) ≤ runVal neg ds ∧ runVal neg ds < 2^63 := by
  unfold runVal
  split
  · omega
  · exact stored_range neg _

theorem runVal_backed (neg : Bool) (ds : List Char) :
    runVal neg ds = 1 ∨
    (ds ≠ [] ∧ runVal neg ds = if neg then - (decVal ds : Int) else (decVal ds : Int)) := by
  unfold runVal
  split
  · exact Or.inl rfl
  · next hne => exact (stored_backed neg _).imp_right fun h => ⟨fun hd => hne (hd ▸ rfl), h⟩

theorem runVal_toDigits (neg : Bool) (n : Nat) : runVal neg (Nat.toDigits 10 n) = stored neg n := by
  unfold runVal
  rw [if_neg (mt List.isEmpty_iff.mp Nat.toDigits_ne_nil), decVal_toDigits]

theorem parseRep_unfold (s : List Char) : parseRep s =
    match s.dropWhile isScanSpace with
    | '-' :: r => runVal true (r.takeWhile isDecDigit)
    | '+' :: r => runVal false (r.takeWhile isDecDigit)
    | r => runVal false (r.takeWhile isDecDigit) := by
  unfold parseRep runVal stored
  simp only []
  generalize List.dropWhile isScanSpace s = s1
  split <;> simp

theorem parseRep_range (s : List Char) : -(2^63 : Int) ≤ parseRep s ∧ parseRep s < 2^63 := by
  rw [parseRep_unfold]
  split <;> exact runVal_range _ _

theorem parseRep_blank (ws s : List Char) (h : ∀ c ∈ ws, isScanSpace c = true) :
    parseRep (ws ++ s) = parseRep s := by
  unfold parseRep
  rw [List.dropWhile_append_of_pos h]

/-- after the blanks: `hplain` says that without a sign the text does not go on with something that
would be scanned as a blank or a sign -/
theorem parseRep_signed (sg r : List Char) (hsg : sg = [] ∨ sg = ['-'] ∨ sg = ['+'])
    (hplain : sg = [] → ∀ c, r.head? = some c → isScanSpace c = false ∧ c ≠ '-' ∧ c ≠ '+') :
    parseRep (sg ++ r) = runVal (sg == ['-']) (r.takeWhile isDecDigit) := by
  rcases hsg with rfl | rfl | rfl
  · have h := hplain rfl
    have hd : r.dropWhile isScanSpace = r := dropWhile_append_head _ [] r (fun _ h => nomatch h)
      fun c hc => (h c hc).1
    rw [List.nil_append, parseRep_unfold, hd]
    split
    · exact absurd rfl (h _ rfl).2.1
    · exact absurd rfl (h _ rfl).2.2
    · rfl
  -- a sign is not a blank: `dropWhile` stops at it and the `match` takes it off
  · rw [parseRep_unfold]; rfl
  · rw [parseRep_unfold]; rfl

/-- `hplain`: with neither sign nor digit, a blank or a sign at the head of `rest` would be scanned
as one -/
theorem parseRep_scan (ws sg ds rest : List Char) (hws : ∀ c ∈ ws, isScanSpace c = true)
    (hsg : sg = [] ∨ sg = ['-'] ∨ sg = ['+']) (hds : ∀ c ∈ ds, isDecDigit c = true)
    (hrest : ∀ c, rest.head? = some c → isDecDigit c = false)
    (hplain : sg = [] → ds = [] →
      ∀ c, rest.head? = some c → isScanSpace c = false ∧ c ≠ '-' ∧ c ≠ '+') :
    parseRep (ws ++ (sg ++ (ds ++ rest))) = runVal (sg == ['-']) ds := by
  rw [parseRep_blank ws _ hws, parseRep_signed sg _ hsg, takeWhile_append_head isDecDigit ds rest hds hrest]
  intro hs c hc
  cases ds with
  | nil => exact hplain hs rfl c hc
  | cons d t => cases hc; exact digit_not_blank_sign c (hds c List.mem_cons_self)

theorem parseRep_nat (ws sg rest : List Char) (n : Nat) (hws : ∀ c ∈ ws, isScanSpace c = true)
    (hsg : sg = [] ∨ sg = ['-'] ∨ sg = ['+'])
    (hrest : ∀ c, rest.head? = some c → isDecDigit c = false) :
    parseRep (ws ++ (sg ++ (Nat.toDigits 10 n ++ rest))) = stored (sg == ['-']) n :=
  (parseRep_scan ws sg _ rest hws hsg (toDigits_all_digits n) hrest
    fun _ h => absurd h Nat.toDigits_ne_nil).trans (runVal_toDigits _ n)

theorem parseRep_nat_end (sg : List Char) (n : Nat) (hsg : sg = [] ∨ sg = ['-'] ∨ sg = ['+']) :
    parseRep (sg ++ Nat.toDigits 10 n) = stored (sg == ['-']) n := by
  simpa using parseRep_nat [] sg [] n (fun _ h => nomatch h) hsg (fun _ h => nomatch h)

theorem parseRep_sign (s : List Char) : ∃ sg r, s.dropWhile isScanSpace = sg ++ r ∧
    (sg = [] ∨ sg = ['-'] ∨ sg = ['+']) ∧
    parseRep s = runVal (sg == ['-']) (r.takeWhile isDecDigit) := by
  rw [parseRep_unfold]
  split
  · exact ⟨['-'], _, ‹_›, Or.inr (Or.inl rfl), rfl⟩
  · exact ⟨['+'], _, ‹_›, Or.inr (Or.inr rfl), rfl⟩
  · exact ⟨[], _, rfl, Or.inl rfl, rfl⟩

theorem upload_rep (code : Nat) (h : List Char) (body : List Nat) (be : Bool) :
    (upload (.resp code (some h) body be)).rep = if h.isEmpty then 1 else parseRep h := rfl

theorem upload_rep_pos {code : Nat} {hdr : Option (List Char)} {body : List Nat} {be : Bool}
    (ha : AlphaHdr hdr) : 1 ≤ (upload (.resp code hdr body be)).rep := by
  rcases ha with rfl | rfl | rfl
  · exact Int.le_refl 1
  · show (1 : Int) ≤ parseRep ['1']; decide
  · show (1 : Int) ≤ parseRep ['2']; decide

theorem upload_rep_nonneg {h : Http} (ha : InAlphabet h) : 0 ≤ (upload h).rep := by
  cases h with
  | connErr => exact Int.le_refl 0
  | resp code hdr body be => exact Int.le_trans (by decide) (upload_rep_pos ha)

theorem dropWhile_split {α} (p : α → Bool) (l : List α) :
    ∃ pre, l = pre ++ l.dropWhile p ∧ (∀ a ∈ pre, p a = true) ∧
      ∀ a, (l.dropWhile p).head? = some a → p a = false := by
  refine ⟨l.takeWhile p, List.takeWhile_append_dropWhile.symm, fun _ => of_mem_takeWhile, ?_⟩
  intro a ha
  have := List.head?_dropWhile_not p l
  rw [ha] at this
  simpa using this

/-- the use: a locator followed by a newline comes out exactly -/
theorem trimSpace_clean (pre mid post : List Nat) (hpre : ∀ b ∈ pre, isTrimSpace b = true)
    (hpost : ∀ b ∈ post, isTrimSpace b = true)
    (hh : ∀ b, mid.head? = some b → isTrimSpace b = false)
    (hl : ∀ b, mid.getLast? = some b → isTrimSpace b = false) :
    trimSpace (pre ++ (mid ++ post)) = mid := by
  unfold trimSpace
  cases mid with
  | nil =>
    have := dropWhile_append_head isTrimSpace (pre ++ ([] ++ post)) []
      (fun b hb => (List.mem_append.mp hb).elim (hpre b) (hpost b)) (fun _ h => nomatch h)
    rw [List.append_nil] at this
    rw [this]; rfl
  | cons m t =>
    rw [dropWhile_append_head _ pre (m :: t ++ post) hpre hh, List.reverse_append,
      dropWhile_append_head _ post.reverse _ (fun b hb => hpost b (List.mem_reverse.mp hb))
        (fun b hb => hl b (List.head?_reverse ▸ hb)),
      List.reverse_reverse]

theorem trimSpace_spec (bs : List Nat) :
    ∃ pre post, bs = pre ++ (trimSpace bs ++ post) ∧ (∀ b ∈ pre, isTrimSpace b = true) ∧
      (∀ b ∈ post, isTrimSpace b = true) ∧
      (∀ b, (trimSpace bs).head? = some b → isTrimSpace b = false) ∧
      (∀ b, (trimSpace bs).getLast? = some b → isTrimSpace b = false) := by
  obtain ⟨pre, h1, hpre, hhead⟩ := dropWhile_split isTrimSpace bs
  obtain ⟨post, h2, hpost, hlast⟩ := dropWhile_split isTrimSpace (bs.dropWhile isTrimSpace).reverse
  have h3 : bs.dropWhile isTrimSpace = trimSpace bs ++ post.reverse := by
    rw [← List.reverse_reverse (bs.dropWhile isTrimSpace), h2, List.reverse_append]; rfl
  refine ⟨pre, post.reverse, h3 ▸ h1, hpre, fun b hb => hpost b (List.mem_reverse.mp hb), ?_, ?_⟩
  · intro b hb
    exact hhead b (by rw [h3, List.head?_append, hb]; rfl)
  · intro b hb
    exact hlast b (by rw [← List.getLast?_reverse]; exact hb)

theorem trimSpace_idem (bs : List Nat) : trimSpace (trimSpace bs) = trimSpace bs := by
  obtain ⟨_, _, _, _, _, hh, hl⟩ := trimSpace_spec bs
  have := trimSpace_clean [] (trimSpace bs) [] (by simp) (by simp) hh hl
  simpa using this

end ArvVerif.C11
