/-
C19, `auth.SaltToken` (sdk/go/auth/salt.go): every outcome of `saltToken` with what it says about
the token (`SaltView`), and the token classes `MustSalt` and `Opaque`.
-/
import ArvVerif.Model.C19
import ArvVerif.Proofs.Lib_Split
namespace ArvVerif.C19

theorem splitSlash_eq_splitOn (s : Str) : splitSlash s = s.splitOn '/' := by
  induction s with
  | nil => rfl
  | cons c cs ih =>
    rw [splitSlash, ih, List.splitOn_cons_eq_if_modifyHead]
    cases h : cs.splitOn '/' with
    | nil => exact absurd h (List.splitOn_ne_nil _ _)
    | cons p ps => simp

theorem splitSlash_ne_nil (s : Str) : splitSlash s ≠ [] :=
  splitSlash_eq_splitOn s ▸ List.splitOn_ne_nil _ _

theorem splitSlash_noslash {a : Str} (ha : '/' ∉ a) : splitSlash a = [a] := by
  rw [splitSlash_eq_splitOn, List.splitOn_eq_singleton ha]

theorem splitSlash_append_slash {a b : Str} (ha : '/' ∉ a) :
    splitSlash (a ++ '/' :: b) = a :: splitSlash b := by
  simp only [splitSlash_eq_splitOn, List.splitOn_append_cons_self_of_not_mem ha]

theorem mem_splitSlash_noslash {s : Str} {ps : List Str} (hs : splitSlash s = ps) :
    ∀ p ∈ ps, '/' ∉ p :=
  hs ▸ splitSlash_eq_splitOn s ▸ Lib.not_mem_of_mem_splitOn s

def joinSlash : List Str → Str
  | [] => []
  | [p] => p
  | p :: q :: r => p ++ '/' :: joinSlash (q :: r)

theorem joinSlash_eq_intercalate (ps : List Str) : joinSlash ps = ['/'].intercalate ps := by
  induction ps using joinSlash.induct with
  | case1 => rfl
  | case2 p => simp [joinSlash]
  | case3 p q r ih => simp [joinSlash, ih, List.intercalate_cons_cons]

theorem joinSlash_splitSlash (s : Str) : joinSlash (splitSlash s) = s := by
  rw [joinSlash_eq_intercalate, splitSlash_eq_splitOn, List.intercalate_splitOn]

/-- what follows the secret: nothing, or '/' and further segments -/
def tailJoin : List Str → Str
  | [] => []
  | r :: rs => '/' :: joinSlash (r :: rs)

theorem splitSlash_three {t p0 u s : Str} {rest : List Str} (h : splitSlash t = p0 :: u :: s :: rest) :
    t = p0 ++ '/' :: (u ++ '/' :: (s ++ tailJoin rest)) := by
  rw [← joinSlash_splitSlash t, h]
  cases rest <;> simp only [joinSlash, tailJoin, List.append_nil]

theorem slash_not_mem_hexStr (bs : List UInt8) : '/' ∉ hexStr bs := by
  have hd : ∀ m : Fin 16, hexDigit m.val ≠ '/' := by decide
  intro h
  obtain ⟨b, _, hb⟩ := List.mem_flatMap.mp h
  have := b.toNat_lt
  simp only [hexOfByte, List.mem_cons, List.not_mem_nil, or_false] at hb
  rcases hb with hb | hb
  · exact hd ⟨b.toNat / 16, by omega⟩ hb.symm
  · exact hd ⟨b.toNat % 16, by omega⟩ hb.symm

theorem length_hexStr (bs : List UInt8) : (hexStr bs).length = 2 * bs.length := by
  simp [hexStr, List.length_flatMap, hexOfByte, List.map_const', Nat.mul_comm]

/-- the model's string constants as character lists (a literal is `String.ofList` of its characters
by definition, so nothing is evaluated) -/
theorem sV2_eq : sV2 = ['v', '2'] := String.toList_ofList
theorem sV2Slash_eq : sV2Slash = ['v', '2', '/'] := String.toList_ofList
theorem sSlash_eq : sSlash = ['/'] := String.toList_ofList
theorem sOAuth2_eq : sOAuth2 = ['O', 'A', 'u', 't', 'h', '2'] := String.toList_ofList
theorem sBearerWord_eq : sBearerWord = ['B', 'e', 'a', 'r', 'e', 'r'] := String.toList_ofList

theorem sV2Slash_append (x : Str) : sV2Slash ++ x = sV2 ++ '/' :: x := by simp [sV2_eq, sV2Slash_eq]

theorem splitSlash_v2Slash (x : Str) : splitSlash (sV2Slash ++ x) = sV2 :: splitSlash x := by
  rw [sV2Slash_append, splitSlash_append_slash (by rw [sV2_eq]; decide)]

variable {mac : Str → Str → List UInt8} {t R u s x : Str} {more : List Str}

theorem saltedForm_eq : saltedForm mac u s R = sV2Slash ++ (u ++ '/' :: hexStr (mac s R)) := by
  simp [saltedForm, sSlash_eq]

theorem splitSlash_saltedForm (hu : '/' ∉ u) :
    splitSlash (saltedForm mac u s R) = [sV2, u, hexStr (mac s R)] := by
  rw [saltedForm_eq, splitSlash_v2Slash, splitSlash_append_slash hu,
    splitSlash_noslash (slash_not_mem_hexStr _)]

theorem saltToken_of_split (h : splitSlash t = sV2 :: u :: s :: more) :
    saltToken mac t R =
      if s.length ≠ saltLen then .ok (saltedForm mac u s R)
      else if R.isPrefixOf u then .ok t else .error .salted := by
  simp [saltToken, h]

theorem saltToken_not_v2 (h : ∀ u s more, splitSlash t ≠ sV2 :: u :: s :: more) :
    saltToken mac t R = if isObsolete t then .error .obsolete else .error .format := by
  unfold saltToken
  split
  · next p0 u s more hsp =>
    by_cases hp : p0 = sV2
    · subst hp; exact absurd hsp (h u s more)
    · simp [hp, notV2]
  · simp [notV2]

/-- Every outcome of `saltToken`, with what it tells about the token. -/
inductive SaltView (mac : Str → Str → List UInt8) (t R : Str) : Except SaltErr Str → Prop
  | salted (u s : Str) (more : List Str) (hsp : splitSlash t = sV2 :: u :: s :: more)
      (hl : s.length ≠ saltLen) : SaltView mac t R (.ok (saltedForm mac u s R))
  | own (u s : Str) (more : List Str) (hsp : splitSlash t = sV2 :: u :: s :: more)
      (hl : s.length = saltLen) (hp : R.isPrefixOf u = true) : SaltView mac t R (.ok t)
  | foreign (u s : Str) (more : List Str) (hsp : splitSlash t = sV2 :: u :: s :: more)
      (hl : s.length = saltLen) (hp : R.isPrefixOf u = false) : SaltView mac t R (.error .salted)
  | obsolete (hv : ∀ u s more, splitSlash t ≠ sV2 :: u :: s :: more) (hob : isObsolete t = true) :
      SaltView mac t R (.error .obsolete)
  | format (hv : ∀ u s more, splitSlash t ≠ sV2 :: u :: s :: more) (hob : isObsolete t = false) :
      SaltView mac t R (.error .format)

theorem saltToken_view {res : Except SaltErr Str} (h : saltToken mac t R = res) : SaltView mac t R res := by
  subst h
  by_cases hv : ∃ u s more, splitSlash t = sV2 :: u :: s :: more
  · obtain ⟨u, s, more, hsp⟩ := hv
    rw [saltToken_of_split hsp]
    split
    · next hl => exact .salted u s more hsp hl
    · next hl =>
      split
      · next hp => exact .own u s more hsp (Decidable.not_not.mp hl) hp
      · next hp => exact .foreign u s more hsp (Decidable.not_not.mp hl) (Bool.eq_false_iff.mpr hp)
  · have hv' : ∀ u s more, splitSlash t ≠ sV2 :: u :: s :: more := fun u s more h => hv ⟨u, s, more, h⟩
    rw [saltToken_not_v2 hv']
    split
    · next hob => exact .obsolete hv' hob
    · next hob => exact .format hv' (Bool.eq_false_iff.mpr hob)

theorem saltToken_ok_inv (h : saltToken mac t R = .ok x) :
    ∃ u s more, splitSlash t = sV2 :: u :: s :: more ∧
      ((s.length ≠ saltLen ∧ x = saltedForm mac u s R) ∨
       (s.length = saltLen ∧ R.isPrefixOf u = true ∧ x = t)) := by
  cases saltToken_view h with
  | salted u s more hsp hl => exact ⟨u, s, more, hsp, .inl ⟨hl, rfl⟩⟩
  | own u s more hsp hl hp => exact ⟨u, s, more, hsp, .inr ⟨hl, hp, rfl⟩⟩

theorem saltToken_salts (hsp : splitSlash t = sV2 :: u :: s :: more) (hl : s.length ≠ saltLen) :
    saltToken mac t R = .ok (saltedForm mac u s R) := by
  rw [saltToken_of_split hsp, if_pos hl]

theorem not_v2_of_noslash (h : '/' ∉ t) : ∀ u s more, splitSlash t ≠ sV2 :: u :: s :: more := by
  intro u s more hsp
  rw [splitSlash_noslash h] at hsp
  cases hsp

theorem isObsolete_iff (t : Str) :
    isObsolete t = true ↔ 41 ≤ t.length ∧ ∀ c ∈ t, (('0' ≤ c ∧ c ≤ '9') ∨ ('a' ≤ c ∧ c ≤ 'z')) := by
  simp [isObsolete, isLowerAlnum, List.all_eq_true]

/-- A user's unsalted Arvados v2 token: `v2/uuid/secret[/…]` whose secret does not have the length
of a salt. (F9: the code, and therefore this predicate, takes ANY 40-character secret for a salt;
there is no test that it is hexadecimal.) -/
def MustSalt (t : Str) : Prop :=
  ∃ u s more, splitSlash t = sV2 :: u :: s :: more ∧ s.length ≠ saltLen

theorem not_mustSalt_of_split (hsp : splitSlash t = sV2 :: u :: s :: more) (hl : s.length = saltLen) :
    ¬ MustSalt t := by
  rintro ⟨u', s', more', hsp', hl'⟩
  rw [hsp] at hsp'
  cases hsp'
  exact hl' hl

theorem not_mustSalt_of_not_v2 (hv : ∀ u s more, splitSlash t ≠ sV2 :: u :: s :: more) : ¬ MustSalt t :=
  fun ⟨u, s, more, hsp, _⟩ => hv u s more hsp

theorem saltToken_ok_split (hmac : ∀ k m, (mac k m).length = 20) (h : saltToken mac t R = .ok x) :
    ∃ u s more, splitSlash x = sV2 :: u :: s :: more ∧ s.length = saltLen := by
  obtain ⟨u, s, more, hsp, ⟨_, rfl⟩ | ⟨hl, _, rfl⟩⟩ := saltToken_ok_inv h
  · exact ⟨u, _, [], splitSlash_saltedForm (mem_splitSlash_noslash hsp u (by simp)),
      by rw [length_hexStr, hmac]; rfl⟩
  · exact ⟨u, s, more, hsp, hl⟩

theorem not_mustSalt_of_saltToken_ok (hmac : ∀ k m, (mac k m).length = 20)
    (h : saltToken mac t R = .ok x) : ¬ MustSalt x := by
  obtain ⟨u, s, more, hsp, hl⟩ := saltToken_ok_split hmac h
  exact not_mustSalt_of_split hsp hl

theorem not_mustSalt_of_saltToken_error {e : SaltErr} (h : saltToken mac t R = .error e) :
    ¬ MustSalt t := by
  rintro ⟨u, s, more, hsp, hl⟩
  rw [saltToken_salts hsp hl] at h
  cases h

/-- Neither `v2/<uuid>/<secret>…` nor the legacy `[0-9a-z]{41,}`: an OIDC access token, a JWT, any
other string. -/
def Opaque (t : Str) : Prop :=
  (∀ u s more, splitSlash t ≠ sV2 :: u :: s :: more) ∧ isObsolete t = false

theorem saltToken_opaque (h : Opaque t) : saltToken mac t R = .error .format := by
  rw [saltToken_not_v2 h.1]; simp [h.2]

theorem infix_of_append_slash (s a b : Str) (hs : '/' ∉ s) (h : s <:+: a ++ '/' :: b) :
    s <:+: a ∨ s <:+: b := by
  have hpre : ∀ l, l <+: '/' :: b → '/' ∉ l → l = [] := by
    intro l hl hn
    rcases List.prefix_cons_iff.mp hl with rfl | ⟨t, rfl, _⟩
    · rfl
    · exact absurd (List.mem_cons_self ..) hn
  rcases List.infix_append_iff.mp h with h | h | ⟨l₁, l₂, rfl, h1, h2⟩
  · exact .inl h
  · rcases List.infix_cons_iff.mp h with h | h
    · exact .inl (hpre s h hs ▸ List.nil_infix)
    · exact .inr h
  · rw [hpre l₂ h2 (fun hm => hs (List.mem_append_right _ hm)), List.append_nil]
    exact .inl h1.isInfix

theorem infix_saltedForm (hx : '/' ∉ x) (h : x <:+: saltedForm mac u s R) :
    x <:+: sV2 ∨ x <:+: u ∨ x <:+: hexStr (mac s R) := by
  rw [saltedForm_eq, sV2Slash_append] at h
  exact (infix_of_append_slash _ _ _ hx h).imp_right (infix_of_append_slash _ _ _ hx)

end ArvVerif.C19
