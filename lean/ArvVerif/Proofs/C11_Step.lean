/-
The putReplicas machine taken apart once: `step_cases` lists the ways a step can go (a return with
the facts `ResAt`, an answer received, a change of round), each with what is known there, under
the side conditions of `Preserved c P`, the interface every invariant of the machine is proved
through; on top of it `run_spec` (the one induction on `run`: `P` and the facts at the return) and
`put_preserved`.
-/
import ArvVerif.Model.C11
namespace ArvVerif.C11

theorem mem_insertAsc (a x : Srv) (l : List Srv) : x ∈ insertAsc a l ↔ x = a ∨ x ∈ l := by
  induction l with
  | nil => simp [insertAsc]
  | cons b t ih =>
    unfold insertAsc
    split
    · simp
    · simp only [List.mem_cons, ih]; exact or_left_comm

theorem mem_sortAsc (x : Srv) (l : List Srv) : x ∈ sortAsc l ↔ x ∈ l := by
  induction l with
  | nil => simp [sortAsc]
  | cons a t ih => simp [sortAsc, mem_insertAsc, ih]

theorem choose_mem {l : List Srv} {p : Nat} (h : l ≠ []) : choose l p ∈ l := by
  obtain ⟨a, ha⟩ := List.exists_mem_of_ne_nil l h
  have hlen : 0 < (sortAsc l).length := List.length_pos_of_mem ((mem_sortAsc a l).mpr ha)
  unfold choose
  simp only
  rw [List.getD_eq_getElem?_getD, List.getElem?_eq_getElem (Nat.mod_lt _ hlen)]
  exact (mem_sortAsc _ _).mp (List.getElem_mem _)

theorem receive_eq (c : Cfg) (s : St) (srv : Srv) : receive c s srv =
    let u := c.script srv s.round
    { s with
      active := s.active.erase srv
      respLog := (srv, s.round) :: s.respLog
      done := if u.code = 200 then s.done + u.rep else s.done
      todo := if u.code = 200 then s.todo - u.rep else s.todo
      locator := if u.code = 200 then u.body else s.locator
      okLog := if u.code = 200 then (srv, s.round) :: s.okLog else s.okLog
      retrySv := if retryable u.code then s.retrySv ++ [srv] else s.retrySv } := by
  unfold receive
  dsimp only
  split <;> split <;> simp only [*]

/-- The loop rule of the start loop: it gives up only at once, in the state it was called in;
otherwise it stops in a state that has kept whatever every `startOne` keeps (`Q`), and there its
condition is false or the services have run out. `hf`: more fuel than services left, so the fuel
does not run out (with fuel 0 the loop stops without looking at its conditions); `step` gives
`|sv| + 1`, which is enough in every state. -/
theorem startUploads_spec {c : Cfg} {fuel : Nat} {s : St} {Q : St → Prop}
    (hQ : ∀ (t : St) (h : t.next < t.sv.length), Q t → Q (startOne t h)) (h : Q s)
    (hf : s.sv.length - s.next < fuel) :
    match startUploads c fuel s with
    | none => s.active = [] ∧ s.retriesRemaining = 0 ∧ s.sv.length ≤ s.next ∧ 0 < s.todo
    | some s' => Q s' ∧
      (¬ (((s'.active.length * c.rpt : Nat) : Int) < s'.todo) ∨
        (s'.sv.length ≤ s'.next ∧ ¬ (s'.active = [] ∧ s'.retriesRemaining = 0))) := by
  fun_induction startUploads c fuel s with
  | case1 => omega
  | case2 n s _ hn ih =>
    have := ih (hQ s hn h) (by simp only [startOne]; omega)
    split at this
    -- an upload is in flight from here on
    · exact absurd this.1 (by simp [startOne])
    · exact this
  | case3 _ s hlt hn hc => exact ⟨hc.1, hc.2, by omega, by omega⟩
  | case4 _ s _ hn hc => exact ⟨h, Or.inr ⟨by omega, hc⟩⟩
  | case5 _ s hge => exact ⟨h, Or.inl hge⟩

/-- What the Go code relies on at its nil-error return after the loops: with nothing in flight and
no retry left the start loop has stopped only because `replicasTodo ≤ 0`. (`step_cases` takes the
same from `startUploads_spec`.) -/
theorem startUploads_last_round (c : Cfg) (fuel : Nat) (s s' : St)
    (hf : s.sv.length < s.next + fuel) (hle : s.next ≤ s.sv.length)
    (hs : startUploads c fuel s = some s') (hr : s'.retriesRemaining = 0) (ha : s'.active = []) :
    s'.todo ≤ 0 := by
  have := startUploads_spec (c := c) (fuel := fuel) (s := s) (Q := fun _ => True)
    (fun _ _ _ => trivial) trivial (by omega)
  rw [hs] at this
  rcases this.2 with h | h
  · simpa [ha] using h
  · exact absurd ⟨ha, hr⟩ h.2

/-- the state at a nil-error return -/
def OkAt (s : St) (loc : List Nat) (n : Int) : Prop :=
  loc = s.locator ∧ n = s.done ∧ s.todo ≤ 0

/-- the state at the InsufficientReplicasError return -/
def FailAt (s : St) (loc : List Nat) (n : Int) : Prop :=
  loc = s.locator ∧ n = s.done ∧ 0 < s.todo ∧ s.active = [] ∧ s.retriesRemaining = 0 ∧
  s.sv.length ≤ s.next

def ResAt (s : St) : Res → Prop
  | .ok loc n => OkAt s loc n
  | .insufficient loc n => FailAt s loc n

/-- the side conditions are the facts that hold whenever the machine makes that change -/
structure Preserved (c : Cfg) (P : St → Prop) : Prop where
  start : ∀ (s : St) (h : s.next < s.sv.length), P s → P (startOne s h)
  recv : ∀ (s : St) (srv : Srv), srv ∈ s.active → P s → P (receive c s srv)
  round : ∀ (s : St), s.active = [] → s.sv.length ≤ s.next → 0 < s.retriesRemaining → 0 < s.todo →
    P s → P (nextRound s)

/-- A step returns in the state it was called in, or makes the `recv` or the `round` change of
`Preserved` (same side conditions; which in-flight service answers is not known outside) on `s1`,
the state after the start loop: what is known of `s1` is whatever every `startOne` keeps (`Q`) and
why the loop stopped. -/
theorem step_cases (c : Cfg) (s : St) (pick : Nat) {Q : St → Prop} {M : StepRes → Prop}
    (hQ : ∀ (t : St) (h : t.next < t.sv.length), Q t → Q (startOne t h)) (h : Q s)
    (ret : ∀ r, ResAt s r → M (.ret r s))
    (recv : ∀ s1 srv, srv ∈ s1.active → Q s1 → M (.recv (receive c s1 srv)))
    (round : ∀ s1, s1.active = [] → s1.sv.length ≤ s1.next → 0 < s1.retriesRemaining →
      0 < s1.todo → Q s1 → M (.round (nextRound s1))) :
    M (step c s pick) := by
  unfold step
  split
  next htodo =>
    -- the start loop keeps `Q` and leaves `todo` as it is
    have hsu := startUploads_spec (c := c) (fuel := s.sv.length + 1) (Q := fun t => Q t ∧ 0 < t.todo)
      (fun t ht hq => ⟨hQ t ht hq.1, hq.2⟩) ⟨h, htodo⟩ (by omega)
    generalize startUploads c (s.sv.length + 1) s = o at hsu ⊢
    cases o with
    | none => exact ret _ ⟨rfl, rfl, htodo, hsu.1, hsu.2.1, hsu.2.2.1⟩
    | some s1 =>
      obtain ⟨⟨hq, htodo1⟩, hstop⟩ := hsu
      dsimp only
      split
      next hact => exact recv s1 _ (choose_mem hact) hq
      next hact =>
        rw [ne_eq, Decidable.not_not] at hact
        -- nothing in flight and replicas missing: the start loop ran out of services, and with
        -- no retry left it would have returned the error; so the nil-error return below is dead
        obtain ⟨hnext, hfail⟩ := hstop.resolve_left (by simpa [hact] using htodo1)
        split
        next hrr => exact absurd ⟨hact, hrr⟩ hfail
        next hrr => exact round s1 hact hnext (by omega) htodo1 hq
  next htodo => exact ret _ ⟨rfl, rfl, by omega⟩

def StepRes.Sat (A : St → Prop) (B : Res → St → Prop) : StepRes → Prop
  | .recv s' => A s'
  | .round s' => A s'
  | .ret r s' => B r s'

theorem step_spec {c : Cfg} {P : St → Prop} (hP : Preserved c P) (s : St) (pick : Nat) (h : P s) :
    (step c s pick).Sat P fun r s' => P s' ∧ ResAt s' r :=
  step_cases c s pick hP.start h (fun _ hr => ⟨h, hr⟩) hP.recv hP.round

theorem run_spec {c : Cfg} {P : St → Prop} (hP : Preserved c P) {fuel : Nat} {s : St}
    {picks : List Nat} {r : Res} {sf : St} (h : P s) (hr : run c fuel s picks = some (r, sf)) :
    P sf ∧ ResAt sf r := by
  fun_induction run c fuel s picks with
  | case1 => cases hr
  | case2 n s picks r' s' hst =>
    cases hr
    have hs := hst ▸ step_spec hP s _ h
    exact hs
  | case3 n s picks s' hst ih =>
    have hs := hst ▸ step_spec hP s _ h
    exact ih hs hr
  | case4 n s picks s' hst ih =>
    have hs := hst ▸ step_spec hP s _ h
    exact ih hs hr

theorem run_preserved {c : Cfg} {P : St → Prop} (hP : Preserved c P) (fuel : Nat) (s : St)
    (picks : List Nat) (r : Res) (sf : St) (h : P s) (hr : run c fuel s picks = some (r, sf)) :
    P sf :=
  (run_spec hP h hr).1

theorem put_preserved {c : Cfg} {sv : List Srv} {picks : List Nat} {r : Res} {s : St}
    {P : St → Prop} (hP : Preserved c P) (h0 : P (init c sv))
    (h : put c sv picks = some (r, s)) : P s :=
  run_preserved hP _ _ _ _ _ h0 h

end ArvVerif.C11
