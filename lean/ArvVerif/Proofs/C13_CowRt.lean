/-
C13: copy-on-write for the heap model with the runtime's capacity choice as a
parameter (Model/C13_CowRt.lean), and the aliasing rule the `cow` oracle checks: a segment that has
just been written or grown does not share its array with any buffer handed to a background writer.
-/
import ArvVerif.Model.C13_CowRt
import ArvVerif.Proofs.C13_Cow
namespace ArvVerif.C13.Cow
open ArvVerif.C13 (OptAll)

theorem stepRt_inv (acap : Nat → Nat) {st : State} (hinv : Inv st) (op : Op) : OptAll (Keeps st) (stepRt acap st op) := by
  cases op
  case writeAt i p off =>
    rw [stepRt]
    cases st.segs[i]? with
    | none => trivial
    | some sg => exact OptAll.ite ⟨hinv.fresh, fun _ h => h⟩ (step_inv hinv _)
  all_goals
    simp only [stepRt]
    exact step_inv hinv _

theorem runRt_inv (acap : Nat → Nat) : ∀ (ops : List Op) {st st' : State}, Inv st → runRt acap st ops = some st' →
    Inv st' ∧ ∀ sh ∈ st.shared, sh ∈ st'.shared := by
  intro ops
  induction ops with
  | nil => intro st st' hinv h; simp only [runRt] at h; cases h; exact ⟨hinv, fun _ h => h⟩
  | cons op rest ih =>
    intro st st' hinv h
    simp only [runRt] at h
    cases hs : stepRt acap st op with
    | none => rw [hs] at h; cases h
    | some st1 =>
      rw [hs] at h
      obtain ⟨h1, h2⟩ := (stepRt_inv acap hinv op).of_eq hs
      obtain ⟨h3, h4⟩ := ih h1 h
      exact ⟨h3, fun sh hsh => h4 sh (h2 sh hsh)⟩

theorem initRt_inv : Inv initRt := Inv.single ..

theorem Inv.unshared {st : State} (hinv : Inv st) {sg : MSeg} (hsg : sg ∈ st.segs) (hfl : sg.flushing = none) :
    ∀ sh ∈ st.shared, sh.ptr ≠ sg.ptr :=
  fun sh hsh hp => hinv.guard sh hsh sg hsg hp.symm hfl

/-- **After WriteAt** the written segment has `flushing == nil`, hence its own array. -/
theorem writeAt_unshared (acap : Nat → Nat) {st st' : State} (hinv : Inv st) {i off : Nat} {p : Bytes}
    (h : stepRt acap st (Op.writeAt i p off) = some st') :
    ∃ sg', st'.segs[i]? = some sg' ∧ sg'.flushing = none ∧ ∀ sh ∈ st'.shared, sh.ptr ≠ sg'.ptr := by
  suffices hs : OptAll (fun st' => ∃ sg', st'.segs[i]? = some sg' ∧ sg'.flushing = none)
      (stepRt acap st (Op.writeAt i p off)) by
    obtain ⟨sg', h1, h2⟩ := hs.of_eq h
    exact ⟨sg', h1, h2, ((stepRt_inv acap hinv _).of_eq h).1.unshared (List.mem_of_getElem? h1) h2⟩
  rw [stepRt]
  cases hi : st.segs[i]? with
  | none => trivial
  | some sg =>
    have hlt := (List.getElem?_eq_some_iff.mp hi).1
    refine OptAll.ite ⟨_, List.getElem?_set_self hlt, rfl⟩ ?_
    rw [step, hi]
    exact OptAll.ite trivial (OptAll.ite_neg ⟨_, List.getElem?_set_self hlt, rfl⟩
      (fun hfl => ⟨sg, hi, Classical.not_not.mp hfl⟩))

/-- **After a growing Truncate** likewise: either the segment was not being flushed (and then shares
with nobody), or it got a fresh array and `flushing == nil`. -/
theorem truncate_grow_unshared (acap : Nat → Nat) {st st' : State} (hinv : Inv st) {i n : Nat} {sg : MSeg}
    (hi : st.segs[i]? = some sg) (hgrow : sg.len < n) (h : stepRt acap st (Op.truncate i n) = some st') :
    ∃ sg', st'.segs[i]? = some sg' ∧ sg'.flushing = none ∧ sg'.len = n ∧ ∀ sh ∈ st'.shared, sh.ptr ≠ sg'.ptr := by
  suffices hs : OptAll (fun st' => ∃ sg', st'.segs[i]? = some sg' ∧ sg'.flushing = none ∧ sg'.len = n)
      (stepRt acap st (Op.truncate i n)) by
    obtain ⟨sg', h1, h2, h3⟩ := hs.of_eq h
    exact ⟨sg', h1, h2, h3, ((stepRt_inv acap hinv _).of_eq h).1.unshared (List.mem_of_getElem? h1) h2⟩
  have hlt := (List.getElem?_eq_some_iff.mp hi).1
  simp only [stepRt]
  rw [step, hi]
  -- in place only if `flushing == nil`: a marked segment that grows gets a new array
  exact OptAll.ite_neg ⟨_, List.getElem?_set_self hlt, rfl, rfl⟩ (fun hc =>
    ⟨_, List.getElem?_set_self hlt, Classical.byContradiction (fun hne => hc (Or.inr ⟨hne, hgrow⟩)), rfl⟩)

end ArvVerif.C13.Cow
