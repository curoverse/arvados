/-
What a run of the per-cluster loop (`Loop`) ends with, by induction on runs; against honest and
repeating backends; and against a backend whose context is cancelled at some call (`cutBackend`).
-/
import ArvVerif.Proofs.C20_Loop
namespace ArvVerif.C20

/-- An honest answer to `uuid in batch`: a duplicate-free list of existing objects whose uuid is in
the batch, non-empty whenever such an object exists (any size ≥ 1, any order). `ex` says which
uuids exist on that cluster. -/
def HonestResp (ex : Uuid → Bool) (batch : List Uuid) (r : Resp) : Prop :=
  ∃ items, r = .page items ∧ (pageUuids items).Nodup ∧
    (∀ u ∈ pageUuids items, u ∈ batch ∧ ex u = true) ∧
    ((∃ u ∈ batch, ex u = true) → items ≠ [])

def Honest (ex : Uuid → Bool) (B : Backend) : Prop :=
  ∀ (o : Opts) (batch : List Uuid) (idx : Nat), o.filters = [batchFilter batch] →
    HonestResp ex batch (B o idx)

/-- A backend that pages correctly except that it may also return existing objects outside the
batch (e.g. objects it already delivered, "repeated items"): every returned object exists, and
while a wanted object remains the page contains one. -/
def RepeatingHonest (ex : Uuid → Bool) (B : Backend) : Prop :=
  ∀ (o : Opts) (batch : List Uuid) (idx : Nat), o.filters = [batchFilter batch] →
    ∃ items, B o idx = .page items ∧ (∀ u ∈ pageUuids items, ex u = true) ∧
      ((∃ u ∈ batch, ex u = true) → ∃ u ∈ pageUuids items, u ∈ batch)

theorem honest_repeating (ex : Uuid → Bool) (B : Backend) (h : Honest ex B) : RepeatingHonest ex B := by
  intro o batch idx hf
  obtain ⟨items, h1, _, h3, h4⟩ := h o batch idx hf
  refine ⟨items, h1, fun u hu => (h3 u hu).2, fun hex => ?_⟩
  obtain ⟨x, xs, rfl⟩ := List.exists_cons_of_ne_nil (h4 hex)
  exact ⟨x.uuid, List.mem_cons_self, (h3 x.uuid List.mem_cons_self).1⟩

/-- The first `k ≥ 1` of a filtered list are some when an element passes the filter: what the clause
`(∃ u ∈ batch, ex u = true) → items ≠ []` of honesty asks of a backend that pages that way. -/
theorem take_filter_cons {α : Type} {p : α → Bool} {l : List α} {k : Nat} (hk : 0 < k) {x : α}
    (hx : x ∈ l) (hp : p x = true) : ∃ y ys, (l.filter p).take k = y :: ys := by
  cases hfl : l.filter p with
  | nil => rw [List.filter_eq_nil_iff] at hfl; exact absurd hp (hfl x hx)
  | cons y ys =>
    obtain ⟨k, rfl⟩ : ∃ n, k = n + 1 := ⟨k - 1, by omega⟩
    exact ⟨y, _, rfl⟩

def logItems (log : List (Opts × Resp)) : List Obj := log.flatMap (fun e => respItems e.2)

theorem pageUuids_append (a b : List Obj) : pageUuids (a ++ b) = pageUuids a ++ pageUuids b := by
  simp [pageUuids]

section
variable {B : Backend} {ropts : Opts} {todo : List Uuid} {idx : Nat} {r : CRes}

/-- With `loop_run`: the fuel `|todo|` of the model is never used up (`Stop.starved` does not occur). -/
theorem Loop.ends (h : Loop B ropts todo idx r) :
    (r.stop = .done ∨ r.stop = .failed 502) ∧ r.log.length ≤ todo.length ∧
      (todo ≠ [] → 0 < r.log.length) := by
  induction h with
  | nil => simp
  | stop hne hv =>
    have := List.length_pos_iff.mpr hne
    refine ⟨?_, this, fun _ => Nat.one_pos⟩
    rcases (verdict_stop hv).2 with h | ⟨h, _⟩
    · exact Or.inr h
    · exact Or.inl h
  | more _ hv _ ih =>
    have := verdict_more_lt hv
    simp only [push_stop, push_log, List.length_cons]
    exact ⟨ih.1, by omega, fun _ => by omega⟩

theorem Loop.pages_log (h : Loop B ropts todo idx r) : r.pages.flatten = logItems r.log := by
  induction h with
  | nil => rfl
  | stop _ hv => simpa [logItems] using (verdict_stop hv).1
  | more _ hv _ ih =>
    simp only [push_pages, push_log, List.flatten_cons, ih, (verdict_more hv).1, logItems, List.flatMap_cons, respItems]

theorem Loop.log_entries (h : Loop B ropts todo idx r) :
    ∀ e ∈ r.log, ∃ batch i, batch ≠ [] ∧ (∀ u ∈ batch, u ∈ todo) ∧
      e = (batchReq ropts batch, B (batchReq ropts batch) i) ∧
      ((∃ items, verdict batch e.2 = .more items) ∨ ∃ pg, verdict batch e.2 = .stop pg r.stop) := by
  induction h with
  | nil => intro e he; cases he
  | stop hne hv =>
    intro e he
    obtain rfl := List.mem_singleton.mp he
    exact ⟨_, _, hne, fun _ h => h, rfl, Or.inr ⟨_, hv⟩⟩
  | @more todo idx items r hne hv _ ih =>
    intro e he
    rcases List.mem_cons.mp he with rfl | he
    · exact ⟨todo, idx, hne, fun _ h => h, rfl, Or.inl ⟨_, hv⟩⟩
    · obtain ⟨batch, i, h1, h2, h3, h4⟩ := ih e he
      exact ⟨batch, i, h1, fun u hu => (mem_remaining.mp (h2 u hu)).1, h3, h4⟩

theorem Loop.provenance (h : Loop B ropts todo idx r) :
    ∀ x ∈ r.pages.flatten, ∃ batch i items,
      (∀ u ∈ batch, u ∈ todo) ∧ B (batchReq ropts batch) i = .page items ∧ x ∈ items := by
  intro x hx
  rw [h.pages_log] at hx
  obtain ⟨e, he, hxe⟩ := List.mem_flatMap.mp hx
  obtain ⟨batch, i, _, hb, rfl, -⟩ := h.log_entries e he
  cases hB : B (batchReq ropts batch) i with
  | error s => simp [hB, respItems] at hxe
  | page items => exact ⟨batch, i, items, hb, hB, by simpa [hB, respItems] using hxe⟩

theorem remaining_append (todo : List Uuid) (a b : List Obj) :
    remaining todo (a ++ b) = remaining (remaining todo a) b := by
  simp [remaining, pageUuids_append, List.filter_filter, not_or, Bool.and_comm]

theorem Loop.done_spec (h : Loop B ropts todo idx r) (hd : r.stop = .done) :
    (pageUuids r.pages.flatten).Nodup ∧ (∀ u ∈ pageUuids r.pages.flatten, u ∈ todo) ∧
    (remaining todo r.pages.flatten = [] ∨
      ∃ i, B (batchReq ropts (remaining todo r.pages.flatten)) i = .page []) := by
  induction h with
  | nil => simp [pageUuids, remaining]
  | @stop todo idx pg st _ hv =>
    obtain ⟨h1, h | ⟨_, h⟩⟩ := verdict_stop hv
    · rw [h] at hd; cases hd
    · have : remaining todo [] = todo := by simp [remaining, pageUuids]
      simp only [h1, h, respItems, this]
      exact ⟨List.nodup_nil, nofun, Or.inr ⟨idx, h⟩⟩
  | more _ hv _ ih =>
    obtain ⟨-, -, hnd, hsub⟩ := verdict_more hv
    obtain ⟨h1, h2, h3⟩ := ih hd
    simp only [push_pages, List.flatten_cons, pageUuids_append, remaining_append]
    refine ⟨List.nodup_append.mpr ⟨hnd, h1, ?_⟩, fun u hu => ?_, h3⟩
    · rintro a ha _ hb rfl
      exact (mem_remaining.mp (h2 a hb)).2 ha
    · rcases List.mem_append.mp hu with hu | hu
      · exact hsub u hu
      · exact (mem_remaining.mp (h2 u hu)).1

theorem Loop.complete {ex : Uuid → Bool} (hB : RepeatingHonest ex B) (h : Loop B ropts todo idx r)
    (hd : r.stop = .done) (u : Uuid) : u ∈ pageUuids r.pages.flatten ↔ u ∈ todo ∧ ex u = true := by
  obtain ⟨-, hsub, hlast⟩ := h.done_spec hd
  refine ⟨fun hu => ⟨hsub u hu, ?_⟩, fun ⟨hu, he⟩ => Classical.byContradiction fun hn => ?_⟩
  · obtain ⟨x, hx, rfl⟩ := List.mem_map.mp hu
    obtain ⟨batch, i, items, -, hcall, hxin⟩ := h.provenance x hx
    obtain ⟨items', h1, hex, -⟩ := hB (batchReq ropts batch) batch i rfl
    rw [hcall] at h1; cases h1
    exact hex _ (List.mem_map_of_mem hxin)
  · -- `u` was left over, so the last answer, an empty page, was not honest
    have hu' := mem_remaining.mpr ⟨hu, hn⟩
    rcases hlast with h0 | ⟨i, hi⟩
    · rw [h0] at hu'; cases hu'
    · obtain ⟨items, h1, -, hprog⟩ := hB (batchReq ropts _) _ i rfl
      rw [hi] at h1; cases h1
      obtain ⟨v, hv, _⟩ := hprog ⟨u, hu', he⟩
      cases hv

theorem Loop.honest_done {ex : Uuid → Bool} (hB : Honest ex B) (h : Loop B ropts todo idx r) :
    r.stop = .done := by
  induction h with
  | nil => rfl
  | @stop todo idx pg st _ hv =>
    obtain ⟨items, hresp, hnd, hsub, -⟩ := hB (batchReq ropts todo) todo idx rfl
    rw [hresp, verdict_page] at hv
    split at hv
    · cases hv; rfl
    · rw [if_pos ⟨hnd, fun u hu => (hsub u hu).1⟩] at hv; cases hv
  | more _ _ _ ih => exact ih

end

theorem cutBackend_lt (B : Backend) (cut : Option Nat) (idx : Nat) (req : Opts)
    (h : ∀ k, cut = some k → idx + 1 ≤ k) : cutBackend B cut req idx = B req idx := by
  cases cut with
  | none => rfl
  | some k =>
    have := h k rfl
    simp only [cutBackend]
    rw [if_neg (by omega)]

theorem loop_cut_at {B : Backend} {ropts : Opts} {todo : List Uuid} (idx : Nat) (hne : todo ≠ []) :
    clusterLoop (cutBackend B (some idx)) ropts todo.length todo idx =
      ⟨[], [(batchReq ropts todo, .error 0)], .failed 502⟩ := by
  rw [loop_unfold hne]
  simp [cutBackend, verdict]

section
variable {B : Backend} {ropts : Opts} {todo : List Uuid} {idx : Nat} {r : CRes}

theorem Loop.cut (k : Nat) (h : Loop B ropts todo idx r) (hk : r.log.length + idx ≤ k) :
    Loop (cutBackend B (some k)) ropts todo idx r := by
  induction h with
  | nil idx => exact .nil idx
  | @stop todo idx pg st hne hv =>
    simp only [List.length_cons] at hk
    rw [← cutBackend_lt B (some k) idx _ (fun _ e => by cases e; omega)] at hv ⊢
    exact .stop hne hv
  | @more todo idx items r hne hv _ ih =>
    simp only [push_log, List.length_cons] at hk
    rw [← cutBackend_lt B (some k) idx _ (fun _ e => by cases e; omega)] at hv ⊢
    exact .more hne hv (ih (by omega))

theorem Loop.cut_fails (k : Nat) (h : Loop B ropts todo idx r) (hk : idx ≤ k)
    (hlt : k < r.log.length + idx) :
    (clusterLoop (cutBackend B (some k)) ropts todo.length todo idx).stop = .failed 502 := by
  induction h with
  | nil => simp at hlt; omega
  | @stop todo idx pg st hne hv =>
    obtain rfl : k = idx := by simp at hlt; omega
    rw [loop_cut_at k hne]
  | @more todo idx items r hne hv _ ih =>
    simp only [push_log, List.length_cons] at hlt
    by_cases hke : k = idx
    · subst hke; rw [loop_cut_at k hne]
    · rw [loop_unfold hne, cutBackend_lt B (some k) idx _ (fun _ e => by cases e; omega), hv]
      exact ih (by omega) (by omega)

end

end ArvVerif.C20
