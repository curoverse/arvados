/-
C10 — the text `Extract` renders parses back. `normalizedText(name, files)` prints the stream
`normStream name files` (blocks of pass 1, spans of pass 2 as file tokens); under `RenderOk` that stream is
one the package's parser accepts (`PkgOk`), so `pkgStreams_render` (C10_PkgText) applies. Second half: over
the printed streams every path resolves to the concatenation of the bytes of the source files mapped to it.
-/
import ArvVerif.Proofs.C10_Extract
import ArvVerif.Proofs.C10_PkgText
namespace ArvVerif.C10

def normFileFToks (tbl : List (Bytes × Nat)) (fn : Bytes) (segs : List Seg) : List FTok :=
  ((normSpansS tbl segs none).map fun p => (⟨p.1, p.2, fn⟩ : FTok)) ++
    (if segs.isEmpty then [⟨0, 0, fn⟩] else [])

def normStream (name : Bytes) (files : List (Bytes × List Seg)) : Stream :=
  let sorted := sortBytes (files.map (·.1))
  let segsOf := fun fn => match files.find? (·.1 = fn) with | some e => e.2 | none => []
  let r := normBlocks (sorted.flatMap segsOf) [] [] 0
  let btoks := if r.2.1 = [] then [emptyBlockLocator] else r.2.1
  ⟨name, btoks.map (fun t => ⟨t, locSize t⟩), sorted.flatMap fun fn => normFileFToks r.1 fn (segsOf fn)⟩

theorem normFileFToks_eq (tbl : List (Bytes × Nat)) (fn : Bytes) (segs : List Seg) :
    normFileFToks tbl fn segs = (fileSpans tbl segs).map fun p => ⟨p.1, p.2, fn⟩ := by
  unfold normFileFToks fileSpans
  rw [List.map_append]
  split <;> rfl

theorem normStream_eq (name : Bytes) (files : List (Bytes × List Seg)) :
    normStream name files = ⟨name, (lineBtoks files).map fun t => ⟨t, locSize t⟩,
      (sortBytes (files.map (·.1))).flatMap fun fn => normFileFToks (pass1 files).1 fn (segsOfFiles files fn)⟩ :=
  rfl

theorem normalizedText_render (name : Bytes) (files : List (Bytes × List Seg)) :
    normalizedText name files = renderStream (normStream name files) ++ [bNL] := by
  rw [normalizedText_eq, normStream_eq, renderStream]
  simp only [List.map_map, List.map_flatMap, normFileFToks_eq, normFileToks_eq]
  congr 4
  simp [Function.comp_def]

theorem normFileToks_parse (tbl : List (Bytes × Nat)) (fn : Bytes) (segs : List Seg)
    (hb : ∀ p ∈ fileSpans tbl segs, p.1 < two64 ∧ p.2 < two64) :
    (normFileToks tbl fn segs).map pkgFileTok = (fileSpans tbl segs).map fun p => some ⟨p.1, p.2, fn⟩ := by
  rw [normFileToks_eq, List.map_map]
  refine List.map_congr_left fun p hp => ?_
  rw [Function.comp, spanTok]
  exact pkgFileTok_rendered p.1 p.2 fn (hb p hp).1 (hb p hp).2

/-- segments as `segment()` produces them -/
structure SegOk (s : Seg) : Prop where
  loc : isGoLocator s.loc = true
  size : locSize s.loc < two63
  inside : s.off + s.len ≤ locSize s.loc
  pos : 0 < s.len

theorem normSpansS_inside (tbl : List (Bytes × Nat)) (total : Nat) (segs : List Seg) (cur : Option (Nat × Nat))
    (hb : ∀ s ∈ segs, tblLookup tbl (digestKey s.loc) + s.off + s.len ≤ total)
    (hc : ∀ a b, cur = some (a, b) → a ≤ b ∧ b ≤ total) :
    ∀ p ∈ normSpansS tbl segs cur, p.1 + p.2 ≤ total := by
  fun_induction normSpansS tbl segs cur with
  | case1 => simp
  | case2 a b =>
    have := hc a b rfl
    simp only [List.mem_singleton, forall_eq]
    omega
  | case3 s rest so ih =>
    obtain ⟨hs, hr⟩ := List.forall_mem_cons.mp hb
    exact ih hr (by intro a b h; cases h; omega)
  | case4 s rest so a ih =>
    obtain ⟨hs, hr⟩ := List.forall_mem_cons.mp hb
    have := hc a so rfl
    exact ih hr (by intro a b h; cases h; omega)
  | case5 s rest so a b _ ih =>
    obtain ⟨hs, hr⟩ := List.forall_mem_cons.mp hb
    have := hc a b rfl
    exact List.forall_mem_cons.mpr ⟨by omega, ih hr (by intro a b h; cases h; omega)⟩

theorem pass1_spec (blk : Bytes → Bytes) (all : List Seg) (hc : DigestConsistent blk all) :
    let r := normBlocks all [] [] 0
    let B : List Loc := r.2.1.map fun t => ⟨t, locSize t⟩
    (∀ t ∈ r.2.1, ∃ s ∈ all, s.loc = t) ∧ (∀ b ∈ B, (blk b.text).length = b.size) ∧
    ∀ s ∈ all, 0 < locSize s.loc → tblLookup r.1 (digestKey s.loc) + locSize s.loc ≤ streamLen B := by
  intro r B
  obtain ⟨_, r2, r3⟩ := normBlocks_placed blk all hc all [] [] 0 (fun _ h => h) rfl (by simp) (by simp)
  have hB : ∀ b ∈ B, (blk b.text).length = b.size := by
    intro b hb
    obtain ⟨t, ht, rfl⟩ := List.mem_map.mp hb
    obtain ⟨s, hs, rfl⟩ := r2 t ht
    exact hc.len s hs
  refine ⟨r2, hB, fun s hs hpos => ?_⟩
  have hl := congrArg List.length (r3 s hs (Or.inr hs))
  rw [hc.len s hs, slice, List.length_take, List.length_drop, streamBytes_length blk B hB] at hl
  change tblLookup (normBlocks all [] [] 0).1 _ + _ ≤ _
  omega

/-- the hypothesis of the `Extract` round trip on one selected stream (name after relocation, its files) -/
structure RenderOk (blk : Bytes → Bytes) (name : Bytes) (files : List (Bytes × List Seg)) : Prop where
  shape : name = [bDot] ∨ [bDot, bSlash].isPrefixOf name = true
  nonempty : files ≠ []
  segs : ∀ s ∈ allSegs files, SegOk s
  consistent : DigestConsistent blk (allSegs files)
  fits : streamLen (normStream name files).blocks < two64
  clean : ∀ fn ∈ files.map (·.1), fixStreamName (pathOf name fn) = pathOf name fn

theorem emptyBlockLocator_go : isGoLocator emptyBlockLocator = true ∧ locSize emptyBlockLocator = 0 := by
  constructor <;> decide +kernel

theorem normSpansS_some_ne_nil (tbl : List (Bytes × Nat)) : ∀ (ss : List Seg) (cur : Nat × Nat),
    normSpansS tbl ss (some cur) ≠ []
  | [], _ => by simp [normSpansS]
  | s :: ss, _ => by
    simp only [normSpansS]
    split
    · exact normSpansS_some_ne_nil tbl ss _
    · simp

theorem fileSpans_ne_nil (tbl : List (Bytes × Nat)) : ∀ segs : List Seg, fileSpans tbl segs ≠ []
  | [] => by simp [fileSpans]
  | s :: rest => by simp [fileSpans, normSpansS, normSpansS_some_ne_nil]

theorem streamLen_pass1_le (files : List (Bytes × List Seg)) :
    streamLen ((pass1 files).2.1.map fun t => ⟨t, locSize t⟩) ≤
      streamLen ((lineBtoks files).map fun t => ⟨t, locSize t⟩) := by
  unfold lineBtoks
  split
  · rename_i h
    rw [h]
    exact Nat.zero_le _
  · exact Nat.le_refl _

theorem lineBtoks_ne_nil (files : List (Bytes × List Seg)) : lineBtoks files ≠ [] := by
  unfold lineBtoks
  split <;> simp [*]

section

variable {blk : Bytes → Bytes} {name : Bytes} {files : List (Bytes × List Seg)} (h : RenderOk blk name files)

include h

theorem lineBtoks_go : ∀ t ∈ lineBtoks files, isGoLocator t = true ∧ locSize t < two63 := by
  intro t ht
  unfold lineBtoks at ht
  split at ht
  · rw [List.mem_singleton.mp ht, emptyBlockLocator_go.2]
    exact ⟨emptyBlockLocator_go.1, by decide⟩
  · obtain ⟨s, hs, rfl⟩ := (pass1_spec blk _ h.consistent).1 t ht
    exact ⟨(h.segs s hs).loc, (h.segs s hs).size⟩

theorem fileSpans_inside : ∀ fn ∈ sortBytes (files.map (·.1)), ∀ p ∈ fileSpans (pass1 files).1 (segsOfFiles files fn),
    p.1 + p.2 ≤ streamLen ((lineBtoks files).map fun t => ⟨t, locSize t⟩) := by
  intro fn hfn p hp
  rcases mem_fileSpans hp with hp | rfl
  · refine normSpansS_inside _ _ _ none (fun s hs => ?_) nofun p hp
    have hs : s ∈ allSegs files := List.mem_flatMap.mpr ⟨fn, hfn, hs⟩
    have ok := h.segs s hs
    have hpos : 0 < locSize s.loc := Nat.lt_of_lt_of_le ok.pos (Nat.le_trans (Nat.le_add_left _ _) ok.inside)
    rw [Nat.add_assoc]
    exact Nat.le_trans (Nat.add_le_add_left ok.inside _)
      (Nat.le_trans ((pass1_spec blk _ h.consistent).2.2 s hs hpos) (streamLen_pass1_le files))
  · exact Nat.zero_le _

theorem RenderOk.pkgOk : PkgOk (normStream name files) := by
  have hin := fileSpans_inside h
  have hfits := h.fits
  rw [normStream_eq] at hfits ⊢
  have hfile : ∀ f ∈ (sortBytes (files.map (·.1))).flatMap fun fn => normFileFToks (pass1 files).1 fn (segsOfFiles files fn),
      ∃ fn ∈ sortBytes (files.map (·.1)), ∃ p ∈ fileSpans (pass1 files).1 (segsOfFiles files fn), f = ⟨p.1, p.2, fn⟩ := by
    intro f hf
    obtain ⟨fn, hfn, hf⟩ := List.mem_flatMap.mp hf
    rw [normFileFToks_eq] at hf
    obtain ⟨p, hp, rfl⟩ := List.mem_map.mp hf
    exact ⟨fn, hfn, p, hp, rfl⟩
  refine ⟨h.shape, ?_, ⟨?_, hfits, fun f hf => ?_⟩, by simpa using lineBtoks_ne_nil files, fun he => ?_, fun f hf => ?_⟩
  · simpa using fun t ht => (lineBtoks_go h t ht).1
  · simpa using fun t ht => (lineBtoks_go h t ht).2
  · obtain ⟨fn, hfn, p, hp, rfl⟩ := hfile f hf
    exact hin fn hfn p hp
  · obtain ⟨f, rest, hf⟩ := List.exists_cons_of_ne_nil h.nonempty
    have := List.flatMap_eq_nil_iff.mp he f.1 ((sortBytes_perm _).mem_iff.mpr (by simp [hf]))
    rw [normFileFToks_eq, List.map_eq_nil_iff] at this
    exact fileSpans_ne_nil _ _ this
  · obtain ⟨fn, hfn, p, hp, rfl⟩ := hfile f hf
    exact h.clean fn ((sortBytes_perm _).mem_iff.mp hfn)

end

theorem pkgStreams_rendered (blk : Bytes → Bytes) (outs : List (Bytes × List (Bytes × List Seg)))
    (hok : ∀ o ∈ outs, RenderOk blk o.1 o.2) :
    pkgStreams (outs.flatMap fun o => normalizedText o.1 o.2) =
      outs.map fun o => toPStream (normStream o.1 o.2) := by
  have := pkgStreams_render (outs.map fun o => normStream o.1 o.2)
    (List.forall_mem_map.mpr fun o ho => (hok o ho).pkgOk)
  simpa only [List.flatMap_map, List.map_map, Function.comp_def, normalizedText_render] using this

theorem normBlocks_toks_ne_nil : ∀ (segs : List Seg) (tbl : List (Bytes × Nat)) (toks : List Bytes) (off : Nat),
    toks ≠ [] → (normBlocks segs tbl toks off).2.1 ≠ []
  | [], _, _, _, h => h
  | s :: rest, tbl, toks, off, h => by
    unfold normBlocks
    split
    · exact normBlocks_toks_ne_nil rest _ _ _ h
    · exact normBlocks_toks_ne_nil rest _ _ _ (by simp)

theorem normBlocks_nil : ∀ all : List Seg, (normBlocks all [] [] 0).2.1 = [] → all = []
  | [], _ => rfl
  | s :: rest, h => absurd h (normBlocks_toks_ne_nil rest _ _ _ (by simp))

theorem fileSpans_bytes (blk : Bytes → Bytes) (files : List (Bytes × List Seg))
    (hc : DigestConsistent blk (allSegs files)) (fn : Bytes) (hfn : fn ∈ sortBytes (files.map (·.1))) :
    ((fileSpans (pass1 files).1 (segsOfFiles files fn)).flatMap fun q =>
        segBytes blk (resolveTok ((lineBtoks files).map fun t => ⟨t, locSize t⟩) 0 q.1 q.2)) =
      segBytes blk (segsOfFiles files fn) := by
  unfold fileSpans
  rw [List.flatMap_append, ← List.append_nil (segBytes blk _)]
  congr 1
  · unfold lineBtoks
    split
    · rename_i hnil
      have : segsOfFiles files fn = [] := List.flatMap_eq_nil_iff.mp (normBlocks_nil _ hnil) fn hfn
      rw [this]
      rfl
    · rw [← normalizedText_bytes blk files hc fn hfn]
      exact flatMap_congr_mem fun q _ => resolveTok_bytes_zero blk _ q.1 q.2 (pass1_spec blk _ hc).2.1
  · split <;> simp [resolveTok_len0, segBytes]

theorem normStream_bytes (blk : Bytes → Bytes) (name : Bytes) (files : List (Bytes × List Seg))
    (hc : DigestConsistent blk (allSegs files)) (p : Bytes) :
    segBytes blk (resolveStream (normStream name files) p) =
      (sortBytes (files.map (·.1))).flatMap fun fn =>
        if pathOf name fn = p then segBytes blk (segsOfFiles files fn) else [] := by
  rw [normStream_eq]
  unfold resolveStream
  dsimp only
  rw [List.flatMap_assoc, segBytes_flatMap]
  refine flatMap_congr_mem fun fn hfn => ?_
  rw [normFileFToks_eq, List.flatMap_map, segBytes_flatMap]
  by_cases hp : pathOf name fn = p
  · simp only [hp, if_true]
    exact fileSpans_bytes blk files hc fn hfn
  · simp [hp, segBytes]

theorem outs_bytes (blk : Bytes → Bytes) (outs : List (Bytes × List (Bytes × List Seg)))
    (hc : ∀ o ∈ outs, DigestConsistent blk (allSegs o.2)) (p : Bytes) :
    segBytes blk (resolve (outs.map fun o => normStream o.1 o.2) p) =
      outs.flatMap fun o => (sortBytes (o.2.map (·.1))).flatMap fun fn =>
        if pathOf o.1 fn = p then segBytes blk (segsOfFiles o.2 fn) else [] := by
  unfold resolve
  rw [List.flatMap_map, segBytes_flatMap]
  exact flatMap_congr_mem fun o ho => normStream_bytes blk o.1 o.2 (hc o ho) p

end ArvVerif.C10
