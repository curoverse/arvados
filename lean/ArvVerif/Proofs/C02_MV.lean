/-
C02 helper lemmas: PutBlock over several volumes. A cross-volume event list is handled
volume by volume (`projEvs`). What `handlePutMV` does is made of Compare / Touch runs and
`WriteBlock` runs, each on one writable volume (`MPutEvs`); so every volume sees a list of the
kind a single-volume PUT produces (`PutEvs`), and what holds of every crash prefix of such a list
holds on every volume at once.
-/
import ArvVerif.Model.C02_MV
import ArvVerif.Proofs.C02_Put
namespace ArvVerif.C02

variable {h : Name} {body : Bytes} {w : WBIn}

theorem projEvs_nil (i : Nat) : projEvs i [] = [] := rfl

theorem projEvs_append (i : Nat) (a b : List MEv) : projEvs i (a ++ b) = projEvs i a ++ projEvs i b := by
  simp [projEvs]

theorem projEvs_tag (i j : Nat) (l : List Ev) : projEvs i (tagEvs j l) = if i = j then l else [] := by
  by_cases h : i = j <;> simp [projEvs, tagEvs, List.filter_map, Function.comp_def, h, @eq_comm _ j]

theorem projEvs_take (i : Nat) (evs : List MEv) (k : Nat) :
    ∃ k', projEvs i (evs.take k) = (projEvs i evs).take k' :=
  ⟨_, List.prefix_iff_eq_take.1 (((List.take_prefix k evs).filter _).map _)⟩

/-- `V i`: something may happen on mount `i`; `W i w`: the run `w` may happen on mount `i`. -/
inductive MPutEvs (h : Name) (V : Nat → Prop) (W : Nat → WBIn → Prop) : List MEv → Prop where
  | nil : MPutEvs h V W []
  | looks {i : Nat} {l : List Ev} : V i → Looks h l → MPutEvs h V W (tagEvs i l)
  | write {i : Nat} {w : WBIn} : V i → W i w → MPutEvs h V W (tagEvs i (writeBlockEvs w).1)
  | append {a b : List MEv} : MPutEvs h V W a → MPutEvs h V W b → MPutEvs h V W (a ++ b)

theorem MPutEvs.proj {V : Nat → Prop} {W : Nat → WBIn → Prop} {evs : List MEv}
    (hs : MPutEvs h V W evs) (i : Nat) : PutEvs h (W i) (projEvs i evs) := by
  induction hs with
  | nil => exact .looks (looks_nil h)
  | @looks j l _ hl =>
    rw [projEvs_tag]
    split
    · exact .looks hl
    · exact .looks (looks_nil h)
  | @write j w _ hw =>
    rw [projEvs_tag]
    split
    · next hij => exact .write (hij ▸ hw)
    · exact .looks (looks_nil h)
  | append _ _ iha ihb => rw [projEvs_append]; exact iha.append ihb

theorem MPutEvs.untouched {V : Nat → Prop} {W : Nat → WBIn → Prop} {evs : List MEv}
    (hs : MPutEvs h V W evs) {i : Nat} (hi : ¬ V i) : projEvs i evs = [] := by
  induction hs with
  | nil => rfl
  | @looks j l hj _ => rw [projEvs_tag, if_neg (fun hij : i = j => hi (hij ▸ hj))]
  | @write j w hj _ => rw [projEvs_tag, if_neg (fun hij : i = j => hi (hij ▸ hj))]
  | append _ _ iha ihb => rw [projEvs_append, iha, ihb]; rfl

/-- the `WriteBlock` runs a request can make on volume `i` -/
def MPutIn.runsOn (p : MPutIn) (c : MVCfg) (i : Nat) (w : WBIn) : Prop :=
  c.full i = false ∧ (w = p.first ∨ w = p.loop i)

theorem MPutIn.valid.writes {p : MPutIn} (hp : p.valid) {c : MVCfg} {i : Nat}
    (hw : p.runsOn c i w) : w.writes p.h p.body := by
  rcases hw.2 with rfl | rfl
  · exact hp.1
  · exact hp.2 i

def AckAt (h : Name) (body : Bytes) (j : Nat) (evs : List MEv) : Prop := Acks h body (projEvs j evs)

theorem ackAt_append_right {j : Nat} {a b : List MEv}
    (hb : AckAt h body j b) : AckAt h body j (a ++ b) := by
  rw [AckAt, projEvs_append]
  exact acks_append_right hb

section
variable (hash : Bytes → Name) (c : MVCfg) (vs : Nat → FS) (p : MPutIn) {V : Nat → Prop}
  {W : Nat → WBIn → Prop}

theorem compareAndTouch_spec : ∀ (ws : List Nat) (pos : Nat), (∀ i ∈ ws, V i) →
    MPutEvs p.h V W (compareAndTouchMV hash vs p ws pos).1 ∧
    ∀ j, (compareAndTouchMV hash vs p ws pos).2 = .touched j →
      j ∈ ws ∧ (vs j).data (blockPath p.h) = some p.body
  | [], _, _ => ⟨.nil, nofun⟩
  | i :: rest, pos, hws => by
    obtain ⟨hi, hrest⟩ := List.forall_mem_cons.1 hws
    have hc : MPutEvs p.h V W (tagEvs i (compareEvs (vs i) p.h)) := .looks hi (compare_looks _ _)
    have ht : MPutEvs p.h V W (tagEvs i (touchEvs (vs i) p.h p.now (p.touchFail i)).1) :=
      .looks hi (touch_looks _ _ _ _)
    obtain ⟨ih, ihj⟩ := compareAndTouch_spec rest (pos + 1) hrest
    have ihj' := fun j h => (ihj j h).imp_left (List.mem_cons_of_mem i)
    generalize hr : compareAndTouchMV hash vs p (i :: rest) pos = r
    simp only [compareAndTouchMV] at hr
    split at hr
    · subst hr; exact ⟨hc, nofun⟩
    · split at hr
      · subst hr; exact ⟨hc.append ih, ihj'⟩
      · next f hf =>
        split at hr
        · next hd =>
          split at hr <;> subst hr
          · exact ⟨hc.append ht, fun j h => by cases h; exact ⟨List.mem_cons_self, by rw [data_of_get hf, hd]⟩⟩
          · exact ⟨(hc.append ht).append ih, ihj'⟩
        · split at hr <;> subst hr
          · exact ⟨hc, nofun⟩
          · exact ⟨hc.append ih, ihj'⟩

theorem putOn_spec {i : Nat} (hi : V i) (hW : c.full i = false → W i w) :
    MPutEvs h V W (putOn c i w).1 ∧
    (w.writes h body → (putOn c i w).2 = true → AckAt h body i (putOn c i w).1) := by
  unfold putOn
  split
  · exact ⟨.nil, nofun⟩
  · next hf =>
    refine ⟨.write hi (hW (by simpa using hf)), fun hw hok => ?_⟩
    rw [AckAt, projEvs_tag, if_pos rfl]
    exact acks_wb hw hok

theorem loopPuts_spec : ∀ (ws : List Nat) (allFull : Bool) (call : Nat), (∀ i ∈ ws, V i) →
    MPutEvs p.h V (p.runsOn c) (loopPuts c p allFull ws call).1 ∧
    (p.valid → (loopPuts c p allFull ws call).2.1 = .ok200 →
      ∃ j ∈ ws, (loopPuts c p allFull ws call).2.2 = some j ∧ AckAt p.h p.body j (loopPuts c p allFull ws call).1)
  | [], allFull, _, _ => ⟨.nil, fun _ h => by simp only [loopPuts] at h; split at h <;> cases h⟩
  | i :: rest, allFull, call, hws => by
    obtain ⟨hi, hrest⟩ := List.forall_mem_cons.1 hws
    obtain ⟨h1, a1⟩ := putOn_spec (W := p.runsOn c) (body := p.body) c hi fun hf => ⟨hf, .inr rfl⟩
    obtain ⟨ih, iha⟩ := loopPuts_spec rest (allFull && c.full i) (call + 1) hrest
    generalize hr : loopPuts c p allFull (i :: rest) call = r
    simp only [loopPuts] at hr
    split at hr
    · subst hr; exact ⟨h1, fun _ h => nomatch h⟩
    · split at hr <;> subst hr
      · next hok => exact ⟨h1, fun hp _ => ⟨i, List.mem_cons_self, rfl, a1 (hp.2 i) hok⟩⟩
      · refine ⟨h1.append ih, fun hp h => ?_⟩
        obtain ⟨j, hj, h2, h3⟩ := iha hp h
        exact ⟨j, List.mem_cons_of_mem _ hj, h2, ackAt_append_right h3⟩

theorem putBlockMV_spec :
    MPutEvs p.h (· ∈ c.writables) (p.runsOn c) (putBlockMV hash c vs p).1 ∧
    (p.valid → (putBlockMV hash c vs p).2.1 = .ok200 → ∃ j ∈ c.writables,
      (putBlockMV hash c vs p).2.2 = some j ∧
      (run (vs j) (projEvs j (putBlockMV hash c vs p).1)).data (blockPath p.h) = some p.body) := by
  obtain ⟨hct, htouched⟩ := compareAndTouch_spec (W := p.runsOn c) hash vs p c.writables 0 fun _ h => h
  generalize hr : putBlockMV hash c vs p = r
  simp only [putBlockMV] at hr
  split at hr
  · next i hi =>
    subst hr
    obtain ⟨hm, hd⟩ := htouched i hi
    -- CompareAndTouch only looks, so the identical copy is still there
    have hl := ((compareAndTouch_spec (V := fun _ => True) (W := fun _ _ => False) hash vs p
      c.writables 0 fun _ _ => trivial).1.proj i).looks_of_no_write fun _ => id
    exact ⟨hct, fun _ _ => ⟨i, hm, rfl, ((looks_data hl).run _ _).trans hd⟩⟩
  · subst hr; exact ⟨hct, fun _ h => nomatch h⟩
  · subst hr; exact ⟨hct, fun _ h => nomatch h⟩
  · split at hr
    · subst hr; exact ⟨hct, fun _ h => nomatch h⟩
    · next i0 hi0 =>
      have hm := List.mem_of_getElem? hi0
      obtain ⟨h0, a0⟩ := putOn_spec (W := p.runsOn c) (body := p.body) c hm fun hf => ⟨hf, .inl rfl⟩
      obtain ⟨hl, al⟩ := loopPuts_spec c p c.writables true 1 fun _ h => h
      split at hr
      · subst hr; exact ⟨hct.append h0, fun _ h => nomatch h⟩
      · split at hr <;> subst hr
        · next hok => exact ⟨hct.append h0, fun hp _ => ⟨i0, hm, rfl, ackAt_append_right (a0 hp.1 hok) _⟩⟩
        · refine ⟨(hct.append h0).append hl, fun hp h => ?_⟩
          obtain ⟨j, hj, h1, h2⟩ := al hp h
          exact ⟨j, hj, h1, ackAt_append_right h2 _⟩

theorem handlePutMV_spec :
    ((handlePutMV hash c vs p).1 = [] ∨ (isBlockName p.h = true ∧ hash p.body = p.h ∧
      MPutEvs p.h (· ∈ c.writables) (p.runsOn c) (handlePutMV hash c vs p).1)) ∧
    (p.valid → (handlePutMV hash c vs p).2.1 = .ok200 → hash p.body = p.h ∧ ∃ j ∈ c.writables,
      (handlePutMV hash c vs p).2.2 = some j ∧
      (run (vs j) (projEvs j (handlePutMV hash c vs p).1)).data (blockPath p.h) = some p.body) := by
  by_cases hb : isBlockName p.h = true
  · by_cases hh : hash p.body = p.h
    · rw [show handlePutMV hash c vs p = putBlockMV hash c vs p by simp [handlePutMV, hb, hh]]
      obtain ⟨hs, ha⟩ := putBlockMV_spec hash c vs p
      exact ⟨.inr ⟨hb, hh, hs⟩, fun hp h => ⟨hh, ha hp h⟩⟩
    · exact ⟨.inl (by simp [handlePutMV, hb, hh]), fun _ h => by simp [handlePutMV, hb, hh] at h⟩
  · exact ⟨.inl (by simp [handlePutMV, hb]), fun _ h => by simp [handlePutMV, hb] at h⟩

theorem Always.runMV {R : FS → FS → Prop} {evs : List MEv} {i : Nat} (ha : Always R (projEvs i evs))
    (k : Nat) : R (vs i) (runMV vs (evs.take k) i) := by
  obtain ⟨k', hk'⟩ := projEvs_take i evs k
  rw [C02.runMV, hk']
  exact ha _ k'

theorem mv_crash_atomic (hp : p.valid) (k i : Nat) :
    (runMV vs ((handlePutMV hash c vs p).1.take k) i).data (blockPath p.h) = (vs i).data (blockPath p.h) ∨
    ((runMV vs ((handlePutMV hash c vs p).1.take k) i).data (blockPath p.h) = some p.body ∧
      hash p.body = p.h) := by
  rcases (handlePutMV_spec hash c vs p).1 with h | ⟨_, hh, hs⟩
  · rw [h, List.take_nil]; exact .inl rfl
  · exact (((hs.proj i).oldOrNew fun _ hw => hp.writes hw).runMV vs k).imp_right (⟨·, hh⟩)

end

theorem mem_writables {c : MVCfg} {i : Nat} (h : i ∈ c.writables) : i < c.n ∧ c.readOnly i = false := by
  simp only [MVCfg.writables, List.mem_filter, List.mem_range, Bool.not_eq_true'] at h
  exact h

theorem getBlockOver_spec (hash : Bytes → Name) (vs : Nat → FS) (h : Name) : ∀ (l : List Nat) (acc : GetRes),
    (∃ j ∈ l, ∃ b, getBlock hash (vs j) h = .ok b ∧ getBlockOver hash vs h l acc = .ok b) ∨
    ((∀ j ∈ l, ∀ b, getBlock hash (vs j) h ≠ .ok b) ∧
      (getBlockOver hash vs h l acc = acc ∨ getBlockOver hash vs h l acc = .diskHashError))
  | [], _ => .inr ⟨nofun, .inl rfl⟩
  | i :: rest, acc => by
    simp only [getBlockOver]
    cases hg : getBlock hash (vs i) h with
    | ok b => exact .inl ⟨i, List.mem_cons_self, b, hg, rfl⟩
    | diskHashError =>
      rcases getBlockOver_spec hash vs h rest .diskHashError with ⟨j, hj, b, h1, h2⟩ | ⟨hn, h2⟩
      · exact .inl ⟨j, List.mem_cons_of_mem _ hj, b, h1, h2⟩
      · exact .inr ⟨List.forall_mem_cons.2 ⟨by simp [hg], hn⟩, .inr (h2.elim id id)⟩
    | notFound =>
      rcases getBlockOver_spec hash vs h rest acc with ⟨j, hj, b, h1, h2⟩ | ⟨hn, h2⟩
      · exact .inl ⟨j, List.mem_cons_of_mem _ hj, b, h1, h2⟩
      · exact .inr ⟨List.forall_mem_cons.2 ⟨by simp [hg], hn⟩, h2⟩

theorem getBlockMV_ok {hash : Bytes → Name} {c : MVCfg} {vs : Nat → FS} {h : Name} {j : Nat} {b : Bytes}
    (hj : j < c.n) (hb : getBlock hash (vs j) h = .ok b) :
    ∃ b', getBlockMV hash c vs h = .ok b' ∧ hash b' = h := by
  rcases getBlockOver_spec hash vs h (List.range c.n) .notFound with ⟨_, _, b', h1, h2⟩ | ⟨hn, _⟩
  · exact ⟨b', h2, getBlock_ok_hash h1⟩
  · exact absurd hb (hn j (List.mem_range.2 hj) b)

theorem getBlockMV_ok_inv {hash : Bytes → Name} {c : MVCfg} {vs : Nat → FS} {h : Name} {b : Bytes}
    (hb : getBlockMV hash c vs h = .ok b) : ∃ j < c.n, getBlock hash (vs j) h = .ok b := by
  rcases getBlockOver_spec hash vs h (List.range c.n) .notFound with ⟨j, hj, b', h1, h2⟩ | ⟨_, h2 | h2⟩
  · cases hb.symm.trans h2
    exact ⟨j, List.mem_range.1 hj, h1⟩
  · cases hb.symm.trans h2
  · cases hb.symm.trans h2

end ArvVerif.C02
