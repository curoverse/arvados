/-
C03: HashCheckingReader (hashcheck.go). The loops that consume a body are brought into closed form
(`readAll_eq`, `readLoop_eq`, `readFullClose_eq`): the data is a prefix of the body's content, and the
error depends only on how the body ends and on the digest of its whole content. Hence each way of
consuming a body succeeds exactly when the body ended cleanly and its whole content has the expected
digest (`endErr_eq_eof`, `writeTo_eq_none`, `readFullClose_eq_none`).
-/
import ArvVerif.Model.C03
namespace ArvVerif.C03

section Reader
variable {D : Type} [DecidableEq D] (hash : Bytes → D) (check : D)

theorem endErr_eq_eof {fin : Fin} {acc : Bytes} :
    endErr hash check fin acc = .eof ↔ fin = .eof ∧ hash acc = check := by
  cases fin <;> simp [endErr]

theorem endErr_ne_panic (fin : Fin) (acc : Bytes) : endErr hash check fin acc ≠ .panic := by
  unfold endErr
  split
  · nofun
  · split <;> nofun

theorem isEmpty_and_tog {rest : List Bytes} {tog : Bool} (h : (rest.isEmpty && tog) = true) : rest = [] := by
  cases rest <;> simp_all

theorem readAll_eq (fin : Fin) (tog : Bool) (chunks : List Bytes) (acc : Bytes) :
    readAll hash check fin tog chunks acc
      = (chunks.flatten, endErr hash check fin (acc ++ chunks.flatten)) := by
  fun_induction readAll hash check fin tog chunks acc with
  | case1 => simp
  | case2 c rest acc h => cases isEmpty_and_tog h; simp
  | case3 c rest acc h r ih => simp [r, ih]

/-- `readAll` is the iteration of `hcrRead` (with a buffer that holds the next chunk). -/
theorem readAll_unfold (fin : Fin) (tog : Bool) (c : Bytes) (rest : List Bytes) (acc : Bytes) (max : Nat)
    (hmax : c.length ≤ max) :
    readAll hash check fin tog (c :: rest) acc =
      (match hcrRead hash check fin tog max (c :: rest) acc with
       | (d, some e, _, _) => (d, e)
       | (d, none, rest', acc') =>
         let r := readAll hash check fin tog rest' acc'
         (d ++ r.1, r.2)) := by
  conv => lhs; unfold readAll
  unfold hcrRead
  simp only [hmax, if_true]
  split <;> simp

theorem readLoop_eq (fin : Fin) (tog : Bool) (chunks : List Bytes) (need : Nat) (acc : Bytes) :
    ∃ rest, readLoop hash check fin tog chunks need acc =
        (chunks.flatten.take need,
         if chunks.flatten.length < need then some (endErr hash check fin (acc ++ chunks.flatten)) else none,
         rest, acc ++ chunks.flatten.take need) ∧
      rest.flatten = chunks.flatten.drop need ∧ (chunks.flatten.length < need → rest = []) := by
  fun_induction readLoop hash check fin tog chunks need acc with
  | case1 acc => exact ⟨[], by simp, rfl, fun _ => rfl⟩
  | case2 need acc h =>
    exact ⟨[], by simp [Nat.pos_of_ne_zero h], List.drop_nil.symm, fun _ => rfl⟩
  | case3 c rest acc => exact ⟨c :: rest, by rw [List.take_zero, List.append_nil]; rfl, rfl, nofun⟩
  | case4 c rest need acc h0 h1 =>
    have hle := Nat.le_of_lt h1
    have hlen : ¬ (c ++ rest.flatten).length < need :=
      Nat.not_lt.mpr (List.length_append ▸ Nat.le_trans hle (Nat.le_add_right _ _))
    refine ⟨c.drop need :: rest, ?_, ?_, fun h => absurd h hlen⟩
    · rw [List.flatten_cons, List.take_append_of_le_length hle, if_neg hlen]
    · rw [List.flatten_cons, List.flatten_cons, List.drop_append_of_le_length hle]
  | case5 c rest need acc h0 h1 h2 =>
    cases isEmpty_and_tog h2
    have hc : c.length ≤ need := Nat.le_of_not_lt h1
    refine ⟨[], ?_, ?_, fun _ => rfl⟩
    · rw [List.flatten_cons, List.flatten_nil, List.append_nil, List.take_of_length_le hc]
      simp only [Nat.lt_iff_le_and_ne, hc, true_and, ite_not]
    · rw [List.flatten_cons, List.flatten_nil, List.append_nil, List.drop_eq_nil_of_le hc]
  | case6 c rest need acc h0 h1 h2 r ih =>
    obtain ⟨rest', hr, hflat, hnil⟩ := ih
    have hc : c.length ≤ need := Nat.le_of_not_lt h1
    have hlt : (c ++ rest.flatten).length < need ↔ rest.flatten.length < need - c.length := by
      rw [List.length_append]; omega
    refine ⟨rest', ?_, ?_, fun h => hnil (hlt.mp h)⟩
    · simp only [r, hr, List.flatten_cons, List.take_append, List.take_of_length_le hc, hlt, List.append_assoc]
    · rw [hflat, List.flatten_cons, List.drop_append, List.drop_eq_nil_of_le hc, List.nil_append]

theorem readLoop_spec (fin : Fin) (tog : Bool) (chunks : List Bytes) (need : Nat) (acc : Bytes) :
    let r := readLoop hash check fin tog chunks need acc
    r.1 ++ r.2.2.1.flatten = chunks.flatten ∧
    r.2.2.2 = acc ++ r.1 ∧
    (r.2.1 = none → r.1.length = need) ∧
    (∀ e, r.2.1 = some e → r.1.length < need ∧ r.2.2.1 = [] ∧ e = endErr hash check fin r.2.2.2) := by
  obtain ⟨rest, hr, hflat, hnil⟩ := readLoop_eq hash check fin tog chunks need acc
  simp only [hr, hflat, List.take_append_drop, List.length_take, true_and]
  by_cases h : chunks.flatten.length < need
  · simp only [if_pos h, hnil h, List.take_of_length_le (Nat.le_of_lt h)]
    exact ⟨nofun, fun e he => ⟨Nat.lt_of_le_of_lt (Nat.min_le_right _ _) h, trivial, (Option.some.inj he).symm⟩⟩
  · simp only [if_neg h]
    exact ⟨fun _ => Nat.min_eq_left (Nat.le_of_not_lt h), nofun⟩

theorem fullErr_of_lt {got want : Nat} (h : got < want) (e : Err) :
    fullErr got want (some e) = some (if e = .eof ∧ 0 < got then .ueof else e) := by
  unfold fullErr
  rw [if_neg (Nat.not_le.mpr h)]
  by_cases he : e = .eof
  · subst he
    by_cases hg : 0 < got <;> simp [hg]
  · simp [he]

theorem writeTo_eq_none {fin : Fin} {chunks : List Bytes} {acc : Bytes} :
    (writeTo hash check fin chunks acc).2 = none ↔ fin = .eof ∧ hash (acc ++ chunks.flatten) = check := by
  cases fin <;> simp [writeTo]

theorem closeR_eq_none {fin : Fin} {closeErr : Bool} {chunks : List Bytes} {acc : Bytes} :
    closeR hash check fin closeErr chunks acc = none ↔
      fin = .eof ∧ closeErr = false ∧ hash (acc ++ chunks.flatten) = check := by
  cases fin <;> cases closeErr <;> simp [closeR]

/-- With enough data Close meets the end of the body in every case: it drains what `readLoop` left, and
an error that came together with the last data was dropped by ReadAtLeast. -/
theorem readFullClose_eq (b : Body) (need : Nat) :
    readFullClose hash check b need =
      (b.content.take need,
       if b.content.length < need then
         fullErr b.content.length need (some (endErr hash check b.fin b.content))
       else closeR hash check b.fin b.closeErr b.chunks []) := by
  obtain ⟨rest, hr, hflat, _⟩ := readLoop_eq hash check b.fin b.together b.chunks need []
  simp only [readFullClose, hr, Body.content, List.nil_append]
  by_cases h : b.chunks.flatten.length < need
  · simp only [if_pos h, List.take_of_length_le (Nat.le_of_lt h), fullErr_of_lt h]
  · have : fullErr (b.chunks.flatten.take need).length need none = none := by simp [fullErr]
    simp only [if_neg h, this, closeR, List.nil_append, hflat, List.take_append_drop]

theorem readFullClose_fst (b : Body) (need : Nat) :
    (readFullClose hash check b need).1 = b.content.take need := by
  rw [readFullClose_eq]

theorem readFullClose_eq_none {b : Body} {need : Nat} :
    (readFullClose hash check b need).2 = none ↔
      b.fin = .eof ∧ b.closeErr = false ∧ hash b.content = check ∧ need ≤ b.content.length := by
  rw [readFullClose_eq]
  by_cases hlt : b.content.length < need
  · rw [if_pos hlt, fullErr_of_lt hlt]
    exact ⟨nofun, fun h => absurd h.2.2.2 (Nat.not_le.mpr hlt)⟩
  · rw [if_neg hlt, closeR_eq_none]
    exact ⟨fun ⟨h1, h2, h3⟩ => ⟨h1, h2, h3, Nat.not_lt.mp hlt⟩, fun ⟨h1, h2, h3, _⟩ => ⟨h1, h2, h3⟩⟩

theorem readFullClose_ok (b : Body) (need : Nat) (d : Bytes)
    (h : readFullClose hash check b need = (d, none)) :
    b.fin = .eof ∧ b.closeErr = false ∧ hash b.content = check ∧
    d = b.content.take need ∧ need ≤ b.content.length :=
  have ⟨h1, h2, h3, h4⟩ := (readFullClose_eq_none hash check).mp (congrArg Prod.snd h)
  ⟨h1, h2, h3, (congrArg Prod.fst h).symm.trans (readFullClose_fst hash check b need), h4⟩

theorem readFullClose_good (b : Body) (need : Nat)
    (hfin : b.fin = .eof) (hc : b.closeErr = false) (hh : hash b.content = check)
    (hlen : need ≤ b.content.length) :
    readFullClose hash check b need = (b.content.take need, none) :=
  Prod.ext (readFullClose_fst hash check b need) ((readFullClose_eq_none hash check).mpr ⟨hfin, hc, hh, hlen⟩)

theorem consume_ok (b : Body) :
    (∀ d, readAll hash check b.fin b.together b.chunks [] = (d, .eof) → d = b.content ∧ hash d = check) ∧
    (∀ d, writeTo hash check b.fin b.chunks [] = (d, none) → d = b.content ∧ hash d = check) ∧
    (∀ m d, readFullClose hash check b m = (d, none) →
      d = b.content.take m ∧ m ≤ b.content.length ∧ hash b.content = check) := by
  refine ⟨fun d hd => ?_, fun d hd => ?_, fun m d hd => ?_⟩
  · rw [readAll_eq] at hd
    obtain ⟨rfl, he⟩ := Prod.mk.inj hd
    exact ⟨rfl, ((endErr_eq_eof hash check).mp he).2⟩
  · obtain ⟨rfl, he⟩ := Prod.mk.inj hd
    exact ⟨rfl, ((writeTo_eq_none hash check).mp he).2⟩
  · obtain ⟨_, _, h3, h4, h5⟩ := readFullClose_ok hash check b m d hd
    exact ⟨h4, h5, h3⟩

theorem readFullClose_ne_panic (b : Body) (need : Nat) :
    (readFullClose hash check b need).2 ≠ some .panic := by
  rw [readFullClose_eq]
  split
  · -- ReadFull passes on the reader's last error, or puts ErrUnexpectedEOF in its place
    rw [fullErr_of_lt ‹_›]
    split
    · nofun
    · exact fun h => endErr_ne_panic hash check _ _ (Option.some.inj h)
  · cases b.fin <;> cases b.closeErr <;> simp [closeR]

end Reader

end ArvVerif.C03
