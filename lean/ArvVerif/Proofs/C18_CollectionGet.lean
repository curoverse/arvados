/-
C18: `Conn.CollectionGet` by portable data hash. The receive loop returns the first accepted outcome
in completion order (`recvLoop_eq_ok_iff`), and an accepted outcome is a remote's answer that passed the
hash test (`accept_mem_delivered`). `perms` enumerates exactly the permutations of a list, so
`collectionGetAnyOrder` ranges over every completion order of the answering remotes.
-/
import ArvVerif.Model.C18
namespace ArvVerif.C18

theorem firstAccept_mem {outs : List Outcome} {c : Coll} (h : firstAccept outs = some c) :
    Outcome.accept c ∈ outs := by
  fun_induction firstAccept outs <;> simp_all

theorem firstAccept_eq_none_iff {outs : List Outcome} :
    firstAccept outs = none ↔ ∀ c, Outcome.accept c ∉ outs := by
  fun_induction firstAccept outs with
  | case1 => simp
  | case2 c rest => simpa using ⟨c, fun h => absurd rfl h⟩
  | case3 s rest ih => simp [ih]

theorem isFail404_iff {o : Outcome} : isFail404 o = true ↔ o = .fail 404 := by
  cases o <;> simp [isFail404]

theorem recvLoop_eq_ok_iff {outs : List Outcome} {n : Nat} {c : Coll} :
    recvLoop outs n = .ok c ↔ firstAccept outs = some c := by
  unfold recvLoop
  split
  · simp_all
  · split <;> simp_all

section byPDH
variable {md5 : Str → Str} {req : Str} {c : Coll} {s : Script}

theorem fnOutcome_eq_accept_iff {rid : Str} {a : Answer} :
    fnOutcome md5 req rid a = some (.accept c) ↔
      ∃ rc, a = .coll rc ∧ pdhOK md5 req rc.manifest = true ∧
        c = (if rid = [] then rc else { rc with manifest := rewriteManifest rc.manifest rid }) := by
  cases a with
  | coll rc =>
    by_cases h : pdhOK md5 req rc.manifest = true <;> simp [fnOutcome, h]
    exact eq_comm
  | err s => simp [fnOutcome]
  | hang => simp [fnOutcome]

theorem accept_mem_delivered {order : List (Str × Answer)} :
    Outcome.accept c ∈ delivered md5 req order ↔
      ∃ rid rc, (rid, Answer.coll rc) ∈ order ∧ pdhOK md5 req rc.manifest = true ∧
        c = (if rid = [] then rc else { rc with manifest := rewriteManifest rc.manifest rid }) := by
  simp only [delivered, List.mem_filterMap, fnOutcome_eq_accept_iff, Prod.exists]
  constructor
  · rintro ⟨rid, a, hm, rc, rfl, h⟩
    exact ⟨rid, rc, hm, h⟩
  · rintro ⟨rid, rc, hm, h⟩
    exact ⟨rid, _, hm, rc, rfl, h⟩

theorem collectionGet_fanOut (hlen : s.req.length ≠ 27) (hloc : s.loc = .err 404) (hfwd : s.fwd = []) :
    collectionGet md5 s =
      recvLoop (delivered md5 s.req s.order) (s.remotes.length - (delivered md5 s.req s.order).length) := by
  simp [collectionGet, hlen, getByPDH, hloc, fnOutcome, hfwd]

theorem collectionGet_eq_ok_iff (hlen : s.req.length ≠ 27) :
    collectionGet md5 s = .ok c ↔
      (∃ lc, s.loc = .coll lc ∧ pdhOK md5 s.req lc.manifest = true ∧ c = lc) ∨
      (s.loc = .err 404 ∧ s.fwd = [] ∧ firstAccept (delivered md5 s.req s.order) = some c) := by
  simp only [collectionGet, if_neg hlen, getByPDH]
  cases hl : s.loc with
  | coll lc =>
    by_cases h : pdhOK md5 s.req lc.manifest = true <;> simp [fnOutcome, h]
    exact eq_comm
  | err st =>
    -- only a local 404 on an unforwarded request reaches the receive loop
    by_cases h1 : st = 404 <;> by_cases h2 : s.fwd = [] <;> simp [fnOutcome, h1, h2, recvLoop_eq_ok_iff]
  | hang => simp [fnOutcome]

end byPDH

theorem mem_insertions_iff {α : Type} (a : α) (l o : List α) :
    o ∈ insertions a l ↔ ∃ l1 l2, l = l1 ++ l2 ∧ o = l1 ++ a :: l2 := by
  induction l generalizing o with
  | nil => simp [insertions, and_assoc]
  | cons b bs ih =>
    simp only [insertions, List.mem_cons, List.mem_map, ih, List.cons_eq_append_iff]
    constructor
    · rintro (rfl | ⟨_, ⟨l1, l2, rfl, rfl⟩, rfl⟩)
      · exact ⟨[], _, .inl ⟨rfl, rfl⟩, rfl⟩
      · exact ⟨b :: l1, l2, .inr ⟨_, rfl, rfl⟩, rfl⟩
    · rintro ⟨l1, l2, ⟨rfl, rfl⟩ | ⟨l1, rfl, rfl⟩, rfl⟩
      · exact .inl rfl
      · exact .inr ⟨_, ⟨l1, l2, rfl, rfl⟩, rfl⟩

theorem mem_perms_iff {α : Type} (l o : List α) : o ∈ perms l ↔ o.Perm l := by
  induction l generalizing o with
  | nil => simp [perms]
  | cons a as ih =>
    simp only [perms, List.mem_flatMap, mem_insertions_iff, ih]
    constructor
    · rintro ⟨_, hp, l1, l2, rfl, rfl⟩
      exact List.perm_middle.trans (hp.cons a)
    · intro h
      obtain ⟨l1, l2, rfl⟩ := List.append_of_mem (h.symm.subset List.mem_cons_self)
      exact ⟨l1 ++ l2, (List.perm_middle.symm.trans h).cons_inv, l1, l2, rfl, rfl⟩

end ArvVerif.C18
