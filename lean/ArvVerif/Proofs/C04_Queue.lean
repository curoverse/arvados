/-
C04, trash list → work queue → trash worker (`Model/C04_Queue.lean`): every execution of the server with its
queue is a request history of the history layer; what the workers execute comes from the lists that were
submitted, and after a replacement only from the new list and the items already in a worker's hands.
-/
import ArvVerif.Model.C04_Queue
namespace ArvVerif.C04.Queue
open ArvVerif.C04

theorem srun_is_run (c : Cfg) : ∀ (es : List Ev) (s : St) (q : QSt),
    (srun c s q es).1 = (run c s (opsOf q es)).1 := by
  intro es
  induction es with
  | nil => intro s q; rfl
  | cons e es ih =>
    intro s q
    simp only [srun, sstep, opsOf]
    cases h : evOp q e with
    | none => simp only [ih]
    | some op => simp only [ih, run]

theorem executed_cons {q : QSt} {e : Ev} {es : List Ev} {x : Item} (hx : x ∈ executed q (e :: es)) :
    (∃ k, e = .exec k ∧ q.busy[k]? = some x) ∨ x ∈ executed (qstep q e) es := by
  cases e with
  | exec k =>
    simp only [executed] at hx
    split at hx
    · rename_i hb
      rcases List.mem_cons.mp hx with rfl | h
      · exact .inl ⟨k, rfl, hb⟩
      · exact .inr h
    · exact .inr hx
  | _ => exact .inr hx

theorem qstep_sub {q : QSt} {e : Ev} {es : List Ev} (hn : noReplace (e :: es)) {x : Item}
    (hx : x ∈ (qstep q e).todo ++ (qstep q e).busy) : x ∈ q.todo ++ q.busy := by
  cases e with
  | req op => exact hx
  | putTrash l => exact hn.elim
  | take =>
    simp only [qstep] at hx
    split at hx
    · rename_i ht
      simp only [ht, List.mem_append, List.mem_cons, List.not_mem_nil, or_false] at hx ⊢
      rcases hx with h | h | h
      · exact .inl (.inr h)
      · exact .inr h
      · exact .inl (.inl h)
    · exact hx
  | exec k =>
    simp only [qstep, List.mem_append] at hx ⊢
    exact hx.imp id List.mem_of_mem_eraseIdx

theorem executed_sub (es : List Ev) : ∀ (q : QSt), noReplace es → ∀ x ∈ executed q es, x ∈ q.todo ++ q.busy := by
  induction es with
  | nil => intro q _ x hx; cases hx
  | cons e es ih =>
    intro q hn x hx
    rcases executed_cons hx with ⟨k, rfl, hb⟩ | h
    · exact List.mem_append.mpr (.inr (List.mem_of_getElem? hb))
    · exact qstep_sub hn (ih _ (by cases e <;> first | exact hn | exact hn.elim) x h)

theorem executed_ops (es : List Ev) : ∀ (q : QSt) (x : Item), x ∈ executed q es → x.op ∈ opsOf q es := by
  induction es with
  | nil => intro q x hx; cases hx
  | cons e es ih =>
    intro q x hx
    rcases executed_cons hx with ⟨k, rfl, hb⟩ | h
    · simp [opsOf, evOp, hb]
    · have := ih _ x h
      simp only [opsOf]
      split
      · exact List.mem_cons_of_mem _ this
      · exact this

end ArvVerif.C04.Queue
