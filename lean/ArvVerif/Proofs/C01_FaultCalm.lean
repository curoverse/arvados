/-
The fault model on mounts whose writable ones have no faults is the model of Model/C01.lean: one pass over
the PUT path for any `CalmOnWritable` map up to `handlePutF_calm`. At `FVol.calm` this is the conservative
extension (and the Lean driver can run `handlePutF` on every case); at `blotRo`, which makes two mounts equal
exactly when they are `RoRel`-related, it says that PUT does not look at read-only mounts. What `PutBlock` and
`handlePUT` guarantee in Model/C01.lean (`putBlock_spec`, `handlePut_spec`) is then read off what they guarantee
over faulty mounts.
-/
import ArvVerif.Proofs.C01_Fault
namespace ArvVerif.C01
set_option linter.unusedSectionVars false

section
variable {δ β : Type} [DecidableEq δ] [DecidableEq β]

/-- `g` sets fault-free mounts among mounts with faults in a way the PUT path cannot tell from `FVol.calm`.
What `g` makes of a read-only mount is free, since PUT looks at `AllWritable()` only. -/
structure CalmOnWritable (g : Vol δ β → FVol δ β) : Prop where
  ro : ∀ v, (g v).vol.ro = v.ro
  writable : ∀ v, v.ro = false → g v = .calm v

theorem CalmOnWritable.calm : CalmOnWritable (FVol.calm (δ := δ) (β := β)) := ⟨fun _ => rfl, fun _ _ => rfl⟩

theorem volTouchF_calm (v : Vol δ β) (h : δ) : volTouchF (.calm v) h = volTouch v := Bool.and_true _

theorem putLoopF_cons_calm (h : δ) (body : β) (v : Vol δ β) (rest : List (FVol δ β)) :
    putLoopF h body (.calm v :: rest) =
      if v.ro = true ∨ v.full = true then (putLoopF h body rest).keep (.calm v)
      else .ok (effRepl v) (.calm { v with files := update v.files h body } :: rest) :=
  putLoopF_cons h body (.calm v) rest

def liftWR : WriteResult → WriteResultF
  | .ok => .ok
  | .readOnly => .readOnly
  | .full => .full

section
variable {g : Vol δ β → FVol δ β} (hg : CalmOnWritable g) (hash : β → δ) (size : β → Nat) (h : δ) (body : β)
include hg

theorem volWriteF_calm (v : Vol δ β) :
    volWriteF (g v) h body = (liftWR (volWrite v h body).1, g (volWrite v h body).2) := by
  cases hro : v.ro with
  | true => rw [volWriteF, volWrite, hg.ro, hro]; rfl
  | false =>
    rw [hg.writable _ ((volWrite_ro v h body).trans hro), hg.writable v hro]
    obtain ⟨ro, full, _, _⟩ := v
    cases hro
    cases full <;> rfl

theorem compareAndTouchF_calm :
    ∀ (vols : List (Vol δ β)),
      compareAndTouchF hash size h body (vols.map g) = compareAndTouch hash size h body vols
  | [] => rfl
  | v :: rest => by
    rw [List.map_cons, compareAndTouchF, compareAndTouch, compareAndTouchF_calm rest, hg.ro]
    cases hro : v.ro with
    | true => rfl
    | false =>
      rw [hg.writable v hro, volTouchF_calm]
      rfl

def liftLoop (g : Vol δ β → FVol δ β) : PutLoopResult δ β → PutLoopResultF δ β
  | .ok r vs => .ok r (vs.map g)
  | .allFull => .allFull
  | .failed => .failed

theorem putLoopF_calm :
    ∀ (vols : List (Vol δ β)), putLoopF h body (vols.map g) = liftLoop g (putLoop h body vols) := by
  intro vols
  induction vols with
  | nil => rfl
  | cons v rest ih =>
    rw [List.map_cons, putLoop_cons]
    -- not `cases hro : v.ro`: that abstracts `v.ro` inside `{ v with … }` on one side of the equation only
    rcases Bool.eq_false_or_eq_true v.ro with hro | hro
    · rw [putLoopF_cons, ih, hg.ro, if_pos (.inl hro), if_pos (.inl hro)]
      cases putLoop h body rest <;> rfl
    · have hw := hg.writable { v with files := update v.files h body } hro
      rw [hg.writable v hro, putLoopF_cons_calm, ih]
      split
      · rw [← hg.writable v hro]
        cases putLoop h body rest <;> rfl
      · rw [← hw]
        rfl

theorem nthWritableF_calm :
    ∀ (vols : List (Vol δ β)) (k : Nat), nthWritableF (vols.map g) k = (nthWritable vols k).map g
  | [], _ => rfl
  | v :: rest, k => by
    unfold nthWritableF nthWritable
    show (if (g v).vol.ro = true then _ else _) = _
    rw [hg.ro]
    split
    · exact nthWritableF_calm rest k
    · cases k with
      | zero => rfl
      | succ k => exact nthWritableF_calm rest k

theorem setNthWritableF_calm (v' : Vol δ β) :
    ∀ (vols : List (Vol δ β)) (k : Nat),
      setNthWritableF (g v') (vols.map g) k = (setNthWritable v' vols k).map g
  | [], _ => rfl
  | v :: rest, k => by
    unfold setNthWritableF setNthWritable
    show (if (g v).vol.ro = true then _ else _) = _
    rw [hg.ro]
    split
    · exact congrArg _ (setNthWritableF_calm v' rest k)
    · cases k with
      | zero => rfl
      | succ k => exact congrArg _ (setNthWritableF_calm v' rest k)

theorem writableCountF_calm (vols : List (Vol δ β)) :
    writableCountF (vols.map g) = (allWritable vols).length := by
  rw [writableCountF, allWritable, List.filter_map, List.length_map]
  exact congrArg (fun p => (vols.filter p).length) (funext fun v => congrArg (!·) (hg.ro v))

def liftRes {α : Type} (g : Vol δ β → FVol δ β) (r : α × List (Vol δ β) × Nat) : α × List (FVol δ β) × Nat :=
  (r.1, r.2.1.map g, r.2.2)

theorem putViaLoopF_calm (vols : List (Vol δ β)) (c : Nat) :
    putViaLoopF h body (vols.map g) c = liftRes g (putViaLoop h body vols c) := by
  unfold putViaLoopF putViaLoop
  rw [writableCountF_calm hg, putLoopF_calm hg]
  split
  · rfl
  · cases putLoop h body vols <;> rfl

theorem putNewF_calm (vols : List (Vol δ β)) (rr : Nat) :
    putNewF h body (vols.map g) rr = liftRes g (putNew h body vols rr) := by
  unfold putNewF putNew nextWritable
  rw [writableCountF_calm hg]
  by_cases hn : (allWritable vols).length = 0
  · simp only [hn, if_true]; exact putViaLoopF_calm hg h body vols rr
  · simp only [hn, if_false]
    rw [nthWritableF_calm hg]
    cases hnth : nthWritable vols ((rr + 1) % (allWritable vols).length) with
    | none => simp only [Option.map_none]; exact putViaLoopF_calm hg h body vols (rr + 1)
    | some v =>
      simp only [Option.map_some]
      rw [volWriteF_calm hg]
      rcases hw : volWrite v h body with ⟨wr, v'⟩
      cases wr with
      | ok =>
        simp only [liftWR]
        -- the round-robin mount took the write, so it is writable and `g` leaves it as it is
        rw [setNthWritableF_calm hg, hg.writable v (volWrite_ok hw)]
        rfl
      | _ => simp only [liftWR]; exact putViaLoopF_calm hg h body vols (rr + 1)

theorem putBlockF_calm (vols : List (Vol δ β)) (rr : Nat) :
    putBlockF hash size (vols.map g) rr h body = liftRes g (putBlock hash size vols rr h body) := by
  unfold putBlockF putBlock
  rw [compareAndTouchF_calm hg]
  split
  · rfl
  · cases compareAndTouch hash size h body vols with
    | miss => exact putNewF_calm hg h body vols rr
    | _ => rfl

theorem handlePutF_calm (vols : List (Vol δ β)) (rr : Nat) (cl : Bool) :
    handlePutF hash size (vols.map g) rr h body cl = liftRes g (handlePut hash size vols rr h body cl) := by
  unfold handlePutF handlePut
  rw [writableCountF_calm hg, putBlockF_calm hg]
  cases cl with
  | false => rfl
  | true =>
    by_cases hsz : size body > blockSize
    · simp [hsz, liftRes]
    · by_cases hw : (allWritable vols).length = 0
      · simp [hsz, hw, liftRes]
      · simp only [hsz, hw, Bool.not_true, Bool.false_eq_true, if_false, liftRes]
        cases (putBlock hash size vols rr h body).1 <;> rfl

end

def RoRel (a b : Vol δ β) : Prop := a = b ∨ (a.ro = true ∧ b.ro = true)

def blotRo (v : Vol δ β) : FVol δ β :=
  .calm (if v.ro then { v with full := false, repl := 0, files := fun _ => none } else v)

theorem blotRo_ro (v : Vol δ β) : (blotRo v).vol.ro = v.ro := by
  unfold blotRo
  split <;> rfl

theorem blotRo_writable (v : Vol δ β) (hro : v.ro = false) : blotRo v = .calm v := by
  rw [blotRo, hro]
  rfl

theorem CalmOnWritable.blotRo : CalmOnWritable (blotRo (δ := δ) (β := β)) := ⟨blotRo_ro, blotRo_writable⟩

theorem blotRo_eq_iff (a b : Vol δ β) : blotRo a = blotRo b ↔ RoRel a b := by
  constructor
  · intro he
    have hro := congrArg (·.vol.ro) he
    simp only [blotRo_ro] at hro
    rcases Bool.eq_false_or_eq_true a.ro with ha | ha
    · exact .inr ⟨ha, hro ▸ ha⟩
    · rw [blotRo_writable a ha, blotRo_writable b (hro ▸ ha)] at he
      exact .inl (congrArg FVol.vol he)
  · rintro (rfl | ⟨ha, hb⟩)
    · rfl
    · rw [blotRo, blotRo, ha, hb]
      rfl

structure HandlePutSpec (hash : β → δ) (size : β → Nat) (h : δ) (body : β) (vols : List (Vol δ β))
    (res : PutResp × List (Vol δ β) × Nat) : Prop where
  frame : Pointwise (Frame h body) vols res.2.1
  ack : res.1.status = 200 → hash body = h ∧ size body ≤ blockSize ∧
    ∃ v' ∈ res.2.1, v'.ro = false ∧ v'.files h = some body
  unchanged : res.1.status ≠ 200 → res.2.1 = vols
  /-- without write faults the GenericError branch is dead: 500 only for a collision -/
  status500 : res.1.status = 500 → hash body = h ∧
    ∃ v ∈ vols, v.ro = false ∧ ∃ f, v.files h = some f ∧ f ≠ body ∧ hash f = h

section
variable (hash : β → δ) (size : β → Nat) (vols : List (Vol δ β)) (rr : Nat) (h : δ) (body : β) (cl : Bool)

theorem frame_of_calm {h : δ} {body : β} {l l' : List (Vol δ β)}
    (hf : Pointwise (FrameF h body) (l.map FVol.calm) (l'.map FVol.calm)) : Pointwise (Frame h body) l l' := by
  induction l generalizing l' with
  | nil => cases l' with
    | nil => exact .nil
    | cons _ _ => cases hf
  | cons v l ih => cases l' with
    | nil => cases hf
    | cons v' l' =>
      cases hf with
      | cons hv hl =>
        exact .cons (hv.imp (congrArg FVol.vol) fun ⟨hro, hfu, _, he⟩ => ⟨hro, hfu, congrArg FVol.vol he⟩) (ih hl)

theorem map_calm_inj {l l' : List (Vol δ β)} (he : l.map FVol.calm = l'.map FVol.calm) : l = l' := by
  simpa [List.map_map, Function.comp_def, FVol.calm] using congrArg (List.map FVol.vol) he

theorem exists_of_calm {P : FVol δ β → Prop} {l : List (Vol δ β)} :
    (∃ w ∈ l.map FVol.calm, P w) → ∃ v ∈ l, P (.calm v)
  | ⟨_, hw, hp⟩ => have ⟨v, hv, he⟩ := List.mem_map.mp hw; ⟨v, hv, he ▸ hp⟩

theorem calm_no_write_fault {h : δ} {l : List (Vol δ β)} :
    ¬ ∃ w ∈ l.map FVol.calm, w.vol.ro = false ∧ w.vol.full = false ∧ w.noWrite h = true :=
  fun hw => have ⟨_, _, _, _, hnw⟩ := exists_of_calm hw; nomatch hnw

theorem putSpec_of_calm {hash : β → δ} {h : δ} {body : β} {vols : List (Vol δ β)}
    {res : PutOutcome × List (Vol δ β) × Nat} (hs : PutSpecF h body (vols.map FVol.calm) (liftRes .calm res)) :
    PutSpec hash h body vols res where
  frame := frame_of_calm hs.frame
  stored r hr := exists_of_calm (hs.stored r hr)
  unchanged hno := map_calm_inj (hs.unchanged hno)

theorem putViaLoop_spec (c : Nat) : PutSpec hash h body vols (putViaLoop h body vols c) :=
  putSpec_of_calm (putViaLoopF_calm .calm h body vols c ▸ (putViaLoopF_spec h body _ c).1)

theorem putNew_spec : PutSpec hash h body vols (putNew h body vols rr) :=
  putSpec_of_calm (putNewF_calm .calm h body vols rr ▸ (putNewF_spec h body _ rr).1)

theorem putBlock_spec : PutSpec hash h body vols (putBlock hash size vols rr h body) :=
  putSpec_of_calm (putBlockF_calm .calm hash size h body vols rr ▸ (putBlockF_spec hash size _ rr h body).1)

theorem compareAndTouch_spec :
    (∀ r, compareAndTouch hash size h body vols = .touched r →
      ∃ v ∈ vols, v.ro = false ∧ v.files h = some body) ∧
    (compareAndTouch hash size h body vols = .collision →
      ∃ v ∈ vols, v.ro = false ∧ ∃ f, v.files h = some f ∧ f ≠ body ∧ hash f = h) := by
  have hF := compareAndTouchF_spec hash size h body (vols.map .calm)
  rw [compareAndTouchF_calm .calm] at hF
  exact ⟨fun r hr => exists_of_calm (hF.1 r hr), fun hr => exists_of_calm (hF.2 hr)⟩

theorem handlePut_spec : HandlePutSpec hash size h body vols (handlePut hash size vols rr h body cl) := by
  have hF := handlePutF_spec hash size (vols.map .calm) rr h body cl
  rw [handlePutF_calm .calm] at hF
  refine ⟨frame_of_calm hF.frame, fun h200 => ?_, fun hne => map_calm_inj (hF.unchanged hne), fun hs => ?_⟩
  · have ⟨hh, hsz, hst⟩ := hF.ack h200
    exact ⟨hh, hsz, exists_of_calm hst⟩
  · have ⟨hh, hc⟩ := hF.status500 hs
    exact ⟨hh, hc.elim exists_of_calm fun hw => absurd hw calm_no_write_fault⟩

end

/-- `Put` on a mount taken from `AllWritable()` never returns MethodDisabledError, so the loop's
`default:` branch (GenericError) is dead for Directory volumes whose only failure is FullError. -/
theorem putLoop_not_failed (h : δ) (body : β) :
    ∀ (vols : List (Vol δ β)), (match putLoop h body vols with | .failed => False | _ => True) := by
  intro vols
  have hF := putLoopF_spec h body (vols.map .calm)
  rw [putLoopF_calm .calm] at hF
  generalize putLoop h body vols = res at hF ⊢
  cases res with
  | failed =>
    exact calm_no_write_fault hF
  | _ => trivial

end

end ArvVerif.C01
