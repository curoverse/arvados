/-
C04, link between the layers, history side: the history model's outcomes of the sequential histories [P, T] and
[T, P] equal, for ALL times that fit the configuration (`Times.fits`: TTL > 0, lifetime > 0, the stored copy is
older than the TTL exactly when the configuration says so), the table entry `linOf c` — which
`Proofs/C04_ComposeCheck.lean` shows to be the outcome of the interleaving model's sequential schedules.

The instance is a server with one writable volume and one hash (`one`); `touch_one` … `untrash_one` say
what each of the five requests does to it, for any configuration and times. `seq_lit` composes them in each
race configuration (Serialize plays no part in the history model, nor in the table: `linOf_ser`).
-/
import ArvVerif.Proofs.C04_ComposeTable
namespace ArvVerif.C04.Compose
open ArvVerif.C04
set_option linter.unusedSimpArgs false

def one (b : Option File) (tr : List TrashEnt) (now rr : Nat) : St :=
  { vols := [{ id := 0, ro := false, blocks := fun h => if h = 0 then b else none, trash := tr }], now := now, rr := rr }

theorem blocks_one (b b' : Option File) :
    (fun h' => if h' = 0 then b' else (fun h : Hash => if h = 0 then b else none) h') = fun h => if h = 0 then b' else none := by
  funext h'; split <;> simp [*]

theorem touch_one (hc : Cfg) (b : Option File) (tr : List TrashEnt) (now rr : Nat) :
    step hc (one b tr now rr) (.touch 0) =
      (one (b.map fun f => { f with mtime := now }) tr now rr, .code (if b.isSome then 200 else 404)) := by
  cases b <;> simp [one, step, writables, firstHolding, updVol, Vol.touch, Vol.setBlock, blocks_one]

theorem put_one (hc : Cfg) (b : Option File) (tr : List TrashEnt) (now rr : Nat) :
    step hc (one b tr now rr) (.put 0 true) =
      if b.any (·.good) then (one (b.map fun f => { f with mtime := now }) tr now rr, .code 200)
      else (one (some ⟨true, now⟩) tr now (rr + 1), .code 200) := by
  rcases b with _ | ⟨g, m⟩
  · simp [one, step, writables, compareAndTouch, pickTarget, Nat.mod_one, updVol, Vol.write, Vol.setBlock]
  · cases g <;> simp [one, step, writables, compareAndTouch, pickTarget, Nat.mod_one, updVol, Vol.write, Vol.touch, Vol.setBlock, blocks_one]

/-- what `UnixVolume.Trash` of hash 0 leaves of block file `b` and trash `tr` -/
def trashed (hc : Cfg) (now : Nat) (b : Option File) (tr : List TrashEnt) : Option File × List TrashEnt :=
  match b with
  | some f =>
    if young hc now f.mtime then (b, tr)
    else (none, if hc.life = 0 then tr else trashInsert tr { hash := 0, deadline := deadlineOf hc now, file := f })
  | none => (none, tr)

theorem delete_one (hc : Cfg) (hbt : hc.blobTrash = true) (b : Option File) (tr : List TrashEnt) (now rr : Nat) :
    step hc (one b tr now rr) (.delete 0) =
      (one (trashed hc now b tr).1 (trashed hc now b tr).2 now rr, if b.isSome then .deleted 1 0 else .code 404) := by
  rcases b with _ | f
  · simp [one, step, hbt, delHit, Vol.trashBlock, trashed]
  · by_cases hy : young hc now f.mtime = true <;> by_cases hl : hc.life = 0 <;>
      simp [one, step, hbt, delHit, delVol, Vol.trashBlock, trashed, hy, hl, Vol.setBlock, blocks_one]

theorem ti_one (hc : Cfg) (hbt : hc.blobTrash = true) (b : Option File) (tr : List TrashEnt) (now rr req : Nat) :
    step hc (one b tr now rr) (.trashItem 0 req none) =
      (if young hc now req = true ∨ b.map (·.mtime) ≠ some req then one b tr now rr
       else one (trashed hc now b tr).1 (trashed hc now b tr).2 now rr, .quiet) := by
  by_cases hq : young hc now req = true
  · simp [one, step, hq]
  · rcases b with _ | f
    · simp [one, step, hq, tiVol, tiSelected]
    · by_cases hm : f.mtime = req <;> by_cases hy : young hc now f.mtime = true <;> by_cases hl : hc.life = 0 <;>
        simp [one, step, hbt, hq, tiVol, tiSelected, Vol.trashBlock, trashed, hm, hy, hl, Vol.setBlock, blocks_one]

theorem untrash_one (hc : Cfg) (hsp : hc.spread = 0) (b : Option File) (tr : List TrashEnt) (now rr : Nat) :
    step hc (one b tr now rr) (.untrash 0) =
      match minEntry 0 tr with
      | none => (one b tr now rr, .code 404)
      | some e => (one (some { e.file with mtime := now }) (tr.filter fun x => !(x.hash = 0 ∧ x.deadline = e.deadline)) now rr,
                   .code 200) := by
  cases he : minEntry 0 tr <;>
    simp [one, step, writables, untrashHit, untrashVol, Vol.untrash, he, hsp, Vol.setBlock, blocks_one]

theorem obsH_one (hc : Cfg) (b : Option File) (tr : List TrashEnt) (now rr : Nat) (p t : Res) :
    obsH hc (one b tr now rr) p t =
      { p := p, t := t, blk := b.map fun f => (f.good, young hc now f.mtime),
        trash := (tr.filter fun e => e.hash = 0).map fun e => e.file.good } := rfl

end ArvVerif.C04.Compose
namespace ArvVerif.C04.Race
open ArvVerif.C04 ArvVerif.C04.Compose
-- from here `Cfg` is the race configuration (`Race.Cfg`); the history model's is `hCfg c τ`

theorem linOf_ser_check : ∀ l0, ((cfgGroup false l0).all fun c =>
    decide (linOf { c with serialize := true } = linOf c)) = true := by decide +kernel

theorem linOf_ser (ser l0 : Bool) (pre : Pre) (old : Bool) (pop : POp) (top : TOp) :
    linOf ⟨ser, l0, pre, old, pop, top⟩ = linOf ⟨false, l0, pre, old, pop, top⟩ := by
  cases ser
  · rfl
  · exact of_decide_eq_true
      (List.all_eq_true.mp (linOf_ser_check l0) ⟨false, l0, pre, old, pop, top⟩ (mem_cfgGroup ⟨false, l0, pre, old, pop, top⟩))

theorem seq_lit (c : Cfg) (τ : Times) (h : τ.fits c) : seqPT c τ = (linOf c).1 ∧ seqTP c τ = (linOf c).2 := by
  obtain ⟨ser, l0, pre, old, pop, top⟩ := c
  obtain ⟨httl, hlife, hage, hx⟩ := h
  -- all the history model asks of the times
  have hl : τ.life ≠ 0 := by omega
  have hx' : (τ.now < τ.xmt + τ.ttl) = False := eq_false hx
  have hy : (τ.now < τ.mt + τ.ttl) = (old = false) := by
    apply propext
    cases old <;> simp at hage ⊢ <;> omega
  clear hage hx
  rw [linOf_ser]
  have hs : ∀ c, hSt c τ = one (hVol c τ |>.blocks 0) (hVol c τ).trash τ.now 0 := by
    intro c
    simp [hSt, one, hVol]
  cases l0 <;> cases pre <;> cases old <;> cases pop <;> cases top <;> constructor <;>
  -- the outcome is a literal; looking it up in the table is left to `rfl`
  (simp [seqPT, seqTP, hP, hT, touch_one, put_one, delete_one, ti_one, untrash_one, obsH_one, trashed, hCfg, hVol,
     young, trashInsert, deadlineOf, minEntry, *]
   rfl)

theorem drvTimes_fits (c : Cfg) : (drvTimes c).fits c := by
  obtain ⟨ser, l0, pre, old, pop, top⟩ := c
  cases old <;> simp [Times.fits, drvTimes]

end ArvVerif.C04.Race
