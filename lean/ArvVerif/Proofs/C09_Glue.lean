/-
C09: soundness of the executable checks of Model/C09_Glue.lean. `glueOK` decides the hypotheses
`C09_load_marshal_preserves` puts on a directory list; `shapeOK` decides "closed", "no file at
a directory's path" and the name conditions of `C09_marshal_fsLoad_checked`.
-/
import ArvVerif.Model.C09_Glue
import ArvVerif.Proofs.C09_Represents
import ArvVerif.Proofs.C09_Dirs
namespace ArvVerif.C09

open ArvVerif.C08 (Seg FileNode)
open ArvVerif.C10 (bSlash bDot)

theorem segMatch_sound (size : Bytes → Nat) {s : Seg} {c : C10.Seg} (h : segMatch size s c = true) : s = segOf size c := by
  unfold segMatch at h
  split at h
  · simp only [Bool.and_eq_true, beq_iff_eq] at h
    obtain ⟨⟨⟨rfl, rfl⟩, rfl⟩, rfl⟩ := h
    rfl
  · cases h

theorem segsMatch_sound (size : Bytes → Nat) (ss : List Seg) (cs : List C10.Seg) (h : segsMatch size ss cs = true) :
    ss = cs.map (segOf size) := by
  fun_induction segsMatch size ss cs with
  | case1 => rfl
  | case2 s ss c cs ih =>
    rw [Bool.and_eq_true] at h
    rw [List.map_cons, ← ih h.2, segMatch_sound size h.1]
  | case3 => cases h

theorem nameOKb_sound (n : Bytes) (h : nameOKb n = true) : NameOK n := by
  simp only [nameOKb, Bool.and_eq_true, bne_iff_ne, ne_eq, Bool.not_eq_true', List.contains_eq_mem,
    decide_eq_false_iff_not] at h
  exact ⟨h.1.1.1, h.1.1.2, h.1.2, h.2⟩

theorem glueOK_sound (size : Bytes → Nat) (tr : C10.FsTree) (t : Tree9) (h : glueOK size tr t = true) :
    Represents size tr t ∧ (dirPaths t).Nodup ∧ (∀ d ∈ t, (d.files.map (·.1)).Nodup) ∧ (∀ d ∈ t, ∀ c ∈ d.path, NameOK c) := by
  simp only [glueOK, representsB, Bool.and_eq_true, List.all_eq_true, List.any_eq_true, decide_eq_true_eq,
    beq_iff_eq] at h
  obtain ⟨⟨⟨⟨r1, r2⟩, h2⟩, h3⟩, h4⟩ := h
  refine ⟨⟨fun d hd f hf => ?_, r2⟩, h2, h3, fun d hd c hc => nameOKb_sound c (h4 d hd c hc)⟩
  obtain ⟨e, he, hk, hs⟩ := r1 d hd f hf
  exact ⟨e, he, hk, segsMatch_sound size _ _ hs⟩

theorem sizeOfLoc_blocks {txt : Bytes} {M : C10.Manifest} (hvalid : C10.parseSpec txt = some M)
    (hfit : ∀ s ∈ M, C10.FitsFs s) : ∀ s ∈ M, ∀ b ∈ s.blocks, sizeOfLoc b.text = b.size := by
  intro s hs b hb
  unfold sizeOfLoc
  rw [(C10.fsLocator_spec b.text b (parseSpec_blocks hvalid s hs b hb) ((hfit s hs).1 b hb)).1]

theorem shapeOK_sound (t : Tree9) (h : shapeOK t = true) :
    TreeClosed t ∧ (∀ d ∈ t, ∀ f ∈ d.files, d.path ++ [f.1] ∉ dirPaths t) ∧ (dirPaths t).Nodup ∧
    (∀ d ∈ t, (d.files.map (·.1)).Nodup) ∧ (∀ d ∈ t, ∀ c ∈ d.path, NameOK c) ∧ (∀ d ∈ t, ∀ f ∈ d.files, NameOK f.1) := by
  simp only [shapeOK, closedB, noClashB, Bool.and_eq_true, List.all_eq_true, List.any_eq_true, decide_eq_true_eq,
    Bool.or_eq_true, beq_iff_eq, List.isEmpty_iff, Bool.not_eq_eq_eq_not,
    Bool.not_true, List.isEmpty_eq_false_iff, List.contains_eq_mem, decide_eq_false_iff_not] at h
  obtain ⟨⟨⟨⟨⟨⟨c1, c2⟩, c3⟩, c4⟩, c5⟩, c6⟩, c7⟩ := h
  refine ⟨⟨?_, ?_⟩, c3, c4, c5, fun d hd c hc => nameOKb_sound c (c6 d hd c hc), fun d hd f hf => nameOKb_sound _ (c7 d hd f hf)⟩
  · exact fun d hd hne => (c1 d hd).resolve_left hne
  · intro d hd hsub
    rcases c2 d hd with h' | ⟨c, hc, hcne, hcd⟩
    · omega
    · exact ⟨c, hc, c.path.getLastD [], by rw [← hcd]; exact (path_split c.path hcne).symm⟩

end ArvVerif.C09
