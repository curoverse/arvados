/-
C17 — `Shape`: what `runPlan` needs of a plan. Directories come parent first, every planned file's
directory is planned (or is the root), and all destinations are distinct. How it is kept when a
destination is added that nothing planned so far lies at or below (`Unused`).
-/
import ArvVerif.Proofs.C17_Path
namespace ArvVerif.C17

def dests (st : Plan) : List Path := st.dirs ++ st.files.map (·.1)

def Unused (st : Plan) (d : Path) : Prop := ∀ x ∈ dests st, d.isPrefixOf x = false

def Ordered : List Path → List Path → Prop
  | _, [] => True
  | before, d :: ds => d ≠ [] ∧ (d.dropLast = [] ∨ d.dropLast ∈ before) ∧ Ordered (before ++ [d]) ds

theorem ordered_append (d : Path) : ∀ (ds before : List Path), Ordered before ds → d ≠ [] →
    (d.dropLast = [] ∨ d.dropLast ∈ before ++ ds) → Ordered before (ds ++ [d]) := by
  intro ds
  induction ds with
  | nil => intro before _ hne hp; exact ⟨hne, by simpa using hp, trivial⟩
  | cons x xs ih =>
    intro before ho hne hp
    obtain ⟨h1, h2, h3⟩ := ho
    exact ⟨h1, h2, ih (before ++ [x]) h3 hne (by simpa [List.append_assoc] using hp)⟩

theorem ordered_ne : ∀ (ds before : List Path), Ordered before ds → ∀ d ∈ ds, d ≠ []
  | _ :: ds, _, ⟨h1, _, h3⟩, d, hd => by
    rcases List.mem_cons.mp hd with rfl | hm
    · exact h1
    · exact ordered_ne ds _ h3 d hm

structure Shape (st : Plan) : Prop where
  ordered : Ordered [] st.dirs
  parents : ∀ f ∈ st.files, f.1 ≠ [] ∧ (f.1.dropLast = [] ∨ f.1.dropLast ∈ st.dirs)
  nodupDirs : st.dirs.Nodup
  nodupFiles : (st.files.map (·.1)).Nodup
  disjoint : ∀ x ∈ st.dirs, x ∉ st.files.map (·.1)

theorem dests_addDir (st : Plan) (d : Path) (x : Path) (hx : x ∈ dests (st.addDir d)) : x ∈ dests st ∨ x = d := by
  unfold Plan.addDir at hx
  split at hx
  · exact Or.inl hx
  · simpa [dests, or_assoc, or_comm, or_left_comm] using hx

theorem dests_addKeep (st : Plan) (d : Path) (x : Path) (hx : x ∈ dests (st.addKeep d)) :
    x ∈ dests st ∨ x = d ++ [".keep"] := by
  unfold Plan.addKeep at hx
  split at hx
  · exact Or.inl hx
  · simpa [dests, or_assoc] using hx

theorem dests_addFile (st : Plan) (d p : Path) (x : Path) (hx : x ∈ dests (st.addFile d p)) :
    x ∈ dests st ∨ x = d := by
  simpa [dests, Plan.addFile, or_assoc] using hx

theorem unused_child (st : Plan) (d : Path) (c : Name) (hu : Unused st d) : Unused st (d ++ [c]) := by
  refine fun x hx => Bool.eq_false_iff.mpr fun hp => ?_
  have := prefix_trans' d (d ++ [c]) x (isPrefixOf_append d [c]) hp
  rw [hu x hx] at this; cases this

theorem Unused.fresh {st : Plan} {d : Path} (hu : Unused st d) : d ∉ dests st := fun hm => by
  have := hu d hm; rw [isPrefixOf_self] at this; cases this

theorem Unused.addDir {st : Plan} {d : Path} (hu : Unused st d) (c : Name) : Unused (st.addDir d) (d ++ [c]) := by
  intro x hx
  rcases dests_addDir st d x hx with h1 | h1
  · exact unused_child st d c hu x h1
  · rw [h1]; exact not_prefix_longer d c

theorem mem_addDir (st : Plan) (d : Path) : d = [] ∨ d ∈ (st.addDir d).dirs := by
  by_cases hne : d = []
  · exact Or.inl hne
  · right; simp [Plan.addDir, hne]

theorem Shape.addDir {st : Plan} (hs : Shape st) (d : Path) (hu : Unused st d)
    (hp : d.dropLast = [] ∨ d.dropLast ∈ st.dirs) : Shape (st.addDir d) := by
  unfold Plan.addDir; split
  · exact hs
  · rename_i hne
    have hfresh := hu.fresh
    simp only [dests, List.mem_append, not_or] at hfresh
    refine ⟨ordered_append d _ [] hs.ordered hne (by simpa using hp), fun f hf => ?_, ?_, hs.nodupFiles,
      List.forall_mem_append.mpr ⟨hs.disjoint, by simpa using hfresh.2⟩⟩
    · exact (hs.parents f hf).imp_right (Or.imp_right (List.mem_append_left _))
    · simpa [List.nodup_append, hs.nodupDirs] using fun a ha (heq : a = d) => hfresh.1 (heq ▸ ha)

theorem Shape.addFileGen {st : Plan} (hs : Shape st) (f : Path × Option Path) (hne : f.1 ≠ [])
    (hfresh : f.1 ∉ dests st) (hp : f.1.dropLast = [] ∨ f.1.dropLast ∈ st.dirs) :
    Shape { st with files := st.files ++ [f] } := by
  simp only [dests, List.mem_append, not_or] at hfresh
  refine ⟨hs.ordered, List.forall_mem_append.mpr ⟨hs.parents, by simpa using ⟨hne, hp⟩⟩, hs.nodupDirs, ?_, fun x hx => ?_⟩
  · simpa [List.nodup_append, hs.nodupFiles] using fun a b hab (heq : a = f.1) =>
      hfresh.2 (List.mem_map.mpr ⟨(a, b), hab, heq⟩)
  · simpa [hs.disjoint x hx] using fun (heq : x = f.1) => hfresh.1 (heq ▸ hx)

theorem Shape.addKeep {st : Plan} (hs : Shape st) (d : Path) (hfresh : d ++ [".keep"] ∉ dests st)
    (hp : d = [] ∨ d ∈ st.dirs) : Shape (st.addKeep d) := by
  unfold Plan.addKeep; split
  · exact hs
  · exact hs.addFileGen (d ++ [".keep"], none) (by simp) hfresh (by simpa using Or.inr (hp.resolve_left ‹_›))

theorem Shape.withFrags {st : Plan} (hs : Shape st) (fs : List Frag) : Shape { st with frags := fs } :=
  ⟨hs.1, hs.2, hs.3, hs.4, hs.5⟩

end ArvVerif.C17
