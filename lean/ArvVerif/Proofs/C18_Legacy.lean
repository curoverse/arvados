/-
C18, legacy path (`rewriteSignatures` and the fan-out of `fetchRemoteCollectionByPDH`). `parseSigned` is
sound for `SignedLocatorRe`: the `+`-separated parts of an accepted token are `Signed.parts` of a
well-formed `Signed` (`parseSigned_some`); so on accepted tokens the legacy `Fprintf` rewrite is the new
path's `replaceSig` (`legacyOutTok_signed`). The scan loop has a closed form (`legacyScan_eq`). The
fan-out's first success is some remote's accepted record (`legacyFirst_mem`, `legacyOutcome_success`).
-/
import ArvVerif.Proofs.C18_Rewrite
namespace ArvVerif.C18

def Signed.sizeParts (p : Signed) : List Str :=
  match p.size with
  | some d => [d]
  | none => []

/-- the `+`-separated parts of a token that SignedLocatorRe accepts -/
def Signed.parts (p : Signed) : List Str :=
  (p.hash :: p.sizeParts) ++ p.before ++ p.sig :: p.after

structure Signed.WF (p : Signed) : Prop where
  hash : p.hash.length = 32 ∧ p.hash.all isXDigit = true
  size : ∀ d, p.size = some d → d ≠ [] ∧ d.all isDigit = true
  before : ∀ h ∈ p.before, isHintPart h = true
  sig : isSigPart p.sig = true
  after : ∀ h ∈ p.after, isHintPart h = true

theorem splitSize_spec (ps : List Str) :
    ps = (match (splitSize ps).1 with | some d => [d] | none => []) ++ (splitSize ps).2 ∧
    (∀ d, (splitSize ps).1 = some d → d ≠ [] ∧ d.all isDigit = true) := by
  cases ps with
  | nil => simp [splitSize]
  | cons p0 r =>
    by_cases hd : p0 ≠ [] ∧ p0.all isDigit = true
    · simp only [splitSize, if_pos hd]
      exact ⟨rfl, fun d e => Option.some.inj e ▸ hd⟩
    · simp only [splitSize, if_neg hd]
      exact ⟨rfl, nofun⟩

theorem parseHints_some {h : Str} {size : Option Str} {hs : List Str} {p : Signed}
    (hp : parseHints h size hs = some p) :
    p.hash = h ∧ p.size = size ∧ hs = p.before ++ p.sig :: p.after ∧
    (∀ x ∈ p.before, isHintPart x = true) ∧ isSigPart p.sig = true ∧ (∀ x ∈ p.after, isHintPart x = true) := by
  unfold parseHints at hp
  split at hp
  · rename_i sg after hdw
    split at hp
    · rename_i hsig
      rw [Bool.and_eq_true, List.all_eq_true] at hsig
      cases hp
      exact ⟨rfl, rfl, by rw [← hdw, List.takeWhile_append_dropWhile],
        fun x hx => List.all_eq_true.mp List.all_takeWhile x hx, hsig.1, hsig.2⟩
    · cases hp
  · cases hp

theorem parseSigned_some {t : Str} {p : Signed} (h : parseSigned t = some p) :
    splitOn '+' t = p.parts ∧ p.WF := by
  unfold parseSigned at h
  split at h
  · cases h
  · rename_i hh ps hs
    split at h
    · rename_i hhash
      rw [Bool.and_eq_true, beq_iff_eq] at hhash
      obtain ⟨h1, h2, h3, h4, h5, h6⟩ := parseHints_some h
      obtain ⟨hps, hsz⟩ := splitSize_spec ps
      refine ⟨?_, h1 ▸ hhash, h2 ▸ hsz, h4, h5, h6⟩
      simp only [hs, Signed.parts, Signed.sizeParts, h1, h2, List.cons_append, List.append_assoc]
      rw [← h3, ← hps]
    · cases h

theorem isHintPart_head_ne_A {h : Str} (hh : isHintPart h = true) : h.head? ≠ some 'A' := by
  intro e
  obtain ⟨r, rfl⟩ := List.head?_eq_some_iff.mp e
  simp [isHintPart] at hh

theorem digits_head_ne_A {d : Str} (hd : d.all isDigit = true) : d.head? ≠ some 'A' := by
  intro e
  obtain ⟨r, rfl⟩ := List.head?_eq_some_iff.mp e
  simp [isDigit] at hd

theorem isSigPart_cons {s : Str} (h : isSigPart s = true) : ∃ r, s = 'A' :: r := by
  simp only [isSigPart, Bool.and_eq_true, beq_iff_eq] at h
  exact List.head?_eq_some_iff.mp h.1.1.1.2

theorem map_specHint_id (id : Str) {l : List Str} (h : ∀ x ∈ l, x.head? ≠ some 'A') :
    l.map (specHint id) = l :=
  (List.map_congr_left fun x hx => specHint_of_head_ne id (h x hx)).trans (List.map_id' l)

/-- On a token that SignedLocatorRe accepts, the legacy `Fprintf` rewrite and the new
`strings.Replace` rewrite produce the same bytes. -/
theorem legacyOutTok_signed (id : Str) {t : Str} {p : Signed} (h : parseSigned t = some p) :
    legacyOutTok id t = replaceSig id t := by
  obtain ⟨hparts, wf⟩ := parseSigned_some h
  obtain ⟨r, hr⟩ := isSigPart_cons wf.sig
  -- of the `+`-separated parts only the signature begins with `A`
  have hs : p.sizeParts.map (specHint id) = p.sizeParts := by
    refine map_specHint_id id fun d hd => digits_head_ne_A (wf.size d ?_).2
    unfold Signed.sizeParts at hd
    split at hd <;> simp_all
  have hb : p.before.map (specHint id) = p.before :=
    map_specHint_id id fun x hx => isHintPart_head_ne_A (wf.before x hx)
  have ha : p.after.map (specHint id) = p.after :=
    map_specHint_id id fun x hx => isHintPart_head_ne_A (wf.after x hx)
  have hsg : specHint id p.sig = ('R' :: id) ++ '-' :: p.sig.drop 1 := by
    rw [hr]; simp [specHint]
  rw [replaceSig_eq_hints, hparts]
  simp only [legacyOutTok, h, Signed.rewritten, Signed.parts, List.cons_append, mapTail, List.map_append,
    List.map_cons, hs, hb, ha, hsg, List.append_assoc]
  rfl

theorem legacyOutTok_unsigned (id t : Str) (h : parseSigned t = none) : legacyOutTok id t = t := by
  simp [legacyOutTok, h]

theorem legacyScan_eq (id : Str) (ls : List Str) :
    legacyScan id ls =
      if ∀ l ∈ ls, 3 ≤ (splitOn ' ' l).length then
        some (ls.flatMap fun l => lineOf (legacyOutTok id) (splitOn ' ' l),
              ls.flatMap fun l => lineOf legacyHashTok (splitOn ' ' l))
      else none := by
  induction ls with
  | nil => simp [legacyScan]
  | cons l rest ih =>
    simp only [legacyScan, ih, List.forall_mem_cons]
    by_cases h1 : (splitOn ' ' l).length < 3
    · rw [if_pos h1, if_neg fun h => absurd h.1 (Nat.not_le.mpr h1)]
    · by_cases h2 : ∀ l ∈ rest, 3 ≤ (splitOn ' ' l).length
      · rw [if_neg h1, if_pos h2, if_pos ⟨Nat.le_of_not_lt h1, h2⟩]
        rfl
      · rw [if_neg h1, if_neg h2, if_neg fun h => h2 h.2]

theorem legacyScan_none (id : Str) (ls : List Str) (h : legacyScan id ls = none) :
    ∃ l ∈ ls, (splitOn ' ' l).length < 3 := by
  simpa [legacyScan_eq] using h

theorem legacyFirst_mem {outs : List LegacyOutcome} {m : Str} (h : legacyFirst outs = some m) :
    LegacyOutcome.success m ∈ outs := by
  fun_induction legacyFirst outs <;> simp_all

theorem legacyFirst_isSome_of_mem (outs : List LegacyOutcome) (m : Str)
    (h : LegacyOutcome.success m ∈ outs) : ∃ m', legacyFirst outs = some m' := by
  fun_induction legacyFirst outs with
  | case1 => cases h
  | case2 m' rest => exact ⟨m', rfl⟩
  | case3 o rest ho ih => exact ih ((List.mem_cons.mp h).resolve_left fun e => ho m e.symm)

theorem legacyOutcome_success {md5 : Str → Str} {req id : Str} {r : LegacyReply} {m : Str}
    (h : legacyOutcome md5 req id r = .success m) :
    ∃ mt f, r = .record mt f ∧ rewriteSignatures md5 id req mt f = .ok m := by
  cases r with
  | record mt f =>
    simp only [legacyOutcome] at h
    split at h
    · cases h; exact ⟨mt, f, rfl, ‹_›⟩
    · cases h
  | status c => simp only [legacyOutcome] at h; split at h <;> cases h
  | reqErr => cases h

end ArvVerif.C18
