/-
C08: `seek`. `Pos` is the normal form it produces (strictly inside a segment, or `(length, 0)` at EOF); `seek_spec`:
from any `PtrOK` pointer, stale or not, over a well-formed file. Pointers that are valid whatever the file holds:
`Ptr.zero`, `appendPtr`, and what `Ptr.seekTo` makes of a valid one.
-/
import ArvVerif.Proofs.C08_Segs
namespace ArvVerif.C08

variable {max : Nat} {hash : Bytes → Loc} {st : Store}

/-- `(idx, off)` is the normal form `seek` produces for offset `o`: strictly inside segment `idx`,
or exactly at EOF `(length, 0)`. -/
def Pos (segs : List Seg) (o idx off : Nat) : Prop :=
  (idx = segs.length ∧ off = 0 ∧ o = sumLen segs) ∨
  (∃ s, segs[idx]? = some s ∧ off < s.len ∧ sumLen (segs.take idx) + off = o)

theorem locate_spec {segs : List Seg} (hpos : ∀ s ∈ segs, 0 < s.len) :
    ∀ (r idx0 : Nat), r < sumLen segs →
      ∃ i o, locate segs r idx0 = some (idx0 + i, o) ∧
        ∃ s, segs[i]? = some s ∧ o < s.len ∧ sumLen (segs.take i) + o = r := by
  induction segs with
  | nil => intro r idx0 h; simp at h
  | cons s rest ih =>
    intro r idx0 h
    have hs : 0 < s.len := hpos s (List.mem_cons_self ..)
    cases r with
    | zero =>
      exact ⟨0, 0, by simp [locate], s, by simp, hs, by simp⟩
    | succ r =>
      simp only [locate]
      by_cases hlt : s.len > r + 1
      · simp only [hlt, if_true]
        exact ⟨0, r + 1, by simp, s, by simp, hlt, by simp⟩
      · simp only [hlt, if_false]
        have hr : r + 1 - s.len < sumLen rest := by simp at h; omega
        obtain ⟨i, o, h1, s', h2, h3, h4⟩ :=
          ih (fun x hx => hpos x (List.mem_cons_of_mem _ hx)) (r + 1 - s.len) (idx0 + 1) hr
        refine ⟨i + 1, o, ?_, s', ?_, h3, ?_⟩
        · rw [h1]; congr 2; omega
        · simpa using h2
        · simp only [List.take_succ_cons, sumLen_cons]; omega

theorem Pos.next {segs : List Seg} (hpos : ∀ s ∈ segs, 0 < s.len) {i : Nat} {s : Seg}
    (hs : segs[i]? = some s) : Pos segs (sumLen (segs.take i) + s.len) (i + 1) 0 := by
  rw [← sumLen_take_succ hs]
  by_cases h : i + 1 < segs.length
  · exact Or.inr ⟨segs[i + 1], List.getElem?_eq_getElem h, hpos _ (List.getElem_mem h), rfl⟩
  · have := (List.getElem?_eq_some_iff.mp hs).1
    exact Or.inl ⟨by omega, rfl, by rw [List.take_of_length_le (by omega)]⟩

theorem Pos.located {segs : List Seg} {o i off : Nat} (h : Pos segs o i off) :
    sumLen segs ≤ o ∨ Located segs o i off := by
  rcases h with ⟨_, _, h⟩ | ⟨s, h1, h2, h3⟩
  · exact Or.inl (by omega)
  · exact Or.inr ⟨s, h1, Nat.le_of_lt h2, h3⟩

theorem Pos.off_le {segs : List Seg} {o i off : Nat} (h : Pos segs o i off) : o ≤ sumLen segs := by
  rcases h with ⟨_, _, h⟩ | ⟨s, hs, hlt, hsum⟩
  · omega
  · have h1 := sumLen_take_succ hs
    have h2 := sumLen_take_le segs (i + 1)
    omega

theorem seek_spec {fn : FileNode} {p : Ptr} (hwf : WF max hash st fn) (hp : PtrOK fn p) :
    ∃ q, seek fn p = some q ∧ q.off = p.off ∧ q.repacked = fn.repacked ∧
      ((p.off ≥ fn.size ∧ q.segIdx = fn.segs.length ∧ q.segOff = 0) ∨
       (p.off < fn.size ∧ ∃ s, fn.segs[q.segIdx]? = some s ∧ q.segOff < s.len ∧
          sumLen (fn.segs.take q.segIdx) + q.segOff = p.off)) := by
  have hpos : ∀ s ∈ fn.segs, 0 < s.len := fun s hs => (hwf.segs s hs).len_pos
  unfold seek
  by_cases h1 : p.off ≥ fn.size
  · rw [if_pos h1]
    exact ⟨_, rfl, rfl, rfl, Or.inl ⟨h1, rfl, rfl⟩⟩
  · rw [if_neg h1]
    have hlt : p.off < fn.size := Nat.lt_of_not_ge h1
    by_cases h2 : p.repacked = fn.repacked
    · rw [if_pos h2]
      rcases hp.2 h2 with h | ⟨s, hs, hle, hsum⟩
      · omega
      · simp only [hs]
        by_cases h3 : p.segOff ≥ s.len
        · rw [if_pos h3]
          -- the pointer fell off the end of `s`; the next segment exists because p.off < size
          rcases Pos.next hpos hs with ⟨_, _, h⟩ | ⟨s', hs', hlt', hsum'⟩
          · rw [← hwf.size_eq] at h; omega
          · exact ⟨_, rfl, rfl, h2, Or.inr ⟨hlt, s', hs', hlt', by dsimp only; omega⟩⟩
        · rw [if_neg h3]
          exact ⟨_, rfl, rfl, h2, Or.inr ⟨hlt, s, hs, Nat.lt_of_not_ge h3, hsum⟩⟩
    · rw [if_neg h2]
      obtain ⟨i, o, hl, s, hs, ho, hsum⟩ := locate_spec hpos p.off 0 (by rw [← hwf.size_eq]; exact hlt)
      rw [hl]
      simp only [Nat.zero_add]
      exact ⟨_, rfl, rfl, rfl, Or.inr ⟨hlt, s, hs, ho, hsum⟩⟩

theorem ptr0_ok (fn : FileNode) (hwf : WF max hash st fn) (hrep : 0 ≤ fn.repacked) : PtrOK fn Ptr.zero := by
  refine ⟨hrep, fun h => ?_⟩
  by_cases hsz : fn.size = 0
  · exact Or.inl (by show 0 ≥ fn.size; omega)
  · right
    cases hsegs : fn.segs with
    | nil => have := hwf.size_eq; rw [hsegs] at this; simp at this; omega
    | cons s rest => exact ⟨s, rfl, Nat.zero_le _, rfl⟩

theorem appendPtr_ok (fn : FileNode) : PtrOK fn (appendPtr fn) :=
  ⟨Int.le_refl _, fun _ => Or.inl (Nat.le_refl _)⟩

theorem seekTo_off (p : Ptr) (t : Nat) : (p.seekTo t).off = t := by
  unfold Ptr.seekTo
  split
  · rfl
  · next h => simp at h; exact h.symm

theorem seekTo_ok {fn : FileNode} {p : Ptr} (hrep : 0 ≤ fn.repacked) (hp : PtrOK fn p) (t : Nat) :
    PtrOK fn (p.seekTo t) := by
  unfold Ptr.seekTo
  split
  · exact ⟨by show (-1 : Int) ≤ fn.repacked; omega, fun h => by dsimp only at h; omega⟩
  · exact hp

end ArvVerif.C08
