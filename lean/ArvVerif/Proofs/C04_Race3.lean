/-
C04 interleaving layer, a sweep step as third party (`Model/C04_Race3.lean`): what one `Remove` of an
empty-trash sweep can change. Proved for EVERY state (reachable or not) and every inode.
-/
import ArvVerif.Model.C04_Race3
import ArvVerif.Proofs.C04_RaceCode
namespace ArvVerif.C04.Race

theorem sweep_blk (i : Ino) (s : St) : (sweep i s).blk = s.blk := by
  unfold sweep
  split
  · rename_i h
    cases i <;> simp only [St.loc] at h <;> simp [St.setLoc, St.blk, h] <;> rfl
  · rfl

theorem sweep_fresh (i j : Ino) (s : St) : (sweep i s).fresh j = s.fresh j := by
  unfold sweep
  split
  · cases i <;> cases j <;> rfl
  · rfl

theorem sweep_good (i j : Ino) (s : St) : (sweep i s).good j = s.good j := by
  unfold sweep
  split
  · cases i <;> cases j <;> rfl
  · rfl

theorem sweep_resP (i : Ino) (s : St) : (sweep i s).resP = s.resP := by
  unfold sweep
  split
  · cases i <;> rfl
  · rfl

theorem sweep_cfg (i : Ino) (s : St) : (sweep i s).cfg = s.cfg := by
  unfold sweep
  split
  · cases i <;> rfl
  · rfl

theorem sweep_loc (i j : Ino) (s : St) : (sweep i s).loc j = s.loc j ∨ (s.loc j = .trash ∧ (sweep i s).loc j = .gone) := by
  unfold sweep
  split
  · rename_i h
    cases i <;> cases j <;> simp_all [St.loc, St.setLoc]
  · exact Or.inl rfl

theorem sweep_ackSafe (i : Ino) (s : St) : ackSafe (sweep i s) = ackSafe s := by
  simp only [ackSafe, St.acked, St.protected, sweep_blk, sweep_resP, sweep_cfg]
  cases s.blk with
  | none => rfl
  | some j => simp only [sweep_fresh, sweep_good]

theorem sweeps_ackSafe (is : List Ino) (s : St) : ackSafe (run3 (is.map .sweep) s) = ackSafe s := by
  induction is generalizing s with
  | nil => rfl
  | cons i is ih => exact (ih _).trans (sweep_ackSafe i s)

end ArvVerif.C04.Race
