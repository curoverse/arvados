/-
C17 — the specification of the scan: `Shows h cfg d s` = "the output path `d` shows the container
path `s`", defined by the documented way of resolving links, with no reference to traversal order,
budgets or the plan:
  * the output root shows the output directory;
  * if `d` shows a real directory `s`, then `d/c` shows `s/c` for every entry `c` that is neither a
    secret mount nor a mount point;
  * if `d` shows a symbolic link whose target is taken into the output directory's mount (not under
    a secret mount, no deeper mount), then `d` shows that target.
`Just`: what a plan may hold according to `Shows`. Under `Direct` everything shown is canonical
(`shows_canon`), so the host finds it where the specification looks (`shows_found`), and nothing shown lies
at or below a secret mount (`shows_noSecret`).
-/
import ArvVerif.Proofs.C17_Canon
namespace ArvVerif.C17

inductive Shows (h : Host) (cfg : Cfg) : Path → Path → Prop
  | root : Shows h cfg [] cfg.ctrOut
  | child {d s : Path} {c : Name} : Shows h cfg d s → nodeAt h cfg s = some .dir →
      (∃ n, nodeAt h cfg (s ++ [c]) = some n) →
      (s ++ [c]) ∉ cfg.secrets → skipMount cfg (s ++ [c]) = false → Shows h cfg (d ++ [c]) (s ++ [c])
  | link {d s : Path} {a : Bool} {t : Path} : Shows h cfg d s → nodeAt h cfg s = some (.link a t) →
      InOut cfg (linkTarget s a t) → Shows h cfg d (linkTarget s a t)

def FileJust (h : Host) (cfg : Cfg) (f : Path × Option Path) : Prop :=
  match f.2 with
  | some p => ∃ s c, Shows h cfg f.1 s ∧ p = hostPath cfg s ∧ h.get p = some (.file c)
  | none => ∃ d s, f.1 = d ++ [".keep"] ∧ d ≠ [] ∧ Shows h cfg d s ∧ nodeAt h cfg s = some .dir ∧
      h.children (hostPath cfg s) = []

def DirJust (h : Host) (cfg : Cfg) (d : Path) : Prop :=
  d ≠ [] ∧ ∃ s, Shows h cfg d s ∧ nodeAt h cfg s = some .dir

structure Just (h : Host) (cfg : Cfg) (st : Plan) : Prop where
  files : ∀ f ∈ st.files, FileJust h cfg f
  dirs : ∀ d ∈ st.dirs, DirJust h cfg d

theorem shows_pre (h : Host) (cfg : Cfg) (d s : Path) (hsh : Shows h cfg d s) :
    cfg.ctrOut.isPrefixOf s = true := by
  induction hsh with
  | root => exact isPrefixOf_self _
  | child _ _ _ _ _ ih => exact isPrefixOf_append_right _ _ _ ih
  | link _ _ hin _ => exact inOut_pre cfg _ hin

theorem shows_canon {h : Host} {cfg : Cfg} (hwf : HostWF h) (wf : CfgWF h cfg) (hdirect : Direct h cfg)
    {d s : Path} (hsh : Shows h cfg d s) : Canon h cfg s := by
  induction hsh with
  | root => exact canon_out h cfg wf
  | @child _ s' c _ hdir hex _ _ ih =>
    obtain ⟨n, hn⟩ := hex
    rw [nodeAt_child h c ih.pre] at hn
    exact ih.child c (hwf.clean _ (mem_of_get h _ _ (by simp) hn) c (by simp)) hdir
  | link _ hnode hin ih => exact hdirect.target ih hnode hin

/-- … so `lstat` of a shown path finds the node of the specification, at the path's own host path -/
theorem shows_found {h : Host} {cfg : Cfg} (hwf : HostWF h) (wf : CfgWF h cfg) (hdirect : Direct h cfg)
    {d s p : Path} {n : Node} (hsh : Shows h cfg d s) (hst : namei h [] (hostPath cfg s) 0 = .found p n) :
    p = hostPath cfg s ∧ nodeAt h cfg s = some n :=
  host_node h cfg wf s (shows_canon hwf wf hdirect hsh) p n hst

/-- no secret mount at or above `s` at all (stronger than `notSecret`, which asks only about secrets deeper
than the innermost mount) -/
def NoSecretAt (cfg : Cfg) (s : Path) : Prop := ∀ x ∈ cfg.secrets, x.isPrefixOf s = false

theorem shows_noSecret (h : Host) (cfg : Cfg) (wf : CfgWF h cfg) (d s : Path) (hsh : Shows h cfg d s) :
    NoSecretAt cfg s := by
  induction hsh with
  | root => exact wf.noSecretAbove
  | child _ _ _ hsec _ ih =>
    refine fun x hx => Bool.eq_false_iff.mpr fun hp => ?_
    rcases prefix_of_prefix_append_singleton _ _ _ hp with h1 | h1
    · rw [ih x hx] at h1; cases h1
    · exact hsec (h1 ▸ hx)
  | link _ _ hin _ =>
    refine fun x hx => Bool.eq_false_iff.mpr fun hp => ?_
    have hpre := inOut_pre cfg _ hin
    obtain ⟨hsec, m, hsm, _, _⟩ := hin
    rw [hsm] at hsec
    -- a secret mount at or above the target: `InOut` rules out one longer than the output path,
    -- and any other lies at or above the output path
    by_cases hl : cfg.ctrOut.length < x.length
    · have := List.any_eq_false.mp hsec x hx
      simp [rootLen, hl, hp] at this
    · have := prefix_total x cfg.ctrOut _ hp hpre (by omega)
      rw [wf.noSecretAbove x hx] at this; cases this

end ArvVerif.C17
