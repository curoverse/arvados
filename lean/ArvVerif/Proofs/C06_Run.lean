/-
C06(c) proofs: for every guard list that satisfies the decidable predicate `wellGuarded`, under
every choice of which steps are reached and which calls fail, no commit call is made after a failed
call and the function returns an error. Then the two closed facts about `Run` itself: its skeleton
yields the guard list `runSteps`, and `runSteps` is `wellGuarded`.
-/
import ArvVerif.Model.C06_Run
namespace ArvVerif.C06

theorem exec_calls_sublist (runs fails : Nat → Bool) (steps : List Step) (i : Nat) (err : Bool) :
    ((exec runs fails steps i err).calls.map (·.1)).Sublist (steps.map (·.name)) := by
  fun_induction exec runs fails steps i err
  case case1 => exact .slnil
  case case2 ih => exact ih.cons _
  case case3 => exact (List.nil_sublist _).cons_cons _
  case case4 ih => exact ih.cons_cons _

theorem exec_err_of_noFail (runs fails : Nat → Bool) (steps : List Step) (i : Nat) (err : Bool) :
    (∀ st ∈ steps, st.canFail = false) → (exec runs fails steps i err).err = err := by
  fun_induction exec runs fails steps i err
  case case1 => exact fun _ => rfl
  case case2 ih => exact fun h => ih fun s hs => h s (List.mem_cons_of_mem _ hs)
  case case3 st _ _ _ _ failed hf =>
    intro h
    simp [failed, h st List.mem_cons_self] at hf
  case case4 st _ _ _ _ failed err' _ r ih =>
    intro h
    have : err' = _ := if_neg (by simp [h st List.mem_cons_self])
    exact this ▸ ih fun s hs => h s (List.mem_cons_of_mem _ hs)

theorem unguarded_tail {st : Step} {rest : List Step} (hw : wellGuarded (st :: rest) = true)
    (hcf : st.canFail = true) (hg : st.guarded = false) :
    ∀ s ∈ rest, isCommit s.name = false ∧ s.canFail = false := by
  simp only [wellGuarded, hcf, hg, Bool.and_eq_true] at hw
  simpa using hw.1

theorem failure_aborts (runs fails : Nat → Bool) (steps : List Step) (i : Nat) (err : Bool) :
    wellGuarded steps = true → ∀ (pre : List (Str × Bool)) (n : Str) (post : List (Str × Bool)),
      (exec runs fails steps i err).calls = pre ++ (n, true) :: post →
      (∀ c ∈ post, isCommit c.1 = false) ∧ (exec runs fails steps i err).err = true := by
  fun_induction exec runs fails steps i err
  case case1 => exact fun _ pre n post h => absurd h (by simp)
  case case2 ih => exact fun hw => ih (Bool.and_eq_true_iff.1 hw).2
  case case3 =>
    -- guarded failure: nothing follows
    intro _ pre n post h
    cases pre with
    | nil => simp at h; simp [h.2]
    | cons x pre' => simp at h
  case case4 st rest i err _ failed err' hng r ih =>
    intro hw pre n post h
    cases pre with
    | nil =>
      obtain ⟨hfailed, rfl⟩ := List.cons.inj h
      -- the call failed and the run went on, so it was not guarded
      obtain ⟨hcf, hfi⟩ := Bool.and_eq_true_iff.1 (Prod.mk.inj hfailed).2
      have hg : st.guarded = false := by simpa [failed, hcf, hfi] using hng
      have htail := unguarded_tail hw hcf hg
      refine ⟨fun c hc => ?_, ?_⟩
      · obtain ⟨s, hs, hn⟩ := List.mem_map.1
          ((exec_calls_sublist runs fails rest _ _).subset (List.mem_map_of_mem hc))
        exact hn ▸ (htail s hs).1
      · show r.err = true
        rw [exec_err_of_noFail runs fails rest _ _ fun s hs => (htail s hs).2]
        simpa [err', hcf] using (Prod.mk.inj hfailed).2
    | cons x pre' => exact ih (Bool.and_eq_true_iff.1 hw).2 pre' n post (List.cons.inj h).2

/-! Closed statements about `stepsOf`, `runSteps` or `isCommit` are evaluated by the kernel, which is
lazy: a step's name is an atom to everything but the parser and the comparisons of names, and a
statement that looks at no name, or at one or two, is decided as it stands. Where every name is
compared, each `"…".toList` is first rewritten to the list of its characters with
`String.toList_ofList` (a literal is by definition `String.ofList` of them), because the kernel
decodes a literal's UTF-8 bytes slowly. -/

def classifyL (cs : List Char) : TokKind :=
  match stripPrefix ['c', 'a', 'l', 'l', ' '] cs with
  | some r =>
    let (n, lhs) := splitArrow r []
    .call n (match lhs with | some l => lhsHasErr l | none => false)
  | none =>
    if cs = ['}'] then .close
    else if cs = ['}', ' ', 'e', 'l', 's', 'e', ' ', '{'] then .elseOpen
    else if cs = ['r', 'e', 't', 'u', 'r', 'n'] then .ret
    else if cs = ['f', 'o', 'r', ' ', '{'] then .forOpen
    else if cs = ['f', 'u', 'n', 'c', ' ', '{'] then .funcOpen
    else match stripPrefix ['i', 'f', ' '] cs with
      | some r => if endsWithBrace r then .ifOpen (r.dropLast.dropLast) else .other
      | none => if endsWithBrace cs then .otherOpen else .other

theorem stepsOf_eq (skel : List String) :
    stepsOf skel = stepsGo ((skel.map String.toList).map classifyL) [] [] := by
  unfold stepsOf; rw [List.map_map]; rfl

theorem stepsOf_runSkeleton : stepsOf runSkeleton = runSteps := by
  rw [stepsOf_eq]
  unfold runSkeleton runSteps
  simp only [List.map_cons, List.map_nil]
  repeat rw [String.toList_ofList]
  decide +kernel

/-- No name is looked at: every call that can fail is guarded, except the last. -/
theorem wellGuarded_runSteps : wellGuarded runSteps = true := by decide +kernel

end ArvVerif.C06
