/-
C17 — from the plan to the saved collection: `runPlan` on a plan in `Shape`, when mounted and host content
do not claim the same path (`NoCollide`, defined here; `runPlan_spec`) and in general (`runPlan_ok_spec`).
-/
import ArvVerif.Proofs.C17_Shape
import ArvVerif.Proofs.C17_Tree
namespace ArvVerif.C17

/-- mounted content (the loaded manifest fragments) and host content do not claim the same output
path -/
structure NoCollide (t0 : Tree) (plan : Plan) : Prop where
  dirs : ∀ d ∈ plan.dirs, t0.get d = none ∨ t0.get d = some .dir
  files : ∀ f ∈ plan.files, t0.get f.1 = none

theorem mkdirs_ok : ∀ (ds before : List Path) (t : Tree), Ordered before ds →
    (∀ b ∈ before, t.get b = some .dir) → (∀ d ∈ ds, t.get d = none ∨ t.get d = some .dir) →
    ∃ t', mkdirs t ds = some t'
  | [], _, t, _, _, _ => ⟨t, rfl⟩
  | d :: ds, before, t, ⟨hne, hpar, hord⟩, hb, hfree => by
    have hp : t.get d.dropLast = some .dir := hpar.elim (fun h0 => h0 ▸ Tree.get_nil t) (hb _)
    obtain ⟨t1, h1⟩ : ∃ t1, mkdir t d = some t1 := by
      unfold mkdir; rw [hp]; cases t.get d <;> exact ⟨_, rfl⟩
    have hg := mkdir_ok_spec hne h1
    obtain ⟨t', h2⟩ := mkdirs_ok ds (before ++ [d]) t1 hord
      (fun b hb' => by
        rw [hg]; split
        · rfl
        · rename_i hnew
          rcases List.mem_append.mp hb' with hm | hm
          · exact hb b hm
          · cases List.mem_singleton.mp hm
            exact (hfree d (List.mem_cons_self ..)).resolve_left fun hn => hnew ⟨rfl, hn⟩)
      (fun x hx => by rw [hg]; split; exact Or.inr rfl; exact hfree x (List.mem_cons_of_mem _ hx))
    exact ⟨t', by simp [mkdirs, h1, h2]⟩

theorem runPlan_ok {h : Host} {plan : Plan} {tree : Tree} : runPlan h plan = .ok tree ↔
    ∃ t0 t1, loadFrags [] plan.frags = some t0 ∧ mkdirs t0 plan.dirs = some t1 ∧
      copyFiles h t1 plan.files = some tree := by
  unfold runPlan
  split
  · simp [*]
  · split
    · simp [*]
    · split <;> simp [*]

theorem runPlan_spec (h : Host) (plan : Plan) (hsh : Shape plan) (t0 : Tree)
    (hload : loadFrags [] plan.frags = some t0) (hnc : NoCollide t0 plan) :
    ∃ tree, runPlan h plan = .ok tree ∧
      ∀ x, tree.get x = match planned h plan.files x with
        | some c => some (.file c)
        | none => if x ∈ plan.dirs then some .dir else t0.get x := by
  obtain ⟨t1, hm⟩ := mkdirs_ok plan.dirs [] t0 hsh.ordered (by simp) hnc.dirs
  have hg1 : ∀ x, t1.get x = if x ∈ plan.dirs then some .dir else t0.get x := by
    intro x
    rw [mkdirs_ok_spec plan.dirs t0 t1 (ordered_ne _ [] hsh.ordered) hm]
    by_cases hx : x ∈ plan.dirs
    · rcases hnc.dirs x hx with h0 | h0 <;> simp [hx, h0]
    · simp [hx]
  obtain ⟨tree, hc, hg2⟩ := copyFiles_spec h plan.files t1 hsh.nodupFiles fun f hf => by
    obtain ⟨hne, hpar⟩ := hsh.parents f hf
    refine ⟨hne, ?_, ?_⟩
    · rcases hpar with hp | hp
      · rw [hp]; exact Tree.get_nil t1
      · rw [hg1, if_pos hp]
    · rw [hg1, if_neg fun hm' => hsh.disjoint _ hm' (List.mem_map_of_mem hf)]
      exact hnc.files f hf
  refine ⟨tree, runPlan_ok.mpr ⟨t0, t1, hload, hm, hc⟩, fun x => ?_⟩
  rw [hg2]
  cases planned h plan.files x with
  | some c => rfl
  | none => exact hg1 x

/-- without `NoCollide`: a planned file laid over a file of the mounted content gives the host bytes
followed by the tail of the longer mounted file (the destination is opened without truncation);
over a directory of the mounted content — possible only for an empty host file — the directory
stays -/
theorem runPlan_ok_spec (h : Host) (plan : Plan) (hsh : Shape plan) (tree : Tree)
    (hrun : runPlan h plan = .ok tree) :
    ∃ t0, loadFrags [] plan.frags = some t0 ∧
      ∀ x, (tree.get x = match planned h plan.files x with
          | some c => overlay (t0.get x) c
          | none => if x ∈ plan.dirs ∧ t0.get x = none then some .dir else t0.get x) ∧
        (∀ c, planned h plan.files x = some c → t0.get x = some .dir → c = []) := by
  obtain ⟨t0, t1, hl, hm, hc⟩ := runPlan_ok.mp hrun
  refine ⟨t0, hl, fun x => ?_⟩
  have hg1 := mkdirs_ok_spec plan.dirs t0 t1 (ordered_ne _ [] hsh.ordered) hm
  obtain ⟨hg2, hd2⟩ := copyFiles_ok_spec h plan.files t1 tree hsh.nodupFiles
    (fun f hf => (hsh.parents f hf).1) hc x
  -- a planned file's path is no planned directory: `mkdirs` left it as it was
  have ht1 : ∀ c, planned h plan.files x = some c → t1.get x = t0.get x := by
    intro c hp
    obtain ⟨f, hf, hfx, _⟩ := planned_some h plan.files x c hp
    have hnd : x ∉ plan.dirs := fun hm' => hsh.disjoint x hm' (hfx ▸ List.mem_map_of_mem hf)
    rw [hg1]; simp [hnd]
  cases hp : planned h plan.files x with
  | none => rw [hp] at hg2; exact ⟨by rw [hg2, hg1], nofun⟩
  | some c =>
    rw [hp, ht1 c hp] at hg2
    exact ⟨hg2, fun c' hc' hdir => hd2 c' (hp ▸ hc') (by rw [ht1 c hp]; exact hdir)⟩

end ArvVerif.C17
