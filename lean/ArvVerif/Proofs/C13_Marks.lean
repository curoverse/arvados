/-
C13: what C08's foreground code (`filenode.Write`, `filenode.truncate`) does to
the `flushing` fields: a non-nil `flushing` value never travels to a buffer with different bytes — a
marked buffer can only get shorter (Truncate shrinks in place), every other change (WriteAt, growing
Truncate, Slice) resets the field to nil. Stated for any predicate `G buf flushing` that holds for
nil, survives cutting the buffer shorter, and holds for the marks `pruneSegs` sets.
-/
import ArvVerif.Proofs.C08_Write
import ArvVerif.Proofs.C13_Opt
namespace ArvVerif.C13
open ArvVerif.C08

/-- what `truncate` needs -/
structure MarkPred0 (G : Bytes → Flush → Prop) : Prop where
  none : ∀ b, G b Flush.none
  take : ∀ b fl n, G b fl → G (b.take n) fl

/-- what `Write` needs in addition: the marks pruneMemSegments sets are fine -/
structure MarkPred (max : Nat) (G : Bytes → Flush → Prop) : Prop extends MarkPred0 G where
  fresh : ∀ b i, b.length ≤ max → G b (Flush.pending i b.length)

def AllG (G : Bytes → Flush → Prop) (segs : List Seg) : Prop := ∀ b fl, Seg.mem b fl ∈ segs → G b fl

variable {max : Nat} {hash : Bytes → Loc} {G : Bytes → Flush → Prop}

theorem AllG.nil : AllG G [] := nofun

theorem AllG.append {a b : List Seg} (h1 : AllG G a) (h2 : AllG G b) : AllG G (a ++ b) :=
  fun x fl hm => (List.mem_append.mp hm).elim (h1 x fl) (h2 x fl)

variable {a : List Seg}

theorem AllG.sub {b : List Seg} (h : AllG G a) (hs : ∀ x ∈ b, x ∈ a) : AllG G b :=
  fun x fl hm => h x fl (hs _ hm)

theorem AllG.take (h : AllG G a) {n : Nat} : AllG G (a.take n) :=
  h.sub (fun _ hx => List.mem_of_mem_take hx)

theorem AllG.drop (h : AllG G a) {n : Nat} : AllG G (a.drop n) :=
  h.sub (fun _ hx => List.mem_of_mem_drop hx)

theorem AllG.dropLast (h : AllG G a) : AllG G a.dropLast :=
  h.sub (fun _ hx => (List.dropLast_sublist a).subset hx)

theorem AllG.set {s : Seg} (h : AllG G a) (hs : AllG G [s]) (i : Nat) : AllG G (a.set i s) :=
  fun x fl hm => (List.mem_or_eq_of_mem_set hm).elim (h x fl) (fun e => hs x fl (List.mem_singleton.mpr e))

theorem AllG.get {a : List Seg} (h : AllG G a) {i : Nat} {b : Bytes} {fl : Flush} (hi : a[i]? = some (Seg.mem b fl)) :
    G b fl := h b fl (List.mem_of_getElem? hi)

theorem AllG.all_segs {P : Seg → Prop} (hst : ∀ loc a b c, P (Seg.stored loc a b c))
    (h : AllG (fun b fl => P (Seg.mem b fl)) a) : ∀ sg ∈ a, P sg
  | Seg.stored .., _ => hst ..
  | Seg.mem b fl, hm => h b fl hm

theorem AllG.single_none (hG : MarkPred0 G) (b : Bytes) : AllG G [Seg.mem b Flush.none] := by
  intro x fl hm
  cases List.mem_singleton.mp hm
  exact hG.none _

theorem AllG.single_stored {loc : Loc} {a b c : Nat} : AllG G [Seg.stored loc a b c] :=
  fun _ _ hm => nomatch List.mem_singleton.mp hm

/-- `memSegment.Truncate`: the field survives only when the buffer is cut (not grown). -/
theorem memTruncate_G (hG : MarkPred0 G) {buf : Bytes} {fl : Flush} (h : G buf fl) {n : Nat} :
    AllG G [memTruncate buf fl n] := by
  intro x fl' hm
  unfold memTruncate at hm
  cases List.mem_singleton.mp hm
  by_cases hn : n > buf.length
  · -- grown: nil afterwards, whatever it was
    by_cases hf : fl = Flush.none
    · rw [if_neg (fun c => c.1 hf), hf]; exact hG.none _
    · rw [if_pos ⟨hf, hn⟩]; exact hG.none _
  · rw [if_neg (fun c => hn c.2), Nat.sub_eq_zero_of_le (Nat.le_of_not_gt hn), zeros_zero, List.append_nil]
    exact hG.take _ _ _ h

theorem memTruncate_new_G (hG : MarkPred0 G) {n : Nat} : AllG G [memTruncate [] Flush.none n] :=
  memTruncate_G hG (hG.none _)

/-- `Slice` copies into a fresh buffer: nil. -/
theorem slice_G (hG : MarkPred0 G) {s : Seg} {n : Nat} {len : Option Nat} : AllG G [s.slice n len] := by
  cases s with
  | stored loc size off l =>
    cases len <;> exact AllG.single_stored
  | mem buf fl =>
    cases len <;> exact AllG.single_none hG _

theorem curFate_G (hG : MarkPred0 G) {fn : FileNode} (h : AllG G fn.segs) {cur : Nat} {curSeg : Option Seg}
    {cando : Bytes} : AllG G (curFate fn cur curSeg cando).2.2 := by
  unfold curFate
  cases curSeg with
  | none => exact AllG.nil
  | some s =>
    simp only []
    split
    · exact h.drop
    · exact AllG.append (slice_G hG) h.drop

theorem restrShift_G (hG : MarkPred0 G) {fn : FileNode} (h : AllG G fn.segs) {cur : Nat} {curSeg : Option Seg}
    {cando : Bytes} : AllG G (restrShift max fn cur curSeg cando).segs := by
  unfold restrShift
  cases hp : prevApp max fn.segs cur with
  | none =>
    exact AllG.append (AllG.append h.take (memTruncate_new_G hG)) (curFate_G hG h)
  | some pf =>
    exact AllG.append (AllG.append h.take (memTruncate_G hG (h.get (prevApp_some hp).2.1))) (curFate_G hG h)

theorem restructure_G (hG : MarkPred0 G) {fn : FileNode} (h : AllG G fn.segs) (ptr : Ptr) (p : Bytes) :
    OptAll (fun r => AllG G r.segs) (restructure max fn ptr p) := by
  unfold restructure
  refine OptAll.ite trivial ?_
  cases fn.segs[ptr.segIdx]? with
  | none => exact OptAll.ite trivial (restrShift_G hG h)
  | some s =>
    cases s with
    | mem buf fl => exact OptAll.ite trivial h
    | stored =>
      refine OptAll.ite ?_ (restrShift_G hG h)
      -- "split a non-writable block": two or three pieces around a fresh mem segment
      unfold restrSplit
      refine OptAll.ite trivial (OptAll.ite ?_ ?_)
      · exact AllG.append (AllG.append h.take (AllG.append (slice_G hG) (memTruncate_new_G hG))) h.drop
      · exact AllG.append (AllG.append h.take
          (AllG.append (slice_G hG) (AllG.append (memTruncate_new_G hG) (slice_G hG)))) h.drop

theorem pruneSegs_mem : ∀ (segs : List Seg) (idx : Nat) (st : Store) {b : Bytes} {fl : Flush},
    Seg.mem b fl ∈ (pruneSegs hash max segs idx st).1 →
      Seg.mem b fl ∈ segs ∨ ∃ i, fl = Flush.pending i b.length := by
  intro segs
  induction segs with
  | nil => intro idx st b fl h; exact Or.inl h
  | cons s rest ih =>
    intro idx st b fl h
    have tail : ∀ {st' : Store}, Seg.mem b fl ∈ (pruneSegs hash max rest (idx + 1) st').1 →
        Seg.mem b fl ∈ s :: rest ∨ ∃ i, fl = Flush.pending i b.length :=
      fun h => (ih _ _ h).imp_left (List.mem_cons_of_mem _)
    unfold pruneSegs at h
    split at h
    · split at h
      · rcases List.mem_cons.mp h with e | h'
        · exact Or.inl (e ▸ List.mem_cons_self ..)
        · exact tail h'
      · rcases List.mem_cons.mp h with e | h'
        · cases e; exact Or.inr ⟨idx, rfl⟩
        · exact tail h'
    · rcases List.mem_cons.mp h with e | h'
      · exact Or.inl (e ▸ List.mem_cons_self ..)
      · exact tail h'

theorem memWriteAt_flag {buf p : Bytes} {off : Nat} {s' : Seg} (h : memWriteAt buf p off = some s') :
    ∃ b', s' = Seg.mem b' Flush.none := by
  unfold memWriteAt at h
  split at h
  · cases h
  · cases h; exact ⟨_, rfl⟩

/-- one iteration of the loop in `filenode.Write` -/
theorem writeStep_G (hG : MarkPred max G) {w : WState} (h : AllG G w.fn.segs) (p : Bytes) :
    OptAll (fun wk => (∀ b fl, Seg.mem b fl ∈ wk.1.fn.segs → b.length ≤ max) → AllG G wk.1.fn.segs)
      (writeStep hash max w p) := by
  unfold writeStep
  have hr := restructure_G (max := max) hG.toMarkPred0 h w.ptr p
  generalize restructure max w.fn w.ptr p = o at hr
  cases o with
  | none => trivial
  | some r =>
    dsimp only
    unfold overwrite
    cases r.segs[r.idx]? with
    | none => trivial
    | some s =>
      cases s with
      | stored => trivial
      | mem buf fl =>
        dsimp only
        cases hm : memWriteAt buf r.cando r.off with
        | none => trivial
        | some s' =>
          -- `WriteAt` resets the field; then `pruneMemSegments` may run
          obtain ⟨b', rfl⟩ := memWriteAt_flag hm
          have hset := AllG.set hr (AllG.single_none hG.toMarkPred0 b') r.idx
          intro hb
          split
          · next hge =>
            -- a mark set now is a `fresh` one; the length bound comes from the well-formedness of the result
            rw [if_pos hge] at hb
            exact fun b fl hm => (pruneSegs_mem _ _ _ hm).elim (hset b fl) (fun ⟨i, e⟩ => e ▸ hG.fresh b i (hb b fl hm))
          · exact hset

theorem writeLoop_G (hinj : Function.Injective hash) (hmax : 1 ≤ max) (hG : MarkPred max G) :
    ∀ (fuel : Nat) (w : WState) (p : Bytes) (n : Nat) (w' : WState) (k : Nat),
      StoreOK hash w.st → WF max hash w.st w.fn → WPos w.fn w.ptr → AllG G w.fn.segs →
      writeLoop hash max fuel w p n = WriteRes.done w' k → AllG G w'.fn.segs := by
  intro fuel
  induction fuel with
  | zero =>
    intro w p n w' k _ _ _ h hl
    cases p with
    | nil => simp only [writeLoop] at hl; cases hl; exact h
    | cons b p' => simp [writeLoop] at hl
  | succ fuel ih =>
    intro w p n w' k hok hwf hpos h hl
    cases p with
    | nil => simp only [writeLoop] at hl; cases hl; exact h
    | cons b p' =>
      obtain ⟨w1, k1, hstep, hs⟩ := step_spec hinj hmax (p := b :: p') (by simp) hok hwf hpos
      simp only [writeLoop, hstep] at hl
      have h1 : AllG G w1.fn.segs := (writeStep_G hG h _).of_eq hstep (fun _ _ hm => (hs.wf.segs _ hm).2.1)
      exact ih w1 _ _ w' k hs.ok hs.wf hs.pos h1 hl

theorem growLoop_G (hG : MarkPred0 G) : ∀ (fuel : Nat) (segs : List Seg) (size target : Nat), AllG G segs →
    OptAll (fun r => AllG G r.1) (growLoop max fuel segs size target) := by
  intro fuel
  induction fuel with
  | zero =>
    intro segs size target h
    unfold growLoop
    exact OptAll.ite h trivial
  | succ fuel ih =>
    intro segs size target h
    unfold growLoop
    refine OptAll.ite h ?_
    cases hlast : segs.getLast? with
    | none => exact ih _ _ _ (AllG.append h (memTruncate_new_G hG))
    | some s =>
      cases s with
      | stored => exact ih _ _ _ (AllG.append h (memTruncate_new_G hG))
      | mem buf fl =>
        exact OptAll.ite (ih _ _ _ (AllG.append h (memTruncate_new_G hG)))
          (ih _ _ _ (AllG.append h.dropLast (memTruncate_G hG (h _ _ (List.mem_of_getLast? hlast)))))

theorem truncate_G (hG : MarkPred0 G) {fn fn' : FileNode} {n : Nat} (h : AllG G fn.segs)
    (ht : truncate max fn n = some fn') : AllG G fn'.segs := by
  suffices h' : OptAll (fun fn' => AllG G fn'.segs) (truncate max fn n) from h'.of_eq ht
  unfold truncate
  refine OptAll.ite h (OptAll.ite ?_ ?_)
  · dsimp only
    cases seek { fn with repacked := fn.repacked + 1 } ⟨n, 0, 0, 0⟩ with
    | none => trivial
    | some ptr =>
      refine OptAll.ite h.take ?_
      cases hseg : fn.segs[ptr.segIdx]? with
      | none => trivial
      | some s =>
        cases s with
        | mem buf fl => exact AllG.append h.take (memTruncate_G hG (h.get hseg))
        | stored => exact AllG.append h.take (slice_G hG)
  · have := growLoop_G (max := max) hG (n - fn.size) fn.segs fn.size n h
    generalize growLoop max (n - fn.size) fn.segs fn.size n = o at this
    cases o with
    | none => trivial
    | some r => exact this

/-- `filenode.Write`: every non-nil `flushing` field afterwards sits on the buffer it sat on before
(possibly cut shorter), or was set by pruneMemSegments during this call. -/
theorem write_G (hinj : Function.Injective hash) (hmax : 1 ≤ max) (hG : MarkPred max G) {st : Store} {fn : FileNode}
    {ptr : Ptr} (hok : StoreOK hash st) (hwf : WF max hash st fn) (hrep : 0 ≤ fn.repacked) (hptr : PtrOK fn ptr)
    (p : Bytes) (h : AllG G fn.segs) {w : WState} {k : Nat} (hw : write hash max st fn ptr p = WriteRes.done w k) :
    AllG G w.fn.segs := by
  obtain ⟨fn1, q, h1, h2, hwf1, hpos, _⟩ := write_start (hash := hash) (st := st) hmax hwf hrep hptr p
  simp only [write, h1, h2] at hw
  refine writeLoop_G hinj hmax hG _ ⟨fn1, q, st⟩ p 0 w k hok hwf1 hpos ?_ hw
  -- the file the loop starts from: `fn`, extended to the write offset if that lies beyond EOF
  split at h1
  · exact truncate_G hG.toMarkPred0 h h1
  · exact Option.some.inj h1 ▸ h

end ArvVerif.C13
