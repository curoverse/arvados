/-
C17 — completeness of the scan: if it succeeds, then for everything `Shows` derives there was a
successful call, and its file / directory / placeholder is in the plan; and for every jump position
the manifest text that `fragOf` / `belowFrags` name is in the plan.
-/
import ArvVerif.Proofs.C17_Collect
import ArvVerif.Proofs.C17_Visit
namespace ArvVerif.C17

section
variable {h : Host} {cfg : Cfg} (hwf : HostWF h) (wf : CfgWF h cfg) (hdirect : Direct h cfg)
  (hx : InOut cfg cfg.ctrOut) {fuel : Nat} {plan : Plan} (hscan : scan h cfg fuel = .ok plan)
include hwf wf hdirect hx hscan

theorem scan_visits {d s : Path} (hsh : Shows h cfg d s) :
    ∃ n node, Visit h cfg plan n d s (hostPath cfg s) node ∧ nodeAt h cfg s = some node := by
  -- a call on a shown path has found the node of the specification, at its own host path
  have hfix : ∀ {n d s inc}, Shows h cfg d s → Made h cfg plan (.host d s n inc) →
      ∃ n node, Visit h cfg plan n d s (hostPath cfg s) node ∧ nodeAt h cfg s = some node := by
    intro n d s inc hsh ⟨st, st', hr, hle⟩
    obtain ⟨p, node, hst⟩ : ∃ p node, namei h [] (hostPath cfg s) 0 = .found p node := by
      cases hr with
      | link _ hst | emptyDir _ hst | dir _ hst | file _ hst => exact ⟨_, _, hst⟩
    obtain ⟨hp, hnode⟩ := shows_found hwf wf hdirect hsh hst
    exact ⟨n, node, ⟨shows_pre h cfg _ _ hsh, ⟨inc, st, st', hr, hle⟩, hp ▸ hst⟩, hnode⟩
  induction hsh with
  | root => exact hfix .root (scan_run hx hscan).made
  | @child _ s' c hsh hdir hex hsec hskip ih =>
    obtain ⟨n, node, hv, hnode⟩ := ih
    cases hdir.symm.trans hnode
    obtain ⟨nd, hnd⟩ := hex
    obtain ⟨_, hm⟩ := (hv.child hwf (nd := nd) (by rw [← nodeAt_child h c hv.pre]; exact hnd) hsec hskip).call
    exact hfix (.child hsh hdir ⟨nd, hnd⟩ hsec hskip) hm
  | link hsh hnode hin ih =>
    obtain ⟨n, node, hv, hnode'⟩ := ih
    cases hnode.symm.trans hnode'
    exact hfix (.link hsh hnode hin) (hv.jump.2.host_of_mount hin)

theorem scan_plans {d s : Path} (hsh : Shows h cfg d s) :
    (∀ c, nodeAt h cfg s = some (.file c) → (d, some (hostPath cfg s)) ∈ plan.files) ∧
    (nodeAt h cfg s = some .dir → d ≠ [] → d ∈ plan.dirs ∧
      (h.children (hostPath cfg s) = [] → (d ++ [".keep"], none) ∈ plan.files)) := by
  -- the call made for `d`, `s` has found the node at `s`; what it added is still in the plan
  obtain ⟨n, node, ⟨_, ⟨inc, st1, st2, hcall, hle⟩, hst⟩, hnode⟩ := scan_visits hwf wf hdirect hx hscan hsh
  constructor
  · intro c hc
    cases hnode.symm.trans hc
    refine hle.files.subset ?_
    cases hcall with
    | file _ hst' => rw [hst] at hst'; cases hst'; simp [Plan.addFile]
    | link _ hst' | emptyDir _ hst' | dir _ hst' => rw [hst] at hst'; cases hst'
  · intro hdir hne
    cases hnode.symm.trans hdir
    cases hcall with
    | file _ hst' | link _ hst' => rw [hst] at hst'; cases hst'
    | emptyDir =>
      exact ⟨hle.dirs.subset (by simp [Plan.addDir, Plan.addKeep, hne]),
        fun _ => hle.files.subset (by simp [Plan.addDir, Plan.addKeep, hne])⟩
    | dir _ hst' hnil hr =>
      rw [hst] at hst'; cases hst'
      exact ⟨hle.dirs.subset (hr.mono.dirs.subset (by simp [Plan.addDir, hne])), fun he => absurd he hnil⟩

theorem scan_collects (hs : supported cfg = true) {d x : Path} (hj : Jumps h cfg d x) :
    (∀ f ∈ fragOf cfg d x, f ∈ plan.frags) ∧
    (notSecret cfg x → ∀ f ∈ belowFrags cfg d x, f ∈ plan.frags) := by
  obtain ⟨n, st1, st2, hm, hle⟩ : ∃ n, Made h cfg plan (.mount d x n true) := by
    cases hj with
    | root => exact ⟨_, (Run.of_walk hscan).made⟩
    | link hsh hnode =>
      obtain ⟨n, _, hv, hnode'⟩ := scan_visits hwf wf hdirect hx hscan hsh
      cases hnode.symm.trans hnode'
      exact ⟨_, hv.jump.2⟩
  exact ⟨fun f hf => hle.frags.subset (hm.mount_frag f hf),
         fun hns f hf => hle.frags.subset (hm.mount_below hs hns f hf)⟩

end

theorem scan_complete (h : Host) (cfg : Cfg) (hwf : HostWF h) (wf : CfgWF h cfg)
    (hout : h.get cfg.hostOut = some .dir) (hdirect : Direct h cfg) (hx : InOut cfg cfg.ctrOut)
    (fuel : Nat) (plan : Plan) (hscan : scan h cfg fuel = .ok plan)
    (d s : Path) (hsh : Shows h cfg d s) :
    (∀ c, nodeAt h cfg s = some (.file c) → (d, some (hostPath cfg s)) ∈ plan.files) ∧
    (nodeAt h cfg s = some .dir → d ≠ [] → d ∈ plan.dirs ∧
      (h.children (hostPath cfg s) = [] → (d ++ [".keep"], none) ∈ plan.files)) :=
  scan_plans hwf wf hdirect hx hscan hsh

theorem scan_frags_complete (h : Host) (cfg : Cfg) (hwf : HostWF h) (wf : CfgWF h cfg)
    (hout : h.get cfg.hostOut = some .dir) (hs : supported cfg = true) (hdirect : Direct h cfg)
    (hx : InOut cfg cfg.ctrOut) (fuel : Nat) (plan : Plan) (hscan : scan h cfg fuel = .ok plan)
    (d x : Path) (hj : Jumps h cfg d x) :
    (∀ f ∈ fragOf cfg d x, f ∈ plan.frags) ∧
    (notSecret cfg x → ∀ f ∈ belowFrags cfg d x, f ∈ plan.frags) :=
  scan_collects hwf wf hdirect hx hscan hs hj

end ArvVerif.C17
