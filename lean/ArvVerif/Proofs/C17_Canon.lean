/-
C17 — canonical container paths. A path below the output directory is *canonical* when it is clean
and none of its proper prefixes (at or below the output directory) is a symbolic link on the host:
then the host resolves it to itself (`namei_nolink`, `host_node`), so the copier's textual tests (mount prefix,
secret prefix, mount point lookup) speak about the file that is actually opened.
`Direct h cfg` says that every link in the host tree whose target (as the copier computes it) lies at
or below the output path has a canonical target: absolute targets are clean, and no target passes
through a symlinked directory; it is used for targets in the output directory's own mount
(`Direct.target`). (The complement is exactly the shape of the findings F17a / F17b.)
-/
import ArvVerif.Proofs.C17_Mount
namespace ArvVerif.C17

structure CfgWF (h : Host) (cfg : Cfg) : Prop where
  ctrClean : ∀ c ∈ cfg.ctrOut, CleanName c
  real : OutDirReal h cfg
  noSecretAbove : ∀ s ∈ cfg.secrets, s.isPrefixOf cfg.ctrOut = false

structure Canon (h : Host) (cfg : Cfg) (src : Path) : Prop where
  pre : cfg.ctrOut.isPrefixOf src = true
  clean : ∀ c ∈ src, CleanName c
  nolink : ∀ k, cfg.ctrOut.length < k → k < src.length →
    ∀ a t, h.get (cfg.hostOut ++ (src.take k).drop cfg.ctrOut.length) ≠ some (.link a t)

/-- `Canon` as finitely many conditions, for concrete trees -/
theorem Canon.of_range {h : Host} {cfg : Cfg} {src : Path} (hpre : cfg.ctrOut.isPrefixOf src = true)
    (hcl : ∀ c ∈ src, CleanName c)
    (hnl : ∀ k ∈ List.range src.length, cfg.ctrOut.length < k →
      (h.get (cfg.hostOut ++ (src.take k).drop cfg.ctrOut.length)).all (fun n => !(n matches .link ..)) = true) :
    Canon h cfg src :=
  ⟨hpre, hcl, fun k hk1 hk2 a t he => by simpa [he] using hnl k (List.mem_range.mpr hk2) hk1⟩

def Direct (h : Host) (cfg : Cfg) : Prop :=
  ∀ e ∈ h, ∀ a t, e.2 = .link a t → ∀ rel, e.1 = cfg.hostOut ++ rel →
    cfg.ctrOut.isPrefixOf (linkTarget (cfg.ctrOut ++ rel) a t) = true →
    Canon h cfg (linkTarget (cfg.ctrOut ++ rel) a t)

def nodeAt (h : Host) (cfg : Cfg) (s : Path) : Option Node := h.get (hostPath cfg s)

theorem nodeAt_child (h : Host) {cfg : Cfg} {s : Path} (c : Name) (hp : cfg.ctrOut.isPrefixOf s = true) :
    nodeAt h cfg (s ++ [c]) = h.get (hostPath cfg s ++ [c]) := by
  unfold nodeAt; rw [hostPath_child cfg s c hp]

theorem host_node (h : Host) (cfg : Cfg) (wf : CfgWF h cfg)
    (s : Path) (hc : Canon h cfg s) (p : Path) (n : Node)
    (hf : namei h [] (hostPath cfg s) 0 = .found p n) : p = hostPath cfg s ∧ nodeAt h cfg s = some n := by
  obtain ⟨cnt', hcnt⟩ := namei_append (s.drop cfg.ctrOut.length) wf.real
  have hp : p = hostPath cfg s := namei_nolink h (s.drop cfg.ctrOut.length) cfg.hostOut cnt' p n
    (fun c hcm => hc.clean c (List.mem_of_mem_drop hcm))
    (by
      intro k hk0 hk a t
      simp only [List.length_drop] at hk
      have := hc.nolink (k + cfg.ctrOut.length) (by omega) (by omega) a t
      rw [List.drop_take] at this
      simpa using this) (hcnt ▸ hf)
  exact ⟨hp, by subst hp; exact namei_root hf⟩

theorem canon_out (h : Host) (cfg : Cfg) (wf : CfgWF h cfg) : Canon h cfg cfg.ctrOut :=
  ⟨isPrefixOf_self _, wf.ctrClean, fun k h1 h2 => by omega⟩

theorem Canon.child {h : Host} {cfg : Cfg} {s : Path} (hc : Canon h cfg s) (c : Name) (hcl : CleanName c)
    (hdir : nodeAt h cfg s = some .dir) : Canon h cfg (s ++ [c]) := by
  refine ⟨isPrefixOf_append_right _ _ _ hc.pre, by simpa [or_imp, forall_and] using ⟨hc.clean, hcl⟩, ?_⟩
  intro k hk1 hk2 a t
  rw [List.length_append, List.length_singleton] at hk2
  rcases Nat.lt_succ_iff_lt_or_eq.mp hk2 with hks | rfl
  · rw [List.take_append_of_le_length (Nat.le_of_lt hks)]; exact hc.nolink k hk1 hks a t
  · rw [List.take_left]; exact fun he => by cases hdir.symm.trans he

theorem Direct.target {h : Host} {cfg : Cfg} (hdirect : Direct h cfg) {s : Path} (hcan : Canon h cfg s)
    {a : Bool} {t : Path} (hnode : nodeAt h cfg s = some (.link a t)) (hin : InOut cfg (linkTarget s a t)) :
    Canon h cfg (linkTarget s a t) := by
  have hpne : hostPath cfg s ≠ [] := fun hp0 => by simp [nodeAt, hp0, Host.get] at hnode
  have := hdirect _ (mem_of_get h _ _ hpne hnode) a t rfl (s.drop cfg.ctrOut.length) rfl
  rw [prefix_append_drop _ _ hcan.pre] at this
  exact this (inOut_pre cfg _ hin)

end ArvVerif.C17
