/-
C16 part C: the queue cache (Model/C16_Queue.lean). `all_runOps`: a property of single entries that
state / priority updates keep, and that holds of the entry `addEnt` makes from a polled record, holds
of every entry after any history. Its two instances: `TypeOK` and `NeedsOK` (an entry was sized from its
own container's constraint vector, if the polls carry it).
-/
import ArvVerif.Model.C16_Queue
namespace ArvVerif.C16.Q

theorem mem_setEnt {c : List (Nat × CEnt)} {u : Nat} {e : CEnt} {p : Nat × CEnt}
    (h : p ∈ setEnt c u e) : p ∈ c ∨ p = (u, e) := by
  unfold setEnt at h
  split at h
  · obtain ⟨q, hq, rfl⟩ := List.mem_map.mp h
    split
    · exact Or.inr rfl
    · exact Or.inl hq
  · simpa using h

theorem lookup_mem {c : List (Nat × CEnt)} {u : Nat} {e : CEnt} (h : lookup c u = some e) : (u, e) ∈ c := by
  obtain ⟨p, hf, rfl⟩ := Option.map_eq_some_iff.mp h
  obtain rfl : p.1 = u := by simpa using List.find?_some hf
  exact List.mem_of_find?_eq_some hf

theorem find_map_ne (c : List (Nat × CEnt)) (u v : Nat) (e : CEnt) (h : u ≠ v) :
    (c.map (fun p => if (p.1 == u) = true then (u, e) else p)).find? (fun p => p.1 == v) =
      c.find? (fun p => p.1 == v) := by
  induction c with
  | nil => rfl
  | cons p rest ih =>
    have huv : (u == v) = false := by simpa using h
    simp only [List.map_cons, List.find?_cons, ih]
    by_cases hpu : p.1 = u
    · simp [hpu, huv]
    · simp [hpu]

theorem lookup_setEnt_ne (c : List (Nat × CEnt)) (u v : Nat) (e : CEnt) (h : u ≠ v) :
    lookup (setEnt c u e) v = lookup c v := by
  unfold setEnt lookup
  split
  · rw [find_map_ne c u v e h]
  · simp [List.find?_append, h]

theorem lookup_filter (c : List (Nat × CEnt)) (f : Nat × CEnt → Bool) (v : Nat)
    (h : ∀ p ∈ c, p.1 = v → f p = true) : lookup (c.filter f) v = lookup c v := by
  unfold lookup
  congr 1
  induction c with
  | nil => rfl
  | cons p rest ih =>
    have ih' := ih (fun q hq => h q (List.mem_cons_of_mem _ hq))
    by_cases hpv : p.1 = v
    · simp [h p List.mem_cons_self hpv, hpv]
    · by_cases hf : f p = true <;> simp [hf, hpv, ih']

/-- the entry `addEnt` inserts for a polled record -/
def newEnt (choose : Nat → Option Nat) (r : Rec) : CEnt :=
  { st := r.st, prio := r.prio, ty := choose r.need, addedSt := r.st, addedNeed := r.need }

/-- a Queued or Locked container is added only with a type -/
def Addable (choose : Nat → Option Nat) (r : Rec) : Prop :=
  choose r.need = none → r.st ≠ .queued ∧ r.st ≠ .locked

theorem addEnt_fst (choose : Nat → Option Nat) (cur : List (Nat × CEnt)) (r : Rec) :
    (addEnt choose cur r).1 = cur ∨
      (Addable choose r ∧ (addEnt choose cur r).1 = setEnt cur r.uuid (newEnt choose r)) := by
  unfold addEnt Addable newEnt
  cases hc : choose r.need with
  | some t => exact Or.inr ⟨nofun, rfl⟩
  | none =>
    dsimp only
    split
    · exact Or.inl rfl
    · exact Or.inr ⟨fun _ => ⟨fun h => ‹¬ _› (Or.inl h), fun h => ‹¬ _› (Or.inr h)⟩, rfl⟩

/-- `Q uuid entry` holds of every entry of the cache -/
def All (Q : Nat → CEnt → Prop) (cur : List (Nat × CEnt)) : Prop := ∀ p ∈ cur, Q p.1 p.2

theorem all_setEnt {Q : Nat → CEnt → Prop} {cur : List (Nat × CEnt)} {u : Nat} {e : CEnt} (h : All Q cur) (he : Q u e) :
    All Q (setEnt cur u e) := by
  intro p hp
  rcases mem_setEnt hp with h1 | rfl
  · exact h p h1
  · exact he

section
variable {Q : Nat → CEnt → Prop} {choose : Nat → Option Nat}
  (hupd : ∀ u e st prio, Q u e → Q u { e with st := st, prio := prio })
  {New : Rec → Prop} (hnew : ∀ r, New r → Addable choose r → Q r.uuid (newEnt choose r))
include hupd hnew

theorem all_applyRecs (d : Option (List Nat)) (recs : List Rec) (cur : List (Nat × CEnt)) (tasks : List Nat)
    (hr : ∀ r ∈ recs, New r) (h : All Q cur) : All Q (applyRecs choose d recs cur tasks).1 := by
  fun_induction applyRecs choose d recs cur tasks with
  | case1 => exact h
  | case2 r rest cur tasks hd ih => exact ih (List.forall_mem_cons.mp hr).2 h
  | case3 r rest cur tasks hd hl a ih =>
    obtain ⟨hr0, hr⟩ := List.forall_mem_cons.mp hr
    refine ih hr ?_
    rcases addEnt_fst choose cur r with h1 | ⟨ha, h1⟩ <;> rw [h1]
    · exact h
    · exact all_setEnt h (hnew r hr0 ha)
  | case4 r rest cur tasks hd e hl ih =>
    exact ih (List.forall_mem_cons.mp hr).2 (all_setEnt h (hupd _ _ _ _ (h _ (lookup_mem hl))))

theorem all_runOps (ops : List QOp) (c : Cache) (hops : ∀ next, QOp.poll next ∈ ops → ∀ r ∈ next, New r)
    (h : All Q c.current) : All Q (runOps choose ops c).current := by
  induction ops generalizing c with
  | nil => exact h
  | cons op rest ih =>
    refine ih _ (fun next hn => hops next (List.mem_cons_of_mem _ hn)) ?_
    cases op with
    | begin => exact h
    | resp u st prio =>
      simp only [runOp, localResp]
      cases hl : lookup c.current u with
      | none => exact h
      | some e => exact all_setEnt h (hupd _ _ _ _ (h _ (lookup_mem hl)))
    | poll next =>
      intro p hp
      exact all_applyRecs hupd hnew c.dontupdate next c.current [] (hops next List.mem_cons_self) h p
        (List.mem_filter.mp hp).1

end

/-- an entry's type is what the chooser returned for the container as it was when it was added;
the zero-valued type occurs only for a container that was neither Queued nor Locked at that time and
for which the chooser failed -/
def TypeOK (choose : Nat → Option Nat) (e : CEnt) : Prop :=
  choose e.addedNeed = e.ty ∧ (e.ty = none → e.addedSt ≠ .queued ∧ e.addedSt ≠ .locked)

theorem typesOK_runOps (choose : Nat → Option Nat) (ops : List QOp) (c : Cache)
    (h : All (fun _ => TypeOK choose) c.current) : All (fun _ => TypeOK choose) (runOps choose ops c).current :=
  all_runOps (New := fun _ => True) (fun _ _ _ _ he => he) (fun _ _ ha => ⟨rfl, ha⟩) ops c
    (fun _ _ _ _ => trivial) h

def FullPolls (needOfU : Nat → Nat) (ops : List QOp) : Prop :=
  ∀ next, QOp.poll next ∈ ops → ∀ r ∈ next, r.need = needOfU r.uuid

def NeedsOK (needOfU : Nat → Nat) (cur : List (Nat × CEnt)) : Prop := All (fun u e => e.addedNeed = needOfU u) cur

theorem needsOK_runOps (choose : Nat → Option Nat) (needOfU : Nat → Nat) (ops : List QOp) (c : Cache)
    (hops : FullPolls needOfU ops) (h : NeedsOK needOfU c.current) :
    NeedsOK needOfU (runOps choose ops c).current :=
  all_runOps (New := fun r => r.need = needOfU r.uuid) (fun _ _ _ _ he => he) (fun _ hr _ => hr) ops c hops h

theorem lookup_applyRecs_dont (choose : Nat → Option Nat) (d : Option (List Nat)) (recs : List Rec)
    (cur : List (Nat × CEnt)) (tasks : List Nat) (v : Nat) (hv : inDont d v = true) :
    lookup (applyRecs choose d recs cur tasks).1 v = lookup cur v := by
  fun_induction applyRecs choose d recs cur tasks with
  | case1 => rfl
  | case2 r rest cur tasks hd ih => exact ih
  | case3 r rest cur tasks hd hl a ih =>
    rw [ih]
    rcases addEnt_fst choose cur r with h1 | ⟨_, h1⟩ <;> rw [h1]
    exact lookup_setEnt_ne _ _ _ _ (fun h => hd (h ▸ hv))
  | case4 r rest cur tasks hd e hl ih =>
    rw [ih]; exact lookup_setEnt_ne _ _ _ _ (fun h => hd (h ▸ hv))

theorem project_mem_need {sel all : Bool} {l snap : List CRec} {r : Rec} (hl : l ⊆ snap)
    (hs : sel = false → all = false) (h : r ∈ l.map (project sel)) :
    ∃ c ∈ snap, c.uuid = r.uuid ∧ (r.need = c.need ∨ (all = false ∧ r.need = 0)) := by
  rcases List.mem_map.mp h with ⟨c, hc, rfl⟩
  refine ⟨c, hl hc, rfl, ?_⟩
  cases sel <;> simp [project, hs]

theorem pollResultSel_need (s1 s2 s3 : Bool) (snap : Ctl) (cur : List (Nat × CEnt)) (r : Rec)
    (h : r ∈ pollResultSel s1 s2 s3 snap cur) :
    ∃ c ∈ snap, c.uuid = r.uuid ∧ (r.need = c.need ∨ ((s1 && s2 && s3) = false ∧ r.need = 0)) := by
  unfold pollResultSel at h
  simp only [List.mem_append] at h
  rcases h with (h | h) | h
  · exact project_mem_need List.filter_sublist.subset (by simp +contextual) h
  · exact project_mem_need (List.filter_sublist.subset.trans List.filter_sublist.subset)
      (by simp +contextual) h
  · exact project_mem_need List.filter_sublist.subset (by simp +contextual) h

/-- `dispatcher.typeChooser` = `ChooseInstanceType(disp.Cluster, ctr)`: `decode` is the container a
constraint-vector code stands for, `orderOf` the iteration order of the Go map (may differ from
container to container); the queue keeps the returned type (here: its name) -/
def chooserOf (orderOf : Nat → List IType) (reserve : Int) (decode : Nat → Ctr) (need : Nat) : Option Nat :=
  match chooseWith (orderOf need) [] reserve (decode need) with
  | .ok it => some it.name
  | _ => none

theorem chooserOf_some {orderOf : Nat → List IType} {reserve : Int} {decode : Nat → Ctr} {need t : Nat}
    (h : chooserOf orderOf reserve decode need = some t) :
    ∃ it, chooseWith (orderOf need) [] reserve (decode need) = .ok it ∧ it.name = t := by
  unfold chooserOf at h
  split at h
  · rename_i it hit
    simp only [Option.some.injEq] at h
    exact ⟨it, hit, h⟩
  · cases h

theorem chooserOf_none {orderOf : Nat → List IType} {reserve : Int} {decode : Nat → Ctr} {need : Nat}
    (h : chooserOf orderOf reserve decode need = none) :
    ∀ it, chooseWith (orderOf need) [] reserve (decode need) ≠ .ok it := by
  unfold chooserOf at h
  intro it hit
  rw [hit] at h
  cases h

end ArvVerif.C16.Q
