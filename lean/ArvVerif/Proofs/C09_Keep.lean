/-
C09 helper lemmas: Keep under a script of outcomes. Whatever one PutB answers, the store only grows, and only by
acknowledged blocks (`KeepOK`, `KeepStep`).
-/
import ArvVerif.Proofs.C08_Flush
import ArvVerif.Model.C09
namespace ArvVerif.C09

open ArvVerif.C08 (Store StoreOK StoreExt)

variable {hash : Bytes → C08.Loc}

structure KeepOK (hash : Bytes → C08.Loc) (k : Keep) : Prop where
  ok : StoreOK hash k.store
  acked : ∀ b ∈ k.acked, k.store (hash b) = some b

structure KeepStep (hash : Bytes → C08.Loc) (k k' : Keep) : Prop where
  ext : StoreExt k.store k'.store
  acked : ∃ more, k'.acked = k.acked ++ more
  only : ∀ l b, k'.store l = some b → k.store l = some b ∨ (b ∈ k'.acked ∧ l = hash b)

theorem KeepStep.refl (k : Keep) : KeepStep hash k k :=
  ⟨StoreExt.refl _, ⟨[], by simp⟩, fun _ _ h => Or.inl h⟩

theorem KeepStep.trans {a b c : Keep} (h1 : KeepStep hash a b) (h2 : KeepStep hash b c) : KeepStep hash a c := by
  obtain ⟨m1, e1⟩ := h1.acked
  obtain ⟨m2, e2⟩ := h2.acked
  refine ⟨h1.ext.trans h2.ext, ⟨m1 ++ m2, by rw [e2, e1]; simp⟩, ?_⟩
  intro l x hx
  rcases h2.only l x hx with h | h
  · rcases h1.only l x h with h' | ⟨h', h''⟩
    · exact Or.inl h'
    · exact Or.inr ⟨by rw [e2]; simp [h'], h''⟩
  · exact Or.inr h

theorem next_store (k : Keep) : k.next.2.store = k.store ∧ k.next.2.acked = k.acked := by
  unfold Keep.next
  cases k.script <;> simp

theorem same_step {k k' : Keep} (hk : KeepOK hash k) (hs : k'.store = k.store) (ha : k'.acked = k.acked) :
    KeepOK hash k' ∧ KeepStep hash k k' :=
  ⟨⟨by rw [hs]; exact hk.ok, by rw [hs, ha]; exact hk.acked⟩,
   ⟨by rw [hs]; exact StoreExt.refl _, ⟨[], by rw [ha]; simp⟩, fun l b h => Or.inl (by rw [hs] at h; exact h)⟩⟩

theorem record_step (hinj : Function.Injective hash) {k : Keep} (hk : KeepOK hash k) (b : Bytes) :
    KeepOK hash (k.record hash b) ∧ KeepStep hash k (k.record hash b) := by
  have hext := C08.Store.put_ext hinj hk.ok b
  refine ⟨⟨C08.Store.put_ok hk.ok b, ?_⟩, ⟨hext, ⟨[b], rfl⟩, ?_⟩⟩
  · intro x hx
    simp only [Keep.record, List.mem_append, List.mem_singleton] at hx
    rcases hx with hx | rfl
    · exact hext _ _ (hk.acked x hx)
    · exact C08.Store.put_get hash k.store x
  · intro l x hx
    simp only [Keep.record, C08.Store.put] at hx
    split at hx
    · next heq => cases hx; exact Or.inr ⟨by simp [Keep.record], heq⟩
    · exact Or.inl hx

theorem putB_spec (hinj : Function.Injective hash) {k : Keep} (hk : KeepOK hash k) (b : Bytes) :
    KeepOK hash (k.putB hash b).1 ∧ KeepStep hash k (k.putB hash b).1 ∧
    ((k.putB hash b).2 = true → (k.putB hash b).1.store (hash b) = some b) := by
  obtain ⟨hs1, hs2⟩ := next_store k
  obtain ⟨hk', hstep0⟩ := same_step hk hs1 hs2
  obtain ⟨f1, f2⟩ := same_step (k' := k.next.2.failed) hk hs1 hs2
  unfold Keep.putB
  cases ho : k.next with
  | mk o k' =>
    have ek' : k' = k.next.2 := by rw [ho]
    subst ek'
    cases o with
    | ok =>
      obtain ⟨r1, r2⟩ := record_step hinj hk' b
      exact ⟨r1, hstep0.trans r2, fun _ => C08.Store.put_get hash _ b⟩
    | _ => exact ⟨f1, f2, nofun⟩

def allOk : Nat → Keep → Bool
  | 0, _ => true
  | n + 1, k => k.next.1 == Outcome.ok && allOk n k.next.2

def nextN : Nat → Keep → Keep
  | 0, k => k
  | n + 1, k => nextN n k.next.2

def ScriptEq (a b : Keep) : Prop := a.script = b.script ∧ a.dflt = b.dflt

theorem ScriptEq.refl (a : Keep) : ScriptEq a a := ⟨rfl, rfl⟩

theorem ScriptEq.trans {a b c : Keep} (h1 : ScriptEq a b) (h2 : ScriptEq b c) : ScriptEq a c :=
  ⟨h1.1.trans h2.1, h1.2.trans h2.2⟩

theorem ScriptEq.next {a b : Keep} (h : ScriptEq a b) : a.next.1 = b.next.1 ∧ ScriptEq a.next.2 b.next.2 := by
  obtain ⟨hs, hd⟩ := h
  unfold ScriptEq Keep.next
  rw [hs, hd]
  cases b.script <;> simp [hs, hd]

theorem allOk_congr : ∀ (n : Nat) {a b : Keep}, ScriptEq a b → allOk n a = allOk n b
  | 0, _, _, _ => rfl
  | n + 1, a, b, h => by
    unfold allOk
    rw [h.next.1, allOk_congr n h.next.2]

theorem nextN_congr : ∀ (n : Nat) {a b : Keep}, ScriptEq a b → ScriptEq (nextN n a) (nextN n b)
  | 0, _, _, h => h
  | n + 1, _, _, h => nextN_congr n h.next.2

theorem allOk_add : ∀ (a b : Nat) (k : Keep), allOk (a + b) k = (allOk a k && allOk b (nextN a k))
  | 0, b, k => by simp [allOk, nextN]
  | a + 1, b, k => by rw [Nat.add_right_comm, allOk, allOk, nextN, allOk_add a b, Bool.and_assoc]

theorem nextN_add : ∀ (a b : Nat) (k : Keep), nextN (a + b) k = nextN b (nextN a k)
  | 0, b, k => by simp [nextN]
  | a + 1, b, k => by rw [Nat.add_right_comm, nextN, nextN, nextN_add a b]

end ArvVerif.C09
