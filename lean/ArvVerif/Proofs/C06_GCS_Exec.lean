/-
C06(c') proofs: what the executable functions over the small-step model produce is an execution of
`Step`.

* Scripted executions (`moves`): every state a script reaches is `Reach`able (used by the examples).
* The trace acceptor (`GCS.accepts`, the executable search the correspondence check runs on every
  observed execution of the real `GetCurrentState`): whenever it answers `some true`, there IS an
  interleaving of the model — a `Reach`able state — in which every goroutine has ended and whose
  result is the reported one. (The direction that matters: an accepted observation is explained by
  the system the theorems `C06_gcs_*` quantify over. The partial-order reduction and the visited set
  only prune the search; they cannot make it accept more.)
-/
import ArvVerif.Model.C06_GCS
namespace ArvVerif.C06.GCS

inductive Move
  | w (i k : Nat)
  | p (k : Nat)
  | s (k : Nat)
deriving Repr

def move (g : G) : Move → Option G
  | .w i k =>
    match g.ws[i]? with
    | some l =>
      match (wStep g.sh l)[k]? with
      | some r => some { g with sh := r.1, ws := g.ws.set i r.2 }
      | none => none
    | none => none
  | .p k =>
    match (pStep g.sh g.p)[k]? with
    | some r => some { g with sh := r.1, p := r.2 }
    | none => none
  | .s k =>
    match (sStep g.sh g.s)[k]? with
    | some r => some { g with sh := r.1, s := r.2 }
    | none => none

def moves (g : G) : List Move → Option G
  | [] => some g
  | m :: rest => match move g m with
    | some g' => moves g' rest
    | none => none

theorem step_worker_set {g : G} {i : Nat} {l : Loc} {x : Sh × Loc} (hl : g.ws[i]? = some l)
    (hx : x ∈ wStep g.sh l) : Step g { g with sh := x.1, ws := g.ws.set i x.2 } := by
  obtain ⟨hi, hli⟩ := List.getElem?_eq_some_iff.mp hl
  rw [List.set_eq_take_append_cons_drop, if_pos hi]
  exact .worker _ _ l x.1 x.2 (by rw [← hli, List.getElem_cons_drop hi, List.take_append_drop]) hx

theorem move_step {g g' : G} {m : Move} (h : move g m = some g') : Step g g' := by
  cases m with
  | w i k =>
    simp only [move] at h
    split at h
    · split at h
      · cases h; exact step_worker_set ‹_› (List.mem_of_getElem? ‹_›)
      · cases h
    · cases h
  | p k =>
    simp only [move] at h
    split at h
    · rename_i r hr; cases h; exact Step.proc r.1 r.2 (List.mem_of_getElem? hr)
    · cases h
  | s k =>
    simp only [move] at h
    split at h
    · rename_i r hr; cases h; exact Step.scan r.1 r.2 (List.mem_of_getElem? hr)
    · cases h

theorem moves_reach {n cap : Nat} : ∀ (ms : List Move) (g g' : G), Reach n cap g → moves g ms = some g' →
    Reach n cap g' := by
  intro ms
  induction ms with
  | nil => intro g g' r h; simp only [moves] at h; cases h; exact r
  | cons m rest ih =>
    intro g g' r h
    simp only [moves] at h
    split at h
    · rename_i g1 hm; exact ih g1 g' (.step r (move_step hm)) h
    · cases h

/-- The state of the small-step system a search state of the acceptor stands for: the labels still to
be followed are forgotten. Every successor the search generates is one `Step` between such states. -/
def Run.toG (r : Run) : G := ⟨r.sh, r.ws.map (·.1), r.p.1, r.s.1⟩

theorem follow_mem {step : Sh → Loc → List (Sh × Loc)} {sh : Sh} {x : Loc × List Nat}
    {y : Sh × (Loc × List Nat)} (h : y ∈ follow step sh x) : (y.1, y.2.1) ∈ step sh x.1 := by
  unfold follow at h
  split at h
  · cases h
  · simp only [List.mem_filterMap, Option.ite_none_right_eq_some, Option.some.injEq] at h
    obtain ⟨r, hr, -, rfl⟩ := h
    exact hr

theorem followP_mem {sh : Sh} {x : Loc × List Nat} {y : Sh × (Loc × List Nat)}
    (h : y ∈ followP sh x) : (y.1, y.2.1) ∈ pStep sh x.1 := by
  unfold followP at h
  simp only [List.mem_append] at h
  rcases h with h | h
  · exact follow_mem h
  · split at h
    · simp only [List.mem_filterMap, Option.ite_none_right_eq_some, Option.some.injEq] at h
      obtain ⟨r, hr, -, rfl⟩ := h
      exact hr
    · cases h

theorem succsW_step {r r' : Run} {i : Nat} (h : r' ∈ succsW r i) : Step r.toG r'.toG := by
  unfold succsW at h
  split at h
  · rename_i w hw
    obtain ⟨x, hx, rfl⟩ := List.mem_map.1 h
    have := step_worker_set (g := r.toG) (i := i) (x := (x.1, x.2.1)) (by simp [Run.toG, hw]) (follow_mem hx)
    simpa [Run.toG, List.map_set] using this
  · cases h

theorem succsP_step {r r' : Run} (h : r' ∈ succsP r) : Step r.toG r'.toG := by
  unfold succsP at h
  simp only [List.mem_map] at h
  obtain ⟨x, hx, rfl⟩ := h
  exact Step.proc (g := r.toG) x.1 x.2.1 (followP_mem hx)

theorem succsS_step {r r' : Run} (h : r' ∈ succsS r) : Step r.toG r'.toG := by
  unfold succsS at h
  simp only [List.mem_map] at h
  obtain ⟨x, hx, rfl⟩ := h
  exact Step.scan (g := r.toG) x.1 x.2.1 (follow_mem hx)

theorem succs_step {r r' : Run} (h : r' ∈ succs r) : Step r.toG r'.toG := by
  unfold succs at h
  simp only at h
  split at h
  · rename_i l rest heq
    obtain ⟨i, -, hi⟩ := List.mem_filterMap.1 (heq ▸ List.mem_cons_self : l ∈ _)
    split at hi
    · obtain ⟨-, ⟨⟩⟩ := Option.ite_none_right_eq_some.1 hi
      exact succsW_step h
    · cases hi
  · split at h
    · exact succsP_step h
    · split at h
      · exact succsS_step h
      · simp only [List.mem_append, List.mem_flatMap] at h
        rcases h with (h | h) | ⟨i, _, h⟩
        · exact succsP_step h
        · exact succsS_step h
        · exact succsW_step h

theorem finished_terminal {r : Run} (h : finished r = true) : Terminal r.toG := by
  unfold finished at h
  simp only [Bool.and_eq_true, List.all_eq_true, beq_iff_eq] at h
  obtain ⟨⟨⟨⟨hw, _⟩, hp⟩, _⟩, hs⟩ := h
  refine ⟨?_, hp, hs⟩
  intro l hl
  simp only [Run.toG, List.mem_map] at hl
  obtain ⟨w, hw', rfl⟩ := hl
  exact (hw w hw').2

theorem search_sound {n cap : Nat} (res : Bool) (fuel : Nat) (todo : List Run) (seen : Array (List Run)) :
    (∀ r ∈ todo, Reach n cap r.toG) → search res fuel todo seen = some true →
    ∃ g, Reach n cap g ∧ Terminal g ∧ resultIsError g = res ∧ g.sh.errs ≠ some false := by
  fun_induction search res fuel todo seen
  case case3 ih => exact fun hr => ih fun x hx => hr x (List.mem_cons_of_mem _ hx)
  case case4 r _ _ _ _ _ hfin =>
    intro hr _
    simp only [Bool.and_eq_true, bne_iff_ne, ne_eq, beq_iff_eq] at hfin
    obtain ⟨⟨hf, hres⟩, hnn⟩ := hfin
    exact ⟨r.toG, hr r List.mem_cons_self, finished_terminal hf, by simpa [resultIsError, Run.toG] using hres, hnn⟩
  case case5 r _ _ _ _ _ _ ih =>
    refine fun hr => ih fun x hx => ?_
    rcases List.mem_append.1 hx with hx | hx
    · exact .step (hr r List.mem_cons_self) (succs_step hx)
    · exact hr x (List.mem_cons_of_mem _ hx)
  all_goals exact fun _ => nofun

theorem startOf_fst {p : List Nat} {x : Loc × List Nat} (h : startOf p = some x) : x.1 = initLoc := by
  unfold startOf at h
  split at h
  · cases h; rfl
  · cases h

theorem mapM_startOf (wpaths : List (List Nat)) (ws : List (Loc × List Nat)) (h : wpaths.mapM startOf = some ws) :
    ws.map (·.1) = List.replicate wpaths.length initLoc := by
  induction wpaths generalizing ws with
  | nil => simp at h; subst h; rfl
  | cons p rest ih =>
    simp only [List.mapM_cons, Option.bind_eq_bind, Option.bind_eq_some_iff, Option.pure_def,
      Option.some.injEq] at h
    obtain ⟨x, hx, xs, hxs, rfl⟩ := h
    simp [List.replicate_succ, startOf_fst hx, ih xs hxs]

theorem acceptsWith_sound (buckets cap : Nat) (wpaths : List (List Nat)) (ppath spath : List Nat) (res : Bool)
    (fuel : Nat) (h : acceptsWith buckets cap wpaths ppath spath res fuel = some true) :
    ∃ g, Reach wpaths.length cap g ∧ Terminal g ∧ resultIsError g = res ∧ g.sh.errs ≠ some false := by
  simp only [acceptsWith, Option.bind_eq_bind, Option.bind_eq_some_iff] at h
  obtain ⟨ws, hw, p, hp, s, hs, h⟩ := h
  refine search_sound res fuel _ _ (fun r hr => ?_) h
  obtain rfl := List.mem_singleton.1 hr
  have : (Run.toG ⟨initSh cap, ws, p, s⟩) = init wpaths.length cap := by
    simp [Run.toG, init, mapM_startOf wpaths ws hw, startOf_fst hp, startOf_fst hs]
  exact this ▸ .start

theorem accepts_sound (cap : Nat) (wpaths : List (List Nat)) (ppath spath : List Nat) (res : Bool)
    (fuel : Nat) (h : accepts cap wpaths ppath spath res fuel = some true) :
    ∃ g, Reach wpaths.length cap g ∧ Terminal g ∧ resultIsError g = res ∧ g.sh.errs ≠ some false :=
  acceptsWith_sound 8192 cap wpaths ppath spath res fuel h

end ArvVerif.C06.GCS
