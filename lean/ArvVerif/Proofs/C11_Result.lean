/-
The accounting invariant `Inv` of the putReplicas machine (what was confirmed plus what is missing is
`want`; the count and the locator are those of the processed 200 answers), the facts at the return
of a put (`put_resAt`, the second half of `run_spec`) and, from both, the result of a put as a
function of the processed 200 answers (`put_result`).
-/
import ArvVerif.Proofs.C11_Step
namespace ArvVerif.C11

def repSum (c : Cfg) (l : List (Srv × Nat)) : Int := (l.map (fun e => (c.script e.1 e.2).rep)).sum

def lastBody (c : Cfg) : List (Srv × Nat) → List Nat
  | [] => []
  | e :: _ => (c.script e.1 e.2).body

def is200 (c : Cfg) (e : Srv × Nat) : Bool := (c.script e.1 e.2).code == 200

theorem repSum_cons (c : Cfg) (e : Srv × Nat) (l : List (Srv × Nat)) :
    repSum c (e :: l) = (c.script e.1 e.2).rep + repSum c l := rfl

theorem is200_iff {c : Cfg} {e : Srv × Nat} : is200 c e = true ↔ (c.script e.1 e.2).code = 200 :=
  beq_iff_eq

structure Inv (c : Cfg) (s : St) : Prop where
  bal : s.done + s.todo = c.want
  acct : s.done = repSum c s.okLog
  okf : s.okLog = s.respLog.filter (is200 c)
  loc : s.locator = lastBody c s.okLog
  nextLe : s.next ≤ s.sv.length

theorem inv_init (c : Cfg) (sv : List Srv) : Inv c (init c sv) :=
  ⟨Int.zero_add _, rfl, rfl, rfl, Nat.zero_le _⟩

theorem inv_preserved (c : Cfg) : Preserved c (Inv c) where
  start s h hi := ⟨hi.bal, hi.acct, hi.okf, hi.loc, h⟩
  recv s srv _ hi := by
    rw [receive_eq]
    refine ⟨?_, ?_, ?_, ?_, hi.nextLe⟩ <;> dsimp only
    · have := hi.bal; split <;> omega
    · split
      · rw [hi.acct, repSum_cons]; exact Int.add_comm ..
      · exact hi.acct
    · rw [List.filter_cons, hi.okf]; simp only [is200, beq_iff_eq]
    · split
      · rfl
      · exact hi.loc
  round s _ _ _ _ hi := ⟨hi.bal, hi.acct, hi.okf, hi.loc, Nat.zero_le _⟩

theorem Inv.count {c : Cfg} {s : St} (hi : Inv c s) :
    s.done = repSum c (s.respLog.filter (is200 c)) := by rw [hi.acct, hi.okf]

theorem Inv.locator {c : Cfg} {s : St} (hi : Inv c s) :
    s.locator = lastBody c (s.respLog.filter (is200 c)) := by rw [hi.loc, hi.okf]

theorem run_result_at (c : Cfg) (fuel : Nat) (s : St) (picks : List Nat) (r : Res) (sf : St)
    (h : Inv c s) (hr : run c fuel s picks = some (r, sf)) : ResAt sf r :=
  (run_spec (inv_preserved c) h hr).2

section
variable {c : Cfg} {sv : List Srv} {picks : List Nat} {r : Res} {s : St}

theorem put_inv (h : put c sv picks = some (r, s)) : Inv c s :=
  put_preserved (inv_preserved c) (inv_init c sv) h

theorem put_resAt (h : put c sv picks = some (r, s)) : ResAt s r :=
  run_result_at c _ _ _ _ _ (inv_init c sv) h

theorem put_result (h : put c sv picks = some (r, s)) :
    r = (if (c.want : Int) ≤ repSum c (s.respLog.filter (is200 c)) then Res.ok else Res.insufficient)
      (lastBody c (s.respLog.filter (is200 c))) (repSum c (s.respLog.filter (is200 c))) := by
  have hi := put_inv h
  have hbal := hi.bal
  have hr := put_resAt h
  rw [← hi.count, ← hi.locator]
  cases r with
  | ok loc n =>
    obtain ⟨rfl, rfl, htodo⟩ := hr
    rw [if_pos (by omega)]
  | insufficient loc n =>
    obtain ⟨rfl, rfl, htodo, _⟩ := hr
    rw [if_neg (by omega)]

end

end ArvVerif.C11
