/-
C09 helper lemmas: the lines of a tree through `loadManifest`. Let `T` be a closed tree in which no file has the path
of a directory, with distinct proper names and well-formed stored segments over a store that `hash` describes, and let
a text parse to the lines of `T`. Then the loader accepts the text and builds exactly the files and the directories
below the root of `T` (`treeLines_fsLoad`): the lines meet the hypotheses of `fsLoad_mixed`; what C10's invariant says
of the tree loaded from the streams alone is, read back through `DirStream`, that its files are the files of `T` with
their bytes; and every directory of `T` has a file or an empty directory at or below it (`TreeClosed.leaf`), whose
line makes it.
-/
import ArvVerif.Proofs.C09_LoadMarkers
import ArvVerif.Proofs.C09_LoadWf
import ArvVerif.Proofs.C09_Content
import ArvVerif.Proofs.C09_Dirs
namespace ArvVerif.C09

open ArvVerif.C08 (Seg FileNode Store SegWF StoreOK)
open ArvVerif.C10 (bSlash FsTree)

variable {max : Nat} {hash : Bytes → C08.Loc} {st : Store} {T : Tree9} {L : List Line9}

theorem treeLines_paths (hL : treeLines T = some L)
    (hsegs : ∀ d ∈ T, ∀ f ∈ d.files, ∀ s ∈ f.2.segs, SegWF max hash st s) :
    ∀ p ∈ C10.pathsOf (streamsOf L), ∃ d ∈ T, ∃ f ∈ d.files, p = prefixOf (d.path ++ [f.1]) := by
  intro p hp
  obtain ⟨s, hs, ft, hft, rfl⟩ := C10.mem_pathsOf.mp hp
  obtain ⟨d, hd, f, hf, e1, e2⟩ := treeLines_tokens hL hsegs s hs ft hft
  exact ⟨d, hd, f, hf, by rw [e1, e2, pathOf_prefixOf]⟩

theorem treeLines_marker_dirs (hL : treeLines T = some L) : ∀ n ∈ markersOf L, ∃ d ∈ T, n = prefixOf d.path := by
  intro n hn
  rw [treeLines_markers _ L hL] at hn
  obtain ⟨d, hd, rfl⟩ := List.mem_map.mp hn
  exact ⟨d, (List.mem_filter.mp hd).1, rfl⟩

/-- In a closed tree in which no file has the path of a directory, a file's path is neither a directory nor below
one (`TreeClosed.key_not_prefix`); so no path of the text is both file and directory, and none is a marker directory
or an ancestor of one. -/
theorem treeLines_consistent (hL : treeLines T = some L)
    (hsegs : ∀ d ∈ T, ∀ f ∈ d.files, ∀ s ∈ f.2.segs, SegWF max hash st s) (hshape : TreeShape T)
    (hclosed : TreeClosed T) (hclash : ∀ d ∈ T, ∀ f ∈ d.files, d.path ++ [f.1] ∉ dirPaths T) :
    C10.TreeConsistent (streamsOf L) ∧
    ∀ p ∈ C10.pathsOf (streamsOf L), ∀ n ∈ markersOf L, p ≠ n ∧ C10.isDirPrefix p n = false := by
  have hpaths := treeLines_paths hL hsegs
  constructor
  · intro a ha b hb
    obtain ⟨d1, hd1, f1, hf1, rfl⟩ := hpaths a ha
    obtain ⟨d2, hd2, f2, hf2, rfl⟩ := hpaths b hb
    refine Bool.eq_false_iff.mpr fun hpre => ?_
    obtain ⟨x, rest, hxr⟩ := isDirPrefix_comps (hshape.key_noslash hd1 hf1) (hshape.key_noslash hd2 hf2) hpre
    exact hclosed.key_not_prefix hclash hd1 hf1 hd2 _ (dropLast_of_concat_eq hxr)
  · intro p hp n hn
    obtain ⟨d1, hd1, f1, hf1, rfl⟩ := hpaths p hp
    obtain ⟨d2, hd2, rfl⟩ := treeLines_marker_dirs hL n hn
    have hs1 := hshape.key_noslash hd1 hf1
    have hs2 := (hshape.noslash d2 hd2).1
    constructor
    · intro heq
      exact hclosed.key_not_prefix hclash hd1 hf1 hd2 [] (by rw [List.append_nil]; exact (prefixOf_inj hs1 hs2 heq).symm)
    · refine Bool.eq_false_iff.mpr fun hpre => ?_
      obtain ⟨x, rest, hxr⟩ := isDirPrefix_comps hs1 hs2 hpre
      exact hclosed.key_not_prefix hclash hd1 hf1 hd2 (x :: rest) hxr

theorem treeLines_loaded_files (hL : treeLines T = some L)
    (hsegs : ∀ d ∈ T, ∀ f ∈ d.files, ∀ s ∈ f.2.segs, SegWF max hash st s) (hshape : TreeShape T)
    (hpaths : ∀ d ∈ T, ∀ c ∈ d.path, NameOK c) (hnames : ∀ d ∈ T, ∀ f ∈ d.files, NameOK f.1)
    (hblk : ∀ s ∈ streamsOf L, ∀ b ∈ s.blocks, (blkOf st b.text).length = b.size)
    {tr : FsTree} (hinv : C10.FsInv (C10.manifestContribs (streamsOf L)) tr) :
    (∀ d ∈ T, ∀ f ∈ d.files, ∃ e ∈ tr.files, e.1 = d.path ++ [f.1] ∧ C10.segBytes (blkOf st) e.2 = C08.abs st f.2) ∧
    (∀ e ∈ tr.files, ∃ d ∈ T, ∃ f ∈ d.files, e.1 = d.path ++ [f.1]) := by
  have hkeyok : ∀ d ∈ T, ∀ f ∈ d.files, C10.KeyOk (d.path ++ [f.1]) := fun d hd f hf =>
    ⟨by simp, componentsOk_of_nameOK (mem_append_singleton (hpaths d hd) (hnames d hd f hf)), hshape.key_noslash hd hf⟩
  constructor
  · intro d hd f hf
    obtain ⟨c, hc, hcp⟩ := file_has_token hL hd hf
    obtain ⟨ent, hent, hpe⟩ := hinv.has c hc
    rw [hcp] at hpe
    obtain ⟨hko, _, hseg⟩ := hinv.files ent hent
    have hkey : ent.1 = d.path ++ [f.1] := by
      apply C10.pathOfKey_inj hko (hkeyok d hd f hf)
      rw [hpe]; exact pathOf_prefixOf d.path f.1
    refine ⟨ent, hent, hkey, ?_⟩
    rw [hseg, C10.contribOf_manifest, C10.resolve_bytes _ _ _ hblk, hpe]
    exact treeLines_content (max := max) (hash := hash) _ L hshape hsegs hL d hd f hf
  · intro e he
    obtain ⟨hko, hin, _⟩ := hinv.files e he
    obtain ⟨d, hd, f, hf, hq⟩ := treeLines_paths hL hsegs _ (contribs_paths hin)
    exact ⟨d, hd, f, hf, C10.pathOfKey_inj hko (hkeyok d hd f hf) hq⟩

theorem treeLines_loaded_dirs (hL : treeLines T = some L) (hns : ∀ d ∈ T, ∀ c ∈ d.path, bSlash ∉ c)
    (hclosed : TreeClosed T) {tr : FsTree} (hinv : C10.FsInv (C10.manifestContribs (streamsOf L)) tr)
    (hkeys : ∀ e ∈ tr.files, ∃ d ∈ T, ∃ f ∈ d.files, e.1 = d.path ++ [f.1]) (p : List Bytes)
    (hp : p ∈ tr.dirs ∨ p ∈ markerDirs L) : p ∈ dirPaths T := by
  rcases hp with hp | hp
  · obtain ⟨_, e, he, x, rest, hxr⟩ := hinv.dirs p hp
    obtain ⟨d, hd, f, hf, hk⟩ := hkeys e he
    apply hclosed.prefixes ((x :: rest).dropLast) p
    rw [← dropLast_of_concat_eq (hk.symm.trans hxr)]
    exact List.mem_map_of_mem hd
  · obtain ⟨n, hn, hk⟩ := mem_markerDirs.mp hp
    obtain ⟨d, hd, rfl⟩ := treeLines_marker_dirs hL n hn
    rw [compsOfName_prefixOf _ (hns d hd)] at hk
    obtain ⟨_, q, hq⟩ := mem_dirPrefixes.mp hk
    apply hclosed.prefixes q p
    rw [hq]
    exact List.mem_map_of_mem hd

theorem treeLines_fsLoad (hh : HashOK hash) (hst : StoreOK hash st) (hL : treeLines T = some L)
    (hsegs : ∀ d ∈ T, ∀ f ∈ d.files, ∀ s ∈ f.2.segs, SegWF max hash st s) (hshape : TreeShape T)
    (hpaths : ∀ d ∈ T, ∀ c ∈ d.path, NameOK c) (hnames : ∀ d ∈ T, ∀ f ∈ d.files, NameOK f.1)
    (hclosed : TreeClosed T) (hclash : ∀ d ∈ T, ∀ f ∈ d.files, d.path ++ [f.1] ∉ dirPaths T)
    {txt : Bytes} (hparse : parse9 txt = some L) (hfit : ∀ s ∈ streamsOf L, C10.FitsFs s) :
    ∃ tr, C10.fsLoad txt = some tr ∧
      (∀ d ∈ T, ∀ f ∈ d.files, ∃ e ∈ tr.files, e.1 = d.path ++ [f.1] ∧ C10.segBytes (blkOf st) e.2 = C08.abs st f.2) ∧
      (∀ e ∈ tr.files, ∃ d ∈ T, ∃ f ∈ d.files, e.1 = d.path ++ [f.1]) ∧
      (∀ p ∈ tr.dirs, p ∈ dirPaths T) ∧
      (∀ p ∈ dirPaths T, p ≠ [] → p ∈ tr.dirs) := by
  have hns : ∀ d ∈ T, ∀ c ∈ d.path, bSlash ∉ c := fun d hd => (hshape.noslash d hd).1
  obtain ⟨htree, hmark⟩ := treeLines_consistent hL hsegs hshape hclosed hclash
  obtain ⟨tr, tr1, hload, hinv, hfiles, hdirs⟩ := fsLoad_mixed txt L hparse hfit htree hmark
  have hblk : ∀ s ∈ streamsOf L, ∀ b ∈ s.blocks, (blkOf st b.text).length = b.size := by
    intro s hs
    obtain ⟨d, _, hds⟩ := treeLines_stream hL hsegs hs
    exact hds.block_sizes hh hst
  obtain ⟨hin, hkeys⟩ := treeLines_loaded_files hL hsegs hshape hpaths hnames hblk hinv
  rw [← hfiles] at hin hkeys
  refine ⟨tr, hload, hin, hkeys, fun p hp => treeLines_loaded_dirs hL hns hclosed hinv (hfiles ▸ hkeys) p ((hdirs p).mp hp),
    fun p hp hne => ?_⟩
  obtain ⟨d0, hd0, rfl⟩ := List.mem_map.mp hp
  obtain ⟨d, hd, q, hpath, hf | he⟩ := hclosed.leaf hd0
  · -- a directory with a file at or below `d0`: the loader made the file, hence every ancestor
    obtain ⟨f, hf⟩ := List.exists_mem_of_ne_nil _ hf
    obtain ⟨e, he, hk, _⟩ := hin d hd f hf
    have hcov := fsLoad_cover txt tr hload e.1 (List.mem_map_of_mem he)
    rw [hk, List.dropLast_concat, hpath] at hcov
    exact hcov d0.path hne (List.prefix_append _ _)
  · -- an empty directory at or below `d0`: its marker line makes every ancestor
    have hn : prefixOf d.path ∈ markersOf L := by
      rw [treeLines_markers _ L hL]
      exact List.mem_map_of_mem (List.mem_filter.mpr ⟨hd, by simp [he, hpath, hne]⟩)
    refine (hdirs d0.path).mpr (Or.inr (mem_markerDirs.mpr ⟨_, hn, ?_⟩))
    rw [compsOfName_prefixOf _ (hns d hd), hpath]
    exact mem_dirPrefixes.mpr ⟨hne, List.prefix_append _ _⟩

end ArvVerif.C09
