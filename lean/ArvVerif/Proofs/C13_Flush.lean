/-
C13: `collectionFileSystem.Flush` (commitBlock in async mode) as one atomic
step only sets `flushing` fields, extends Keep and the token table; the invariant and the abstract
state are preserved.
-/
import ArvVerif.Proofs.C13_Sim
namespace ArvVerif.C13
open ArvVerif.C08

variable {max : Nat} {hash : Bytes → Loc}

theorem setMark_spec {s : St} (hinv : Inv13 max hash s) (f i : Nat) (b : Bytes) (fl' : Flush)
    (hwf : ∀ fl0, SegWF max hash s.fs.world (Seg.mem b fl0) → SegWF max hash s.fs.world (Seg.mem b fl'))
    (hmark : MarkOK max hash s.fs.world s.toks (Seg.mem b fl')) :
    Quiet max hash s { s with fs := setMark s.fs f i b fl' } := by
  unfold setMark
  cases hseg : segAt s.fs f i with
  | none => exact Quiet.refl hinv
  | some sg =>
    cases sg with
    | stored loc size off l => exact Quiet.refl hinv
    | mem b' fl0 =>
      simp only []
      split
      · next hb =>
        subst hb
        exact hinv.setSegAt hseg rfl rfl (hwf fl0 (hinv.segAt_wf hseg)) hmark
      · exact Quiet.refl hinv

theorem staleMarks_spec : ∀ (ms : List (Nat × Nat × Bytes)) {s : St}, Inv13 max hash s →
    Quiet max hash s { s with fs := staleMarks s.fs ms } := by
  intro ms
  induction ms with
  | nil => intro s hinv; exact Quiet.refl hinv
  | cons m rest ih =>
    intro s hinv
    have h1 := setMark_spec hinv m.1 m.2.1 m.2.2 Flush.stale (fun _ h => segWF_stale h) trivial
    exact h1.trans (ih h1.1)

theorem setMark_with_world (fs : Conc) (W : Store) (f i : Nat) (b : Bytes) (fl : Flush) :
    setMark { fs with world := W } f i b fl = { setMark fs f i b fl with world := W } := by
  unfold setMark segAt setSegAt setFile
  cases hf : fs.files[f]? with
  | none => rfl
  | some nf =>
    simp only []
    cases hi : nf.2.segs[i]? with
    | none => rfl
    | some sg =>
      cases sg with
      | stored => rfl
      | mem b' fl0 =>
        simp only []
        split <;> rfl

theorem setMark_world (fs : Conc) (f i : Nat) (b : Bytes) (fl : Flush) : (setMark fs f i b fl).world = fs.world := by
  unfold setMark
  split
  · split
    · exact setSegAt_world ..
    · rfl
  · rfl

theorem assign_world (block : Bytes) : ∀ (ms : List (Nat × Nat × Bytes)) (fs : Conc) (n off : Nat),
    (assign max block fs ms n off).1.world = fs.world := by
  intro ms
  induction ms with
  | nil => intro fs n off; rfl
  | cons m rest ih => intro fs n off; exact (ih ..).trans (setMark_world ..)

/-- `assign` runs on the filesystem as it is before the block is in Keep (`fs`), and its result is put
over the Keep that holds the block (`W`). Seen over `W`, with the tokens it returns already in the table
at positions `n ..`, every mark it sets is backed: the block is `done` followed by the members' buffers,
so the next member's buffer is the piece at `off = done.length`. -/
theorem assign_spec (block : Bytes) {W : Store} (hw : W (hash block) = some block) {toks : List Tok} {groups : List Group} :
    ∀ (ms : List (Nat × Nat × Bytes)) {fs : Conc} (n off : Nat) (pre post : List Tok) (done : Bytes),
    Inv13 max hash ⟨{ fs with world := W }, toks, groups⟩ → toks = pre ++ (assign max block fs ms n off).2.1 ++ post →
    pre.length = n → block = done ++ ms.flatMap (·.2.2) → done.length = off →
    Quiet max hash ⟨{ fs with world := W }, toks, groups⟩ ⟨{ (assign max block fs ms n off).1 with world := W }, toks, groups⟩ := by
  intro ms
  induction ms with
  | nil => intro fs n off pre post done hinv _ _ _ _; exact Quiet.refl hinv
  | cons m rest ih =>
    intro fs n off pre post done hinv htoks hn hb hoff
    have hmark : MarkOK max hash W toks (Seg.mem m.2.2 (mark max n)) := by
      refine ⟨rfl, ⟨block, off, none⟩, ?_, ?_, hw⟩
      · simp [htoks, assign, ← hn]
      · simp [hb, ← hoff]
    have h1 := setMark_spec hinv m.1 m.2.1 m.2.2 (mark max n) (fun _ h => segWF_mark h n) hmark
    rw [setMark_with_world] at h1
    exact h1.trans (ih (n + 1) (off + m.2.2.length) (pre ++ [⟨block, off, none⟩]) post (done ++ m.2.2) h1.1
      (by simp [htoks, assign]) (by simp [hn]) (by simp [hb]) (by simp [hoff]))

theorem startGroup_spec (hinj : Function.Injective hash) {s : St} (hinv : Inv13 max hash s) (refs : List (Nat × Nat)) :
    Quiet max hash s (startGroup hash max s refs).1 := by
  unfold startGroup
  dsimp only
  generalize members s.fs refs = ms
  split
  · exact Quiet.refl hinv
  · cases abortIdx max s ms 0 with
    | some k => exact staleMarks_spec _ hinv
    | none =>
      generalize hblock : ms.flatMap (fun m => m.2.2) = block
      -- first extend Keep and the token table, then set the marks
      have he : StoreExt s.fs.world (s.fs.world.put hash block) := Store.put_ext hinj hinv.base.ok block
      have hA : Quiet max hash s
          ⟨{ s.fs with world := s.fs.world.put hash block }, s.toks ++ (assign max block s.fs ms s.toks.length 0).2.1, s.groups⟩ :=
        ⟨hinv.ext he (Store.put_ok hinv.base.ok block) _, absFS_ext_world hinv.base he⟩
      rw [assign_world]
      exact hA.trans (assign_spec block (Store.put_get hash _ block) ms s.toks.length 0 s.toks [] [] hA.1 (by simp) rfl
        hblock.symm rfl)

theorem flushDirAsync_spec (hinj : Function.Injective hash) (short : Bool) {s0 : St} (acc : St × List Group) (d : Nat)
    (h : Quiet max hash s0 acc.1) : Quiet max hash s0 (flushDirAsync hash max short acc d).1 := by
  refine List.foldlRecOn _ _ (motive := fun (a : St × List Group) => Quiet max hash s0 a.1) h (fun a ha g _ => ?_)
  dsimp only
  split <;> exact ha.trans (startGroup_spec hinj ha.1 _)

theorem doFlushAsync_spec (hinj : Function.Injective hash) {s : St} (hinv : Inv13 max hash s) (path : String) (short : Bool) :
    Inv13 max hash (doFlushAsync hash max s path short).1 ∧
    absFS (doFlushAsync hash max s path short).1.fs = absFS s.fs ∧
    (doFlushAsync hash max s path short).2.1 = flushRes (absFS s.fs) path := by
  obtain ⟨h1, h2⟩ := (List.foldlRecOn (flushDirs s.fs path) _ (motive := fun (a : St × List Group) => Quiet max hash s a.1) (b := (s, []))
    (Quiet.refl hinv) (fun acc h d _ => flushDirAsync_spec hinj short acc d h)).groups _
  exact ⟨h1, h2, rfl⟩

end ArvVerif.C13
