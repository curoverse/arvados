/-
C16 part A: a left fold that keeps the latest admissible element at least as good as the one it
holds — the shape of ChooseInstanceType's loop — for an arbitrary transitive relation. Started
empty, it ends holding a `Maximal` element of the list (`foldl_keep_maximal`), and every `Maximal`
element is held at the end for some order of the list (`exists_perm_foldl_keep`).
-/
import ArvVerif.Proofs.Lib_List
namespace ArvVerif.C16

theorem foldl_start_or_mem {α β : Type} {f : β → α → β} {g : α → β} {Q : α → Prop}
    (h : ∀ b x, f b x = b ∨ (f b x = g x ∧ Q x)) (l : List α) (b : β) :
    l.foldl f b = b ∨ ∃ x ∈ l, l.foldl f b = g x ∧ Q x :=
  List.foldlRecOn l f (motive := fun r => r = b ∨ ∃ x ∈ l, r = g x ∧ Q x) (Or.inl rfl)
    fun r hr x hx => (h r x).elim (fun e => e.symm ▸ hr) fun h' => Or.inr ⟨x, hx, h'⟩

variable {α : Type} (A : α → Prop) (le : α → α → Prop) [DecidablePred A] [DecidableRel le]

/-- `le r x`: `x` is at least as good as `r` -/
def keep (b : Option α) (x : α) : Option α := if A x ∧ ∀ r ∈ b, le r x then some x else b

def Tops (b : Option α) (y : α) : Prop := A y → ∃ r, b = some r ∧ (le r y → le y r)

def Maximal (l : List α) (x : α) : Prop := x ∈ l ∧ A x ∧ ∀ y ∈ l, A y → le x y → le y x

variable {A le}

theorem foldl_keep_mem {l : List α} {r : α} (h : l.foldl (keep A le) none = some r) : r ∈ l ∧ A r := by
  have hstep : ∀ b x, keep A le b x = b ∨ (keep A le b x = some x ∧ A x) := fun b x => by
    unfold keep; split <;> simp [*]
  rcases foldl_start_or_mem hstep l none with h' | ⟨x, hx, h', hax⟩
  · rw [h'] at h; cases h
  · cases h'.symm.trans h; exact ⟨hx, hax⟩

theorem keep_tops (htr : ∀ {a b c}, le a b → le b c → le a c) (b : Option α) (x : α) :
    Tops A le (keep A le b x) x ∧ ∀ y, Tops A le b y → Tops A le (keep A le b x) y := by
  unfold keep
  split <;> rename_i hc
  · refine ⟨fun _ => ⟨x, rfl, id⟩, fun y h hy => ?_⟩
    obtain ⟨r, rfl, hr⟩ := h hy
    have hrx := hc.2 r rfl
    exact ⟨x, rfl, fun hxy => htr (hr (htr hrx hxy)) hrx⟩
  · refine ⟨fun hx => ?_, fun _ h => h⟩
    cases b with
    | none => exact absurd ⟨hx, nofun⟩ hc
    | some r => exact ⟨r, rfl, fun h => absurd ⟨hx, fun _ h' => Option.some.inj h' ▸ h⟩ hc⟩

theorem foldl_keep_tops (htr : ∀ {a b c}, le a b → le b c → le a c) {l : List α} {b : Option α} {y : α}
    (h : y ∈ l ∨ Tops A le b y) : Tops A le (l.foldl (keep A le) b) y := by
  induction l generalizing b with
  | nil => exact h.resolve_left nofun
  | cons x rest ih =>
    refine ih ?_
    rcases h with h | h
    · rcases List.mem_cons.mp h with rfl | h
      · exact Or.inr (keep_tops @htr b y).1
      · exact Or.inl h
    · exact Or.inr ((keep_tops @htr b x).2 y h)

theorem foldl_keep_isSome (htr : ∀ {a b c}, le a b → le b c → le a c) {l : List α} {y : α}
    (hy : y ∈ l) (hay : A y) : ∃ r, l.foldl (keep A le) none = some r :=
  (foldl_keep_tops @htr (b := none) (Or.inl hy) hay).imp fun _ h => h.1

theorem foldl_keep_maximal (htr : ∀ {a b c}, le a b → le b c → le a c) {l : List α} {r : α}
    (h : l.foldl (keep A le) none = some r) : Maximal A le l r := by
  obtain ⟨hm, ha⟩ := foldl_keep_mem h
  refine ⟨hm, ha, fun y hy hay => ?_⟩
  obtain ⟨r', hr', hmax⟩ := foldl_keep_tops @htr (b := none) (Or.inl hy) hay
  cases hr'.symm.trans h
  exact hmax

/-- the order: the elements at least as good as `x` first, then `x`, then the others -/
theorem exists_perm_foldl_keep [DecidableEq α] {l : List α} {x : α} (h : Maximal A le l x) :
    ∃ l' : List α, l'.Perm l ∧ l'.foldl (keep A le) none = some x := by
  obtain ⟨hx, hax, hmax⟩ := h
  let p := fun y => decide (A y ∧ le x y)
  have hsub : ∀ y ∈ l.erase x, y ∈ l := fun y hy => List.mem_of_mem_erase hy
  refine ⟨(l.erase x).filter p ++ x :: (l.erase x).filter (! p ·), ?_, ?_⟩
  · exact List.perm_middle.trans
      (((List.filter_append_perm _ _).cons x).trans (List.perm_cons_erase hx).symm)
  · rw [List.foldl_append, List.foldl_cons]
    have hx' : keep A le (((l.erase x).filter p).foldl (keep A le) none) x = some x := by
      refine if_pos ⟨hax, fun r hr => ?_⟩
      obtain ⟨h, _⟩ := foldl_keep_mem hr
      obtain ⟨h1, h2⟩ := List.mem_filter.mp h
      exact hmax r (hsub r h1) (of_decide_eq_true h2).1 (of_decide_eq_true h2).2
    rw [hx']
    refine Lib.foldl_fixed fun y hy => if_neg fun h => ?_
    have := (List.mem_filter.mp hy).2
    simp [p, h.1, h.2 x rfl] at this

end ArvVerif.C16
