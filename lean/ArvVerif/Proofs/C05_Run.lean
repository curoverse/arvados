/-
C05 helper lemmas: the sweep around balanceBlock (Model/C05_Run.lean) — index timestamps,
what GetCurrentState delivers, desired replication as a maximum over the collections as fetched,
independent of the arrival order. At the end the F05b witness sweep (it needs the sweep model,
which Proofs/C05Witness.lean does not import).
-/
import ArvVerif.Model.C05_Run
import ArvVerif.Proofs.C05_BlockState
import ArvVerif.Proofs.C05Witness
namespace ArvVerif.C05

theorem wrap64_id {v : Int} (h1 : -9223372036854775808 ≤ v) (h2 : v < 9223372036854775808) : wrap64 v = v := by
  unfold wrap64; omega

/-- a nanosecond timestamp (≥ 1e12, i.e. after 1970-01-01 00:16:40) is taken as it is -/
theorem normMtime_ns {v : Int} (h : 1000000000000 ≤ v) : normMtime v = v := by
  unfold normMtime secondsThreshold
  rw [if_neg (by omega)]

/-- a timestamp in seconds (before the year 2262) is converted exactly -/
theorem normMtime_seconds {v : Int} (h0 : -9223372036 ≤ v) (h1 : v ≤ 9223372036) : normMtime v = v * 1000000000 := by
  unfold normMtime secondsThreshold nsPerSecond
  rw [if_pos (by omega)]
  exact wrap64_id (by omega) (by omega)

theorem replicaOn_mem {reps : List Replica} {id : Nat} {t : Int} (h : replicaOn reps id = some t) :
    ∃ r ∈ reps, r.mnt = id ∧ r.mtime = t := by
  obtain ⟨r, hf, hr⟩ := Option.map_eq_some_iff.1 h
  exact ⟨r, List.mem_reverse.1 (List.mem_of_find?_eq_some hf), by simpa using List.find?_some hf, hr⟩

section
variable {dflt c : Class} {sel : Bool} {defRepl : Nat} {idx : Nat → List IdxEntry} {rep : Nat → Nat}
  {mounts : List Mount} {colls : List Coll} {b : Nat} {r : Replica} {op : BlockOp}

theorem mem_delivered :
    r ∈ delivered idx rep mounts b ↔
      ∃ m ∈ mounts, ∃ e ∈ idx (rep m.id), e.blk = b ∧ r = ⟨m.id, m.srv, normMtime e.raw⟩ := by
  unfold delivered
  simp only [List.mem_flatMap, List.mem_filterMap, Option.ite_none_right_eq_some, Option.some.injEq]
  constructor <;> rintro ⟨m, hm, e, he, hb, h⟩ <;> exact ⟨m, hm, e, he, hb, h.symm⟩

theorem mem_collOps :
    op ∈ collOps sel defRepl colls b ↔ ∃ coll ∈ colls, b ∈ coll.blocks ∧ op = collOp sel defRepl coll := by
  unfold collOps
  simp only [List.mem_flatMap, List.mem_map, List.mem_filter, beq_iff_eq]
  constructor
  · rintro ⟨c, hc, _, ⟨hx, rfl⟩, rfl⟩; exact ⟨c, hc, hx, rfl⟩
  · rintro ⟨c, hc, hb, rfl⟩; exact ⟨c, hc, b, ⟨hb, rfl⟩, rfl⟩

theorem repOf_collOps (sel : Bool) (defRepl : Nat) (colls : List Coll) (b : Nat) :
    (collOps sel defRepl colls b).filterMap BlockOp.repOf = [] := by
  rw [List.filterMap_eq_nil_iff]
  intro op hop
  obtain ⟨_, _, _, rfl⟩ := mem_collOps.1 hop
  rfl

theorem repOf_blockOps :
    (blockOps sel defRepl idx rep mounts colls b).filterMap BlockOp.repOf = delivered idx rep mounts b := by
  unfold blockOps
  rw [List.filterMap_append, repOf_collOps, List.append_nil, List.filterMap_map]
  exact List.filterMap_some

/-- every replica of a gathered block was delivered (so is backed by an index entry, `mem_delivered`),
whatever the arrival order -/
theorem gathered_replica_backed {ops : List BlockOp}
    (hperm : ops.Perm (blockOps sel defRepl idx rep mounts colls b))
    (hr : r ∈ (gather dflt ops).replicas) : r ∈ delivered idx rep mounts b := by
  rw [(gather_spec dflt ops 0).2] at hr
  exact repOf_blockOps ▸ (hperm.filterMap _).mem_iff.1 hr

theorem askOf_collOp (dflt c : Class) (sel : Bool) (defRepl : Nat) (coll : Coll) :
    askOf dflt c (collOp sel defRepl coll) =
      if c ∈ collClasses dflt (fetchedClasses sel coll) then coll.repl.getD defRepl else 0 := rfl

theorem askOf_blockOps
    (h : op ∈ blockOps sel defRepl idx rep mounts colls b) :
    askOf dflt c op = 0 ∨ ∃ coll ∈ colls, b ∈ coll.blocks ∧ c ∈ collClasses dflt (fetchedClasses sel coll) ∧
      askOf dflt c op = coll.repl.getD defRepl := by
  rcases List.mem_append.1 h with h | h
  · obtain ⟨r, _, rfl⟩ := List.mem_map.1 h
    exact Or.inl rfl
  · obtain ⟨coll, hc, hb, rfl⟩ := mem_collOps.1 h
    rw [askOf_collOp]
    split
    · exact Or.inr ⟨coll, hc, hb, ‹_›, rfl⟩
    · exact Or.inl rfl

end

/-! F05b witness layout (corpus/C05): two `archive` (class 1) and two `default` (class 0) mounts on four
services, each with an old replica of block 0; one collection asks for replication 2 in `archive`. -/
def f05bSvcs : List RawService :=
  [⟨0, false, [⟨0, 0, false, 1, [1]⟩]⟩, ⟨1, false, [⟨1, 0, false, 1, [1]⟩]⟩,
   ⟨2, false, [⟨2, 0, false, 1, []⟩]⟩, ⟨3, false, [⟨3, 0, false, 1, []⟩]⟩]
def f05bOps : List BlockOp :=
  blockOps selClassesOld 2 (fun id => [⟨0, 1599999900000000000 - id * 1000000000⟩]) id
    (effMounts 0 (cleanupMounts f05bSvcs)) [⟨1, some 2, [1], [0]⟩] 0
def f05bEnv : Env := envOf (fun s => s) (fun a b => decide (a < b)) 1600000000000000000 (gather 0 f05bOps)
def f05bResult : Result := plan f05bEnv 0 (wSorter f05bEnv) f05bSvcs (gather 0 f05bOps).replicas

/-- the same sweep with the select list of the fixed code -/
def f05bOpsNow : List BlockOp :=
  blockOps selClassesNow 2 (fun id => [⟨0, 1599999900000000000 - id * 1000000000⟩]) id
    (effMounts 0 (cleanupMounts f05bSvcs)) [⟨1, some 2, [1], [0]⟩] 0
def f05bEnvNow : Env := envOf (fun s => s) (fun a b => decide (a < b)) 1600000000000000000 (gather 0 f05bOpsNow)
def f05bResultNow : Result := plan f05bEnvNow 0 (wSorter f05bEnvNow) f05bSvcs (gather 0 f05bOpsNow).replicas

end ArvVerif.C05
