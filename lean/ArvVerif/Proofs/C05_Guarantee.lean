/-
C05: what a wanted class is guaranteed. Its own iteration establishes `Guar`; the rest of the loop
and the last step keep it because they only grow unsafeToDelete and switch `want` on (`Evolves`).
`final_guar` is its form on the `want` flags the switch reads.
-/
import ArvVerif.Proofs.C05_Passes
import ArvVerif.Proofs.C05_Loop
namespace ArvVerif.C05

/-- a replica that will not be trashed: its slot is wanted or its mtime is unsafe to delete -/
def Kept (U : List Int) (s : Slot) : Prop := ∀ t, s.repl = some t → s.want = true ∨ t ∈ U

/-- The guarantee class `c` (desired `d`) has after its iteration: either a family of in-class
mounts on pairwise different devices, holding the block, with replication ≥ `d`, none of whose
devices can lose its replica through any of its views; or no replica at all can be trashed. -/
def Guar (c : Class) (d : Nat) (U : List Int) (l : List Slot) : Prop :=
  (∃ Cm : List Mount, (Cm.map devKey).Nodup ∧ d ≤ (Cm.map (·.repl)).sum ∧
    ∀ m ∈ Cm, inClass c m = true ∧ (∃ s ∈ l, s.mnt = m ∧ s.repl.isSome = true) ∧
      ∀ s' ∈ l, devKey s'.mnt = devKey m → Kept U s') ∨
  (∀ s ∈ l, Kept U s)

theorem Kept.transport {U U' : List Int} {s s' : Slot} (h : Kept U s) (hu : ∀ t ∈ U, t ∈ U')
    (e2 : s'.repl = s.repl) (e3 : s.want = true → s'.want = true) : Kept U' s' := by
  intro t ht
  rcases h t (e2 ▸ ht) with h1 | h1
  · exact Or.inl (e3 h1)
  · exact Or.inr (hu t h1)

theorem Guar.transport {c : Class} {d : Nat} {U U' : List Int} {l l' : List Slot}
    (h : Guar c d U l) (hu : ∀ t ∈ U, t ∈ U') (he : Evolves l l') : Guar c d U' l' := by
  rcases h with ⟨Cm, hnd, hsum, hC⟩ | h
  · left
    refine ⟨Cm, hnd, hsum, fun m hm => ?_⟩
    obtain ⟨a1, ⟨s, hs, e1, e2⟩, a3⟩ := hC m hm
    refine ⟨a1, ?_, ?_⟩
    · obtain ⟨s', hs', f1, f2⟩ := he.fwd s hs
      exact ⟨s', hs', f1.trans e1, by rw [f2]; exact e2⟩
    · intro s' hs' hk
      obtain ⟨s0, hs0, f1, f2, f3⟩ := he.back s' hs'
      exact (a3 s0 hs0 (by rw [← f1]; exact hk)).transport hu f2 f3
  · right
    intro s' hs'
    obtain ⟨s0, hs0, _, f2, f3⟩ := he.back s' hs'
    exact (h s0 hs0).transport hu f2 f3

theorem mem_wantDevMtimes {devs : List Dev} {S : List Slot} {s : Slot} {t : Int} (hs : s ∈ S)
    (hr : s.repl = some t) (hd : devs.contains s.mnt.dev = true) : t ∈ wantDevMtimes devs S := by
  unfold wantDevMtimes
  rw [List.mem_filterMap]
  exact ⟨s, hs, by rw [hd]; exact hr⟩

theorem classIter_guar (env : Env) (c : Class) (S : List Slot) (b : BState) (hid : IdsDistinct S) :
    Guar c (env.desired c) (classIter env c S b).utd (classIter env c S b).slots := by
  have hsub : ∀ s ∈ S, s ∈ S := fun _ h => h
  have h1 := (pass_finv hid S hsub (finv_init c (env.desired c) S b.utd)).1
  have h2 := (pass_finv hid S hsub h1).2
  have g := pass2_cover hid S hsub _ h1
  dsimp only [classIter]
  generalize pass2 c (env.desired c) S (pass1 c (env.desired c) S (passInit b.utd)) = st2 at h2 g ⊢
  -- two ways into the new unsafeToDelete list: the replica is protected, or its device is wanted / protected
  have hprot : ∀ s ∈ S, ∀ t, s.repl = some t → st2.protMnt.contains s.mnt.id = true →
      t ∈ wantDevMtimes (st2.wantDev ++ st2.protDev) S ++ st2.utd := by
    intro s hs t hr hc
    obtain ⟨t', hr', ht'⟩ := h2.prot s hs hc
    rw [hr] at hr'; cases hr'
    exact List.mem_append_right _ ht'
  have hdev : ∀ s ∈ S, ∀ t, s.repl = some t →
      (st2.wantDev.contains s.mnt.dev = true ∨ st2.protDev.contains s.mnt.dev = true) →
      t ∈ wantDevMtimes (st2.wantDev ++ st2.protDev) S ++ st2.utd := fun s hs t hr hd =>
    List.mem_append_left _ (mem_wantDevMtimes hs hr (by rw [List.contains_append, Bool.or_eq_true]; exact hd))
  rcases g with g | g
  · left
    obtain ⟨C, hC, hnd, hsum⟩ := h2.counted
    refine ⟨C.map (·.mnt), by rw [List.map_map]; exact hnd, by rw [List.map_map]; exact Nat.le_trans g (Nat.le_of_eq hsum), fun m hm => ?_⟩
    obtain ⟨s, hs, rfl⟩ := List.mem_map.1 hm
    obtain ⟨a1, a2, a3, a4, a5⟩ := hC s hs
    refine ⟨a2, ⟨_, List.mem_map.2 ⟨s, a1, rfl⟩, by rw [markWant_eq], by rw [markWant_eq]; exact a3⟩, ?_⟩
    intro s' hs' hk t' ht'
    obtain ⟨s1, hs1, rfl⟩ := List.mem_map.1 hs'
    rw [markWant_eq] at hk ht'
    right
    rcases (devKey_eq_iff s1.mnt s.mnt).1 hk with ⟨_, _, hidd⟩ | ⟨h0, hd⟩
    · rw [eq_of_same_id hid hs1 a1 hidd] at ht'
      exact hprot s a1 t' ht' a4
    · exact hdev s1 hs1 t' ht' (Or.inr (hd ▸ a5 (hd ▸ h0)))
  · right
    intro s' hs' t' ht'
    obtain ⟨s1, hs1, rfl⟩ := List.mem_map.1 hs'
    rw [markWant_eq] at ht' ⊢
    rcases g s1 hs1 (by rw [ht']; rfl) with hc | hc | hc
    · exact Or.inl (by rw [hc]; exact Bool.or_true _)
    · exact Or.inr (hdev s1 hs1 t' ht' (Or.inl hc))
    · exact Or.inr (hprot s1 hs1 t' ht' hc)

theorem classIter_utd_mono (env : Env) (c : Class) (S : List Slot) (b : BState) :
    ∀ t ∈ b.utd, t ∈ (classIter env c S b).utd := fun t ht =>
  List.mem_append_right _ ((pass2_grow c _ _ S).utd t ((pass1_grow c _ S _).utd t ht))

theorem runClasses_guar (env : Env) (sorter : Class → List Slot → List Slot) (c : Class) :
    ∀ (cs : List Class) (b : BState), RunPerm env sorter cs b → c ∈ cs → env.desired c ≠ 0 →
      IdsDistinct b.slots →
      Guar c (env.desired c) (runClasses env sorter cs b).utd (runClasses env sorter cs b).slots :=
  runClasses_of_mem env sorter c (fun b => IdsDistinct b.slots) (fun b => Guar c (env.desired c) b.utd b.slots)
    (fun c' _ _ hp hid => distinctIds_of_perm (coreRel_mnt_perm (classIter_coreRel env c' hp)) hid)
    (fun b hp hid => classIter_guar env c _ b (distinctIds_of_perm (hp.map _) hid))
    (fun c' b _ hp hg => hg.transport (classIter_utd_mono env c' _ b) (evolves_classIter env c' hp))

/-- the last step turns "kept" into "wanted": a replica whose mtime is unsafe to delete gets its
slot wanted, so after it the guarantee speaks of the `want` flags alone -/
theorem guar_finalWant {c : Class} {d : Nat} (b : BState) (h : Guar c d b.utd b.slots) :
    Guar c d [] (finalWant b) := by
  have hK : ∀ s ∈ finalWant b, Kept b.utd s → Kept [] s := by
    intro s hs hk t ht
    obtain ⟨s0, _, rfl⟩ := List.mem_map.1 hs
    exact Or.inl ((hk t ht).elim id fun h => finalSlot_want_of (by simpa [finalSlot_eq] using ht) (Or.inr (Or.inr h)))
  rcases h.transport (fun _ h => h) (evolves_finalWant b) with ⟨Cm, hnd, hsum, hC⟩ | h
  · exact Or.inl ⟨Cm, hnd, hsum, fun m hm =>
      ⟨(hC m hm).1, (hC m hm).2.1, fun s' hs' hk => hK s' hs' ((hC m hm).2.2 s' hs' hk)⟩⟩
  · exact Or.inr fun s hs => hK s hs (h s hs)

/-- What `balanceBlock` guarantees every wanted class, offered by a mount or not, in terms of the
final `want` flags alone (`Kept []`: a slot holding a replica is wanted). No assumption on devices;
both physical clauses are read off this. -/
theorem final_guar (env : Env) (classes : List Class) (sorter : Class → List Slot → List Slot)
    (mounts : List Mount) (reps : List Replica)
    (hok : BalancePerm env classes sorter mounts reps) (hid : DistinctIds mounts) (c : Class) (hd : env.desired c ≠ 0) :
    Guar c (env.desired c) [] (finalWant (balanceBlock env classes sorter mounts reps).final) := by
  by_cases hc : c ∈ classes
  · exact guar_finalWant _ (runClasses_guar env sorter c classes _ hok hc hd
      (show DistinctIds ((initSlots mounts reps).map (·.mnt)) from (initSlots_mnt mounts reps).symm ▸ hid))
  · -- a class that no mount offers: the block counts as under-replicated from the start
    exact Or.inr fun s hs t ht =>
      Or.inl (want_of_underrep (underrep_of_unoffered env classes sorter mounts reps c hc hd) s hs t ht)

end ArvVerif.C05
