/-
C10 — blockdigest: `FromString` / `String` round trip on the 32 digest characters of a locator, the
digest as a map key (`digestKey`), and `ParseBlockLocator` on every string `LocatorPattern` accepts.
-/
import ArvVerif.Model.C10_Digest
import ArvVerif.Proofs.C10_Grammar
namespace ArvVerif.C10

/-- `decide` can enumerate `Fin 256` -/
theorem forall_uint8 {P : UInt8 → Prop} (h : ∀ n : Fin 256, P (UInt8.ofNat n)) (c : UInt8) : P c := by
  have := h ⟨c.toNat, c.toNat_lt⟩
  rwa [UInt8.ofNat_toNat] at this

theorem hexDigit_ok : ∀ c : UInt8, isAnyHex c = true →
    hexValB c < 16 ∧ hexDigitB (hexValB c) = lowerHexB c ∧ hexValB (lowerHexB c) = hexValB c :=
  forall_uint8 (by decide +kernel)

theorem lowerHexB_of_lowerHex (c : UInt8) (h : isLowerHex c = true) : lowerHexB c = c := by
  unfold lowerHexB
  rw [if_neg]
  simp only [isLowerHex, isDigit, Bool.or_eq_true, Bool.and_eq_true, decide_eq_true_eq, UInt8.le_iff_toNat_le,
    UInt8.toNat_ofNat] at h ⊢
  omega

theorem hexFold_snoc (s : Bytes) (c : UInt8) : hexFold (s ++ [c]) = hexFold s * 16 + hexValB c := by
  simp [hexFold, List.foldl_append]

theorem hexPad_hexFold : ∀ (w : Nat) (s : Bytes), s.length = w → s.all isAnyHex = true →
    hexFold s < 16 ^ w ∧ hexPad w (hexFold s) = s.map lowerHexB := by
  intro w
  induction w with
  | zero =>
    intro s hl _
    obtain rfl := List.length_eq_zero_iff.mp hl
    exact ⟨Nat.zero_lt_one, rfl⟩
  | succ w ih =>
    intro s hl hall
    rcases List.eq_nil_or_concat s with rfl | ⟨s', c, rfl⟩
    · cases hl
    · rw [List.concat_eq_append] at hl hall ⊢
      have hall' : s'.all isAnyHex = true ∧ isAnyHex c = true := by simpa using hall
      obtain ⟨h1, h2⟩ := ih s' (by simpa using hl) hall'.1
      obtain ⟨c1, c2, _⟩ := hexDigit_ok c hall'.2
      rw [hexFold_snoc]
      refine ⟨by rw [Nat.pow_succ]; omega, ?_⟩
      have e1 : (hexFold s' * 16 + hexValB c) / 16 = hexFold s' := by omega
      have e2 : (hexFold s' * 16 + hexValB c) % 16 = hexValB c := by omega
      simp only [hexPad, e1, e2, h2, c2, List.map_append, List.map_cons, List.map_nil]

theorem hexFold_lower (s : Bytes) (hall : s.all isAnyHex = true) : hexFold (s.map lowerHexB) = hexFold s := by
  unfold hexFold
  generalize 0 = acc
  induction s generalizing acc with
  | nil => rfl
  | cons c rest ih =>
    have hall' : isAnyHex c = true ∧ rest.all isAnyHex = true := by simpa using hall
    simp only [List.map_cons, List.foldl_cons, (hexDigit_ok c hall'.1).2.2]
    exact ih hall'.2 _

theorem parseHex64_hex16 (s : Bytes) (hl : s.length = 16) (hall : s.all isAnyHex = true) :
    parseHex64 s = some (hexFold s) := by
  obtain ⟨h1, _⟩ := hexPad_hexFold 16 s hl hall
  unfold parseHex64
  rw [if_pos ⟨List.ne_nil_of_length_pos (by omega), hall⟩, if_pos (by unfold two64; omega)]

theorem digestKey_eq (t : Bytes) : digestKey t = (t.take 32).map lowerHexB := rfl

theorem digestFromString_spec (s : Bytes) (hl : s.length = 32) (hall : s.all isAnyHex = true) :
    ∃ d, digestFromString s = some d ∧ digestString d = s.map lowerHexB ∧
      d = ⟨hexFold ((s.map lowerHexB).take 16), hexFold ((s.map lowerHexB).drop 16)⟩ := by
  have hl1 : (s.take 16).length = 16 := by simp [hl]
  have hl2 : (s.drop 16).length = 16 := by simp [hl]
  obtain ⟨ha1, ha2⟩ : (s.take 16).all isAnyHex = true ∧ (s.drop 16).all isAnyHex = true := by
    rwa [← Bool.and_eq_true, ← List.all_append, List.take_append_drop]
  refine ⟨⟨hexFold (s.take 16), hexFold (s.drop 16)⟩, ?_, ?_, ?_⟩
  · unfold digestFromString
    rw [if_neg (by simp [hl]), parseHex64_hex16 _ hl1 ha1, parseHex64_hex16 _ hl2 ha2]
  · unfold digestString
    rw [(hexPad_hexFold 16 _ hl1 ha1).2, (hexPad_hexFold 16 _ hl2 ha2).2, ← List.map_append, List.take_append_drop]
  · rw [← List.map_take, ← List.map_drop, hexFold_lower _ ha1, hexFold_lower _ ha2]

theorem digestFromString_none (s : Bytes) (h : s.length ≠ 32 ∨ s.all isAnyHex = false) :
    digestFromString s = none := by
  have hp : ∀ x : Bytes, x.all isAnyHex = false → parseHex64 x = none := fun x hx => by simp [parseHex64, hx]
  unfold digestFromString
  rcases h with h | h
  · rw [if_pos h]
  · -- one of the two halves holds the offending character
    rw [← List.take_append_drop 16 s, List.all_append, Bool.and_eq_false_iff] at h
    split
    · rfl
    · rcases h with h | h
      · rw [hp _ h]
      · rw [hp _ h]
        cases parseHex64 (s.take 16) <;> rfl

/-- the lower-cased form is `digestKey`, the key the codec model uses -/
theorem digestFromString_eq_iff (a b : Bytes) (ha : a.length = 32) (hb : b.length = 32)
    (haa : a.all isAnyHex = true) (hbb : b.all isAnyHex = true) :
    digestFromString a = digestFromString b ↔ a.map lowerHexB = b.map lowerHexB := by
  obtain ⟨da, ha1, ha2, ha3⟩ := digestFromString_spec a ha haa
  obtain ⟨db, hb1, hb2, hb3⟩ := digestFromString_spec b hb hbb
  constructor
  · intro h
    rw [ha1, hb1] at h
    cases h
    rw [← ha2, ← hb2]
  · intro h
    rw [ha1, hb1, ha3, hb3, h]

theorem parseBlockLocator_no_panic (t : Bytes) : parseBlockLocator t ≠ .panic := by
  unfold parseBlockLocator
  split
  · simp
  · rename_i hg
    obtain ⟨ds, hd⟩ := isGoLocator_iff.mp (by simpa using hg)
    obtain ⟨hints, hsp, _⟩ := locator_split t ds hd
    rw [hsp]
    dsimp only
    split
    · simp
    · split <;> simp

theorem parseBlockLocator_rejects (t : Bytes) (h : isGoLocator t = false) : parseBlockLocator t = .err := by
  unfold parseBlockLocator; simp [h]

end ArvVerif.C10
