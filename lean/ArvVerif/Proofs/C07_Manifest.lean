/-
C07: `SignManifest` on one token: `stripPerm` deletes exactly the `+`-separated fields that start
with `A`, and `signToken` keeps a whitespace-free token whitespace-free.
-/
import ArvVerif.Proofs.C07_Sign
import ArvVerif.Proofs.C07_Layout
namespace ArvVerif.C07
variable (mac : Str → Str → List UInt8)

/-- the hints that survive `mPermHintRe.ReplaceAllString(tok, "")` -/
def notPermHint (f : Str) : Bool := f.head? != some 'A'

theorem stripPerm_free (b : Bool) {a : Str} (rest : Str) (ha : Free '+' a) :
    stripPerm b (a ++ rest) = (if b then [] else a) ++ stripPerm b rest := by
  induction a with
  | nil => cases b <;> rfl
  | cons c cs ih =>
    obtain ⟨hc, hcs⟩ := free_cons.mp ha
    cases b <;> simp [stripPerm, hc, ih hcs]

theorem stripPerm_plus (b : Bool) (rest : Str) :
    stripPerm b ('+' :: rest) =
      if rest.head? = some 'A' then stripPerm true rest else '+' :: stripPerm false rest := by
  cases rest with
  | nil => cases b <;> simp [stripPerm]
  | cons c r =>
    by_cases hc : c = 'A'
    · subst hc; cases b <;> simp [stripPerm]
    · cases b <;> simp [stripPerm, hc]

/-- `b` says whether the first field is being skipped -/
theorem stripPerm_fields (b : Bool) {f : Str} {fs : List Str} (hf : Free '+' f)
    (hfs : ∀ g ∈ fs, Free '+' g) :
    stripPerm b (f ++ hints fs) = (if b then [] else f) ++ hints (fs.filter notPermHint) := by
  induction fs generalizing b f with
  | nil => simpa [stripPerm] using stripPerm_free b [] hf
  | cons g gs ih =>
    obtain ⟨hg, hgs⟩ := List.forall_mem_cons.mp hfs
    have hhead : (g ++ hints gs).head? = some 'A' ↔ notPermHint g = false := by
      cases g with
      | nil => cases gs <;> simp [notPermHint]
      | cons c cs => simp [notPermHint]
    rw [hints_cons, List.cons_append, stripPerm_free b _ hf, stripPerm_plus, List.filter_cons]
    simp only [hhead]
    cases notPermHint g <;> simp [ih _ hg hgs]

theorem stripPermHints_fields {t h : Str} {fs : List Str} (e : splitOn '+' t = h :: fs) :
    stripPermHints t = h ++ hints (fs.filter notPermHint) := by
  obtain ⟨rfl, hh, hfs⟩ := splitOn_eq_cons e
  exact stripPerm_fields false hh hfs

theorem mem_stripPerm {b : Bool} {t : Str} {c : Char} (h : c ∈ stripPerm b t) : c ∈ t := by
  fun_induction stripPerm b t <;> simp_all <;> exact h.imp_right ‹_›

theorem signToken_noSpace (tok : Str) (exp ttlNs : Int) (key : Str) {t : Str} (ht : NoSpace t) :
    NoSpace (signToken mac tok exp ttlNs key t) := by
  unfold signToken
  split
  · unfold signLocator
    have hs : NoSpace (stripPermHints t) := fun c hc => ht c (mem_stripPerm hc)
    split
    · exact hs
    · intro c hc
      rcases List.mem_append.mp hc with hc | hc
      · exact hs c hc
      · rcases List.mem_cons.mp hc with rfl | hc
        · decide
        · exact not_isSpace_of_isHintChar (List.all_eq_true.mp (sigField_hintChars _ _) c hc)
  · exact ht

end ArvVerif.C07
