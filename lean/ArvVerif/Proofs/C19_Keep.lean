/-
C19, keepstore as a process (model in Model/C19_Keep.lean): the token `GetAPIToken` reads
(`keepAuthToken_scheme`), and what one `Get` sends to other clusters. `KeepEventOK` says what a
single event may be; `HintsOK` is the invariant of the loop over the locator's parts
(`keepHints_spec`). The two results the property theorems use: `keepProxyGet_spec` (one `Get`: the
client cache grows, every event is `KeepEventOK`) and `mem_zip_keepProc` (a step of a history is
one `Get` on a cache that contains the one the process started with).
-/
import ArvVerif.Model.C19_Keep
import ArvVerif.Proofs.C19_Salt
namespace ArvVerif.C19

theorem keepAuthToken_scheme (w t : Str) (c : Char) (ws : Str) (hw : w = sOAuth2 ∨ w = sBearerWord)
    (hc : isReSpace c = true) (hws : ∀ x ∈ ws, isReSpace x = true)
    (ht0 : ∀ x r, t = x :: r → isReSpace x = false) (hnl : '\n' ∉ t) :
    keepAuthToken (w ++ c :: ws ++ t) = some t := by
  have hdw : (c :: (ws ++ t)).dropWhile isReSpace = t := by
    rw [← List.cons_append, List.dropWhile_append_of_pos (List.forall_mem_cons.mpr ⟨hc, hws⟩)]
    cases t with
    | nil => rfl
    | cons x r => exact List.dropWhile_cons_of_neg (by simp [ht0 x r rfl])
  have htw : t.takeWhile (fun x => x != '\n') = t := by
    have := List.takeWhile_append_of_pos (p := fun x => x != '\n') (l₁ := t) (l₂ := [])
      (fun a ha => bne_iff_ne.mpr fun e => hnl (e ▸ ha))
    simpa using this
  unfold keepAuthToken
  rcases hw with rfl | rfl <;>
    simp [sOAuth2_eq, sBearerWord_eq, hc, hdw, htw]

theorem placeholderAuth_eq : sOAuth2sp ++ placeholderToken = "OAuth2 xxx".toList := by
  unfold sOAuth2sp placeholderToken
  repeat rw [String.toList_ofList]
  rfl

def Names (H : List Str) (r : Str) : Prop := ∃ p ∈ H, isRemoteHint p = true ∧ hintRemote p = r

/-- `C19_keepstore_process` writes `Names` and `KeepGood` out. -/
def KeepGood (mac : Str → Str → List UInt8) (cfg : List Str) (tok : Str) (H : List Str) (r t : Str) : Prop :=
  r ∈ cfg ∧ Names H r ∧ saltToken mac tok r = .ok t

/-- What one `Get` may send, for caller's token `tok` and locator parts `H` (hash and hints), on a
process whose client cache is `cached`: a client-construction request, with the placeholder token,
to the API endpoint of a configured remote that the locator names and that had no client yet; a
block request with the token salted for such a remote `r`, to `r` or to the cluster of a `+K@` hint
of the locator. -/
def KeepEventOK (mac : Str → Str → List UInt8) (cfg : List Str) (tok : Str) (H cached : List Str) :
    KeepEvent → Prop
  | .discovery r a | .services r a => r ∈ cfg ∧ r ∉ cached ∧ a = sOAuth2sp ++ placeholderToken ∧ Names H r
  | .block d _ a =>
    ∃ r t, KeepGood mac cfg tok H r t ∧ a = sOAuth2sp ++ t ∧
      (d = .svc r ∨ ∃ x, d = .ext x ∧ (sKAt ++ x) ∈ H ∧ x.length = 5)

variable {mac : Str → Str → List UInt8} {cfg H cached cached' : List Str} {tok r : Str}

theorem KeepEventOK.mono {ev : KeepEvent} (h : KeepEventOK mac cfg tok H cached' ev)
    (hsub : cached ⊆ cached') : KeepEventOK mac cfg tok H cached ev := by
  cases ev with
  | block d l a => exact h
  | _ => exact ⟨h.1, fun hx => h.2.1 (hsub hx), h.2.2⟩

theorem keepClientFor_sub (cached : List Str) (r : Str) : cached ⊆ (keepClientFor cached r).1 := by
  unfold keepClientFor
  split <;> simp

theorem keepClientFor_mem (cached : List Str) (r : Str) : r ∈ (keepClientFor cached r).1 := by
  unfold keepClientFor
  split <;> simp_all

theorem keepClientFor_events (hr : r ∈ cfg) (hp : Names H r) :
    ∀ ev ∈ (keepClientFor cached r).2, KeepEventOK mac cfg tok H cached ev := by
  unfold keepClientFor
  split <;> simp_all [KeepEventOK]

theorem isProxyHint_hintRewrite (p : Str) : isProxyHint (hintRewrite p) = false := by
  unfold isProxyHint hintRewrite sKAt
  cases p.drop 7 with
  | nil => simp
  | cons c r => cases r <;> simp

/-- a destination that `getSortedRoots` adds comes from a 7-character `+K@` part -/
theorem mem_proxyHints {parts : List Str} {x : Str} (h : x ∈ proxyHints parts) :
    sKAt ++ x ∈ parts ∧ isProxyHint (sKAt ++ x) = true ∧ x.length = 5 := by
  obtain ⟨q, hq, hx⟩ := List.mem_filterMap.mp h
  split at hx
  · next hk =>
    cases hx
    have hk' := hk
    simp only [isProxyHint, Bool.and_eq_true, beq_iff_eq] at hk'
    have e : sKAt ++ q.drop 2 = q := by rw [← hk'.2, List.take_append_drop]
    exact ⟨e ▸ hq, e ▸ hk, by simp [hk'.1]⟩
  · cases hx

/-- What the loop of `Get` guarantees when it runs over parts of `H`, started with client cache
`cached`. -/
def HintsOK (mac : Str → Str → List UInt8) (cfg : List Str) (tok : Str) (H cached : List Str)
    (res : List Str × List KeepEvent × HintOut) : Prop :=
  cached ⊆ res.1 ∧
  (∀ ev ∈ res.2.1, KeepEventOK mac cfg tok H cached ev) ∧
  ∀ cl parts, res.2.2 = .done cl parts →
    (∀ r t, cl = some (r, t) → KeepGood mac cfg tok H r t) ∧
    ∀ q ∈ parts, isProxyHint q = true → q ∈ H

theorem hintThen_ok {evs0 : List KeepEvent} {part : Option Str}
    {res : List Str × List KeepEvent × HintOut} (hres : HintsOK mac cfg tok H cached' res)
    (hsub : cached ⊆ cached') (hev : ∀ ev ∈ evs0, KeepEventOK mac cfg tok H cached ev)
    (hpart : ∀ q, part = some q → isProxyHint q = true → q ∈ H) :
    HintsOK mac cfg tok H cached (hintThen evs0 part res) := by
  obtain ⟨h1, h2, h3⟩ := hres
  refine ⟨hsub.trans h1, fun ev hmem => ?_, fun cl parts h => ?_⟩
  · rcases List.mem_append.mp hmem with hmem | hmem
    · exact hev ev hmem
    · exact (h2 ev hmem).mono hsub
  · unfold hintThen at h
    split at h
    · cases h
    · next cl0 parts0 hd =>
      cases h
      obtain ⟨g1, g2⟩ := h3 _ _ hd
      refine ⟨g1, fun q hq hk => ?_⟩
      cases part with
      | none => exact g2 q hq hk
      | some q0 =>
        rcases List.mem_cons.mp hq with rfl | hq
        · exact hpart q rfl hk
        · exact g2 q hq hk

theorem keepHints_spec {ps : List Str} (hsub : ps ⊆ H) (cached : List Str) {cl : Option (Str × Str)}
    (hcl : ∀ r t, cl = some (r, t) → KeepGood mac cfg tok H r t) :
    HintsOK mac cfg tok H cached (keepHints mac cfg tok ps cached cl) := by
  fun_induction keepHints mac cfg tok ps cached cl with
  | case1 => exact ⟨.refl _, nofun, fun cl' parts h => by cases h; exact ⟨hcl, nofun⟩⟩
  | case2 p ps cached cl _ ih =>
    -- local hint: dropped
    exact hintThen_ok (ih (List.cons_subset.mp hsub).2 hcl) (.refl _) nofun nofun
  | case3 =>
    -- `+R` hint of a remote that is not configured
    exact ⟨.refl _, nofun, nofun⟩
  | case4 p _ cached _ _ hR hcfg | case5 p _ cached _ _ hR hcfg =>
    -- salting fails: the request ends, the remote's client has been built all the same
    exact ⟨keepClientFor_sub cached _,
      keepClientFor_events (by simpa using hcfg) ⟨p, (List.cons_subset.mp hsub).1, hR, rfl⟩, nofun⟩
  | case6 p ps cached cl _ hR hcfg t hok ih =>
    -- `+R` hint of a configured remote for which the token salts
    obtain ⟨hpH, hsub'⟩ := List.cons_subset.mp hsub
    have hr : hintRemote p ∈ cfg := by simpa using hcfg
    have hp : Names H (hintRemote p) := ⟨p, hpH, hR, rfl⟩
    refine hintThen_ok (ih hsub' ?_) (keepClientFor_sub cached _) (keepClientFor_events hr hp) ?_
    · intro r t' h; cases h; exact ⟨hr, hp, hok⟩
    · intro q hq hk; cases hq; rw [isProxyHint_hintRewrite] at hk; cases hk
  | case7 p ps cached cl _ _ ih =>
    -- any other part: kept
    obtain ⟨hpH, hsub'⟩ := List.cons_subset.mp hsub
    exact hintThen_ok (ih hsub' hcl) (.refl _) nofun (fun q hq _ => Option.some.inj hq ▸ hpH)

theorem keepProxyGet_spec (mac : Str → Str → List UInt8) (cfg cached : List Str) (auths : List Str)
    (hash : Str) (hints : List Str) :
    cached ⊆ (keepProxyGet mac cfg cached auths hash hints).1 ∧
    ∀ ev ∈ (keepProxyGet mac cfg cached auths hash hints).2.events,
      KeepEventOK mac cfg (getAPIToken auths) (hash :: hints) cached ev := by
  have hs := keepHints_spec (mac := mac) (cfg := cfg) (tok := getAPIToken auths)
    (List.subset_cons_self hash hints) cached (cl := none) nofun
  unfold keepProxyGet
  simp only
  split
  · exact ⟨.refl _, nofun⟩
  · generalize keepHints mac cfg (getAPIToken auths) hints cached none = res at hs
    obtain ⟨c, evs, out⟩ := res
    obtain ⟨h1, h2, h3⟩ := hs
    rcases out with st | ⟨_ | ⟨r, t⟩, ps⟩
    · exact ⟨h1, h2⟩
    · exact ⟨h1, h2⟩
    · obtain ⟨g1, g2⟩ := h3 _ _ rfl
      have hgood := g1 r t rfl
      simp only
      split
      · exact ⟨h1, h2⟩
      · refine ⟨h1, fun ev hev => ?_⟩
        simp only [List.mem_append, List.mem_map, List.mem_cons, List.mem_nil_iff, or_false] at hev
        rcases hev with (hev | ⟨x, hx, rfl⟩) | rfl
        · exact h2 ev hev
        · -- a `+K@` part kept by the loop was in the caller's locator
          obtain ⟨hq, hk, hlen⟩ := mem_proxyHints hx
          refine ⟨r, t, hgood, rfl, .inr ⟨x, rfl, ?_, hlen⟩⟩
          rcases List.mem_cons.mp hq with e | hq
          · exact e ▸ List.mem_cons_self ..
          · exact g2 _ hq hk
        · exact ⟨r, t, hgood, rfl, .inl rfl⟩

theorem mem_zip_keepProc {reqs : List KeepReq} {q : KeepReq} {st : KeepStep}
    (h : (q, st) ∈ reqs.zip (keepProc mac cfg cached reqs)) :
    ∃ cached', cached ⊆ cached' ∧ st = (keepProxyGet mac cfg cached' q.auths q.hash q.hints).2 := by
  induction reqs generalizing cached with
  | nil => simp [keepProc] at h
  | cons q0 reqs ih =>
    simp only [keepProc, List.zip_cons_cons, List.mem_cons, Prod.mk.injEq] at h
    rcases h with ⟨rfl, rfl⟩ | h
    · exact ⟨cached, .refl _, rfl⟩
    · obtain ⟨c', hs, hst⟩ := ih h
      exact ⟨c', (keepProxyGet_spec mac cfg cached q0.auths q0.hash q0.hints).1.trans hs, hst⟩

end ArvVerif.C19
