/-
C07: keepstore's handlers — `handleGET`, `handlePUT`, `remoteProxy.Get`.
-/
import ArvVerif.Proofs.C07_Sign
namespace ArvVerif.C07
variable (mac : Str → Str → List UInt8)

theorem containsSub_append (pat x y : Str) : containsSub pat (x ++ pat ++ y) = true := by
  induction x with
  | nil =>
    have hp : pat.isPrefixOf (pat ++ y) = true :=
      List.isPrefixOf_iff_prefix.mpr (List.prefix_append pat y)
    rw [List.nil_append]
    cases h : pat ++ y with
    | nil => simp [(List.append_eq_nil_iff.mp h).1, containsSub]
    | cons c cs => rw [containsSub, ← h, hp]; rfl
  | cons c cs ih =>
    rw [List.cons_append, List.cons_append, containsSub, ih, Bool.or_true]

/-- The gate of `handleGET`. The middle clause: the locator is not taken for a remote request (`+R`
without `+A`). -/
theorem handleGET_readVolume_iff (cfg : KSConfig) (loc tok h : Str) (nowNs : Int) :
    handleGET mac cfg loc tok nowNs = .readVolume h ↔
      routeHash loc = some h ∧
      (containsSub ['+', 'R'] loc && !containsSub ['+', 'A'] loc) = false ∧
      (cfg.blobSigning = true → verifySignature mac loc tok cfg.ttlNs cfg.key nowNs = .ok) := by
  unfold handleGET ksVerify
  cases routeHash loc with
  | none => simp
  | some h0 =>
    cases containsSub ['+', 'R'] loc && !containsSub ['+', 'A'] loc <;>
      cases cfg.blobSigning <;>
      cases verifySignature mac loc tok cfg.ttlNs cfg.key nowNs <;> simp

theorem routeHash_fields {hash f : Str} {fs : List Str} (hl : hash.length = 32)
    (hx : hash.all isLowerHex = true) (hf : f ≠ []) (hfs : ∀ g ∈ f :: fs, Free '/' g) :
    routeHash (hash ++ hints (f :: fs)) = some hash := by
  have hfree := free_hints (by decide) hfs
  rw [hints_cons] at hfree ⊢
  have hall : (f ++ hints fs).all (· != '/') = true :=
    List.all_eq_true.mpr fun c hc => by simpa using (free_cons.mp hfree).2 c hc
  simp [routeHash, List.take_left' hl, List.drop_left' hl, hl, hx, hf, hall]

theorem isSizeField_natDec (n : Nat) : isSizeField (natDec n) = true := by
  have hd : (natDec n).all isDigit = true := by
    rw [List.all_eq_true]
    intro c hc
    have := Nat.isDigit_of_mem_toDigits (b := 10) (by decide) (by decide) hc
    simpa [isDigit, Char.isDigit, Char.le_def, UInt32.le_iff_toNat_le] using this
  cases h : natDec n with
  | nil => exact absurd h Nat.toDigits_ne_nil
  | cons c cs => rw [h] at hd; simp [isSizeField, hd]

theorem putReply_fields (cfg : KSConfig) {hash tok : Str} (size : Nat) (nowNs : Int)
    (hk : cfg.key ≠ []) (ht : tok ≠ []) (hfree : Free '+' hash) :
    putReply mac cfg hash size tok nowNs = hash ++ hints [natDec size,
      sigField (makePermSignature mac hash tok (fmt08x ((nowNs + cfg.ttlNs) / 1000000000))
        (ttlHex cfg.ttlNs) cfg.key) (fmt08x ((nowNs + cfg.ttlNs) / 1000000000))] := by
  simpa [putReply, hk, ht] using signLocator_hints mac hk ht hfree [natDec size] _ _

/-- what `remoteProxy.Get` may answer on its own, and where it may send a request -/
def RemoteOK (configured : Str → Bool) : RemoteOutcome → Prop
  | .status c => c = 400 ∨ c = 500
  | .forward r _ _ => configured r = true

theorem remoteParts_ok (configured : Str → Bool) (token : Str) (parts acc : List Str)
    (sel : Option (Str × Str)) (hsel : ∀ p ∈ sel, configured p.1 = true) :
    RemoteOK configured (remoteParts mac configured token parts acc sel) := by
  induction parts generalizing acc sel with
  | nil =>
    cases sel with
    | none => exact .inl rfl
    | some p => exact hsel p rfl
  | cons part rest ih =>
    unfold remoteParts
    split
    · exact ih acc sel hsel  -- `A…`: dropped
    · split
      · simp only  -- `R<cluster>-…`
        split
        · exact .inl rfl  -- cluster not configured
        · rename_i hcfg
          split
          · exact .inl rfl  -- obsolete token
          · exact .inr rfl  -- other salting error
          · exact ih _ _ (by simpa using hcfg)  -- salted: the cluster becomes the selection
      · exact ih _ _ hsel  -- any other part: kept

theorem remoteFinish_body_iff (rep : RemoteReply) (b : Str) :
    (remoteFinish rep).body = some b ↔ rep = .data b := by
  cases rep <;> simp [remoteFinish]

theorem remoteFinish_of_not_data {rep : RemoteReply} (h : ∀ b, rep ≠ .data b) :
    (remoteFinish rep).body = none ∧
      ((remoteFinish rep).status = 404 ∨ (remoteFinish rep).status = 502) := by
  cases rep <;> simp_all [remoteFinish]

end ArvVerif.C07
