/-
C05 helper lemmas: gathering a block's state. Desired replication of a class is the
maximum over the collections that want the block in that class; the replicas are the index entries
in arrival order — whatever the interleaving of index entries and collections.
-/
import ArvVerif.Model.C05_BlockState
namespace ArvVerif.C05

theorem lookupD_append_single (m : List (Class × Nat)) (c c' : Class) (n : Nat) (h : lookupD m c' = none) :
    lookupD (m ++ [(c', n)]) c = if c = c' then some n else lookupD m c := by
  unfold lookupD at h ⊢
  rw [List.find?_append]
  cases hf : m.find? (fun p => p.1 == c) with
  | some p =>
    have hne : c ≠ c' := by
      intro e; subst e
      rw [hf] at h; cases h
    simp [hne]
  | none =>
    by_cases e : c = c'
    · subst e; simp
    · have : (c' == c) = false := by simpa using fun h => e h.symm
      simp [this, e]

theorem lookupD_map_set (m : List (Class × Nat)) (c c' : Class) (n : Nat) :
    lookupD (m.map (fun p => if p.1 == c' then (c', n) else p)) c =
      if c = c' then (lookupD m c).map (fun _ => n) else lookupD m c := by
  unfold lookupD
  induction m with
  | nil => simp
  | cons p m ih =>
    -- the head entry is rewritten or not, and is the one looked up or not
    simp only [List.map_cons, List.find?_cons]
    grind

theorem raiseDesired_lookup (m : List (Class × Nat)) (c c' : Class) (n : Nat) :
    (lookupD (raiseDesired m c' n) c).getD 0 =
      if c = c' then max ((lookupD m c).getD 0) n else (lookupD m c).getD 0 := by
  unfold raiseDesired
  cases hl : lookupD m c' with
  | none =>
    simp only
    rw [lookupD_append_single m c c' n hl]
    grind
  | some d =>
    simp only
    split
    · rw [lookupD_map_set]; grind
    · grind

theorem foldl_raise_lookup (n : Nat) (c : Class) : ∀ (cls : List Class) (m : List (Class × Nat)),
    (lookupD (cls.foldl (fun m c' => raiseDesired m c' n) m) c).getD 0 =
      if c ∈ cls then max ((lookupD m c).getD 0) n else (lookupD m c).getD 0 := by
  intro cls
  induction cls with
  | nil => intro m; simp
  | cons c' cls ih =>
    intro m
    simp only [List.foldl_cons]
    rw [ih, raiseDesired_lookup]
    grind

/-- the classes a collection wants the block in -/
def collClasses (dflt : Class) (classes : List Class) : List Class := if classes.isEmpty then [dflt] else classes

/-- what one more op does to the desired replication of class `c` -/
def wantStepOf (dflt : Class) (c : Class) (acc : Nat) : BlockOp → Nat
  | .rep _ => acc
  | .coll _ classes n => if c ∈ collClasses dflt classes then max acc n else acc

theorem applyOp_desired (dflt : Class) (bs : BlockSt) (op : BlockOp) (c : Class) :
    desiredOf (applyOp dflt bs op) c = wantStepOf dflt c (desiredOf bs c) op := by
  cases op with
  | rep r => rfl
  | coll pdh classes n =>
    unfold applyOp increaseDesired desiredOf wantStepOf collClasses
    simp only
    exact foldl_raise_lookup n c _ _

theorem applyOp_replicas (dflt : Class) (bs : BlockSt) (op : BlockOp) :
    (applyOp dflt bs op).replicas = bs.replicas ++ (match op with | .rep r => [r] | .coll _ _ _ => []) := by
  cases op with
  | rep r => rfl
  | coll pdh classes n => simp [applyOp, increaseDesired]

theorem foldl_applyOp_replicas (dflt : Class) : ∀ (ops : List BlockOp) (bs : BlockSt),
    (ops.foldl (applyOp dflt) bs).replicas =
      bs.replicas ++ ops.filterMap BlockOp.repOf := by
  intro ops
  induction ops with
  | nil => intro bs; simp
  | cons op ops ih =>
    intro bs
    simp only [List.foldl_cons]
    rw [ih, applyOp_replicas]
    cases op <;> simp [BlockOp.repOf, List.filterMap_cons]

theorem gather_spec (dflt : Class) (ops : List BlockOp) (c : Class) :
    desiredOf (gather dflt ops) c = ops.foldl (wantStepOf dflt c) 0 ∧
    (gather dflt ops).replicas = ops.filterMap BlockOp.repOf :=
  ⟨(List.foldl_hom (desiredOf · c) fun bs op => (applyOp_desired dflt bs op c).symm).symm, by
    simpa [gather, BlockSt.empty] using foldl_applyOp_replicas dflt ops BlockSt.empty⟩

/-- the replication op `op` asks for in class `c` -/
def askOf (dflt : Class) (c : Class) : BlockOp → Nat
  | .rep _ => 0
  | .coll _ classes n => if c ∈ collClasses dflt classes then n else 0

theorem wantStepOf_eq (dflt c : Class) (acc : Nat) (op : BlockOp) :
    wantStepOf dflt c acc op = max acc (askOf dflt c op) := by
  cases op with
  | rep _ => simp [wantStepOf, askOf]
  | coll _ classes n =>
    unfold wantStepOf askOf
    by_cases h : c ∈ collClasses dflt classes <;> simp [h]

theorem foldl_want_ge (dflt c : Class) : ∀ (ops : List BlockOp) (acc : Nat),
    acc ≤ ops.foldl (wantStepOf dflt c) acc ∧
    (∀ op ∈ ops, askOf dflt c op ≤ ops.foldl (wantStepOf dflt c) acc) ∧
    (ops.foldl (wantStepOf dflt c) acc = acc ∨ ∃ op ∈ ops, ops.foldl (wantStepOf dflt c) acc = askOf dflt c op) := by
  intro ops
  induction ops with
  | nil => intro acc; simp
  | cons op ops ih =>
    intro acc
    simp only [List.foldl_cons]
    obtain ⟨h1, h2, h3⟩ := ih (wantStepOf dflt c acc op)
    have hstep := wantStepOf_eq dflt c acc op
    refine ⟨by omega, List.forall_mem_cons.2 ⟨by omega, h2⟩, ?_⟩
    rcases h3 with h3 | ⟨op', hop', h3⟩
    · rw [h3, hstep]
      exact (Nat.le_total (askOf dflt c op) acc).elim (fun h => Or.inl (Nat.max_eq_left h))
        fun h => Or.inr ⟨op, List.mem_cons_self .., Nat.max_eq_right h⟩
    · exact Or.inr ⟨op', List.mem_cons_of_mem _ hop', h3⟩

theorem desiredOf_gather_max (dflt c : Class) (ops : List BlockOp) :
    (∀ op ∈ ops, askOf dflt c op ≤ desiredOf (gather dflt ops) c) ∧
    (desiredOf (gather dflt ops) c = 0 ∨ ∃ op ∈ ops, desiredOf (gather dflt ops) c = askOf dflt c op) := by
  rw [(gather_spec dflt ops c).1]
  exact (foldl_want_ge dflt c ops 0).2

end ArvVerif.C05
