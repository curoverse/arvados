/-
What the PUT path guarantees over mounts with I/O faults (Model/C01_Fault.lean), function by function up
to `handlePutF_spec`. The model of Model/C01.lean is this one on mounts without faults
(Proofs/C01_FaultCalm.lean), so its guarantees are read off these.
-/
import ArvVerif.Model.C01_Fault
import ArvVerif.Proofs.C01_Put
namespace ArvVerif.C01
set_option linter.unusedSectionVars false

section
variable {δ β : Type} [DecidableEq δ] [DecidableEq β]

def FrameF (h : δ) (body : β) (v v' : FVol δ β) : Prop :=
  v' = v ∨ (v.vol.ro = false ∧ v.vol.full = false ∧ v.noWrite h = false ∧
    v' = { v with vol := { v.vol with files := update v.vol.files h body } })

section
variable (hash : β → δ) (size : β → Nat) (h : δ) (body : β)

theorem frameF_refl {h : δ} {body : β} (vols : List (FVol δ β)) : Pointwise (FrameF h body) vols vols :=
  .refl (fun _ => .inl rfl) vols

theorem compareAndTouchF_spec (vols : List (FVol δ β)) :
    (∀ r, compareAndTouchF hash size h body vols = .touched r →
      ∃ v ∈ vols, v.vol.ro = false ∧ v.vol.files h = some body) ∧
    (compareAndTouchF hash size h body vols = .collision →
      ∃ v ∈ vols, v.vol.ro = false ∧ ∃ f, v.vol.files h = some f ∧ f ≠ body ∧ hash f = h) := by
  induction vols with
  | nil => exact ⟨nofun, nofun⟩
  | cons v rest ih =>
    have tail := ih.imp (fun ht r hr => exists_mem_tail (a := v) (ht r hr))
      fun hc hr => exists_mem_tail (a := v) (hc hr)
    rw [compareAndTouchF]
    cases hro : v.vol.ro with
    | true => exact tail
    | false =>
      have cmp := volCompare_spec hash size h body v.vol
      cases hc : volCompare hash size v.vol h body with
      | collision => exact ⟨nofun, fun _ => ⟨v, List.mem_cons_self, hro, cmp.2 hc⟩⟩
      | same =>
        cases ht : volTouchF v h with
        | true => exact ⟨fun _ _ => ⟨v, List.mem_cons_self, hro, (cmp.1 hc).1⟩, nofun⟩
        | false => exact tail
      | _ => exact tail

theorem volWriteF_cases (v : FVol δ β) :
    (v.vol.ro = true ∧ volWriteF v h body = (.readOnly, v)) ∨
    (v.vol.ro = false ∧ v.vol.full = true ∧ volWriteF v h body = (.full, v)) ∨
    (v.vol.ro = false ∧ v.vol.full = false ∧ v.noWrite h = true ∧ volWriteF v h body = (.ioError, v)) ∨
    (v.vol.ro = false ∧ v.vol.full = false ∧ v.noWrite h = false ∧
      volWriteF v h body = (.ok, { v with vol := { v.vol with files := update v.vol.files h body } })) := by
  unfold volWriteF
  cases h1 : v.vol.ro with
  | true => exact .inl ⟨rfl, rfl⟩
  | false =>
    cases h2 : v.vol.full with
    | true => exact .inr (.inl ⟨rfl, rfl, rfl⟩)
    | false =>
      cases h3 : v.noWrite h with
      | true => exact .inr (.inr (.inl ⟨rfl, rfl, rfl, rfl⟩))
      | false => exact .inr (.inr (.inr ⟨rfl, rfl, rfl, rfl⟩))

theorem volWriteF_ok {h : δ} {body : β} {v v' : FVol δ β} (hw : volWriteF v h body = (.ok, v')) :
    v.vol.ro = false ∧ v.vol.full = false ∧ v.noWrite h = false ∧
      v' = { v with vol := { v.vol with files := update v.vol.files h body } } := by
  rcases volWriteF_cases h body v with ⟨_, hw'⟩ | ⟨_, _, hw'⟩ | ⟨_, _, _, hw'⟩ | ⟨h1, h2, h3, hw'⟩
  all_goals cases hw'.symm.trans hw
  exact ⟨h1, h2, h3, rfl⟩

/-- the write loop's result when mount `v` was passed over -/
def PutLoopResultF.keep (v : FVol δ β) : PutLoopResultF δ β → PutLoopResultF δ β
  | .ok r vs => .ok r (v :: vs)
  | .allFull => .allFull
  | .failed => .failed

theorem putLoopF_cons (v : FVol δ β) (rest : List (FVol δ β)) :
    putLoopF h body (v :: rest) =
      if v.vol.ro = true ∨ v.vol.full = true then (putLoopF h body rest).keep v
      else if v.noWrite h = true then
        match putLoopF h body rest with
        | .ok r vs => .ok r (v :: vs)
        | _ => .failed
      else .ok (effRepl v.vol) ({ v with vol := { v.vol with files := update v.vol.files h body } } :: rest) := by
  rw [putLoopF, volWriteF]
  cases v.vol.ro with
  | true => cases putLoopF h body rest <;> rfl
  | false =>
    cases v.vol.full with
    | true => cases putLoopF h body rest <;> rfl
    | false =>
      cases v.noWrite h with
      | true => cases putLoopF h body rest <;> rfl
      | false => rfl

def Written (vols vs : List (FVol δ β)) : Prop :=
  Pointwise (FrameF h body) vols vs ∧ ∃ v' ∈ vs, v'.vol.ro = false ∧ v'.vol.files h = some body

theorem Written.keep {h : δ} {body : β} {l l' : List (FVol δ β)} (hw : Written h body l l') (v : FVol δ β) :
    Written h body (v :: l) (v :: l') :=
  ⟨.cons (.inl rfl) hw.1, exists_mem_tail hw.2⟩

theorem Written.here {h : δ} {body : β} {v : FVol δ β} (hro : v.vol.ro = false) (hfu : v.vol.full = false)
    (hnw : v.noWrite h = false) (rest : List (FVol δ β)) :
    Written h body (v :: rest) ({ v with vol := { v.vol with files := update v.vol.files h body } } :: rest) :=
  ⟨.cons (.inr ⟨hro, hfu, hnw, rfl⟩) (frameF_refl rest), _, List.mem_cons_self, hro, if_pos rfl⟩

theorem putLoopF_spec (vols : List (FVol δ β)) :
    match putLoopF h body vols with
    | .ok _ vs => Written h body vols vs
    | .allFull => True
    | .failed => ∃ v ∈ vols, v.vol.ro = false ∧ v.vol.full = false ∧ v.noWrite h = true := by
  induction vols with
  | nil => trivial
  | cons v rest ih =>
    rw [putLoopF_cons]
    generalize putLoopF h body rest = res at ih
    by_cases hpass : v.vol.ro = true ∨ v.vol.full = true
    · rw [if_pos hpass]
      cases res with
      | ok r vs => exact ih.keep v
      | allFull => trivial
      | failed => exact exists_mem_tail ih
    · have ⟨hro, hfu⟩ : v.vol.ro = false ∧ v.vol.full = false := by simpa using hpass
      rw [if_neg hpass]
      by_cases hnw : v.noWrite h = true
      · rw [if_pos hnw]
        cases res with
        | ok r vs => exact ih.keep v
        | _ => exact ⟨v, List.mem_cons_self, hro, hfu, hnw⟩
      · rw [if_neg hnw]
        exact .here hro hfu (Bool.eq_false_iff.mpr hnw) rest

theorem nthWritableF_set {h : δ} {body : β} {v v' : FVol δ β} (hw : volWriteF v h body = (.ok, v')) (vols : List (FVol δ β))
    (k : Nat) : nthWritableF vols k = some v → Written h body vols (setNthWritableF v' vols k) := by
  fun_induction nthWritableF vols k with
  | case1 => nofun
  | case2 w rest k hro ih =>
    unfold setNthWritableF
    rw [if_pos hro]
    exact fun hn => (ih hn).keep w
  | case3 w rest hro =>
    rw [setNthWritableF, if_neg hro]
    intro hn
    cases hn
    have ⟨hro, hfu, hnw, hv'⟩ := volWriteF_ok hw
    exact hv' ▸ .here hro hfu hnw rest
  | case4 w rest hro k ih =>
    rw [setNthWritableF, if_neg hro]
    exact fun hn => (ih hn).keep w

theorem nthWritableF_mem :
    ∀ (vols : List (FVol δ β)) (k : Nat) (v : FVol δ β), nthWritableF vols k = some v → v ∈ vols := by
  intro vols k v
  fun_induction nthWritableF vols k with
  | case1 => nofun
  | case2 w rest k hro ih => exact fun hn => List.mem_cons_of_mem w (ih hn)
  | case3 w rest hro => exact fun hn => Option.some.inj hn ▸ List.mem_cons_self
  | case4 w rest hro k ih => exact fun hn => List.mem_cons_of_mem w (ih hn)

end

/-- What `PutBlock` guarantees about its result over mounts with faults, whatever branch was taken. -/
structure PutSpecF (h : δ) (body : β) (vols : List (FVol δ β))
    (res : PutOutcome × List (FVol δ β) × Nat) : Prop where
  frame : Pointwise (FrameF h body) vols res.2.1
  stored : ∀ r, res.1 = .ok r → ∃ v' ∈ res.2.1, v'.vol.ro = false ∧ v'.vol.files h = some body
  unchanged : (∀ r, res.1 ≠ .ok r) → res.2.1 = vols
  generic : res.1 = .generic → ∃ v ∈ vols, v.vol.ro = false ∧ v.vol.full = false ∧ v.noWrite h = true

theorem PutSpecF.of_unchanged {h : δ} {body : β} {vols : List (FVol δ β)} {o : PutOutcome} {c : Nat}
    (hok : ∀ r, o ≠ .ok r)
    (hgen : o = .generic → ∃ v ∈ vols, v.vol.ro = false ∧ v.vol.full = false ∧ v.noWrite h = true) :
    PutSpecF h body vols (o, vols, c) :=
  ⟨frameF_refl vols, fun r hr => absurd hr (hok r), fun _ => rfl, hgen⟩

theorem PutSpecF.of_written {h : δ} {body : β} {vols vs : List (FVol δ β)} {r c : Nat}
    (hw : Written h body vols vs) : PutSpecF h body vols (.ok r, vs, c) :=
  ⟨hw.1, fun _ _ => hw.2, fun hno => absurd rfl (hno r), nofun⟩

structure HandlePutSpecF (hash : β → δ) (size : β → Nat) (h : δ) (body : β) (vols : List (FVol δ β))
    (res : PutResp × List (FVol δ β) × Nat) : Prop where
  frame : Pointwise (FrameF h body) vols res.2.1
  ack : res.1.status = 200 → hash body = h ∧ size body ≤ blockSize ∧
    ∃ v' ∈ res.2.1, v'.vol.ro = false ∧ v'.vol.files h = some body
  unchanged : res.1.status ≠ 200 → res.2.1 = vols
  status500 : res.1.status = 500 → hash body = h ∧
    ((∃ v ∈ vols, v.vol.ro = false ∧ ∃ f, v.vol.files h = some f ∧ f ≠ body ∧ hash f = h) ∨
      ∃ v ∈ vols, v.vol.ro = false ∧ v.vol.full = false ∧ v.noWrite h = true)

section
variable (h : δ) (body : β)

theorem putViaLoopF_spec (vols : List (FVol δ β)) (c : Nat) :
    PutSpecF h body vols (putViaLoopF h body vols c) ∧ (putViaLoopF h body vols c).1 ≠ .collision := by
  unfold putViaLoopF
  split
  · exact ⟨.of_unchanged nofun nofun, nofun⟩
  · have hl := putLoopF_spec h body vols
    generalize putLoopF h body vols = res at hl
    cases res with
    | ok r vs => exact ⟨.of_written hl, nofun⟩
    | allFull => exact ⟨.of_unchanged nofun nofun, nofun⟩
    | failed => exact ⟨.of_unchanged nofun fun _ => hl, nofun⟩

theorem putNewF_spec (vols : List (FVol δ β)) (rr : Nat) :
    PutSpecF h body vols (putNewF h body vols rr) ∧ (putNewF h body vols rr).1 ≠ .collision := by
  unfold putNewF
  by_cases hn : writableCountF vols = 0
  · simp only [hn, if_true]; exact putViaLoopF_spec h body vols rr
  · simp only [hn, if_false]
    cases hnth : nthWritableF vols ((rr + 1) % writableCountF vols) with
    | none => exact putViaLoopF_spec h body vols (rr + 1)
    | some v =>
      simp only
      rcases hw : volWriteF v h body with ⟨wr, v'⟩
      cases wr with
      | ok => exact ⟨.of_written (nthWritableF_set hw vols _ hnth), nofun⟩
      | _ => exact putViaLoopF_spec h body vols (rr + 1)

end

section
variable (hash : β → δ) (size : β → Nat) (vols : List (FVol δ β)) (rr : Nat) (h : δ) (body : β) (cl : Bool)

theorem putBlockF_spec :
    PutSpecF h body vols (putBlockF hash size vols rr h body) ∧
    ((putBlockF hash size vols rr h body).1 ≠ .requestHash → hash body = h) ∧
    ((putBlockF hash size vols rr h body).1 = .collision →
      ∃ v ∈ vols, v.vol.ro = false ∧ ∃ f, v.vol.files h = some f ∧ f ≠ body ∧ hash f = h) := by
  unfold putBlockF
  by_cases hh : hash body = h
  · rw [if_neg (not_not_intro hh)]
    have cat := compareAndTouchF_spec hash size h body vols
    cases hc : compareAndTouchF hash size h body vols with
    | touched r =>
      exact ⟨⟨frameF_refl vols, fun _ _ => cat.1 r hc, fun _ => rfl, nofun⟩, fun _ => hh, nofun⟩
    | collision => exact ⟨.of_unchanged nofun nofun, fun _ => hh, fun _ => cat.2 hc⟩
    | miss =>
      have ⟨hs, hcol⟩ := putNewF_spec h body vols rr
      exact ⟨hs, fun _ => hh, fun hc' => absurd hc' hcol⟩
  · rw [if_pos hh]
    exact ⟨.of_unchanged nofun nofun, fun hne => absurd rfl hne, nofun⟩

theorem handlePutF_exits :
    (cl = false ∧ handlePutF hash size vols rr h body cl = ({ status := 411, replicas := none }, vols, rr)) ∨
    (size body > blockSize ∧ handlePutF hash size vols rr h body cl = ({ status := 413, replicas := none }, vols, rr)) ∨
    (writableCountF vols = 0 ∧ handlePutF hash size vols rr h body cl = ({ status := 503, replicas := none }, vols, rr)) ∨
    (cl = true ∧ size body ≤ blockSize ∧ writableCountF vols ≠ 0 ∧
      handlePutF hash size vols rr h body cl =
        (putResp (putBlockF hash size vols rr h body).1, (putBlockF hash size vols rr h body).2.1,
          (putBlockF hash size vols rr h body).2.2)) := by
  unfold handlePutF
  cases cl with
  | false => exact .inl ⟨rfl, rfl⟩
  | true =>
    by_cases hsz : size body > blockSize
    · exact .inr (.inl ⟨hsz, by simp [hsz]⟩)
    · by_cases hw : writableCountF vols = 0
      · exact .inr (.inr (.inl ⟨hw, by simp [hsz, hw]⟩))
      · refine .inr (.inr (.inr ⟨rfl, Nat.le_of_not_gt hsz, hw, ?_⟩))
        simp only [Bool.not_true, Bool.false_eq_true, if_false, hsz, hw]
        cases (putBlockF hash size vols rr h body).1 <;> rfl

theorem handlePutF_spec : HandlePutSpecF hash size h body vols (handlePutF hash size vols rr h body cl) := by
  rcases handlePutF_exits hash size vols rr h body cl with ⟨_, he⟩ | ⟨_, he⟩ | ⟨_, he⟩ | ⟨_, hsz, _, he⟩
  iterate 3
    rw [he]
    exact ⟨frameF_refl vols, nofun, fun _ => rfl, nofun⟩
  · rw [he]
    have ⟨spec, hhash, hcol⟩ := putBlockF_spec hash size vols rr h body
    refine ⟨spec.frame, ?_, ?_, ?_⟩ <;> simp only [putResp_status, ne_eq, putStatus_eq_200, putStatus_eq_500]
    · exact fun ⟨r, hr⟩ => ⟨hhash (hr ▸ nofun), hsz, spec.stored r hr⟩
    · exact fun hne => spec.unchanged fun r hr => hne ⟨r, hr⟩
    · rintro (hc | hg)
      · exact ⟨hhash (hc ▸ nofun), .inl (hcol hc)⟩
      · exact ⟨hhash (hg ▸ nofun), .inr (spec.generic hg)⟩

end

end

end ArvVerif.C01
