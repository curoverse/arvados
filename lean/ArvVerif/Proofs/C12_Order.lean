import ArvVerif.Model.C12
namespace ArvVerif.C12
variable {α β : Type}

theorem geW_iff {w : α → Nat} {a b : α} : geW w a b = true ↔ w b ≤ w a := decide_eq_true_iff

theorem probeOrder_is (w : α → Nat) (svcs : List α) : IsProbeOrder w svcs (probeOrder w svcs) := by
  refine ⟨List.mergeSort_perm _ _, (List.pairwise_mergeSort ?_ ?_ svcs).imp geW_iff.mp⟩
  · intro a b c; simp only [geW_iff]; omega
  · intro a b; simp only [Bool.or_eq_true, geW_iff]; omega

/-- Distinctness is asked on a superset `all`, so that the one hypothesis about the full service set
also serves its filtered, erased and extended variants. -/
theorem isProbeOrder_unique (w : α → Nat) {all svcs o1 o2 : List α}
    (hinj : ∀ a ∈ all, ∀ b ∈ all, w a = w b → a = b) (hsub : svcs ⊆ all)
    (h1 : IsProbeOrder w svcs o1) (h2 : IsProbeOrder w svcs o2) : o1 = o2 :=
  List.Perm.eq_of_pairwise
    (fun a b ha hb hab hba =>
      hinj a (hsub (h1.perm.mem_iff.mp ha)) b (hsub (h2.perm.mem_iff.mp hb)) (Nat.le_antisymm hba hab))
    h1.sorted h2.sorted (h1.perm.trans h2.perm.symm)

theorem isProbeOrder_erase [DecidableEq α] {w : α → Nat} {svcs o : List α} (s : α)
    (h : IsProbeOrder w svcs o) : IsProbeOrder w (svcs.erase s) (o.erase s) :=
  ⟨h.perm.erase s, h.sorted.sublist List.erase_sublist⟩

theorem isProbeOrder_filter {w : α → Nat} {svcs o : List α} (p : α → Bool)
    (h : IsProbeOrder w svcs o) : IsProbeOrder w (svcs.filter p) (o.filter p) :=
  ⟨h.perm.filter p, h.sorted.sublist List.filter_sublist⟩

theorem isProbeOrder_congr {w w' : α → Nat} {svcs out : List α} (hw : ∀ a ∈ svcs, w a = w' a)
    (h : IsProbeOrder w svcs out) : IsProbeOrder w' svcs out := by
  refine ⟨h.perm, h.sorted.imp_of_mem fun ha hb hab => ?_⟩
  rwa [← hw _ (h.perm.mem_iff.mp ha), ← hw _ (h.perm.mem_iff.mp hb)]

theorem isProbeOrder_map (key : β → α) {w : α → Nat} {svcs out : List β}
    (h : IsProbeOrder (fun s => w (key s)) svcs out) : IsProbeOrder w (svcs.map key) (out.map key) :=
  ⟨h.perm.map key, List.pairwise_map.mpr h.sorted⟩

end ArvVerif.C12
