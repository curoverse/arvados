/-
The asyncbuf machine. `BInv`, about the buffer and its readers, is kept by every call provided a
close hits an open buffer (`astep_binv`, through `ROk.later`); `WInv`, about how far the one writer has
got in `copyProg`, is what supplies that proviso (`winv_step`). Together: every reader, whenever it
was made and however its reads interleave with the writer, has received a prefix of what was
written, and once it is given an error it has received everything and the error is the one the
buffer was closed with.
-/
import ArvVerif.Model.C11_Abuf
namespace ArvVerif.C11

structure ROk (data : List Nat) (err : Option AErr) (r : ARd) : Prop where
  le : r.off ≤ data.length
  got : r.got = data.take r.off
  ended : ∀ e, r.ended = some e → err = some e ∧ data.length ≤ r.off

def BInv (b : ABuf) : Prop := ∀ r ∈ b.readers, ROk b.data b.err r

theorem take_add_chunk (l : List Nat) (a n : Nat) :
    l.take (a + ((l.drop a).take n).length) = l.take a ++ (l.drop a).take n := by
  rw [List.take_add, List.length_take, ← List.take_eq_take_min]

/-- a reader of an open buffer has not been given an error, so it is in order in whatever the buffer
becomes by writes and a close -/
theorem ROk.later {data data' : List Nat} {err' : Option AErr} {r : ARd} (h : ROk data none r)
    (hp : data <+: data') : ROk data' err' r := by
  obtain ⟨t, rfl⟩ := hp
  exact ⟨by rw [List.length_append]; exact Nat.le_add_right_of_le h.le,
    by rw [h.got, List.take_append_of_le_length h.le], fun e he => nomatch (h.ended e he).1⟩

theorem astep_binv (b : ABuf) (op : AOp) (h : BInv b) (hc : ∀ e, op = .close e → b.err = none) :
    BInv (AStep b op).1 := by
  cases op with
  | write p =>
    simp only [AStep]
    split
    · exact h
    · rename_i herr
      exact fun r hr => (herr ▸ h r hr).later (List.prefix_append _ _)
  | close e => exact fun r hr => (hc e rfl ▸ h r hr).later List.prefix_rfl
  | newReader =>
    intro r hr
    rcases List.mem_append.mp hr with hr | hr
    · exact h r hr
    · rw [List.mem_singleton.mp hr]
      exact ⟨Nat.zero_le _, rfl, fun _ he => nomatch he⟩
  | read i n =>
    simp only [AStep]
    split
    · exact h
    · rename_i r0 hr0
      obtain ⟨h1, h2, h3⟩ := h r0 (List.mem_of_getElem? hr0)
      have set : ∀ r', ROk b.data b.err r' → BInv { b with readers := b.readers.set i r' } :=
        fun r' hr' r hr => (List.mem_or_eq_of_mem_set hr).elim (h r) (· ▸ hr')
      split
      · -- bytes left: the reader cannot have been given an error yet
        rename_i hlt
        refine set _ ⟨?_, by rw [take_add_chunk, h2], fun e he => absurd (h3 e he).2 (by omega)⟩
        show r0.off + _ ≤ _
        rw [List.length_take, List.length_drop]; omega
      · split
        · rename_i e0 he0
          refine set _ ⟨h1, h2, fun e he => ⟨?_, Nat.le_of_not_lt ‹_›⟩⟩
          cases hre : r0.ended with
          | none => rw [hre] at he; exact he0.trans he
          | some e1 => rw [hre] at he; exact (h3 e1 hre).1.trans he
        · split <;> exact h

theorem astep_read_frame (b : ABuf) (i n : Nat) :
    (AStep b (.read i n)).1.data = b.data ∧ (AStep b (.read i n)).1.err = b.err := by
  simp only [AStep]
  repeat' split
  all_goals exact ⟨rfl, rfl⟩

/-- the writer of `copyProg chunks e`, by what it has left to do; `total` is what the data will be -/
def WInv (total : List Nat) (e : Option AErr) (b : ABuf) (prog : List AOp) : Prop :=
  (b.err = none ∧ ∃ rest, prog = copyProg rest e ∧ b.data ++ rest.flatten = total) ∨
  (prog = [] ∧ b.err = some (e.getD .eof) ∧ b.data = total)

theorem winv_step {total : List Nat} {e : Option AErr} {b : ABuf} {op : AOp} {prog : List AOp}
    (h : WInv total e b (op :: prog)) :
    (∀ e', op = .close e' → b.err = none) ∧ WInv total e (AStep b op).1 prog := by
  rcases h with ⟨herr, rest, hp, hd⟩ | ⟨hp, _⟩
  · cases rest with
    | nil =>
      cases hp
      exact ⟨fun _ _ => herr, Or.inr ⟨rfl, rfl, by rw [← hd]; exact (List.append_nil _).symm⟩⟩
    | cons p rest' =>
      cases hp
      refine ⟨fun _ h => (nomatch h), Or.inl ?_⟩
      have hs : (AStep b (.write p)).1 = { b with data := b.data ++ p } := by simp only [AStep, herr]
      rw [hs]
      exact ⟨herr, rest', rfl, by rw [List.append_assoc, ← List.flatten_cons]; exact hd⟩
  · cases hp

theorem runSys_inv (total : List Nat) (e : Option AErr) (sched : List Sched) (b : ABuf)
    (prog : List AOp) (hb : BInv b) (hw : WInv total e b prog) :
    BInv (runSys b prog sched).1 ∧ WInv total e (runSys b prog sched).1 (runSys b prog sched).2 := by
  induction sched generalizing b prog with
  | nil => exact ⟨hb, hw⟩
  | cons s rest ih =>
    cases s with
    | writer =>
      cases prog with
      | nil => exact ih b [] hb hw
      | cons op prog' =>
        obtain ⟨hc, hw'⟩ := winv_step hw
        exact ih _ _ (astep_binv b op hb hc) hw'
    | newReader => exact ih _ _ (astep_binv b .newReader hb fun _ h => nomatch h) hw
    | read i n =>
      refine ih _ _ (astep_binv b _ hb fun _ h => nomatch h) ?_
      rw [WInv, (astep_read_frame b i n).1, (astep_read_frame b i n).2]
      exact hw

theorem readers_of_inv {total : List Nat} {e : Option AErr} {b : ABuf} {prog : List AOp}
    (hb : BInv b) (hw : WInv total e b prog) :
    ∀ r ∈ b.readers, r.got <+: total ∧
      ∀ e', r.ended = some e' → r.got = total ∧ e' = e.getD .eof ∧ prog = [] := by
  intro r hr
  obtain ⟨_, hgot, hend⟩ := hb r hr
  constructor
  · rw [hgot]
    refine (List.take_prefix _ _).trans ?_
    rcases hw with ⟨_, rest, _, hd⟩ | ⟨_, _, hd⟩
    · exact ⟨_, hd⟩
    · exact hd ▸ List.prefix_rfl
  · intro e' he'
    obtain ⟨herr, hlen⟩ := hend e' he'
    rcases hw with ⟨hnone, _⟩ | ⟨hp, hfe, hd⟩
    · exact nomatch hnone.symm.trans herr
    · exact ⟨by rw [hgot, List.take_of_length_le hlen, hd], Option.some.inj (herr.symm.trans hfe), hp⟩

end ArvVerif.C11
