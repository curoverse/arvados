/-
C08: changes of a file that nobody can see. Segment lists of equal lengths (`SameLens`) keep every pointer valid
(`PtrOK.preserved`); the key of a file (`fileKey`: per-segment bytes and lengths, size, `repacked`) is what such a
change must not touch, and what keeps it keeps `abs`, `WF` and `PtrOK`. The two such changes on the write path:
`pruneSegs` (`PruneOK`) and the background goroutines (`settle_key`).
-/
import ArvVerif.Proofs.C08_Seek
namespace ArvVerif.C08

variable {max : Nat} {hash : Bytes → Loc} {st : Store}

def SameLens (a b : List Seg) : Prop := a.map Seg.len = b.map Seg.len

theorem SameLens.refl (a : List Seg) : SameLens a a := rfl

theorem SameLens.symm {a b : List Seg} (h : SameLens a b) : SameLens b a := Eq.symm h

theorem SameLens.trans {a b c : List Seg} (h1 : SameLens a b) (h2 : SameLens b c) : SameLens a c :=
  Eq.trans h1 h2

theorem SameLens.cons {s s' : Seg} {a b : List Seg} (hl : s'.len = s.len) (h : SameLens a b) :
    SameLens (s' :: a) (s :: b) := by
  unfold SameLens at *
  rw [List.map_cons, List.map_cons, hl, h]

theorem SameLens.length {a b : List Seg} (h : SameLens a b) : a.length = b.length := by
  have := congrArg List.length h; simpa using this

theorem SameLens.sumLen {a b : List Seg} (h : SameLens a b) : sumLen a = sumLen b := by
  unfold ArvVerif.C08.sumLen; rw [h]

theorem SameLens.take {a b : List Seg} (h : SameLens a b) (n : Nat) : SameLens (a.take n) (b.take n) := by
  unfold SameLens at *; rw [List.map_take, List.map_take, h]

theorem SameLens.get {a b : List Seg} (h : SameLens a b) (i : Nat) {s : Seg} (hs : a[i]? = some s) :
    ∃ s', b[i]? = some s' ∧ s'.len = s.len :=
  getElem?_of_map_eq h.symm hs

theorem SameLens.pos {a b : List Seg} (h : SameLens a b) {o i off : Nat} (hp : Pos a o i off) : Pos b o i off := by
  rcases hp with ⟨h1, h2, h3⟩ | ⟨s, h1, h2, h3⟩
  · exact Or.inl ⟨by rw [← h.length]; exact h1, h2, by rw [← h.sumLen]; exact h3⟩
  · obtain ⟨s', hs', hl⟩ := h.get i h1
    exact Or.inr ⟨s', hs', by omega, by rw [← (h.take i).sumLen]; exact h3⟩

theorem SameLens.located {a b : List Seg} (h : SameLens a b) {o i off : Nat} (hp : Located a o i off) :
    Located b o i off := by
  obtain ⟨s, h1, h2, h3⟩ := hp
  obtain ⟨s', hs', hl⟩ := h.get i h1
  exact ⟨s', hs', by omega, by rw [← (h.take i).sumLen]; exact h3⟩

/-- The pointer story in one step: either the file's counter moved, then every old pointer is stale and `PtrOK`
asks nothing of it; or it did not, and then the segment lengths are the same and the coordinates still fit. -/
theorem PtrOK.preserved {fn fn' : FileNode} {q : Ptr} (hq : PtrOK fn q)
    (hge : fn.repacked ≤ fn'.repacked)
    (hsame : fn'.repacked = fn.repacked → SameLens fn'.segs fn.segs ∧ fn'.size = fn.size) :
    PtrOK fn' q := by
  refine ⟨Int.le_trans hq.1 hge, fun heq => ?_⟩
  have h1 : fn'.repacked = fn.repacked := by have := hq.1; omega
  obtain ⟨hl, hsz⟩ := hsame h1
  rcases hq.2 (by omega) with h | h
  · exact Or.inl (by omega)
  · exact Or.inr ((SameLens.symm hl).located h)

/-- What must not change in a file: per-segment bytes and lengths, size, repacked. -/
def fileKey (st : Store) (fn : FileNode) : List Bytes × List Nat × Nat × Int :=
  (fn.segs.map (Seg.bytes st), fn.segs.map Seg.len, fn.size, fn.repacked)

theorem fileKey_ext {st' : Store} {fn : FileNode} (he : StoreExt st st')
    (h : ∀ s ∈ fn.segs, SegWF max hash st s) : fileKey st' fn = fileKey st fn := by
  unfold fileKey
  congr 1
  apply List.map_congr_left
  intro s hs
  exact (h s hs).bytes_ext he

theorem abs_of_key {st st' : Store} {fn fn' : FileNode} (h : fileKey st' fn' = fileKey st fn) :
    abs st' fn' = abs st fn ∧ SameLens fn'.segs fn.segs ∧ fn'.size = fn.size ∧ fn'.repacked = fn.repacked := by
  unfold fileKey at h
  simp only [Prod.mk.injEq] at h
  obtain ⟨h1, h2, h3, h4⟩ := h
  refine ⟨?_, h2, h3, h4⟩
  unfold abs absSegs
  rw [List.flatMap_def, List.flatMap_def, h1]

theorem WF.of_key {st' : Store} {fn fn' : FileNode} (hk : fileKey st' fn' = fileKey st fn) (hwf : WF max hash st fn)
    (hs : ∀ s ∈ fn'.segs, SegWF max hash st' s) : WF max hash st' fn' := by
  obtain ⟨_, h2, h3, _⟩ := abs_of_key hk
  exact ⟨by rw [h3, h2.sumLen]; exact hwf.size_eq, hs⟩

theorem PtrOK.of_key {st st' : Store} {fn fn' : FileNode} (hk : fileKey st' fn' = fileKey st fn) {q : Ptr}
    (hq : PtrOK fn q) : PtrOK fn' q := by
  obtain ⟨_, h2, h3, h4⟩ := abs_of_key hk
  exact hq.preserved (Int.le_of_eq h4.symm) (fun _ => ⟨h2, h3⟩)

theorem fileKey_set {fn : FileNode} {i : Nat} {s s' : Seg} (hs : fn.segs[i]? = some s)
    (hb : s'.bytes st = s.bytes st) (hl : s'.len = s.len) :
    fileKey st { fn with segs := fn.segs.set i s' } = fileKey st fn := by
  unfold fileKey
  simp only [List.map_set, hb, hl]
  rw [set_eq_self (by simp [hs]), set_eq_self (by simp [hs])]

theorem fileKey_get {st' : Store} {fn fn' : FileNode} (hk : fileKey st' fn' = fileKey st fn) {i : Nat} {s : Seg}
    (hs : fn.segs[i]? = some s) : ∃ s', fn'.segs[i]? = some s' ∧ s'.bytes st' = s.bytes st ∧ s'.len = s.len := by
  unfold fileKey at hk
  simp only [Prod.mk.injEq] at hk
  obtain ⟨s', hs', hb⟩ := getElem?_of_map_eq hk.1 hs
  obtain ⟨_, hs'', hl⟩ := getElem?_of_map_eq hk.2.1 hs
  cases hs'.symm.trans hs''
  exact ⟨s', hs', hb, hl⟩

/-! ### pruneMemSegments -/

/-- Contract of `pruneSegs` with result `R`: Keep only grows and stays consistent; the segments
keep their lengths and content and are well-formed over the new store. -/
def PruneOK (max : Nat) (hash : Bytes → Loc) (st : Store) (segs : List Seg) (R : List Seg × Store) : Prop :=
  StoreExt st R.2 ∧ StoreOK hash R.2 ∧ SameLens R.1 segs ∧ (∀ s ∈ R.1, SegWF max hash R.2 s) ∧
    absSegs R.2 R.1 = absSegs st segs

theorem PruneOK.refl {segs : List Seg} (hok : StoreOK hash st) (hwf : ∀ s ∈ segs, SegWF max hash st s) :
    PruneOK max hash st segs (segs, st) :=
  ⟨StoreExt.refl _, hok, rfl, hwf, rfl⟩

theorem PruneOK.cons {s s' : Seg} {rest : List Seg} {st1 : Store} {R : List Seg × Store}
    (he : StoreExt st st1) (hrest : ∀ x ∈ rest, SegWF max hash st x) (hR : PruneOK max hash st1 rest R)
    (hl : s'.len = s.len) (hw : SegWF max hash R.2 s') (hb : s'.bytes R.2 = s.bytes st) :
    PruneOK max hash st (s :: rest) (s' :: R.1, R.2) := by
  obtain ⟨h1, h2, h3, h4, h5⟩ := hR
  refine ⟨he.trans h1, h2, h3.cons hl, List.forall_mem_cons.mpr ⟨hw, h4⟩, ?_⟩
  show absSegs R.2 (s' :: R.1) = _
  rw [absSegs_cons, absSegs_cons, h5, hb, absSegs_ext he hrest]

theorem pruneSegs_ok (hinj : Function.Injective hash) :
    ∀ (segs : List Seg) (idx : Nat) (st : Store), StoreOK hash st → (∀ s ∈ segs, SegWF max hash st s) →
      PruneOK max hash st segs (pruneSegs hash max segs idx st) := by
  intro segs
  induction segs with
  | nil => intro idx st hok hwf; exact PruneOK.refl hok hwf
  | cons s rest ih =>
    intro idx st hok hwf
    rw [List.forall_mem_cons] at hwf
    -- the segment stays as it is and nothing is sent to Keep
    have hR := ih (idx + 1) st hok hwf.2
    have keep : PruneOK max hash st (s :: rest)
        (s :: (pruneSegs hash max rest (idx + 1) st).1, (pruneSegs hash max rest (idx + 1) st).2) :=
      hR.cons (StoreExt.refl _) hwf.2 rfl (hwf.1.ext hR.1) (hwf.1.bytes_ext hR.1)
    cases s with
    | stored loc sz off l => exact keep
    | mem buf fl =>
      cases fl with
      | pending i l => exact keep
      | stale => exact keep
      | none =>
        by_cases hlt : buf.length < max
        · simpa only [pruneSegs, hlt, if_true] using keep
        · -- a full buffer: its snapshot goes to Keep and the flush is pending
          have hext := Store.put_ext hinj hok buf
          have hR := ih (idx + 1) (st.put hash buf) (Store.put_ok hok buf) (fun x hx => (hwf.2 x hx).ext hext)
          simp only [pruneSegs, hlt, if_false]
          refine hR.cons (s := Seg.mem buf Flush.none) hext hwf.2 rfl ⟨hwf.1.1, hwf.1.2.1, ?_⟩ rfl
          rintro i l ⟨⟩
          exact ⟨Nat.le_refl _, fun _ => hR.1 _ _ (Store.put_get hash st buf)⟩

theorem pruneSegs_spec (hinj : Function.Injective hash) :
    ∀ (segs : List Seg) (idx : Nat) (st : Store), StoreOK hash st → (∀ s ∈ segs, SegWF max hash st s) →
      StoreExt st (pruneSegs hash max segs idx st).2 ∧ StoreOK hash (pruneSegs hash max segs idx st).2 ∧
      SameLens (pruneSegs hash max segs idx st).1 segs ∧
      (∀ s ∈ (pruneSegs hash max segs idx st).1, SegWF max hash (pruneSegs hash max segs idx st).2 s) ∧
      absSegs (pruneSegs hash max segs idx st).2 (pruneSegs hash max segs idx st).1 = absSegs st segs :=
  pruneSegs_ok hinj

/-! ### the background goroutines: settle -/

theorem settleSegs_key : ∀ (segs : List Seg) (i : Nat), (∀ s ∈ segs, SegWF max hash st s) →
    (settleSegs hash segs i).map (Seg.bytes st) = segs.map (Seg.bytes st) ∧
    (settleSegs hash segs i).map Seg.len = segs.map Seg.len ∧ ∀ s ∈ settleSegs hash segs i, SegWF max hash st s := by
  intro segs
  induction segs with
  | nil => intro i _; exact ⟨rfl, rfl, by simp [settleSegs]⟩
  | cons s rest ih =>
    intro i hwf
    rw [List.forall_mem_cons] at hwf
    obtain ⟨hs, hrest⟩ := hwf
    obtain ⟨h1, h2, h3⟩ := ih (i + 1) hrest
    have head : ∃ s', settleSegs hash (s :: rest) i = s' :: settleSegs hash rest (i + 1) ∧
        s'.len = s.len ∧ SegWF max hash st s' ∧ s'.bytes st = s.bytes st := by
      cases s with
      | stored loc sz off l => exact ⟨_, rfl, rfl, hs, rfl⟩
      | mem buf fl =>
        cases fl with
        | none => exact ⟨_, rfl, rfl, hs, rfl⟩
        | stale => exact ⟨_, rfl, rfl, hs, rfl⟩
        | pending idx l =>
          by_cases hc : idx = i ∧ l = buf.length
          · have hb := (hs.2.2 idx l rfl).2 hc.2
            exact ⟨Seg.stored (hash buf) buf.length 0 buf.length, by simp [settleSegs, hc], rfl,
              ⟨hs.1, by omega, buf, hb, rfl⟩, by rw [Seg.bytes_stored hb]; simp⟩
          · exact ⟨Seg.mem buf Flush.stale, by simp [settleSegs, hc], rfl, ⟨hs.1, hs.2.1, nofun⟩, rfl⟩
    obtain ⟨s', he, hl, hw, hb⟩ := head
    rw [he]
    exact ⟨by rw [List.map_cons, List.map_cons, hb, h1], by rw [List.map_cons, List.map_cons, hl, h2],
      List.forall_mem_cons.mpr ⟨hw, h3⟩⟩

theorem settle_key {fn : FileNode} (hwf : WF max hash st fn) :
    fileKey st (settle hash fn) = fileKey st fn ∧ ∀ s ∈ (settle hash fn).segs, SegWF max hash st s := by
  obtain ⟨h1, h2, h3⟩ := settleSegs_key (st := st) fn.segs 0 hwf.segs
  exact ⟨by unfold fileKey settle; rw [h1, h2], h3⟩

end ArvVerif.C08
