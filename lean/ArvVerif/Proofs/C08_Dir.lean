/-
C08 directory layer, for every file implementation: the filter-and-append tables, path resolution,
the possible outcomes of `openFile`, and `Rename` as a check (`renameCheck`, equivalent to `RenOK`)
followed by an effect (`renamed`).
-/
import ArvVerif.Model.C08_FS
namespace ArvVerif.C08

theorem ite_pred {α : Type} {P : α → Prop} {c : Prop} [Decidable c] {a b : α} (ha : P a) (hb : P b) :
    P (if c then a else b) := by
  split <;> assumption

theorem ite_rel {α β : Type} {R : α → β → Prop} {c : Prop} [Decidable c] {a a' : α} {b b' : β}
    (h : R a b) (h' : R a' b') : R (if c then a else a') (if c then b else b') := by
  split <;> assumption

/-! ### association lists: entries, handles and snapshots are all kept as `filter`-out-then-append -/

section Assoc
variable {κ ν : Type} [BEq κ] [LawfulBEq κ]

theorem find?_erase_self (l : List (κ × ν)) (k : κ) :
    (l.filter (fun e => !(e.1 == k))).find? (fun e => e.1 == k) = none := by
  rw [List.find?_eq_none]
  intro x hx
  simpa using (List.mem_filter.mp hx).2

theorem find?_erase_ne (l : List (κ × ν)) {k k' : κ} (hne : k' ≠ k) :
    (l.filter (fun e => !(e.1 == k))).find? (fun e => e.1 == k') = l.find? (fun e => e.1 == k') := by
  rw [List.find?_filter]
  congr 1
  funext e
  by_cases h : e.1 = k' <;> simp [h, hne]

theorem find?_put_self (l : List (κ × ν)) (k : κ) (v : ν) :
    (l.filter (fun e => !(e.1 == k)) ++ [(k, v)]).find? (fun e => e.1 == k) = some (k, v) := by
  rw [List.find?_append, find?_erase_self]
  simp

theorem find?_put_ne (l : List (κ × ν)) {k k' : κ} (v : ν) (hne : k' ≠ k) :
    (l.filter (fun e => !(e.1 == k)) ++ [(k, v)]).find? (fun e => e.1 == k') = l.find? (fun e => e.1 == k') := by
  have hb : (k == k') = false := by simpa using fun e => hne e.symm
  rw [List.find?_append, find?_erase_ne l hne]
  cases l.find? (fun e => e.1 == k') <;> simp [hb]

end Assoc

section
variable {F P W : Type}

theorem child_mem {ents : List ((Nat × String) × Node)} {d : Nat} {name : String} {n : Node}
    (h : child ents d name = some n) : ∃ e ∈ ents, e.2 = n := by
  obtain ⟨e, hf, he⟩ := Option.map_eq_some_iff.mp h
  exact ⟨e, List.mem_of_find?_eq_some hf, he⟩

theorem forall_eraseEnt {Q : (Nat × String) × Node → Prop} {ents : List ((Nat × String) × Node)}
    (h : ∀ e ∈ ents, Q e) (d : Nat) (name : String) : ∀ e ∈ eraseEnt ents d name, Q e :=
  fun e he => h e (List.mem_filter.mp he).1

theorem forall_setEnt {Q : (Nat × String) × Node → Prop} {ents : List ((Nat × String) × Node)}
    (h : ∀ e ∈ ents, Q e) (d : Nat) (name : String) (nd : Node) (hn : Q ((d, name), nd)) :
    ∀ e ∈ setEnt ents d name nd, Q e := by
  intro e he
  rcases List.mem_append.mp he with h1 | h1
  · exact forall_eraseEnt h d name e h1
  · rw [List.mem_singleton.mp h1]; exact hn

theorem setFile_tree (s : FS F P W) (f : Nat) (c : F) : (setFile s f c).ents = s.ents ∧ (setFile s f c).dirs = s.dirs := by
  unfold setFile; cases s.files[f]? <;> exact ⟨rfl, rfl⟩

theorem setFile_world (s : FS F P W) (f : Nat) (c : F) : (setFile s f c).world = s.world := by
  unfold setFile; cases s.files[f]? <;> rfl

theorem mem_setFile {s : FS F P W} {f : Nat} {c : F} {nf : String × F} (h : nf ∈ (setFile s f c).files) :
    nf ∈ s.files ∨ nf.2 = c := by
  unfold setFile at h
  cases hf : s.files[f]? with
  | none => rw [hf] at h; exact Or.inl h
  | some nc => rw [hf] at h; exact (List.mem_or_eq_of_mem_set h).imp_right (congrArg Prod.snd)

theorem setFile_get {s : FS F P W} {f : Nat} {nf : String × F} (h : s.files[f]? = some nf) (c : F) :
    (setFile s f c).files[f]? = some (nf.1, c) := by
  unfold setFile
  rw [h]
  exact List.getElem?_set_self (List.getElem?_eq_some_iff.mp h).1

theorem setFile_none {s : FS F P W} {f : Nat} (h : s.files[f]? = none) (c : F) : setFile s f c = s := by
  unfold setFile; rw [h]

theorem setFile_get_ne (s : FS F P W) {f f' : Nat} (hne : f ≠ f') (c : F) :
    (setFile s f c).files[f']? = s.files[f']? := by
  unfold setFile
  cases s.files[f]? with
  | none => rfl
  | some nf => exact List.getElem?_set_ne hne

theorem setFile_self (s : FS F P W) (f : Nat) {n : String} {c : F} (h : s.files[f]? = some (n, c)) :
    setFile s f c = s := by
  unfold setFile
  rw [h]
  obtain ⟨hf, e⟩ := List.getElem?_eq_some_iff.mp h
  simp only [← e, List.set_getElem_self]

theorem getHandle_setHandle (s : FS F P W) (h : Nat) (v : Handle P) : getHandle (setHandle s h v) h = some v := by
  simp only [getHandle, setHandle]
  rw [find?_put_self]; rfl

theorem setHandle_setHandle (s : FS F P W) (h : Nat) (a b : Handle P) :
    setHandle (setHandle s h a) h b = setHandle s h b := by
  simp only [setHandle, List.filter_append, List.filter_filter]
  congr 2
  simp

theorem setNameParent_ents (s : FS F P W) (n : Node) (name : String) (d : Nat) :
    (setNameParent s n name d).ents = s.ents := by
  cases n with
  | dir k => rfl
  | file f => simp only [setNameParent]; cases s.files[f]? <;> rfl

/-- `rlookup` only moves to a parent or to a child: what holds of the start directory and is kept by
both moves holds of the directory it ends in; and it fails only with `notdir` or `noent`. -/
theorem walk_ind {ents : List ((Nat × String) × Node)} {dirs : List (String × Nat)} {Q : Nat → Prop}
    (hup : ∀ d, Q d → Q (parentOf dirs d))
    (hdown : ∀ d name k, Q d → child ents d name = some (Node.dir k) → Q k) :
    ∀ (comps : List String) (n : Node), (∀ k, n = Node.dir k → Q k) →
      (∀ k, walk ents dirs n comps = Except.ok (Node.dir k) → Q k) ∧
      (∀ e, walk ents dirs n comps = Except.error e → e = Err.notdir ∨ e = Err.noent) := by
  intro comps
  induction comps with
  | nil => intro n hn; exact ⟨fun k h => hn k (Except.ok.inj h), nofun⟩
  | cons name rest ih =>
    intro n hn
    cases n with
    | file f => exact ⟨nofun, fun e h => by cases h; exact Or.inl rfl⟩
    | dir d =>
      simp only [walk]
      split
      · exact ih _ hn
      · split
        · exact ih _ (fun k hk => by cases hk; exact hup d (hn d rfl))
        · split
          · exact ⟨nofun, fun e h => by cases h; exact Or.inr rfl⟩
          · next nn hc => exact ih _ (fun k hk => hdown d name k (hn d rfl) (hk ▸ hc))

theorem lookupDir_ind {s : FS F P W} {Q : Nat → Prop} (h0 : Q 0) (hup : ∀ d, Q d → Q (parentOf s.dirs d))
    (hdown : ∀ d name k, Q d → child s.ents d name = some (Node.dir k) → Q k) (comps : List String) :
    (∀ d, lookupDir s comps = Except.ok d → Q d) ∧
    (∀ e, lookupDir s comps = Except.error e → e = Err.notdir ∨ e = Err.noent) := by
  obtain ⟨h1, h2⟩ := walk_ind hup hdown comps (Node.dir 0) (fun k hk => by cases hk; exact h0)
  unfold lookupDir
  cases hw : walk s.ents s.dirs (Node.dir 0) comps with
  | error e' => exact ⟨nofun, fun e h => by cases h; exact h2 _ hw⟩
  | ok n =>
    cases n with
    | dir d => exact ⟨fun k h => by cases h; exact h1 _ hw, nofun⟩
    | file f => exact ⟨nofun, fun e h => by cases h; exact Or.inl rfl⟩

theorem lookupDir_fails (s : FS F P W) (comps : List String) (e : Err)
    (h : lookupDir s comps = Except.error e) : e = Err.notdir ∨ e = Err.noent :=
  (lookupDir_ind (Q := fun _ => True) trivial (fun _ _ => trivial) (fun _ _ _ _ _ => trivial) comps).2 e h

theorem lookupDir_fails_ne_ok (s : FS F P W) (comps : List String) (e : Err)
    (h : lookupDir s comps = Except.error e) : e ≠ Err.ok := by
  rcases lookupDir_fails s comps e h with h | h <;> rw [h] <;> decide

/-- The three things `openFile` can do to the state: nothing; create the last component below the
directory its parent part resolves to; truncate an existing file. The last two only on success. -/
def OpenOut (impl : FileImpl F P W) (s : FS F P W) (dcomps : List String) (name : String) (isDir : Bool)
    (r : FS F P W × Except Err (Handle P)) : Prop :=
  r.1 = s ∨
  (∃ d hd, lookupDir s dcomps = Except.ok d ∧ r = ((addNode impl s d name isDir).1, Except.ok hd)) ∨
  ∃ f nc c hd, s.files[f]? = some nc ∧ impl.trunc nc.2 0 = Except.ok c ∧ r = (setFile s f c, Except.ok hd)

theorem OpenOut.same {impl : FileImpl F P W} {s : FS F P W} {dcomps : List String} {name : String} {isDir : Bool}
    (x : Except Err (Handle P)) : OpenOut impl s dcomps name isDir (s, x) := Or.inl rfl

theorem openFile_cases (impl : FileImpl F P W) (s : FS F P W) (path : String) (acc : Nat)
    (app cre excl trunc sync dirPerm : Bool) :
    OpenOut impl s (splitDirBase path).1 (splitDirBase path).2 dirPerm
      (openFile impl s path acc app cre excl trunc sync dirPerm) := by
  unfold openFile
  obtain ⟨dcomps, name⟩ := splitDirBase path
  dsimp only
  -- one `ite_pred` per `if` of `openFile`, in the order they are written
  refine ite_pred (OpenOut.same _) ?_
  cases hl : lookupDir s dcomps with
  | error e => exact OpenOut.same _
  | ok d =>
    dsimp only
    refine ite_pred (OpenOut.same _) (ite_pred (OpenOut.same _) (ite_pred (OpenOut.same _)
      (ite_pred (OpenOut.same _) ?_)))
    cases child s.ents d name with
    | none => exact ite_pred (OpenOut.same _) (Or.inr (Or.inl ⟨d, _, hl, rfl⟩))
    | some n =>
      refine ite_pred (OpenOut.same _) (ite_pred (ite_pred (OpenOut.same _) ?_) (OpenOut.same _))
      cases n with
      | dir k => exact OpenOut.same _
      | file f =>
        dsimp only
        cases hf : s.files[f]? with
        | none => exact OpenOut.same _
        | some nc =>
          dsimp only
          cases hc : impl.trunc nc.2 0 with
          | error e => exact OpenOut.same _
          | ok c' => exact Or.inr (Or.inr ⟨f, nc, c', _, hf, hc, rfl⟩)

/-- What `fileSystem.Rename` checks before it changes anything: source directory and name, target
directory and name, the node to move. -/
def renameCheck (s : FS F P W) (old new : String) : Except Err (Nat × String × Nat × String × Node) :=
  let (ocomps, oldname) := splitDirBase old
  if special oldname then throw Err.inval else
  match lookupDir s ocomps with
  | Except.error e => throw e
  | Except.ok od =>
    let (ncomps, newname0) := splitDirBase new
    if newname0 == "." || newname0 == ".." then throw Err.inval else
    let newname := if newname0 == "" then oldname else newname0
    match lookupDir s ncomps with
    | Except.error e => throw e
    | Except.ok nd =>
      match child s.ents od oldname with
      | none => throw Err.noent
      | some n =>
        let locked := ancestors s.dirs s.dirs.length od ++ ancestors s.dirs s.dirs.length nd
        let intoItself := match n with
          | Node.dir k => locked.contains k
          | Node.file _ => false
        if intoItself then throw Err.inval else
        match child s.ents nd newname with
        | some (Node.dir _) => throw Err.isdir
        | _ => pure (od, oldname, nd, newname, n)

def renamed (s : FS F P W) (od : Nat) (oldname : String) (nd : Nat) (newname : String) (n : Node) : FS F P W :=
  let s2 := setNameParent { s with ents := setEnt s.ents nd newname n } n newname nd
  { s2 with ents := if od = nd ∧ oldname = newname then s2.ents else eraseEnt s2.ents od oldname }

theorem doRename_eq (s : FS F P W) (old new : String) :
    doRename s old new =
      match renameCheck s old new with
      | Except.error e => (s, Res.err e)
      | Except.ok (od, oldname, nd, newname, n) => (renamed s od oldname nd newname n, Res.err Err.ok) := by
  unfold doRename renameCheck
  obtain ⟨ocomps, oldname⟩ := splitDirBase old
  obtain ⟨ncomps, newname0⟩ := splitDirBase new
  dsimp only
  cases special oldname with
  | true => rfl
  | false =>
    cases lookupDir s ocomps with
    | error e => rfl
    | ok od =>
      cases (newname0 == "." || newname0 == "..") with
      | true => rfl
      | false =>
        cases lookupDir s ncomps with
        | error e => rfl
        | ok nd =>
          dsimp only
          cases child s.ents od oldname with
          | none => rfl
          | some n =>
            generalize (if (newname0 == "") = true then oldname else newname0) = newname
            generalize child s.ents nd newname = c
            cases n with
            | file f => rcases c with _ | _ | _ <;> rfl
            | dir k =>
              simp only [Bool.false_eq_true, if_false]
              split
              · rfl
              · rcases c with _ | _ | _ <;> rfl

/-- `o`, `nw`: the split source and target paths; a target path ending in `/` keeps the source name -/
def newName (o nw : List String × String) : String := if (nw.2 == "") = true then o.2 else nw.2

def RenOK (s : FS F P W) (o nw : List String × String) (od nd : Nat) (n : Node) : Prop :=
  special o.2 = false ∧ (nw.2 == "." || nw.2 == "..") = false ∧
  lookupDir s o.1 = Except.ok od ∧ lookupDir s nw.1 = Except.ok nd ∧
  child s.ents od o.2 = some n ∧
  (∀ k, n = Node.dir k →
    (ancestors s.dirs s.dirs.length od ++ ancestors s.dirs s.dirs.length nd).contains k = false) ∧
  (∀ k, child s.ents nd (newName o nw) ≠ some (Node.dir k))

def RenameSpec (s : FS F P W) (o nw : List String × String) : Except Err (Nat × String × Nat × String × Node) → Prop
  | Except.error e => e ≠ Err.ok
  | Except.ok (od, oldname, nd, newname, n) => oldname = o.2 ∧ newname = newName o nw ∧ RenOK s o nw od nd n

theorem renameCheck_spec (s : FS F P W) (old new : String) :
    RenameSpec s (splitDirBase old) (splitDirBase new) (renameCheck s old new) := by
  unfold renameCheck
  obtain ⟨ocomps, oldname⟩ := splitDirBase old
  obtain ⟨ncomps, newname0⟩ := splitDirBase new
  dsimp only
  cases hsp : special oldname with
  | true => exact nofun
  | false =>
    cases hod : lookupDir s ocomps with
    | error e => exact lookupDir_fails_ne_ok s _ e hod
    | ok od =>
      cases hdot : (newname0 == "." || newname0 == "..") with
      | true => exact nofun
      | false =>
        cases hnd : lookupDir s ncomps with
        | error e => exact lookupDir_fails_ne_ok s _ e hnd
        | ok nd =>
          dsimp only
          cases hch : child s.ents od oldname with
          | none => exact nofun
          | some n =>
            dsimp only
            generalize hb : (match n with
              | Node.dir k => (ancestors s.dirs s.dirs.length od ++ ancestors s.dirs s.dirs.length nd).contains k
              | Node.file _ => false) = b
            cases b with
            | true => exact nofun
            | false =>
              simp only [Bool.false_eq_true, if_false]
              split
              · exact nofun
              · rename_i hex
                exact ⟨rfl, rfl, hsp, hdot, hod, hnd, hch, fun k hk => by subst hk; exact hb, hex⟩

theorem renameCheck_of_ok {s : FS F P W} {old new : String} {od nd : Nat} {n : Node}
    (h : RenOK s (splitDirBase old) (splitDirBase new) od nd n) :
    renameCheck s old new =
      Except.ok (od, (splitDirBase old).2, nd, newName (splitDirBase old) (splitDirBase new), n) := by
  revert h
  unfold renameCheck RenOK newName
  obtain ⟨ocomps, oldname⟩ := splitDirBase old
  obtain ⟨ncomps, newname0⟩ := splitDirBase new
  rintro ⟨h1, h2, h3, h4, h5, h6, h7⟩
  dsimp only at *
  rw [if_neg (by simp [h1]), h3]
  dsimp only
  rw [if_neg (by simp [h2]), h4]
  dsimp only
  rw [h5]
  dsimp only
  generalize hb : (match n with
    | Node.dir k => (ancestors s.dirs s.dirs.length od ++ ancestors s.dirs s.dirs.length nd).contains k
    | Node.file _ => false) = b
  have hinto : b = false := by
    subst hb
    cases n with
    | dir k => exact h6 k rfl
    | file f => rfl
  rw [hinto, if_neg Bool.false_ne_true]
  split
  · rename_i k hk; exact absurd hk (h7 k)
  · rfl

theorem renamed_ents (s : FS F P W) (od : Nat) (oldname : String) (nd : Nat) (newname : String) (n : Node) :
    (renamed s od oldname nd newname n).ents =
      if od = nd ∧ oldname = newname then setEnt s.ents nd newname n
      else eraseEnt (setEnt s.ents nd newname n) od oldname := by
  simp only [renamed, setNameParent_ents]

theorem forall_renamed_ents {Q : (Nat × String) × Node → Prop} {s : FS F P W} (h : ∀ e ∈ s.ents, Q e)
    (od : Nat) (oldname : String) {nd : Nat} {newname : String} {n : Node} (hn : Q ((nd, newname), n)) :
    ∀ e ∈ (renamed s od oldname nd newname n).ents, Q e := by
  rw [renamed_ents]
  split
  · exact forall_setEnt h nd newname n hn
  · exact forall_eraseEnt (forall_setEnt h nd newname n hn) od oldname

theorem renamed_dirs (s : FS F P W) (od : Nat) (oldname : String) (nd : Nat) (newname : String) (n : Node) :
    (renamed s od oldname nd newname n).dirs =
      match n with
      | Node.dir k => s.dirs.set k (newname, nd)
      | Node.file _ => s.dirs := by
  cases n with
  | dir k => rfl
  | file f => simp only [renamed, setNameParent]; cases s.files[f]? <;> rfl

end
end ArvVerif.C08
