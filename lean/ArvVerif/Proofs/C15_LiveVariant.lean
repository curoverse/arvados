/-
The variant `mu` of the C15 liveness system under a local change of the state: one container replaced, one
instance replaced, an instance replaced while containers come or go. Proofs/C15_LiveDescent.lean applies these
to each constructor of `Step`.
-/
import ArvVerif.Model.C15_Live
import ArvVerif.Proofs.Lib_List
namespace ArvVerif.C15
open ArvVerif.C14 (Uuid IType)

@[simp] theorem sumBy_nil {α : Type} (f : α → Nat) : sumBy f [] = 0 := rfl
@[simp] theorem sumBy_cons {α : Type} (f : α → Nat) (x : α) (l : List α) : sumBy f (x :: l) = f x + sumBy f l := by
  simp [sumBy]
@[simp] theorem sumBy_append {α : Type} (f : α → Nat) (l₁ l₂ : List α) :
    sumBy f (l₁ ++ l₂) = sumBy f l₁ + sumBy f l₂ := by
  simp [sumBy]

theorem sumBy_mid {α : Type} (f : α → Nat) (pre post : List α) (x : α) :
    sumBy f (pre ++ x :: post) = sumBy f pre + f x + sumBy f post := by
  simp only [sumBy_append, sumBy_cons]; omega

theorem sumBy_le {α : Type} (f g : α → Nat) (l : List α) (h : ∀ x ∈ l, f x ≤ g x) : sumBy f l ≤ sumBy g l :=
  Lib.sum_map_le h

theorem sumBy_lt {α : Type} (f g : α → Nat) (l : List α) (h : ∀ x ∈ l, f x ≤ g x) (x0 : α) (hx : x0 ∈ l)
    (hlt : f x0 < g x0) : sumBy f l < sumBy g l := by
  obtain ⟨pre, post, rfl⟩ := List.append_of_mem hx
  have := sumBy_le f g pre fun y hy => h y (List.mem_append_left _ hy)
  have := sumBy_le f g post fun y hy => h y (List.mem_append_right _ (List.mem_cons_of_mem _ hy))
  rw [sumBy_mid, sumBy_mid]
  omega

theorem sumBy_eq_zero {α : Type} (f : α → Nat) (l : List α) : sumBy f l = 0 ↔ ∀ x ∈ l, f x = 0 := by
  induction l with
  | nil => simp
  | cons x rest ih =>
    simp only [sumBy_cons, List.mem_cons, forall_eq_or_imp]
    rw [← ih]
    omega

theorem unallocOk_mid (ipre ipost : List Inst) (i : Inst) (t : IType) :
    unallocOk (ipre ++ i :: ipost) t = unallocOk ipre t + (i.unallocOk t).toNat + unallocOk ipost t := by
  unfold unallocOk
  rw [List.countP_append, List.countP_cons]
  cases i.unallocOk t <;> simp <;> omega

theorem unallocOk_snoc (is : List Inst) (i : Inst) (t : IType) :
    unallocOk (is ++ [i]) t = unallocOk is t + (i.unallocOk t).toNat :=
  unallocOk_mid is [] i t

theorem unallocOk_le_real (is : List Inst) (t : IType) : unallocOk is t ≤ unallocReal is t := by
  unfold unallocOk unallocReal
  apply List.countP_mono_left
  intro i _ h
  unfold Inst.unallocOk at h
  simp only [Bool.and_eq_true] at h
  exact h.1

theorem deficit_inst_le (types : List IType) (cs : List Ctr) (ipre ipost : List Inst) (i i' : Inst)
    (h : ∀ t, waiting cs t = 0 ∨ (i.unallocOk t = true → i'.unallocOk t = true)) :
    deficit types cs (ipre ++ i' :: ipost) ≤ deficit types cs (ipre ++ i :: ipost) := by
  unfold deficit
  apply sumBy_le
  intro t _
  rw [unallocOk_mid, unallocOk_mid]
  rcases h t with h0 | h1
  · rw [h0]; omega
  · have : (i.unallocOk t).toNat ≤ (i'.unallocOk t).toNat := by
      cases h2 : i.unallocOk t
      · simp
      · simp [h1 h2]
    omega

/-- The guard of `create` counts `unallocReal` (what the dispatcher can see), `deficit` only the instances that
really are usable, `unallocOk ≤ unallocReal`: when the guard holds the new instance is one `deficit` misses too. -/
theorem deficit_create (types : List IType) (cs : List Ctr) (is : List Inst) (t : IType)
    (ht : t ∈ types) (h : unallocReal is t < waiting cs t) :
    deficit types cs (is ++ [⟨t, .ok, .creating⟩]) < deficit types cs is := by
  unfold deficit
  apply sumBy_lt _ _ _ _ t ht
  · rw [unallocOk_snoc]
    have h1 := unallocOk_le_real is t
    have : (Inst.unallocOk ⟨t, .ok, .creating⟩ t).toNat = 1 := by
      simp [Inst.unallocOk, Inst.unallocReal]
    omega
  · intro t' _
    rw [unallocOk_snoc]
    omega

theorem Mu.lt_of_c {a b : Mu} (hf : a.f = b.f) (hq : a.q = b.q) (hr : a.r = b.r) (hc : a.c < b.c) : a.lt b := by
  unfold Mu.lt; omega

theorem Mu.lt_of_d {a b : Mu} (hf : a.f = b.f) (hq : a.q = b.q) (hr : a.r = b.r) (hc : a.c = b.c)
    (hd : a.d < b.d) : a.lt b := by
  unfold Mu.lt; omega

theorem Mu.lt_of_i {a b : Mu} (hf : a.f = b.f) (hq : a.q = b.q) (hr : a.r = b.r) (hc : a.c ≤ b.c)
    (hd : a.d ≤ b.d) (hi : a.i < b.i) : a.lt b := by
  unfold Mu.lt; omega

/-- At quota and during recovery `mu` takes 0 for `d`: `create`, the one step that lowers `deficit`, is disabled
there, and when the flag clears `q` resp. `r` falls, so `d` may come back at any value. -/
theorem mu_d (s : LState) (hq : s.atQuota = false) (hr : s.recovering = false) :
    (mu s).d = deficit s.types s.ctrs s.insts := by
  unfold mu
  simp only [hq, hr, Bool.or_self, Bool.false_eq_true, if_false]

theorem lt_ctr {s : LState} {pre post : List Ctr} {c c' : Ctr} (h1 : s.ctrs = pre ++ c :: post)
    (h : crank s.atQuota c'.ph < crank s.atQuota c.ph) :
    (mu { s with ctrs := pre ++ c' :: post }).lt (mu s) := by
  refine Mu.lt_of_c (by rfl) (by rfl) (by rfl) ?_
  simp only [mu, h1, sumBy_mid]
  omega

theorem eq_ctr_q {s : LState} {pre post : List Ctr} {c c' : Ctr} (h1 : s.ctrs = pre ++ c :: post)
    (hq : s.atQuota = true) (h : crank true c'.ph = crank true c.ph) :
    mu { s with ctrs := pre ++ c' :: post } = mu s := by
  unfold mu
  simp only [h1, sumBy_mid, hq, h, Bool.true_or, if_true]

section
variable {s : LState} {ipre ipost : List Inst} {i i' : Inst} (h1 : s.insts = ipre ++ i :: ipost)
include h1

theorem lt_inst' (hc : i'.crank ≤ i.crank)
    (hd : s.atQuota = false → s.recovering = false →
      deficit s.types s.ctrs (ipre ++ i' :: ipost) ≤ deficit s.types s.ctrs (ipre ++ i :: ipost))
    (hi : i'.irank < i.irank) : (mu { s with insts := ipre ++ i' :: ipost }).lt (mu s) := by
  refine Mu.lt_of_i (by rfl) (by rfl) (by rfl) ?_ ?_ ?_
  · simp only [mu, h1, sumBy_mid]
    omega
  · simp only [mu]
    split
    · exact Nat.le_refl _
    · rename_i hn
      simp only [Bool.or_eq_true, not_or, Bool.not_eq_true] at hn
      rw [h1]
      exact hd hn.1 hn.2
  · simp only [mu, h1, sumBy_mid]
    omega

theorem lt_inst (hc : i'.crank ≤ i.crank) (hu : ∀ t, i.unallocOk t = true → i'.unallocOk t = true)
    (hi : i'.irank < i.irank) : (mu { s with insts := ipre ++ i' :: ipost }).lt (mu s) :=
  lt_inst' h1 hc (fun _ _ => deficit_inst_le _ _ _ _ _ _ fun t => .inr (hu t)) hi

/-- `n`, `n'` are the job ranks of the instance before and after -/
theorem lt_move (cs' : List Ctr) {n n' : Nat} (hn : i.crank = n) (hn' : i'.crank = n')
    (h : sumBy (fun c => crank s.atQuota c.ph) cs' + n' < sumBy (fun c => crank s.atQuota c.ph) s.ctrs + n) :
    (mu { s with ctrs := cs', insts := ipre ++ i' :: ipost }).lt (mu s) := by
  refine Mu.lt_of_c (by rfl) (by rfl) (by rfl) ?_
  simp only [mu, h1, sumBy_mid]
  omega

theorem lt_release (extra : List Ctr) {n n' : Nat} (hn : i.crank = n) (hn' : i'.crank = n')
    (h : sumBy (fun c => crank s.atQuota c.ph) extra + n' < n) :
    (mu { s with ctrs := s.ctrs ++ extra, insts := ipre ++ i' :: ipost }).lt (mu s) :=
  lt_move h1 _ hn hn' (by rw [sumBy_append]; omega)

end

end ArvVerif.C15
