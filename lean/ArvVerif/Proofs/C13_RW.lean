/-
C13: reader/writer locks with writer preference. Operations that ask only
for locks ranking above everything they hold cannot form a wait-for cycle, pending writers included;
a re-entrant read lock can.
-/
import ArvVerif.Model.C13_RW
import ArvVerif.Proofs.C13_Lock
namespace ArvVerif.C13.RW
open ArvVerif.C13.Lock (Lk)

variable {rank : Lk → Nat}

/-- The measure that grows along every wait edge between operations that both wait: twice the rank of the lock
asked for, plus one for a write lock. If `j` holds the lock `i` asks for, what `j` asks for ranks above it; if
`j` is a pending writer on the lock `i` wants to read, the rank is the same and the `+ 1` decides. -/
def mu (rank : Lk → Nat) (o : ROp) : Nat :=
  match o.want with
  | some a => 2 * rank a.1 + (if a.2 = Mode.w then 1 else 0)
  | none => 0

def muAt (rank : Lk → Nat) (ops : List ROp) (i : Nat) : Nat :=
  match ops[i]? with
  | some o => mu rank o
  | none => 0

def Waiting (ops : List ROp) (i : Nat) : Prop := ∃ o a, ops[i]? = some o ∧ o.want = some a

theorem Waits.waiting {ops : List ROp} {i j : Nat} (h : Waits ops i j) : Waiting ops i := by
  obtain ⟨oi, _, a, hi, _, ha, _⟩ := h
  exact ⟨oi, a, hi, ha⟩

theorem Path.waiting {ops : List ROp} {i k : Nat} (h : Path ops i k) : Waiting ops i := by
  cases h with
  | single hw => exact hw.waiting
  | cons hw _ => exact hw.waiting

theorem waits_mu {ops : List ROp} (hord : ∀ o ∈ ops, Ordered rank o) {i j : Nat} (hw : Waits ops i j)
    (hj : Waiting ops j) : muAt rank ops i < muAt rank ops j := by
  obtain ⟨oi, oj, a, hi, hoj, ha, hb⟩ := hw
  obtain ⟨oj', b, hoj', hbj⟩ := hj
  rw [hoj] at hoj'; cases hoj'
  simp only [muAt, mu, hi, hoj, ha]
  rcases hb with ⟨h, hh, hl, _⟩ | ⟨hr, hwant⟩
  · -- `j` holds the lock: what `j` wants ranks above it
    have := hord oj (List.mem_of_getElem? hoj) b hbj h hh
    simp only [hbj, ← hl]
    split <;> split <;> omega
  · -- `j` is a pending writer on the lock `i` wants to read
    simp [hwant, hr]

theorem path_mu {ops : List ROp} (hord : ∀ o ∈ ops, Ordered rank o) {i k : Nat} (hp : Path ops i k) :
    Waiting ops k → muAt rank ops i < muAt rank ops k := by
  induction hp with
  | single hw => exact waits_mu hord hw
  | cons hw hp ih =>
    intro hk
    have h1 := waits_mu hord hw hp.waiting
    have h2 := ih hk
    omega

/-- **No wait-for cycle** among operations that keep the discipline, with read locks shared, write
locks exclusive and pending writers blocking new readers. -/
theorem no_cycle {ops : List ROp} (hord : ∀ o ∈ ops, Ordered rank o) (i : Nat) : ¬ Path ops i i := by
  intro hp
  have := path_mu hord hp hp.waiting
  omega

theorem script_ordered {script : List (Lk × Mode)}
    (h : script.Pairwise (fun a b => rank a.1 < rank b.1)) (k : Nat) : Ordered rank (atStep script k) := by
  intro a ha x hx
  obtain ⟨j, hj, rfl⟩ := List.mem_take_iff_getElem.mp hx
  obtain ⟨hkl, rfl⟩ := List.getElem?_eq_some_iff.mp ha
  exact List.pairwise_iff_getElem.mp h j k (by omega) hkl (by omega)

theorem single_inc (a : Lk × Mode) : [a].Pairwise (fun a b => rank a.1 < rank b.1) :=
  List.pairwise_singleton _ _

theorem pair_inc {par dep : Nat → Nat} (ht : Lock.TreeOK par dep) {d c : Nat} (hc : c ≠ 0) (hp : par c = d)
    (m1 m2 : Mode) :
    [(d + 1, m1), (c + 1, m2)].Pairwise (fun a b => Lock.ldepth dep a.1 < Lock.ldepth dep b.1) := by
  have := (ht.up c hc).2
  rw [hp] at this
  simp [Lock.ldepth]
  omega

/-- **A re-entrant read lock deadlocks** as soon as a writer is pending: the reader's second RLock
waits for the pending writer, the pending writer waits for the reader's first lock. -/
theorem reentrant_read_cycle (l : Lk) :
    Path [⟨[(l, Mode.r)], some (l, Mode.r)⟩, ⟨[], some (l, Mode.w)⟩] 0 0 := by
  refine Path.cons (j := 1) ?_ (Path.single ?_)
  · exact ⟨_, _, (l, Mode.r), rfl, rfl, rfl, Or.inr ⟨rfl, rfl⟩⟩
  · exact ⟨_, _, (l, Mode.w), rfl, rfl, rfl, Or.inl ⟨(l, Mode.r), List.mem_singleton.mpr rfl, rfl, Or.inr rfl⟩⟩

/-- … and that state is what the re-entrant Seek of C13-h reaches after its first acquisition -/
theorem reentrantSeek_state (n : Nat) :
    atStep (reentrantSeekScript n) 1 = ⟨[(n + 1, Mode.r)], some (n + 1, Mode.r)⟩ := rfl

theorem reentrantSeek_not_ordered (n : Nat) : ¬ Ordered rank (atStep (reentrantSeekScript n) 1) := by
  intro h
  have := h (n + 1, Mode.r) rfl (n + 1, Mode.r) (List.mem_singleton.mpr rfl)
  omega

end ArvVerif.C13.RW
