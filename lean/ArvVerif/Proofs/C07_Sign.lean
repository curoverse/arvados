/-
C07: the signer. The MAC input `hash@token@expiry@ttl` determines its four components (for
fixed-length hash and expiry and a TTL field without `@`); the signature text is 40 lowercase hex
digits; on a string given by its fields `SignLocator` appends one field (`signLocator_hints`), the
result is in the grammar, and it is what blob.rb computes from Go's timestamp text.
-/
import ArvVerif.Proofs.C07_Match
import ArvVerif.Proofs.C07_Hex
namespace ArvVerif.C07
variable (mac : Str → Str → List UInt8)

theorem sigMessage_injective {h h' t t' e e' l l' : Str}
    (hh : h.length = h'.length) (he : e.length = e'.length) (hl : Free '@' l) (hl' : Free '@' l')
    (hm : sigMessage h t e l = sigMessage h' t' e' l') : h = h' ∧ t = t' ∧ e = e' ∧ l = l' := by
  unfold sigMessage at hm
  obtain ⟨h1, rfl⟩ := last_sep_unique hl hl' hm
  obtain ⟨h2, h3⟩ := List.append_inj' h1 (by simp [he])
  obtain ⟨rfl, h4⟩ := List.append_inj h2 hh
  simp only [List.cons.injEq, true_and] at h3 h4
  exact ⟨rfl, h4, h3, rfl⟩

theorem intHex_free_at (v : Int) : Free '@' (intHex v) := by
  have h (n : Nat) : Free '@' (natHex n) := free_of_all (by decide) (natHex_lowerHex n)
  unfold intHex
  split
  · exact h _
  · exact free_cons.mpr ⟨by decide, h _⟩

theorem hexOfDigest_length (d : List UInt8) : (hexOfDigest d).length = 2 * d.length := by
  induction d with
  | nil => rfl
  | cons b bs ih => simp only [hexOfDigest, List.flatMap_cons] at ih ⊢; simp [ih]; omega

theorem hexOfDigest_lowerHex (d : List UInt8) : (hexOfDigest d).all isLowerHex = true := by
  rw [List.all_eq_true]
  intro c hc
  simp only [hexOfDigest, List.mem_flatMap, List.mem_cons, List.not_mem_nil, or_false] at hc
  obtain ⟨b, _, rfl | rfl⟩ := hc
  · exact isLowerHex_digitChar _ (by have := b.toNat_lt; omega)
  · exact isLowerHex_digitChar _ (Nat.mod_lt _ (by decide))

theorem makePermSignature_shape (hmac : ∀ k m, (mac k m).length = 20) (h t e l k : Str) :
    (makePermSignature mac h t e l k).length = 40 ∧
      (makePermSignature mac h t e l k).all isLowerHex = true := by
  unfold makePermSignature
  exact ⟨by rw [hexOfDigest_length, hmac], hexOfDigest_lowerHex _⟩

theorem signLocator_hints {tok key h : Str} (hk : key ≠ []) (ht : tok ≠ []) (hh : Free '+' h)
    (fs : List Str) (exp ttlNs : Int) :
    signLocator mac (h ++ hints fs) tok exp ttlNs key = h ++ hints (fs ++
      [sigField (makePermSignature mac h tok (fmt08x exp) (ttlHex ttlNs) key) (fmt08x exp)]) := by
  simp [signLocator, hk, ht, sigHint, sigField, hashPart_hints fs hh, hints_append]

theorem fmt08x_hintChars (v : Int) : (fmt08x v).all isHintChar = true := by
  have h (w n : Nat) : (padLeft w (natHex n)).all isHintChar = true := by
    simp [padLeft, all_isHintChar_of_all_isLowerHex (natHex_lowerHex n),
      show isHintChar '0' = true by decide]
  unfold fmt08x
  split
  · exact h _ _
  · simp [h, show isHintChar '-' = true by decide]

/-- The signature hint `SignLocator` writes consists of hint characters (`[A-Za-z0-9@_-]`), so it has
no `+`, no `/` (`free_of_all`) and no whitespace (`not_isSpace_of_isHintChar`). It applies to
`sigField (makePermSignature …) (fmt08x …)` because `makePermSignature` is `hexOfDigest (mac …)` by
definition. -/
theorem sigField_hintChars (d : List UInt8) (v : Int) :
    (sigField (hexOfDigest d) (fmt08x v)).all isHintChar = true := by
  simp [sigField, all_isHintChar_of_all_isLowerHex (hexOfDigest_lowerHex d), fmt08x_hintChars,
    show isHintChar 'A' = true by decide, show isHintChar '@' = true by decide]

theorem not_isSpace_of_isHintChar {c : Char} (h : isHintChar c = true) : isSpace c = false := by
  cases hs : isSpace c
  · rfl
  · simp only [isSpace, Bool.or_eq_true, beq_iff_eq] at hs
    rcases hs with (((rfl | rfl) | rfl) | rfl) | rfl <;> exact absurd h (by decide)

theorem signed_isSignedLocator {loc hash tok key : Str} {exp ttlNs : Int} {hs2 : List Str}
    (hloc : IsUnsignedLocator loc hash) (hk : key ≠ []) (ht : tok ≠ [])
    (h0 : 0 ≤ exp) (h32 : exp < 2 ^ 32) (hmac : ∀ k m, (mac k m).length = 20)
    (hh2 : ∀ f ∈ hs2, isOtherHint f = true) :
    IsSignedLocator (signLocator mac loc tok exp ttlNs key ++ hints hs2) hash
      (makePermSignature mac hash tok (fmt08x exp) (ttlHex ttlNs) key) (fmt08x exp) := by
  obtain ⟨size, hs, rfl, hl, hx, hsize, hh⟩ := hloc
  obtain ⟨el, elx, _⟩ := fmt08x_nonneg h0 h32
  obtain ⟨sl, slx⟩ := makePermSignature_shape mac hmac hash tok (fmt08x exp) (ttlHex ttlNs) key
  refine ⟨size, hs, hs2, ?_, hl, hx, hsize, hh, sl, all_isXDigit_of_all_isLowerHex slx, el,
    all_isXDigit_of_all_isLowerHex elx, hh2⟩
  rw [signLocator_hints mac hk ht (free_of_all (by decide) hx), List.append_assoc, ← hints_append]
  simp

theorem makePermSignature_eq_ref (h t e l key : Str) :
    makePermSignature mac h t e l key = Ref.generateSignature mac key h t e l := by
  simp [makePermSignature, sigMessage, Ref.generateSignature, Ref.message]

/-- Go's `SignLocator` is blob.rb's algorithm applied to Go's timestamp text. -/
theorem signLocator_eq_ref {tok key : Str} (hk : key ≠ []) (ht : tok ≠ []) (loc : Str) (exp : Int)
    {ttlSecs frac : Nat} (hfrac : frac < 1000000000) :
    signLocator mac loc tok exp ((ttlSecs : Int) * 1000000000 + frac) key =
      Ref.signLocatorTs mac loc tok (fmt08x exp) ttlSecs key := by
  simp [signLocator, hk, ht, sigHint, ttlHex_of_nat hfrac, makePermSignature_eq_ref,
    Ref.signLocatorTs, hashPart]

end ArvVerif.C07
