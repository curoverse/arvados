/-
C10 — paths as lists of components. A stream name and a file name inside the grammar join to `./c1/…/cn` with
no component empty, `.` or `..` (`KeyOk`, `pathOfKey`, `path_components`); on such a path `path.Clean` and
`fixStreamName` change nothing. On any path that starts with `.` or `./`, `path.Clean` never lengthens and
strictly shortens when a component is empty or `.` (`cleanComps_total`): hence a path that `fixStreamName`
leaves alone has no trailing slash in its stream name, and the path under which `segment()` looks up the
zero-length `.` directory marker is no token's path.
-/
import ArvVerif.Proofs.C10_Text
namespace ArvVerif.C10

theorem componentsOk_mem {cs : List Bytes} (h : componentsOk cs = true) {c : Bytes} (hc : c ∈ cs) :
    c ≠ [] ∧ c ≠ [bDot] ∧ c ≠ [bDot, bDot] := by
  unfold componentsOk at h
  have := List.all_eq_true.mp h c hc
  simpa using this

theorem componentsOk_cons {c : Bytes} {cs : List Bytes} (h : componentsOk (c :: cs) = true) :
    (c ≠ [] ∧ c ≠ [bDot] ∧ c ≠ [bDot, bDot]) ∧ componentsOk cs = true := by
  refine ⟨componentsOk_mem h (List.mem_cons_self), ?_⟩
  unfold componentsOk at h ⊢
  simp only [List.all_cons, Bool.and_eq_true] at h
  exact h.2

theorem componentsOk_append (a b : List Bytes) : componentsOk (a ++ b) = (componentsOk a && componentsOk b) := by
  unfold componentsOk
  exact List.all_append

theorem cleanComps_ok (r : Bool) : ∀ (cs st : List Bytes), componentsOk cs = true →
    cleanComps r cs st = st.reverse ++ cs
  | [], st, _ => by simp [cleanComps]
  | c :: cs, st, h => by
    obtain ⟨hc, hcs⟩ := componentsOk_cons h
    unfold cleanComps
    rw [if_neg (by simp [hc.1, hc.2.1]), if_neg hc.2.2, cleanComps_ok r cs (c :: st) hcs]
    simp

theorem streamName_shape (n : Bytes) (h : specStreamNameOk n = true) :
    ∃ cs, componentsOk cs = true ∧ n = joinWith bSlash ([bDot] :: cs) ∧ (∀ c ∈ cs, bSlash ∉ c) := by
  obtain ⟨first, rest, hs⟩ := List.exists_cons_of_ne_nil (splitOn_ne_nil bSlash n)
  unfold specStreamNameOk at h
  rw [hs] at h
  simp only [Bool.and_eq_true, beq_iff_eq] at h
  refine ⟨rest, h.2, ?_, fun c hc => splitOn_no_sep bSlash n c (by rw [hs]; exact List.mem_cons_of_mem _ hc)⟩
  rw [← h.1, ← hs, joinWith_splitOn]

theorem fileName_shape (n : Bytes) (h : specFileNameOk n = true) :
    ∃ cs, cs ≠ [] ∧ componentsOk cs = true ∧ n = joinWith bSlash cs ∧ (∀ c ∈ cs, bSlash ∉ c) :=
  ⟨splitOn bSlash n, splitOn_ne_nil _ _, h, (joinWith_splitOn _ _).symm, splitOn_no_sep _ _⟩

theorem streamName_prefix (n : Bytes) (h : specStreamNameOk n = true) :
    n = [bDot] ∨ [bDot, bSlash].isPrefixOf n = true := by
  obtain ⟨cs, _, hn, _⟩ := streamName_shape n h
  cases cs with
  | nil => left; rw [hn]; rfl
  | cons c rest => right; rw [hn, joinWith_cons_cons]; simp [List.isPrefixOf]

theorem pathClean_dot {p : Bytes} {tailc : List Bytes} (hsplit : splitOn bSlash p = [bDot] :: tailc) :
    pathClean p = if cleanComps false tailc [] = [] then [bDot] else joinWith bSlash (cleanComps false tailc []) := by
  have hhead : p.head? = some bDot := by
    rw [← joinWith_splitOn bSlash p, hsplit]
    cases tailc <;> rfl
  unfold pathClean
  rw [if_neg (by rintro rfl; cases hhead)]
  have hroot : (p.head? = some bSlash) = False := by rw [hhead]; simp; decide
  simp only [hroot, decide_false, hsplit]
  rw [cleanComps, if_pos (Or.inr rfl)]
  simp

/-- "./a/b" for the component list [a, b] -/
def pathOfKey (k : List Bytes) : Bytes := joinWith bSlash ([bDot] :: k)

def KeyOk (k : List Bytes) : Prop := k ≠ [] ∧ componentsOk k = true ∧ ∀ c ∈ k, bSlash ∉ c

theorem splitOn_pathOfKey {k : List Bytes} (hk : KeyOk k) : splitOn bSlash (pathOfKey k) = [bDot] :: k :=
  splitOn_joinWith bSlash ([bDot] :: k) (by simp) (by
    intro p hp; rcases List.mem_cons.mp hp with rfl | hp
    · decide
    · exact hk.2.2 p hp)

theorem pathOfKey_inj {k k' : List Bytes} (hk : KeyOk k) (hk' : KeyOk k') (h : pathOfKey k = pathOfKey k') : k = k' := by
  have e := splitOn_pathOfKey hk
  rw [h, splitOn_pathOfKey hk'] at e
  exact (List.cons.inj e).2.symm

theorem isDirPrefix_of_key (d : List Bytes) (x : Bytes) (rest : List Bytes) :
    isDirPrefix (pathOfKey d) (pathOfKey (d ++ x :: rest)) = true := by
  unfold isDirPrefix pathOfKey
  rw [← List.cons_append, joinWith_append bSlash ([bDot] :: d) (x :: rest) (by simp) (by simp)]
  rw [List.isPrefixOf_iff_prefix]
  exact ⟨joinWith bSlash (x :: rest), by simp⟩

theorem path_components (sn fn : Bytes) (h1 : specStreamNameOk sn = true) (h2 : specFileNameOk fn = true) :
    ∃ k, KeyOk k ∧ pathOf sn fn = pathOfKey k := by
  obtain ⟨cs1, ok1, hn1, ns1⟩ := streamName_shape sn h1
  obtain ⟨cs2, ne2, ok2, hn2, ns2⟩ := fileName_shape fn h2
  have hcs : componentsOk (cs1 ++ cs2) = true := by rw [componentsOk_append, ok1, ok2]; rfl
  refine ⟨cs1 ++ cs2, ⟨by simp [ne2], hcs, List.forall_mem_append.mpr ⟨ns1, ns2⟩⟩, ?_⟩
  unfold pathOf pathOfKey
  rw [hn1, hn2, ← List.cons_append, joinWith_append bSlash ([bDot] :: cs1) cs2 (by simp) ne2]

theorem fixStreamName_clean (sn fn : Bytes) (h1 : specStreamNameOk sn = true) (h2 : specFileNameOk fn = true) :
    fixStreamName (pathOf sn fn) = pathOf sn fn := by
  obtain ⟨k, hk, hp⟩ := path_components sn fn h1 h2
  have hsplit := splitOn_pathOfKey hk
  obtain ⟨hne, hcs, hns⟩ := hk
  -- the cleaned path is the key joined again; splitting it gives back the components, none empty or `.`
  have hk := splitOn_joinWith bSlash k hne hns
  have hclean : pathClean (pathOf sn fn) = joinWith bSlash k := by
    rw [hp, pathClean_dot hsplit, cleanComps_ok false k [] hcs, if_neg (by simpa using hne)]
    rfl
  unfold fixStreamName
  rw [hclean]
  simp only []
  rw [if_neg, if_pos, hp]
  · obtain ⟨c0, rest0, rfl⟩ := List.exists_cons_of_ne_nil hne
    rfl
  · intro he
    rw [he] at hk
    exact (componentsOk_mem hcs (c := [bDot]) (by rw [← hk]; decide)).2.1 rfl
  · intro hh
    obtain ⟨t, ht⟩ := List.head?_eq_some_iff.mp hh
    rw [ht, splitOn_cons_sep] at hk
    exact (componentsOk_mem hcs (c := []) (by rw [← hk]; exact List.mem_cons_self)).1 rfl

/-- total length of the components, one separator counted per component -/
def total (xs : List Bytes) : Nat := (xs.map (·.length + 1)).sum

@[simp] theorem total_nil : total [] = 0 := rfl

@[simp] theorem total_cons (x : Bytes) (xs : List Bytes) : total (x :: xs) = x.length + 1 + total xs := by
  simp [total]

theorem total_append (a b : List Bytes) : total (a ++ b) = total a + total b := by
  simp [total, List.sum_append]

theorem total_reverse (a : List Bytes) : total a.reverse = total a := by
  induction a with
  | nil => rfl
  | cons x xs ih => rw [List.reverse_cons, total_append, ih]; simp; omega

theorem joinWith_length (sep : UInt8) : ∀ xs : List Bytes, xs ≠ [] → (joinWith sep xs).length + 1 = total xs
  | [], h => absurd rfl h
  | [x], _ => by simp [joinWith]
  | x :: y :: rest, _ => by
    have := joinWith_length sep (y :: rest) (by simp)
    rw [joinWith_cons_cons]
    simp only [List.length_append, List.length_cons, total_cons] at this ⊢
    omega

theorem total_splitOn (sep : UInt8) (s : Bytes) : total (splitOn sep s) = s.length + 1 := by
  have h := joinWith_length sep (splitOn sep s) (splitOn_ne_nil sep s)
  rw [joinWith_splitOn] at h
  omega

theorem count_cons_ite (a c : Bytes) (cs : List Bytes) :
    (c :: cs).count a = cs.count a + if c = a then 1 else 0 := by
  rw [List.count_cons]; simp only [beq_iff_eq]

/-- `cleanComps` never makes the component list longer, and every skipped empty (`.`) component makes
it shorter by 1 (by 2) -/
theorem cleanComps_total (r : Bool) (cs st : List Bytes) :
    total (cleanComps r cs st) + cs.count [] + 2 * cs.count [bDot] ≤ total st + total cs := by
  fun_induction cleanComps r cs st with
  | case1 st => simp [total_reverse]
  | case2 c cs st h ih =>
    rw [total_cons, count_cons_ite, count_cons_ite]
    rcases h with rfl | rfl
    · simp; omega
    · simp; omega
  | case7 c cs st h1 h2 ih =>
    rw [not_or] at h1
    rw [total_cons, count_cons_ite, count_cons_ite, if_neg h1.1, if_neg h1.2]
    rw [total_cons] at ih
    omega
  | _ =>
    -- the component is `..`: whatever happens to the stack, the hypothesis for the new stack suffices
    rename_i ih
    rw [total_cons, count_cons_ite, count_cons_ite, if_neg (by decide), if_neg (by decide)]
    simp only [total_cons, total_nil] at ih ⊢
    omega

theorem fixStreamName_length {p : Bytes} {tailc : List Bytes} (hsplit : splitOn bSlash p = [bDot] :: tailc) :
    (fixStreamName p).length + tailc.count [] + 2 * tailc.count [bDot] ≤ p.length := by
  have hp : p.length + 1 = 2 + total tailc := by
    have := total_splitOn bSlash p
    rw [hsplit] at this
    simp only [total_cons, List.length_singleton] at this
    omega
  have hcl := cleanComps_total false tailc []
  rw [total_nil, Nat.zero_add] at hcl
  unfold fixStreamName
  rw [pathClean_dot hsplit]
  by_cases hR : cleanComps false tailc [] = []
  · rw [hR, total_nil] at hcl
    have hne : bDot ≠ bSlash := by decide
    simp [hR, hne]
    omega
  · have hj := joinWith_length bSlash _ hR
    simp only [hR, if_false]
    split
    · simp only [List.length_cons]; omega
    · split
      · simp only [List.length_cons]; omega
      · omega

theorem streamShape_split (S : Bytes) (h : S = [bDot] ∨ [bDot, bSlash].isPrefixOf S = true) :
    ∃ cs, splitOn bSlash S = [bDot] :: cs := by
  rcases h with rfl | h
  · exact ⟨[], by decide⟩
  · rw [List.isPrefixOf_iff_prefix] at h
    obtain ⟨rest, rfl⟩ := h
    exact ⟨_, splitOn_append_sep bSlash [bDot] rest (by decide)⟩

theorem streamShape_dropSlash (sn : Bytes)
    (hS : sn ++ [bSlash] = [bDot] ∨ [bDot, bSlash].isPrefixOf (sn ++ [bSlash]) = true) :
    ∃ cs, splitOn bSlash sn = [bDot] :: cs := by
  obtain ⟨cs, hcs⟩ := streamShape_split _ hS
  rw [splitOn_append_sep_gen] at hcs
  obtain ⟨p, ps, hp⟩ := List.exists_cons_of_ne_nil (splitOn_ne_nil bSlash sn)
  rw [hp] at hcs
  exact ⟨ps, by rw [hp, (List.cons.inj hcs).1]⟩

theorem clean_no_trailing_slash (S name : Bytes) (hS : S = [bDot] ∨ [bDot, bSlash].isPrefixOf S = true)
    (hc : fixStreamName (pathOf S name) = pathOf S name) : S.getLast? ≠ some bSlash := by
  intro hl
  obtain ⟨sn, rfl⟩ := List.getLast?_eq_some_iff.mp hl
  obtain ⟨cs, hcs⟩ := streamShape_dropSlash sn hS
  have hsplit : splitOn bSlash (pathOf (sn ++ [bSlash]) name) = [bDot] :: (cs ++ ([] :: splitOn bSlash name)) := by
    unfold pathOf
    rw [List.append_assoc, List.singleton_append, splitOn_append_sep_gen, hcs, splitOn_cons_sep]
    rfl
  have hlen := fixStreamName_length hsplit
  have : 0 < (cs ++ ([] :: splitOn bSlash name)).count [] := List.count_pos_iff.mpr (by simp)
  rw [hc] at hlen
  omega

theorem marker_target_ne (S name : Bytes) (hS : S = [bDot] ∨ [bDot, bSlash].isPrefixOf S = true) :
    fixStreamName ((if S.getLast? = some bSlash then S.dropLast else S) ++ bSlash :: [bDot]) ≠ pathOf S name := by
  have key : ∀ sn : Bytes, (∃ cs, splitOn bSlash sn = [bDot] :: cs) → sn.length ≤ S.length →
      fixStreamName (sn ++ bSlash :: [bDot]) ≠ pathOf S name := by
    intro sn ⟨cs, hcs⟩ hle heq
    have hsplit : splitOn bSlash (sn ++ bSlash :: [bDot]) = [bDot] :: (cs ++ [[bDot]]) := by
      rw [splitOn_append_sep_gen, hcs]
      rfl
    have hlen := fixStreamName_length hsplit
    have : 0 < (cs ++ [[bDot]]).count [bDot] := List.count_pos_iff.mpr (by simp)
    rw [heq] at hlen
    simp only [pathOf, List.length_append, List.length_cons, List.length_nil] at hlen
    omega
  split
  · rename_i hl
    obtain ⟨sn, rfl⟩ := List.getLast?_eq_some_iff.mp hl
    rw [List.dropLast_concat]
    exact key sn (streamShape_dropSlash sn hS) (by simp)
  · exact key S (streamShape_split S hS) (Nat.le_refl _)

end ArvVerif.C10
