/-
C16 part B: one runQueue pass (Model/C16_RunQueue.lean), for an arbitrary pool.

`StepSpec` says what one iteration of the `tryrun` loop can do. `loop_mem`, `loop_invariant` and
`loop_never_after` carry such per-iteration facts to the whole loop; both latches of runQueue — the
`dontstart` map and, in Proofs/C16_CreateMonotone.lean, a failed Create of a monotone pool — are
instances of `loop_never_after`.
-/
import ArvVerif.Model.C16_RunQueue
import ArvVerif.Proofs.Lib_List
namespace ArvVerif.C16.RQ
variable {σ : Type}

/-- `ev` is a call that an iteration for entry `e` can make -/
def Own (e : Ent) (ev : Ev) : Prop :=
  e.running = false ∧ 1 ≤ e.prio ∧
  match ev with
  | .kill forStart u _ => u = e.uuid ∧ e.st = (if forStart then .locked else .queued)
  | .lockgo u => u = e.uuid ∧ e.st = .queued
  | .unlock u => u = e.uuid ∧ e.st = .locked
  | .create u t _ => u = e.uuid ∧ t = e.ty ∧ e.st = .locked
  | .start t u _ => u = e.uuid ∧ t = e.ty ∧ e.st = .locked
  | .shutdown _ => False

def IsStartOn (t : Nat) (ev : Ev) : Prop := ∃ u r, ev = .start t u r

/-- One iteration for entry `e` that starts with the pool in state `p`, takes the `dontstart` latch
from `d` to `d'`, makes the calls `evs` and leaves the loop iff `brk`. -/
structure StepSpec (P : Pool σ) (e : Ent) (p : σ) (d d' : Nat → Bool) (evs : List Ev) (brk : Bool) : Prop where
  own : ∀ ev ∈ evs, Own e ev
  unlatched : ∀ ev ∈ evs, ∀ t, IsStartOn t ev → d t = false
  unlock : ∀ u, Ev.unlock u ∈ evs → brk = true
  startLast : evs.Pairwise (fun a _ => ∀ t, ¬ IsStartOn t a)
  latch : ∀ t, d' t = true ↔ (∃ u, Ev.start t u false ∈ evs) ∨ d t = true
  quota : brk = true → (P.atQuota p).1 = true

/-- the calls after which the pass goes on to lower priorities without having a worker for the
Locked entry `e` -/
def Excused (e : Ent) (evs : List Ev) : Prop :=
  Ev.start e.ty e.uuid true ∈ evs ∨ Ev.kill true e.uuid true ∈ evs ∨ Ev.create e.uuid e.ty false ∈ evs

theorem Excused.mono {e : Ent} {l l' : List Ev} (h : Excused e l) (hsub : ∀ ev ∈ l, ev ∈ l') :
    Excused e l' :=
  h.imp (hsub _) (Or.imp (hsub _) (hsub _))

/-- what an iteration that goes on leaves behind for a Locked entry it tried to place: with the latch of
its type set, nothing of that type starts later in the pass -/
def Placed (e : Ent) (d' : Nat → Bool) (evs : List Ev) : Prop := Excused e evs ∨ d' e.ty = true

theorem StepSpec.cons {P : Pool σ} {e : Ent} {p : σ} {d d' : Nat → Bool} {evs : List Ev} {ev0 : Ev}
    (h : StepSpec P e p d d' evs false) (hown : Own e ev0) (hns : ∀ t, ¬ IsStartOn t ev0)
    (hnu : ∀ u, ev0 ≠ .unlock u) : StepSpec P e p d d' (ev0 :: evs) false := by
  refine ⟨List.forall_mem_cons.mpr ⟨hown, h.own⟩,
    List.forall_mem_cons.mpr ⟨fun t ht => (hns t ht).elim, h.unlatched⟩,
    fun u hu => h.unlock u ((List.mem_cons.mp hu).resolve_left (hnu u ·.symm)),
    List.pairwise_cons.mpr ⟨fun _ _ => hns, h.startLast⟩, fun t => ?_, h.quota⟩
  have : ∀ u, Ev.start t u false ≠ ev0 := fun u hu => hns t ⟨u, false, hu.symm⟩
  simp [h.latch t, this]

/-- an entry that runQueue tries to place -/
def Cand (e : Ent) : Prop := e.st = .locked ∧ e.running = false ∧ 1 ≤ e.prio

section
variable (P : Pool σ) (e : Ent) (s : RQ σ)

theorem tryStart_spec (hl : e.st = .locked) (hv : e.running = false ∧ 1 ≤ e.prio) (p : σ) :
    StepSpec P e p s.dont (tryStart P e s).1.dont (tryStart P e s).2 false ∧
    Placed e (tryStart P e s).1.dont (tryStart P e s).2 := by
  fun_cases tryStart P e s <;> refine ⟨⟨?_, ?_, ?_, ?_, ?_, ?_⟩, ?_⟩ <;>
    simp [Own, IsStartOn, setTrue, Placed, Excused, *]

theorem tryStart_evs :
    ∀ ev ∈ (tryStart P e s).2, (∃ r, ev = .kill true e.uuid r) ∨ ∃ r, ev = .start e.ty e.uuid r := by
  fun_cases tryStart P e s <;> simp

theorem stepLocked_spec (hl : e.st = .locked) (hv : e.running = false ∧ 1 ≤ e.prio) :
    StepSpec P e s.pool s.dont (stepLocked P e s).1.dont (stepLocked P e s).2.1 (stepLocked P e s).2.2 ∧
    ((stepLocked P e s).2.2 = false → Placed e (stepLocked P e s).1.dont (stepLocked P e s).2.1) := by
  fun_cases stepLocked P e s
  · exact (tryStart_spec P e { s with unalloc := dec s.unalloc e.ty } hl hv s.pool).imp_right fun h _ => h
  · refine ⟨⟨?_, ?_, ?_, ?_, ?_, fun _ => ‹_›⟩, by simp⟩ <;> simp [Own, IsStartOn, *]
  · obtain ⟨h1, h2⟩ := tryStart_spec P e { s with pool := (P.create e.ty (P.atQuota s.pool).2).2 } hl hv s.pool
    refine ⟨h1.cons (by simp [Own, *]) (by simp [IsStartOn]) (by simp), fun _ => ?_⟩
    simpa [Placed, Excused] using h2
  · exact ⟨by constructor <;> simp [Own, IsStartOn, *], by simp [Placed, Excused]⟩

theorem stepQueued_spec (hl : e.st = .queued) (hv : e.running = false ∧ 1 ≤ e.prio) :
    StepSpec P e s.pool s.dont (stepQueued P e s).1.dont (stepQueued P e s).2.1 (stepQueued P e s).2.2 := by
  fun_cases stepQueued P e s <;> constructor <;> simp [Own, IsStartOn, *]
  rename_i q hq
  by_cases hu : s.unalloc e.ty < 1
  · simpa [q, hu] using hq
  · simp [q, hu] at hq

theorem stepQueued_evs :
    (∀ ev ∈ (stepQueued P e s).2.1, (∃ r, ev = .kill false e.uuid r) ∨ ev = .lockgo e.uuid) ∧
    (Ev.lockgo e.uuid ∈ (stepQueued P e s).2.1 → Ev.kill false e.uuid false ∈ (stepQueued P e s).2.1) := by
  fun_cases stepQueued P e s <;> simp

theorem stepEnt_spec :
    StepSpec P e s.pool s.dont (stepEnt P e s).1.dont (stepEnt P e s).2.1 (stepEnt P e s).2.2 ∧
    (Cand e → (stepEnt P e s).2.2 = false → Placed e (stepEnt P e s).1.dont (stepEnt P e s).2.1) := by
  have hplain : StepSpec P e s.pool s.dont s.dont [] false := by constructor <;> simp
  have hlive : ¬ (e.running = true ∨ e.prio < 1) → e.running = false ∧ 1 ≤ e.prio := by simp
  fun_cases stepEnt P e s
  · rename_i hskip
    exact ⟨hplain, fun hc _ => by simp [hc.2.1, Int.not_lt.mpr hc.2.2] at hskip⟩
  · rename_i hskip hst
    exact ⟨stepQueued_spec P e s hst (hlive hskip), fun hc => by rw [hc.1] at hst; cases hst⟩
  · rename_i hskip hst
    exact (stepLocked_spec P e s hst (hlive hskip)).imp_right fun h _ => h
  · rename_i hst
    exact ⟨hplain, fun hc => by rw [hc.1] at hst; cases hst⟩

theorem stepEnt_latched (t : Nat) (h : s.dont t = true) :
    (stepEnt P e s).1.dont t = true ∧ ∀ ev ∈ (stepEnt P e s).2.1, ¬ IsStartOn t ev := by
  refine ⟨((stepEnt_spec P e s).1.latch t).mpr (Or.inr h), fun ev hev ht => ?_⟩
  have := (stepEnt_spec P e s).1.unlatched ev hev t ht
  rw [h] at this; cases this

end

theorem loop_invariant {P : Pool σ} {I : RQ σ → Prop} {G : Ev → Prop}
    (step : ∀ e s, I s → I (stepEnt P e s).1 ∧ ∀ ev ∈ (stepEnt P e s).2.1, G ev)
    (es : List Ent) (s : RQ σ) (h : I s) : ∀ ev ∈ (loop P es s).2.1, G ev := by
  fun_induction loop P es s with
  | case1 s => simp
  | case2 e rest s r hb => exact (step e s h).2
  | case3 e rest s r hb q ih => exact List.forall_mem_append.mpr ⟨(step e s h).2, ih (step e s h).1⟩

/-- Once an `A` call has been made no `B` call follows: an `A` call puts the loop state into `J`
(`enter`, which also covers the rest of its own iteration), and under `J` every iteration keeps `J`
and makes no `B` call (`keep`). -/
theorem loop_never_after {P : Pool σ} {A B : Ev → Prop} {J : RQ σ → Prop}
    (keep : ∀ e s, J s → J (stepEnt P e s).1 ∧ ∀ b ∈ (stepEnt P e s).2.1, ¬ B b)
    (enter : ∀ e s, (stepEnt P e s).2.1.Pairwise (fun a b => A a → ¬ B b) ∧
      ∀ a ∈ (stepEnt P e s).2.1, A a → J (stepEnt P e s).1)
    (es : List Ent) (s : RQ σ) : (loop P es s).2.1.Pairwise (fun a b => A a → ¬ B b) := by
  fun_induction loop P es s with
  | case1 s => simp
  | case2 e rest s r hb => exact (enter e s).1
  | case3 e rest s r hb q ih =>
    exact List.pairwise_append.mpr ⟨(enter e s).1, ih, fun a ha b hb' hA =>
      loop_invariant keep rest _ ((enter e s).2 a ha hA) b hb'⟩

section
variable (P : Pool σ) (es : List Ent) (s : RQ σ)

theorem loop_mem {ev : Ev} (h : ev ∈ (loop P es s).2.1) :
    ∃ e ∈ es, ∃ s0, ev ∈ (stepEnt P e s0).2.1 ∧
      ∀ ev' ∈ (stepEnt P e s0).2.1, ev' ∈ (loop P es s).2.1 := by
  fun_induction loop P es s with
  | case1 s => simp at h
  | case2 e rest s r hb => exact ⟨e, List.mem_cons_self, s, h, fun _ h' => h'⟩
  | case3 e rest s r hb q ih =>
    rcases List.mem_append.mp h with h | h
    · exact ⟨e, List.mem_cons_self, s, h, fun _ h' => List.mem_append_left _ h'⟩
    · obtain ⟨e', he', s0, h1, h2⟩ := ih h
      exact ⟨e', List.mem_cons_of_mem _ he', s0, h1, fun _ h' => List.mem_append_right _ (h2 _ h')⟩

theorem loop_own {ev : Ev} (h : ev ∈ (loop P es s).2.1) : ∃ e ∈ es, Own e ev := by
  obtain ⟨e, he, s0, h1, _⟩ := loop_mem P es s h
  exact ⟨e, he, (stepEnt_spec P e s0).1.own ev h1⟩

theorem loop_latched (t : Nat) (h : s.dont t = true) :
    ∀ ev ∈ (loop P es s).2.1, ¬ IsStartOn t ev :=
  loop_invariant (fun e s => stepEnt_latched P e s t) es s h

theorem loop_failLatch (t : Nat) :
    (loop P es s).2.1.Pairwise (fun a b => (∃ u, a = Ev.start t u false) → ¬ IsStartOn t b) :=
  loop_never_after (J := fun s => s.dont t = true) (fun e s => stepEnt_latched P e s t)
    (fun e s => ⟨(stepEnt_spec P e s).1.startLast.imp (fun h ⟨u, hu⟩ => (h t ⟨u, false, hu⟩).elim),
      fun _ ha ⟨u, hu⟩ => ((stepEnt_spec P e s).1.latch t).mpr (Or.inl ⟨u, hu ▸ ha⟩)⟩) es s

/-- `(loop …).2.2` is runQueue's `overquota`. -/
theorem loop_tail :
    (∃ kept, es = kept ++ (loop P es s).2.2 ∧
      ((loop P es s).2.2 ≠ [] → (P.atQuota (loop P kept s).1.pool).1 = true)) ∧
    (∀ u, Ev.unlock u ∈ (loop P es s).2.1 → ∃ e ∈ (loop P es s).2.2, e.st = .locked ∧ e.uuid = u) := by
  fun_induction loop P es s with
  | case1 s => exact ⟨⟨[], rfl, by simp⟩, by simp⟩
  | case2 e rest s r hb =>
    refine ⟨⟨[], rfl, fun _ => (stepEnt_spec P e s).1.quota hb⟩, fun u hu => ?_⟩
    have := (stepEnt_spec P e s).1.own _ hu
    exact ⟨e, List.mem_cons_self, this.2.2.2, this.2.2.1.symm⟩
  | case3 e rest s r hb q ih =>
    obtain ⟨⟨kept, i1, i3⟩, i2⟩ := ih
    refine ⟨⟨e :: kept, congrArg _ i1, ?_⟩, fun u hu => ?_⟩
    · rw [loop, if_neg hb]; exact i3
    · rcases List.mem_append.mp hu with hu | hu
      · exact (hb ((stepEnt_spec P e s).1.unlock u hu)).elim
      · exact i2 u hu

theorem head_not_started {e : Ent} {rest : List Ent} {t ub : Nat} {a : Ent}
    (hsorted : (e :: rest).Pairwise (fun a b => b.prio ≤ a.prio)) (ha : a ∈ e :: rest)
    (hpr : ∀ b ∈ e :: rest, b.uuid = ub → b.prio < a.prio) :
    Ev.start t ub true ∉ (stepEnt P e s).2.1 := by
  intro hm
  have hlt := hpr e List.mem_cons_self ((stepEnt_spec P e s).1.own _ hm).2.2.1.symm
  rcases List.mem_cons.mp ha with rfl | h'
  · omega
  · have := (List.pairwise_cons.mp hsorted).1 a h'; omega

/-- `hpr` asks `a` to outrank every entry called `ub`, so the snapshot may repeat uuids; distinct
uuids are used once, in `C16_priority_order`, to get `hpr` from `b.prio < a.prio`. -/
theorem loop_priority (hsorted : es.Pairwise (fun a b => b.prio ≤ a.prio))
    (pre post : List Ev) (t ub : Nat)
    (h : (loop P es s).2.1 = pre ++ Ev.start t ub true :: post)
    (a : Ent) (ha : a ∈ es) (hal : a.st = .locked) (har : a.running = false) (hat : a.ty = t)
    (hpr : ∀ b ∈ es, b.uuid = ub → b.prio < a.prio) : Excused a pre := by
  fun_induction loop P es s generalizing pre with
  | case1 s => cases ha
  | case2 e rest s r hb => exact (head_not_started P s (t := t) hsorted ha hpr (by rw [h]; simp)).elim
  | case3 e rest s r hb q ih =>
    rcases Lib.append_eq_append_cons h with ⟨post', h1, _⟩ | ⟨pre', rfl, h2⟩
    · exact (head_not_started P s (t := t) hsorted ha hpr (by rw [h1]; simp)).elim
    · have hmem : Ev.start t ub true ∈ q.2.1 := by rw [h2]; simp
      rcases List.mem_cons.mp ha with rfl | h'
      · -- `a` is the head: it was a candidate, since the entry started later is live
        obtain ⟨e', he', hown⟩ := loop_own P rest _ hmem
        have := hpr e' (List.mem_cons_of_mem _ he') hown.2.2.1.symm
        have := hown.2.1
        rcases (stepEnt_spec P a s).2 ⟨hal, har, by omega⟩ (by simpa using hb) with hp | hp
        · exact hp.mono (fun _ => List.mem_append_left _)
        · -- the latch of type `t` is set: no StartContainer on `t` can follow
          exact (loop_latched P rest _ t (hat ▸ hp) _ hmem ⟨ub, true, rfl⟩).elim
      · exact (ih (List.pairwise_cons.mp hsorted).2 pre' h2 h' (List.forall_mem_cons.mp hpr).2).mono
          (fun _ => List.mem_append_right _)

end

theorem loop_lockgo (P : Pool σ) (es : List Ent) (s : RQ σ) (u : Nat)
    (h : Ev.lockgo u ∈ (loop P es s).2.1) :
    ∃ e ∈ es, e.uuid = u ∧ e.st = .queued ∧ e.running = false ∧ 1 ≤ e.prio ∧
      Ev.kill false u false ∈ (loop P es s).2.1 := by
  obtain ⟨e, he, s0, h1, h2⟩ := loop_mem P es s h
  obtain ⟨hr, hp, rfl, hq⟩ := (stepEnt_spec P e s0).1.own _ h1
  refine ⟨e, he, rfl, hq, hr, hp, h2 _ ?_⟩
  -- only the Queued branch makes the call
  unfold stepEnt at h1 ⊢
  rw [hq] at h1 ⊢
  split at h1
  · cases h1
  · rw [if_neg ‹_›]; exact (stepQueued_evs P e s0).2 h1

theorem mem_unlockTail (l : List Ent) (ev : Ev) :
    ev ∈ unlockTail l ↔ ∃ e ∈ l, e.st = .locked ∧ ev = Ev.unlock e.uuid := by
  induction l with
  | nil => simp [unlockTail]
  | cons x rest ih => unfold unlockTail; split <;> simp [*]

theorem mem_shutdownIdle (un : Nat → Int) (ks : List Nat) (ev : Ev) :
    ev ∈ shutdownIdle un ks ↔ ∃ t ∈ ks, 1 ≤ un t ∧ ev = Ev.shutdown t := by
  induction ks with
  | nil => simp [shutdownIdle]
  | cons k rest ih => unfold shutdownIdle; split <;> simp [*, ← Int.not_lt]

theorem mem_finish (keys : List Nat) (un : Nat → Int) (tail : List Ent) (ev : Ev) :
    ev ∈ finish keys un tail ↔
      tail ≠ [] ∧ ((∃ e ∈ tail, e.st = .locked ∧ ev = Ev.unlock e.uuid) ∨
                   (∃ t ∈ keys, 1 ≤ un t ∧ ev = Ev.shutdown t)) := by
  unfold finish
  split <;> simp [mem_unlockTail, mem_shutdownIdle, *]

theorem finish_noStart (keys : List Nat) (un : Nat → Int) (tail : List Ent) (t : Nat) :
    ∀ ev ∈ finish keys un tail, ¬ IsStartOn t ev := by
  rintro ev hev ⟨u, r, rfl⟩
  rcases (mem_finish keys un tail _).mp hev with ⟨_, ⟨e, _, _, h'⟩ | ⟨t', _, _, h'⟩⟩ <;> cases h'

theorem mem_runQueue (P : Pool σ) (p0 : σ) (unalloc : Nat → Int) (keys : List Nat) (sorted : List Ent)
    (ev : Ev) :
    ev ∈ runQueue P p0 unalloc keys sorted ↔
      ev ∈ (loop P sorted (initRQ p0 unalloc)).2.1 ∨
      ((loop P sorted (initRQ p0 unalloc)).2.2 ≠ [] ∧
        ((∃ e ∈ (loop P sorted (initRQ p0 unalloc)).2.2, e.st = .locked ∧ ev = Ev.unlock e.uuid) ∨
         ∃ t ∈ keys, 1 ≤ (loop P sorted (initRQ p0 unalloc)).1.unalloc t ∧ ev = Ev.shutdown t)) := by
  unfold runQueue
  rw [List.mem_append, mem_finish]

theorem unlock_mem_runQueue (P : Pool σ) (p0 : σ) (unalloc : Nat → Int) (keys : List Nat) (sorted : List Ent)
    (u : Nat) :
    Ev.unlock u ∈ runQueue P p0 unalloc keys sorted ↔
      ∃ e ∈ (loop P sorted (initRQ p0 unalloc)).2.2, e.st = .locked ∧ e.uuid = u := by
  simp only [mem_runQueue, reduceCtorEq, and_false, exists_false, or_false, Ev.unlock.injEq]
  constructor
  · rintro (h | ⟨_, e, he, h1, rfl⟩)
    · exact (loop_tail P sorted _).2 u h
    · exact ⟨e, he, h1, rfl⟩
  · rintro ⟨e, he, h1, rfl⟩
    exact Or.inr ⟨List.ne_nil_of_mem he, e, he, h1, rfl⟩

theorem runQueue_never_start_after {P : Pool σ} {p0 : σ} {unalloc : Nat → Int} {sorted : List Ent}
    {A : Ev → Prop} {t : Nat}
    (h : (loop P sorted (initRQ p0 unalloc)).2.1.Pairwise (fun a b => A a → ¬ IsStartOn t b))
    (keys : List Nat) :
    (runQueue P p0 unalloc keys sorted).Pairwise (fun a b => A a → ¬ IsStartOn t b) :=
  List.pairwise_append.mpr ⟨h,
    List.pairwise_of_forall_mem_list (fun _ _ b hb _ => finish_noStart _ _ _ t b hb),
    fun _ _ b hb _ => finish_noStart _ _ _ t b hb⟩

theorem mem_lockCalls {op : Nat → Bool} {cur : Nat → Option CState} {tr : List Ev} {u : Nat} :
    u ∈ lockCalls op cur tr ↔ Ev.lockgo u ∈ tr ∧ op u = false ∧ cur u = some .queued := by
  unfold lockCalls lockContainerCalls
  simp only [List.mem_filter, List.mem_filterMap, Bool.and_eq_true, Bool.not_eq_true', decide_eq_true_eq]
  constructor
  · rintro ⟨⟨ev, hev, hm⟩, h2⟩
    cases ev <;> simp at hm
    exact ⟨hm ▸ hev, h2⟩
  · exact fun ⟨hev, h2⟩ => ⟨⟨_, hev, rfl⟩, h2⟩

end ArvVerif.C16.RQ
