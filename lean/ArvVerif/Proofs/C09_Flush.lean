/-
C09 helper lemmas: `commitK` / `flushFilesK` under ANY script of Keep outcomes. Every file keeps its
key; the store grows exactly by the acknowledged blocks; the result flag is "every outcome consumed
was ok"; every stored segment of the result is an old one or points into a block acknowledged here.
-/
import ArvVerif.Proofs.C09_Keep
namespace ArvVerif.C09

open ArvVerif.C08 (Seg FileNode Ptr Flush Store Ref StoreOK StoreExt AllWF fileKey SegWF)

variable {max : Nat} {hash : Bytes → C08.Loc}

theorem setSeg_segs {Q : Seg → Prop} {fs : List FileNode} {r : Ref} {s' : Seg}
    (h : ∀ fn ∈ fs, ∀ x ∈ fn.segs, Q x) (hs : Q s') : ∀ fn' ∈ C08.setSeg fs r s', ∀ x ∈ fn'.segs, Q x := by
  intro fn' hfn' x hx
  unfold C08.setSeg at hfn'
  cases hf : fs[r.1]? with
  | none => rw [hf] at hfn'; exact h fn' hfn' x hx
  | some fn =>
    rw [hf] at hfn'
    rcases List.mem_or_eq_of_mem_set hfn' with hfn' | rfl
    · exact h fn' hfn' x hx
    · rcases List.mem_or_eq_of_mem_set hx with hx | rfl
      · exact h fn (List.mem_of_getElem? hf) x hx
      · exact hs

theorem allWF_ext {st st' : Store} {fs : List FileNode} (hwf : AllWF max hash st fs) (he : StoreExt st st') :
    AllWF max hash st' fs :=
  fun fn hfn s hs => (hwf fn hfn s hs).ext he

theorem map_fileKey_ext {st st' : Store} {fs : List FileNode} (he : StoreExt st st') (hwf : AllWF max hash st fs) :
    fs.map (fileKey st') = fs.map (fileKey st) :=
  List.map_congr_left fun fn hfn => C08.fileKey_ext he (hwf fn hfn)

/-- What a flush may do to a file list. `key`: every file keeps its `C08.fileKey` — the bytes of each segment,
their lengths, the size; finer than `C08.abs`, and content and size are read off it (`Kept.abs_eq`). The
middle disjunct of `segs` covers an old mem segment whose flushing flag changed. -/
structure Kept (max : Nat) (hash : Bytes → C08.Loc) (st : Store) (new : Seg → Prop)
    (fs fs' : List FileNode) : Prop where
  key : fs'.map (fileKey st) = fs.map (fileKey st)
  wf : AllWF max hash st fs'
  segs : ∀ fn' ∈ fs', ∀ x ∈ fn'.segs, (∃ fn ∈ fs, x ∈ fn.segs) ∨ x.isMem = true ∨ new x

theorem Kept.refl {st : Store} {new : Seg → Prop} {fs : List FileNode} (hwf : AllWF max hash st fs) :
    Kept max hash st new fs fs :=
  ⟨rfl, hwf, fun fn' h _ hx => Or.inl ⟨fn', h, hx⟩⟩

theorem markStale_kept {st : Store} {new : Seg → Prop} {fs0 : List FileNode} : ∀ (refs : List Ref) {fs : List FileNode},
    Kept max hash st new fs0 fs → Kept max hash st new fs0 (markStale fs refs) := by
  intro refs
  unfold markStale
  induction refs with
  | nil => intro fs h; exact h
  | cons r rest ih =>
    intro fs h
    simp only [List.foldl_cons]
    cases hr : C08.refBuf fs r with
    | none => exact ih h
    | some buf =>
      simp only []
      apply ih
      obtain ⟨fn, fl, hf, hs⟩ := C08.refBuf_some hr
      have hold : SegWF max hash st (Seg.mem buf fl) := h.wf fn (List.mem_of_getElem? hf) _ (List.mem_of_getElem? hs)
      obtain ⟨hwf, hkey⟩ := C08.setSeg_same (s' := Seg.mem buf Flush.stale) h.wf hf hs
        ⟨hold.1, hold.2.1, fun i l hh => by cases hh⟩ rfl rfl
      exact ⟨hkey.trans h.key, hwf, setSeg_segs h.segs (Or.inr (Or.inl rfl))⟩

/-- the stored segments `commitBlock` creates for `block` -/
def NewIn (hash : Bytes → C08.Loc) (block : Bytes) (x : Seg) : Prop :=
  ∃ off len, x = Seg.stored (hash block) block.length off len ∧ off + len ≤ block.length

theorem commitBlock_segs (st : Store) {files : List FileNode} {refs : List Ref} :
    ∀ fn' ∈ (C08.commitBlock hash st files refs).2, ∀ x ∈ fn'.segs, (∃ fn ∈ files, x ∈ fn.segs) ∨
      ∃ off len, x = Seg.stored (hash (blockOf files refs)) (blockOf files refs).length off len := by
  refine C08.commitBlock_ind (P := fun _ fs => ∀ fn' ∈ fs, ∀ x ∈ fn'.segs, (∃ fn ∈ files, x ∈ fn.segs) ∨
    ∃ off len, x = Seg.stored (hash (blockOf files refs)) (blockOf files refs).length off len) st files refs
    (fun fn' h x hx => Or.inl ⟨fn', h, hx⟩) ?_
  intro done r _ fs _ h
  cases C08.refBuf files r with
  | none => exact h
  | some buf => exact setSeg_segs h (Or.inr ⟨_, _, rfl⟩)

def Fresh (hash : Bytes → C08.Loc) (k' : Keep) (x : Seg) : Prop :=
  ∃ block, block ∈ k'.acked ∧ NewIn hash block x

theorem Fresh.mono {k k' : Keep} (h : KeepStep hash k k') {x : Seg} (hx : Fresh hash k x) : Fresh hash k' x := by
  obtain ⟨b, hb, hn⟩ := hx
  obtain ⟨m, e⟩ := h.acked
  exact ⟨b, by rw [e]; simp [hb], hn⟩

theorem Kept.ext {st st' : Store} {new new' : Seg → Prop} {fs fs' : List FileNode}
    (h : Kept max hash st new fs fs') (he : StoreExt st st') (hwf0 : AllWF max hash st fs)
    (hn : ∀ x, new x → new' x) : Kept max hash st' new' fs fs' := by
  refine ⟨?_, allWF_ext h.wf he, ?_⟩
  · rw [map_fileKey_ext he h.wf, map_fileKey_ext he hwf0, h.key]
  · exact fun fn' hfn' x hx => (h.segs fn' hfn' x hx).imp_right (Or.imp_right (hn x))

theorem commitK_eq (k : Keep) (files : List FileNode) (refs : List Ref) :
    commitK hash k files refs = match k.next.1 with
      | Outcome.ok => (k.next.2.record hash (blockOf files refs), (C08.commitBlock hash k.next.2.store files refs).2, true)
      | Outcome.fail => (k.next.2.failed, markStale files refs, false)
      | Outcome.skip => (k.next.2, files, false) := by
  unfold commitK
  rcases k.next with ⟨_ | _ | _, _⟩ <;> rfl

theorem commitK_scriptEq (k : Keep) (files : List FileNode) (refs : List Ref) :
    ScriptEq (commitK hash k files refs).1 k.next.2 := by
  rw [commitK_eq]
  cases k.next.1 <;> exact ScriptEq.refl _

theorem commitK_flag (k : Keep) (files : List FileNode) (refs : List Ref) :
    (commitK hash k files refs).2.2 = (k.next.1 == Outcome.ok) := by
  rw [commitK_eq]
  cases k.next.1 <;> rfl

theorem commitK_spec (hinj : Function.Injective hash) {k : Keep} (hk : KeepOK hash k) (files : List FileNode)
    (hwf : AllWF max hash k.store files) (refs : List Ref) :
    KeepOK hash (commitK hash k files refs).1 ∧ KeepStep hash k (commitK hash k files refs).1 ∧
    Kept max hash (commitK hash k files refs).1.store (Fresh hash (commitK hash k files refs).1) files
      (commitK hash k files refs).2.1 := by
  obtain ⟨hs1, hs2⟩ := next_store k
  obtain ⟨hk', hstep0⟩ := same_step hk hs1 hs2
  rw [commitK_eq]
  cases k.next.1 with
  | ok =>
    obtain ⟨r1, r2⟩ := record_step hinj hk' (blockOf files refs)
    have hwf' : AllWF max hash k.next.2.store files := by rw [hs1]; exact hwf
    obtain ⟨c1, c2, c3, c4⟩ := C08.commitBlock_spec hinj hk'.ok files hwf' refs
    -- the store of the new Keep is `commitBlock`'s by definition
    refine ⟨r1, hstep0.trans r2, ⟨c4.trans (map_fileKey_ext c1 hwf').symm, c3, ?_⟩⟩
    intro fn' hfn' x hx
    rcases commitBlock_segs k.next.2.store fn' hfn' x hx with h | ⟨off, len, rfl⟩
    · exact Or.inl h
    · -- the offset stays inside the block since the new segment is well-formed
      exact Or.inr (Or.inr ⟨blockOf files refs, by simp [Keep.record], off, len, rfl, (c3 fn' hfn' _ hx).2.1⟩)
  | fail =>
    obtain ⟨f1, f2⟩ := same_step (k' := k.next.2.failed) hk hs1 hs2
    refine ⟨f1, f2, ?_⟩
    rw [show k.next.2.failed.store = k.store from hs1]
    exact markStale_kept refs (Kept.refl hwf)
  | skip =>
    refine ⟨hk', hstep0, ?_⟩
    rw [show k.next.2.store = k.store from hs1]
    exact Kept.refl hwf

theorem Kept.trans {st st' : Store} {new new' : Seg → Prop} {a b c : List FileNode}
    (h1 : Kept max hash st new a b) (h2 : Kept max hash st' new' b c) (he : StoreExt st st')
    (hwfa : AllWF max hash st a) (hn : ∀ x, new x → new' x) : Kept max hash st' new' a c := by
  have h1' := h1.ext he hwfa hn
  refine ⟨by rw [h2.key, h1'.key], h2.wf, ?_⟩
  intro fn' hfn' x hx
  rcases h2.segs fn' hfn' x hx with ⟨fn, hfn, hx2⟩ | h
  · exact h1'.segs fn hfn x hx2
  · exact Or.inr h

/-- What a run does with the script needs no hypothesis on Keep or on the files: one outcome per group is consumed, and
the flag says that all of them were `ok`. -/
theorem commitGroups_script : ∀ (groups : List (List Ref)) (k : Keep) (files : List FileNode) (ok : Bool),
    (commitGroups hash groups (k, files, ok)).2.2 = (ok && allOk groups.length k) ∧
    ScriptEq (commitGroups hash groups (k, files, ok)).1 (nextN groups.length k)
  | [], k, _, ok => ⟨by simp [commitGroups, allOk], ScriptEq.refl k⟩
  | g :: rest, k, files, ok => by
    obtain ⟨i1, i2⟩ := commitGroups_script rest (commitK hash k files g).1 (commitK hash k files g).2.1
      (ok && (commitK hash k files g).2.2)
    have hse := commitK_scriptEq (hash := hash) k files g
    unfold commitGroups
    simp only [List.length_cons, nextN, allOk]
    exact ⟨by rw [i1, allOk_congr _ hse, commitK_flag, Bool.and_assoc], i2.trans (nextN_congr _ hse)⟩

theorem flushFilesK_script (k : Keep) (files : List FileNode) (short : Bool) :
    (flushFilesK hash max k files short).2.2 = allOk (C08.flushGroups max short files).length k ∧
    ScriptEq (flushFilesK hash max k files short).1 (nextN (C08.flushGroups max short files).length k) := by
  simpa [flushFilesK] using commitGroups_script (hash := hash) (C08.flushGroups max short files) k files true

theorem commitGroups_spec (hinj : Function.Injective hash) : ∀ (groups : List (List Ref)) {k : Keep} {files : List FileNode}
    (ok : Bool), KeepOK hash k → AllWF max hash k.store files →
    KeepOK hash (commitGroups hash groups (k, files, ok)).1 ∧
    KeepStep hash k (commitGroups hash groups (k, files, ok)).1 ∧
    Kept max hash (commitGroups hash groups (k, files, ok)).1.store
      (Fresh hash (commitGroups hash groups (k, files, ok)).1) files (commitGroups hash groups (k, files, ok)).2.1 := by
  intro groups
  induction groups with
  | nil =>
    intro k files ok hk hwf
    exact ⟨hk, KeepStep.refl k, Kept.refl hwf⟩
  | cons g rest ih =>
    intro k files ok hk hwf
    obtain ⟨c1, c2, c3⟩ := commitK_spec (max := max) hinj hk files hwf g
    unfold commitGroups
    simp only []
    obtain ⟨i1, i2, i3⟩ := ih (ok && (commitK hash k files g).2.2) c1 c3.wf
    exact ⟨i1, c2.trans i2, c3.trans i3 i2.ext (allWF_ext hwf c2.ext) (fun x hx => hx.mono i2)⟩

theorem flushFilesK_spec (hinj : Function.Injective hash) {k : Keep} (hk : KeepOK hash k) (files : List FileNode)
    (hwf : AllWF max hash k.store files) (short : Bool) :
    KeepOK hash (flushFilesK hash max k files short).1 ∧
    KeepStep hash k (flushFilesK hash max k files short).1 ∧
    Kept max hash (flushFilesK hash max k files short).1.store (Fresh hash (flushFilesK hash max k files short).1)
      files (flushFilesK hash max k files short).2.1 ∧
    (flushFilesK hash max k files short).2.2 = allOk (C08.flushGroups max short files).length k := by
  obtain ⟨h1, h2, h3⟩ := commitGroups_spec hinj (C08.flushGroups max short files) true hk hwf
  exact ⟨h1, h2, h3, (flushFilesK_script k files short).1⟩

end ArvVerif.C09
