/-
C08: per-operation refinement, the operations on paths.
-/
import ArvVerif.Proofs.C08_AbsFS
namespace ArvVerif.C08

variable {max : Nat} {hash : Bytes → Loc}

theorem doMkdir_ref {s : CFS} (hinv : Inv max hash s) (path : String) :
    Ref3 max hash (doMkdir (concImpl hash max) s path) (doMkdir specImpl (absFS s) path) := by
  unfold doMkdir
  obtain ⟨dcomps, name⟩ := splitDirBase path
  simp only [lookupDir_abs, absFS_ents]
  cases lookupDir s dcomps with
  | error e => exact Ref3.same hinv _
  | ok d =>
    refine ite_rel (Ref3.same hinv _) ?_
    cases child s.ents d name with
    | some _ => exact Ref3.same hinv _
    | none =>
      exact ⟨rfl, (addNode_abs (max := max) (hash := hash) s d name true).1, hinv.addDir (concImpl hash max) d name⟩

theorem doRemove_ref {s : CFS} (hinv : Inv max hash s) (path : String) (rec : Bool) :
    Ref3 max hash (doRemove s path rec) (doRemove (absFS s) path rec) := by
  unfold doRemove
  obtain ⟨dcomps, name⟩ := splitDirBase (trimSlashes path)
  simp only [lookupDir_abs, absFS_ents, dirSize_abs]
  refine ite_rel (Ref3.same hinv _) ?_
  cases lookupDir s dcomps with
  | error e => exact Ref3.same hinv _
  | ok d =>
    dsimp only
    cases child s.ents d name with
    | none => exact Ref3.same hinv _
    | some n =>
      exact ite_rel (Ref3.same hinv _)
        ⟨rfl, rfl, hinv.same_contents rfl rfl rfl (forall_eraseEnt hinv.ents d name)⟩

theorem doRename_ref {s : CFS} (hinv : Inv max hash s) (old new : String) :
    Ref3 max hash (doRename s old new) (doRename (absFS s) old new) := by
  have hspec := renameCheck_spec s old new
  rw [doRename_eq, doRename_eq]
  have e : renameCheck (absFS s) old new = renameCheck s old new := rfl
  rw [e]
  cases hr : renameCheck s old new with
  | error e => exact Ref3.same hinv _
  | ok t =>
    rw [hr] at hspec
    obtain ⟨od, oldname, nd, newname, n⟩ := t
    obtain ⟨_, _, _, _, _, _, hch, _, _⟩ := hspec
    obtain ⟨c1, c2, c3⟩ := setNameParent_contents { s with ents := setEnt s.ents nd newname n } n newname nd
    refine ⟨rfl, ?_, hinv.same_contents c1 c2 c3 ?_⟩
    · have frame : ∀ (a : CFS) (b : SFS) E, absFS a = b → absFS { a with ents := E } = { b with ents := E } :=
        fun a b E h => by rw [← h]; rfl
      show absFS (renamed s od oldname nd newname n) = renamed (absFS s) od oldname nd newname n
      unfold renamed
      dsimp only
      rw [setNameParent_ents, setNameParent_ents]
      exact frame _ _ _ (setNameParent_abs { s with ents := setEnt s.ents nd newname n } n newname nd)
    · obtain ⟨e, he1, he2⟩ := child_mem hch
      exact forall_renamed_ents hinv.ents od oldname (fun f hf => hinv.ents e he1 f (he2.trans hf))

/-- relation between the two `openFile` outcomes: corresponding states, the same error or corresponding
handles; a new handle starts at offset 0 and, if it is on a file, the file exists -/
def OpenRef (max : Nat) (hash : Bytes → Loc) (a : CFS × Except Err (Handle Ptr)) (b : SFS × Except Err (Handle Nat)) : Prop :=
  b = (absFS a.1, a.2.map absH) ∧ Inv max hash a.1 ∧
  ∀ hd, a.2 = Except.ok hd → hd.ptr = Ptr.zero ∧ ∀ f, hd.node = Node.file f → ∃ nf, a.1.files[f]? = some nf

theorem OpenRef.err {s : CFS} (hinv : Inv max hash s) (e : Err) :
    OpenRef max hash (s, Except.error e) (absFS s, Except.error e) :=
  ⟨rfl, hinv, nofun⟩

theorem OpenRef.ok {s : CFS} (hinv : Inv max hash s) (hd : Handle Ptr) (hp : hd.ptr = Ptr.zero)
    (hf : ∀ f, hd.node = Node.file f → ∃ nf, s.files[f]? = some nf) :
    OpenRef max hash (s, Except.ok hd) (absFS s, Except.ok (absH hd)) :=
  ⟨rfl, hinv, fun _ h => by cases h; exact ⟨hp, hf⟩⟩

theorem openFile_ref (hmax : 1 ≤ max) {s : CFS} (hinv : Inv max hash s) (path : String) (acc : Nat)
    (app cre excl trunc sync dirPerm : Bool) :
    OpenRef max hash (openFile (concImpl hash max) s path acc app cre excl trunc sync dirPerm)
      (openFile specImpl (absFS s) path acc app cre excl trunc sync dirPerm) := by
  unfold openFile
  obtain ⟨dcomps, name⟩ := splitDirBase path
  simp only [lookupDir_abs, absFS_ents, absFS_dirs]
  -- one `ite_rel` per `if` of `openFile`, in the order they are written; both models take the same branch
  refine ite_rel (OpenRef.err hinv _) ?_
  cases lookupDir s dcomps with
  | error e => exact OpenRef.err hinv _
  | ok d =>
    refine ite_rel (OpenRef.err hinv _) ?_
    refine ite_rel (OpenRef.ok hinv _ rfl nofun) ?_
    refine ite_rel (OpenRef.ok hinv _ rfl nofun) ?_
    refine ite_rel (OpenRef.err hinv _) ?_
    cases hc : child s.ents d name with
    | none =>
      refine ite_rel (OpenRef.err hinv _) ?_
      obtain ⟨a1, a2⟩ := addNode_abs (max := max) (hash := hash) s d name dirPerm
      refine ⟨?_, hinv.addNode d name dirPerm, fun hd h => ?_⟩
      · simp only [a1, ← a2]; rfl
      · cases h
        refine ⟨rfl, fun f hf => ?_⟩
        cases dirPerm with
        | true => rw [addNode_dir] at hf; cases hf
        | false =>
          obtain ⟨b1, b2⟩ := addNode_file (max := max) (hash := hash) s d name
          rw [b1] at hf; cases hf
          exact ⟨_, b2⟩
    | some n =>
      refine ite_rel (OpenRef.err hinv _) ?_
      refine ite_rel (ite_rel (OpenRef.err hinv _) ?_) (OpenRef.ok hinv _ rfl fun f hf => ?_)
      · cases n with
        | dir k => exact OpenRef.err hinv _
        | file f =>
          simp only [absFS_files, absFiles_get]
          cases hf : s.files[f]? with
          | none => exact OpenRef.err hinv _
          | some nf =>
            obtain ⟨c', t1, r1, r2⟩ := setFile_trunc_ref hmax hinv hf 0
            simp only [Option.map_some, t1]
            refine ⟨by rw [r1]; rfl, r2, fun hd h => ?_⟩
            cases h
            exact ⟨rfl, fun f' hf' => by cases hf'; exact ⟨_, setFile_get hf _⟩⟩
      · -- opening an existing node: an entry pointing at a file id without a file would make the concrete
        -- model report panic on use; `OpenRef` only needs existence for the PtrOK obligation, so we get it from the table
        obtain ⟨e, he1, he2⟩ := child_mem hc
        have hlt : f < s.files.length := hinv.ents e he1 f (by rw [he2]; exact hf)
        exact ⟨s.files[f], by simp [hlt]⟩

theorem doOpen_ref (hmax : 1 ≤ max) {s : CFS} (hinv : Inv max hash s) (h : Nat) (path : String) (acc : Nat)
    (app cre excl trunc sync dirPerm : Bool) :
    Ref3 max hash (doOpen (concImpl hash max) s h path acc app cre excl trunc sync dirPerm)
      (doOpen specImpl (absFS s) h path acc app cre excl trunc sync dirPerm) := by
  unfold doOpen
  obtain ⟨h1, h2, h3⟩ := openFile_ref hmax hinv path acc app cre excl trunc sync dirPerm
  rw [h1]
  generalize openFile (concImpl hash max) s path acc app cre excl trunc sync dirPerm = a at h2 h3 ⊢
  obtain ⟨s1, r⟩ := a
  cases r with
  | error e => exact ⟨rfl, rfl, h2⟩
  | ok hd =>
    obtain ⟨hp, hf⟩ := h3 hd rfl
    refine ⟨rfl, setHandle_abs .., h2.setHandle h hd (fun f hnode => ?_)⟩
    obtain ⟨nf, hnf⟩ := hf f hnode
    obtain ⟨hwf, hrep⟩ := h2.files nf (List.mem_of_getElem? hnf)
    exact ⟨nf, hnf, hp ▸ ptr0_ok nf.2 hwf hrep⟩

theorem step_stat {s : CFS} (hinv : Inv max hash s) (path : String) : StepRef max hash s (Op.stat path) := by
  unfold StepRef step
  simp only [absFS_ents, absFS_dirs]
  cases walk s.ents s.dirs (Node.dir 0) (splitPath path) with
  | error e => exact Ref3.same hinv _
  | ok n =>
    simp only [infoOf_abs hinv]
    exact Ref3.same hinv _

theorem step_readdir (hmax : 1 ≤ max) {s : CFS} (hinv : Inv max hash s) (path : String) :
    StepRef max hash s (Op.readdir path) := by
  unfold StepRef step
  dsimp only
  obtain ⟨h1, h2, _⟩ := openFile_ref hmax hinv path 0 false false false false false false
  rw [h1]
  generalize openFile (concImpl hash max) s path 0 false false false false false false = a at h2 ⊢
  obtain ⟨s1, r⟩ := a
  cases r with
  | error e => exact Ref3.same hinv _
  | ok hd =>
    simp only [Except.map, absH_node]
    cases hd.node with
    | file f => exact Ref3.same hinv _
    | dir d =>
      simp only [listingOf_abs hinv]
      exact Ref3.same hinv _

end ArvVerif.C08
