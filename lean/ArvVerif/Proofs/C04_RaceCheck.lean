/-
C04 interleaving layer: what the table check (`checkTable`) establishes of every reachable state, and
the check of one configuration against its table row. Evaluated by the kernel, in four groups of 36
configurations, in `Proofs/C04_RaceCheck0..3.lean`.
-/
import ArvVerif.Proofs.C04_RaceTable
import ArvVerif.Proofs.C04_ComposeTable
namespace ArvVerif.C04.Race

/-- While an untrash is between its Rename and its Chtimes the block path holds the restored copy
with its OLD timestamp, so for `top = untrash` protection is demanded at quiescence only (a Trash
running in that window would be a third party: outside this two-thread system).
Third conjunct: unless both threads are done, the round P, T moves one of them — the premise of `round_rank`, which
makes the rank fall (no deadlock). Fourth: a finished state shows one of the two sequential outcomes `linOf c`. -/
def okAll (c : Cfg) (s : St) : Bool :=
  contract s && (if c.top = .untrash then (!finished s || ackSafe s) else ackSafe s)
    && (finished s || (stepP s).pcP != s.pcP || (stepT (stepP s)).pcT != s.pcT) && linLocal (linOf c) s

theorem okAll_iff (c : Cfg) (s : St) : okAll c s = true ↔
    contract s = true ∧ (if c.top = .untrash then (!finished s || ackSafe s) else ackSafe s) = true ∧
    (finished s = true ∨ (stepP s).pcP ≠ s.pcP ∨ (stepT (stepP s)).pcT ≠ s.pcT) ∧ linLocal (linOf c) s = true := by
  simp only [okAll, Bool.and_eq_true, Bool.or_eq_true, bne_iff_ne, ne_eq, or_assoc, and_assoc]

def checkAll (c : Cfg) : Bool := checkTable (okAll c) c (tableOf c)

end ArvVerif.C04.Race
