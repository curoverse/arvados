/-
C08: the abstraction from the concrete filesystem state to the plain one (`absFS`), the invariant (`Inv`), what each
primitive of the tree/handle layer does to both, and the relation every operation is shown to meet (`Ref3`, `StepRef`).
-/
import ArvVerif.Proofs.C08_Trunc
import ArvVerif.Proofs.C08_Key
import ArvVerif.Proofs.C08_Dir
namespace ArvVerif.C08

abbrev CFS := FS FileNode Ptr Store

abbrev SFS := FS Bytes Nat Unit

def absH (hd : Handle Ptr) : Handle Nat := ⟨hd.node, hd.ptr.off, hd.app, hd.rd, hd.wr⟩

def absFiles (st : Store) (files : List (String × FileNode)) : List (String × Bytes) :=
  files.map (fun nf => (nf.1, abs st nf.2))

def absHandles (hs : List (Nat × Handle Ptr)) : List (Nat × Handle Nat) :=
  hs.map (fun e => (e.1, absH e.2))

/-- The plain filesystem a concrete state stands for: same tree, every file replaced by its
content, every handle pointer by its offset. -/
def absFS (s : CFS) : SFS := ⟨(), s.ents, s.dirs, absFiles s.world s.files, absHandles s.handles⟩

def EntsOK (ents : List ((Nat × String) × Node)) (n : Nat) : Prop :=
  ∀ e ∈ ents, ∀ f, e.2 = Node.file f → f < n

/-- The invariant of the concrete state. `0 ≤ repacked` is there because pointers are made with fixed stamps
(`Ptr.zero` and `truncate`'s internal seek: 0; `Ptr.seekTo`: -1) and `PtrOK` wants a stamp not above the file's.
A handle on a directory carries no obligation, and a handle may be on a file no entry names any more (ids are
never freed). Entries are only required to name existing FILES; that they name existing directories, and that the
directory table is a tree, is `TreeInv` (for any `FileImpl`, proved apart). -/
structure Inv (max : Nat) (hash : Bytes → Loc) (s : CFS) : Prop where
  ok : StoreOK hash s.world
  files : ∀ nf ∈ s.files, WF max hash s.world nf.2 ∧ 0 ≤ nf.2.repacked
  handles : ∀ e ∈ s.handles, ∀ f, e.2.node = Node.file f → ∃ nf, s.files[f]? = some nf ∧ PtrOK nf.2 e.2.ptr
  ents : EntsOK s.ents s.files.length

variable {max : Nat} {hash : Bytes → Loc}

@[simp] theorem absFS_ents (s : CFS) : (absFS s).ents = s.ents := rfl

@[simp] theorem absFS_dirs (s : CFS) : (absFS s).dirs = s.dirs := rfl

@[simp] theorem absFS_files (s : CFS) : (absFS s).files = absFiles s.world s.files := rfl

@[simp] theorem absFS_handles (s : CFS) : (absFS s).handles = absHandles s.handles := rfl

theorem absFiles_get (st : Store) (files : List (String × FileNode)) (f : Nat) :
    (absFiles st files)[f]? = (files[f]?).map (fun nf => (nf.1, abs st nf.2)) := by
  simp [absFiles]

theorem absFiles_length (st : Store) (files : List (String × FileNode)) :
    (absFiles st files).length = files.length := by simp [absFiles]

theorem lookupDir_abs (s : CFS) (c : List String) : lookupDir (absFS s) c = lookupDir s c := rfl

theorem nodeName_abs (s : CFS) (n : Node) : nodeName (absFS s) n = nodeName s n := by
  cases n with
  | dir d => rfl
  | file f =>
    simp only [nodeName, absFS_files, absFiles_get]
    cases s.files[f]? <;> rfl

theorem dirSize_abs (s : CFS) (d : Nat) : dirSize (absFS s) d = dirSize s d := rfl

theorem nodeSize_abs (hinv : Inv max hash s) (n : Node) :
    nodeSize specImpl (absFS s) n = nodeSize (concImpl hash max) s n := by
  cases n with
  | dir d => rfl
  | file f =>
    simp only [nodeSize, absFS_files, absFiles_get]
    cases hf : s.files[f]? with
    | none => rfl
    | some nf =>
      simp only [Option.map_some]
      exact (hinv.files nf (List.mem_of_getElem? hf)).1.abs_length

theorem infoOf_abs (hinv : Inv max hash s) (n : Node) :
    infoOf specImpl (absFS s) n = infoOf (concImpl hash max) s n := by
  simp only [infoOf, nodeName_abs, nodeSize_abs hinv]

theorem listingOf_abs (hinv : Inv max hash s) (d : Nat) :
    listingOf specImpl (absFS s) d = listingOf (concImpl hash max) s d := by
  simp only [listingOf, absFS_ents, nodeName_abs, nodeSize_abs hinv]

theorem getHandle_abs (s : CFS) (h : Nat) : getHandle (absFS s) h = (getHandle s h).map absH := by
  simp only [getHandle, absFS_handles, absHandles, List.find?_map, Option.map_map]
  rfl

theorem absH_node (hd : Handle Ptr) : (absH hd).node = hd.node := rfl

theorem setHandle_abs (s : CFS) (h : Nat) (hd : Handle Ptr) :
    absFS (setHandle s h hd) = setHandle (absFS s) h (absH hd) := by
  simp only [setHandle, absFS, absHandles, List.map_append, List.map_cons, List.map_nil, List.filter_map]
  rfl

theorem setFile_abs (s : CFS) (f : Nat) (c : FileNode) :
    absFS (setFile s f c) = setFile (absFS s) f (abs s.world c) := by
  simp only [setFile, absFS_files, absFiles_get]
  cases hf : s.files[f]? with
  | none => rfl
  | some nf => simp only [Option.map_some, absFS, absFiles, List.map_set]

theorem addNode_abs (s : CFS) (d : Nat) (name : String) (isDir : Bool) :
    absFS (addNode (concImpl hash max) s d name isDir).1 = (addNode specImpl (absFS s) d name isDir).1 ∧
    (addNode (concImpl hash max) s d name isDir).2 = (addNode specImpl (absFS s) d name isDir).2 := by
  cases isDir with
  | true => exact ⟨rfl, rfl⟩
  | false =>
    refine ⟨?_, ?_⟩
    · simp [addNode, absFS, absFiles, concImpl, specImpl, abs, absSegs, FileNode.empty]
    · simp [addNode, absFS, absFiles]

theorem setNameParent_abs (s : CFS) (n : Node) (name : String) (d : Nat) :
    absFS (setNameParent s n name d) = setNameParent (absFS s) n name d := by
  cases n with
  | dir k => rfl
  | file f =>
    simp only [setNameParent, absFS_files, absFiles_get]
    cases hf : s.files[f]? with
    | none => rfl
    | some nf => simp only [Option.map_some, absFS, absFiles, List.map_set]

theorem EntsOK.mono {ents : List ((Nat × String) × Node)} {n m : Nat} (h : EntsOK ents n) (hle : n ≤ m) :
    EntsOK ents m := fun e he f hf => Nat.lt_of_lt_of_le (h e he f hf) hle

theorem Inv.setHandle {s : CFS} (hinv : Inv max hash s) (h : Nat) (hd : Handle Ptr)
    (hp : ∀ f, hd.node = Node.file f → ∃ nf, s.files[f]? = some nf ∧ PtrOK nf.2 hd.ptr) :
    Inv max hash (setHandle s h hd) := by
  refine ⟨hinv.ok, hinv.files, ?_, hinv.ents⟩
  intro e he
  simp only [ArvVerif.C08.setHandle, List.mem_append, List.mem_filter, List.mem_cons, List.not_mem_nil, or_false] at he
  rcases he with ⟨he, _⟩ | he
  · exact hinv.handles e he
  · rw [he]; exact hp

theorem Inv.closeHandle {s : CFS} (hinv : Inv max hash s) (h : Nat) :
    Inv max hash { s with handles := s.handles.filter (fun e => !(e.1 == h)) } := by
  refine ⟨hinv.ok, hinv.files, ?_, hinv.ents⟩
  intro e he
  exact hinv.handles e (List.mem_filter.mp he).1

theorem getHandle_mem {s : CFS} {h : Nat} {hd : Handle Ptr} (hg : getHandle s h = some hd) :
    ∃ e ∈ s.handles, e.2 = hd := by
  obtain ⟨e, hf, he⟩ := Option.map_eq_some_iff.mp hg
  exact ⟨e, List.mem_of_find?_eq_some hf, he⟩

theorem Inv.handle_ptr {s : CFS} (hinv : Inv max hash s) {h f : Nat} {hd : Handle Ptr} {nf : String × FileNode}
    (hg : getHandle s h = some hd) (hnode : hd.node = Node.file f) (hf : s.files[f]? = some nf) :
    PtrOK nf.2 hd.ptr := by
  obtain ⟨e, he, rfl⟩ := getHandle_mem hg
  obtain ⟨nf', hnf', hp⟩ := hinv.handles e he f hnode
  rw [hf] at hnf'; cases hnf'
  exact hp

theorem Inv.setFile {s : CFS} (hinv : Inv max hash s) {f : Nat} {nf : String × FileNode} (hf : s.files[f]? = some nf)
    (c : FileNode) (hwf : WF max hash s.world c) (hrep : 0 ≤ c.repacked) (hptr : ∀ q, PtrOK nf.2 q → PtrOK c q) :
    Inv max hash (setFile s f c) := by
  unfold ArvVerif.C08.setFile
  rw [hf]
  refine ⟨hinv.ok, ?_, ?_, by simp only [List.length_set]; exact hinv.ents⟩
  · intro nf' hnf'
    rcases List.mem_or_eq_of_mem_set hnf' with h | h
    · exact hinv.files nf' h
    · rw [h]; exact ⟨hwf, hrep⟩
  · intro e he f' hnode
    obtain ⟨nf', hnf', hp⟩ := hinv.handles e he f' hnode
    by_cases hff : f = f'
    · subst hff
      cases hf.symm.trans hnf'
      exact ⟨_, List.getElem?_set_self (List.getElem?_eq_some_iff.mp hf).1, hptr _ hp⟩
    · exact ⟨nf', (List.getElem?_set_ne hff).trans hnf', hp⟩

theorem Inv.setFile_key {s : CFS} (hinv : Inv max hash s) {f : Nat} {nf : String × FileNode}
    (hf : s.files[f]? = some nf) {c : FileNode} (hk : fileKey s.world c = fileKey s.world nf.2)
    (hwf : ∀ sg ∈ c.segs, SegWF max hash s.world sg) :
    Inv max hash (ArvVerif.C08.setFile s f c) ∧ absFS (ArvVerif.C08.setFile s f c) = absFS s := by
  obtain ⟨ha, _, _, hrep⟩ := abs_of_key hk
  obtain ⟨hwf0, hrep0⟩ := hinv.files nf (List.mem_of_getElem? hf)
  refine ⟨hinv.setFile hf c (hwf0.of_key hk hwf) (hrep ▸ hrep0) (fun q hq => hq.of_key hk), ?_⟩
  rw [setFile_abs, ha]
  exact setFile_self (absFS s) f (n := nf.1) (by simp [absFiles_get, hf])

theorem Inv.same_contents {s s' : CFS} (hinv : Inv max hash s) (hw : s'.world = s.world)
    (hh : s'.handles = s.handles) (hf : s'.files.map (·.2) = s.files.map (·.2))
    (he : EntsOK s'.ents s.files.length) : Inv max hash s' := by
  have hlen : s'.files.length = s.files.length := by
    have := congrArg List.length hf; simpa using this
  refine ⟨by rw [hw]; exact hinv.ok, ?_, ?_, by rw [hlen]; exact he⟩
  · intro nf hnf
    obtain ⟨f, hf'⟩ := List.getElem?_of_mem hnf
    obtain ⟨nf0, h0, h1⟩ := getElem?_of_map_eq hf.symm hf'
    rw [hw, ← h1]; exact hinv.files nf0 (List.mem_of_getElem? h0)
  · intro e he f hnode
    rw [hh] at he
    obtain ⟨nf0, h0, hp⟩ := hinv.handles e he f hnode
    obtain ⟨nf, h1, h2⟩ := getElem?_of_map_eq hf h0
    exact ⟨nf, h1, by rw [h2]; exact hp⟩

theorem setNameParent_contents (s : CFS) (n : Node) (name : String) (d : Nat) :
    (setNameParent s n name d).world = s.world ∧ (setNameParent s n name d).handles = s.handles ∧
    (setNameParent s n name d).files.map (·.2) = s.files.map (·.2) := by
  cases n with
  | dir k => exact ⟨rfl, rfl, rfl⟩
  | file f =>
    simp only [setNameParent]
    cases hf : s.files[f]? with
    | none => exact ⟨rfl, rfl, rfl⟩
    | some nf =>
      refine ⟨rfl, rfl, ?_⟩
      simp only [List.map_set]
      exact set_eq_self (by simp [hf])

theorem Inv.addDir {s : CFS} (hinv : Inv max hash s) (impl : FileImpl FileNode Ptr Store) (d : Nat) (name : String) :
    Inv max hash (ArvVerif.C08.addNode impl s d name true).1 :=
  hinv.same_contents rfl rfl rfl (forall_setEnt hinv.ents d name (Node.dir s.dirs.length) (fun f h => by cases h))

theorem Inv.addNode {s : CFS} (hinv : Inv max hash s) (d : Nat) (name : String) (isDir : Bool) :
    Inv max hash (addNode (concImpl hash max) s d name isDir).1 := by
  cases isDir with
  | true => exact hinv.addDir _ d name
  | false =>
    simp only [ArvVerif.C08.addNode, Bool.false_eq_true, if_false]
    refine ⟨hinv.ok, ?_, ?_, forall_setEnt (hinv.ents.mono (by simp)) d name _ ?_⟩
    · intro nf hnf
      rcases List.mem_append.mp hnf with h | h
      · exact hinv.files nf h
      · simp only [List.mem_cons, List.not_mem_nil, or_false] at h
        rw [h]
        exact ⟨WF.empty, Int.le_refl _⟩
    · intro e he f hnode
      obtain ⟨nf, hnf, hp⟩ := hinv.handles e he f hnode
      exact ⟨nf, (List.getElem?_append_left (List.getElem?_eq_some_iff.mp hnf).1).trans hnf, hp⟩
    · intro f hf; cases hf; simp

theorem addNode_file (s : CFS) (d : Nat) (name : String) :
    (addNode (concImpl hash max) s d name false).2 = Node.file s.files.length ∧
    (addNode (concImpl hash max) s d name false).1.files[s.files.length]? = some (name, FileNode.empty) := by
  simp [addNode, concImpl]

theorem addNode_dir (s : CFS) (d : Nat) (name : String) :
    (addNode (concImpl hash max) s d name true).2 = Node.dir s.dirs.length := rfl

theorem absFiles_ext {st st' : Store} {files : List (String × FileNode)} (he : StoreExt st st')
    (h : ∀ nf ∈ files, WF max hash st nf.2) : absFiles st' files = absFiles st files := by
  unfold absFiles
  apply List.map_congr_left
  intro nf hnf
  rw [(h nf hnf).abs_ext he]

theorem Inv.ext_world {s : CFS} (hinv : Inv max hash s) {st' : Store} (he : StoreExt s.world st')
    (hok : StoreOK hash st') : Inv max hash { s with world := st' } :=
  ⟨hok, fun nf hnf => ⟨(hinv.files nf hnf).1.ext he, (hinv.files nf hnf).2⟩, hinv.handles, hinv.ents⟩

theorem absFS_ext_world {s : CFS} (hinv : Inv max hash s) {st' : Store} (he : StoreExt s.world st') :
    absFS { s with world := st' } = absFS s := by
  simp only [absFS]
  rw [absFiles_ext he (fun nf hnf => (hinv.files nf hnf).1)]

theorem setFile_trunc_ref (hmax : 1 ≤ max) {s : CFS} (hinv : Inv max hash s) {f : Nat} {nf : String × FileNode}
    (hf : s.files[f]? = some nf) (n : Nat) :
    ∃ c', (concImpl hash max).trunc nf.2 n = Except.ok c' ∧
      absFS (setFile s f c') = setFile (absFS s) f (specTruncate (abs s.world nf.2) n) ∧
      Inv max hash (setFile s f c') := by
  obtain ⟨hwf, hrep⟩ := hinv.files nf (List.mem_of_getElem? hf)
  obtain ⟨c', h1, h⟩ := truncate_spec (hash := hash) (st := s.world) hmax hwf hrep n
  refine ⟨c', ?_, by rw [setFile_abs, h.abs_eq], ?_⟩
  · dsimp only [concImpl]
    rw [h1]; rfl
  · exact hinv.setFile hf c' h.wf (h.rep hrep) h.ptrs

/-- concrete outcome `a` refines spec outcome `b`: same result, abstraction commutes, invariant kept -/
def Ref3 (max : Nat) (hash : Bytes → Loc) (a : CFS × Res) (b : SFS × Res) : Prop :=
  a.2 = b.2 ∧ absFS a.1 = b.1 ∧ Inv max hash a.1

theorem Ref3.same {s : CFS} (hinv : Inv max hash s) (r : Res) : Ref3 max hash (s, r) (absFS s, r) :=
  ⟨rfl, rfl, hinv⟩

def StepRef (max : Nat) (hash : Bytes → Loc) (s : CFS) (op : Op) : Prop :=
  Ref3 max hash (step (concImpl hash max) s op) (step specImpl (absFS s) op)

end ArvVerif.C08
