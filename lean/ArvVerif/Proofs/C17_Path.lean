import ArvVerif.Model.C17
namespace ArvVerif.C17

/-- a name that `namei` treats as an ordinary directory entry -/
def CleanName (c : Name) : Prop := c ≠ "" ∧ c ≠ "." ∧ c ≠ ".."

instance (c : Name) : Decidable (CleanName c) := by unfold CleanName; infer_instance

structure HostWF (h : Host) : Prop where
  clean : ∀ e ∈ h, ∀ c ∈ e.1, CleanName c
  nonempty : ∀ e ∈ h, e.1 ≠ []
  nodup : (h.map (·.1)).Nodup

/-! ## prefixes (the model tests them with `List.isPrefixOf`) -/

theorem isPrefixOf_eq_of_length {α : Type} [DecidableEq α] (a b : List α) (h : a.isPrefixOf b = true)
    (hl : b.length ≤ a.length) : a = b :=
  (List.isPrefixOf_iff_prefix.mp h).eq_of_length_le hl

theorem isPrefixOf_append_right (a b c : Path) (h : a.isPrefixOf b = true) : a.isPrefixOf (b ++ c) = true := by
  rw [List.isPrefixOf_iff_prefix] at *
  exact List.IsPrefix.trans h (List.prefix_append b c)

theorem prefix_length_le (a b : Path) (h : a.isPrefixOf b = true) : a.length ≤ b.length :=
  (List.isPrefixOf_iff_prefix.mp h).length_le

theorem prefix_append_drop (a b : Path) (hp : a.isPrefixOf b = true) : a ++ b.drop a.length = b := by
  rw [List.isPrefixOf_iff_prefix] at hp
  obtain ⟨t, rfl⟩ := hp
  simp

theorem prefix_of_prefix_append_singleton (x s : Path) (c : Name) (hx : x.isPrefixOf (s ++ [c]) = true) :
    x.isPrefixOf s = true ∨ x = s ++ [c] := by
  rw [List.isPrefixOf_iff_prefix] at *
  exact (List.prefix_concat_iff.mp hx).symm

theorem prefix_total (a b s : Path) (ha : a.isPrefixOf s = true) (hb : b.isPrefixOf s = true)
    (hl : a.length ≤ b.length) : a.isPrefixOf b = true := by
  rw [List.isPrefixOf_iff_prefix] at *
  exact List.prefix_of_prefix_length_le ha hb hl

theorem isPrefixOf_self (d : Path) : d.isPrefixOf d = true := by simp [List.isPrefixOf_iff_prefix]

theorem isPrefixOf_append (d e : Path) : d.isPrefixOf (d ++ e) = true := by
  simp [List.isPrefixOf_iff_prefix]

theorem isPrefixOf_snoc_cons (p : Path) (c : Name) (r : Path) : (p ++ [c]).isPrefixOf (p ++ c :: r) = true :=
  List.isPrefixOf_iff_prefix.mpr ⟨r, by simp⟩

theorem not_prefix_longer (d : Path) (c : Name) : (d ++ [c]).isPrefixOf d = false :=
  Bool.eq_false_iff.mpr fun hp => by have := prefix_length_le _ _ hp; simp at this; omega

theorem prefix_trans' (a b c : Path) (h1 : a.isPrefixOf b = true) (h2 : b.isPrefixOf c = true) :
    a.isPrefixOf c = true :=
  List.isPrefixOf_iff_prefix.mpr ((List.isPrefixOf_iff_prefix.mp h1).trans (List.isPrefixOf_iff_prefix.mp h2))

theorem sibling_prefix (d : Path) (c1 c2 : Name) (x : Path) (h1 : (d ++ [c1]).isPrefixOf x = true)
    (h2 : (d ++ [c2]).isPrefixOf x = true) : c1 = c2 := by
  have := prefix_total (d ++ [c1]) (d ++ [c2]) x h1 h2 (by simp)
  have := isPrefixOf_eq_of_length _ _ this (by simp)
  simpa using this

theorem prefix_split (a b : Path) (hp : a.isPrefixOf b = true) : ∃ r, b = a ++ r := by
  rw [List.isPrefixOf_iff_prefix] at hp
  obtain ⟨r, hr⟩ := hp
  exact ⟨r, hr.symm⟩

theorem prefix_cases (a b q : Path) (ha : a.isPrefixOf q = true) (hb : b.isPrefixOf q = true) :
    (∃ r, b = a ++ r) ∨ (∃ c r, a = b ++ c :: r) := by
  by_cases hl : a.length ≤ b.length
  · exact Or.inl (prefix_split a b (prefix_total a b q ha hb hl))
  · obtain ⟨r, hr⟩ := prefix_split b a (prefix_total b a q hb ha (by omega))
    cases r with
    | nil => exact absurd (by simp [hr]) hl
    | cons c r => exact Or.inr ⟨c, r, hr⟩

theorem isPrefixOf_append_cancel (a b c : Path) : (a ++ b).isPrefixOf (a ++ c) = b.isPrefixOf c := by
  induction a with
  | nil => rfl
  | cons x xs ih => simp [ih]

theorem dropLast_isPrefixOf (p : Path) : p.dropLast.isPrefixOf p = true :=
  List.isPrefixOf_iff_prefix.mpr (List.dropLast_prefix p)

theorem prefix_dropLast {q p : Path} (hp : p ≠ []) :
    q.isPrefixOf p.dropLast = true ↔ q.isPrefixOf p = true ∧ q ≠ p := by
  have hlen := List.length_pos_iff.mpr hp
  constructor
  · intro h
    refine ⟨prefix_trans' _ _ _ h (dropLast_isPrefixOf p), fun heq => ?_⟩
    have := prefix_length_le _ _ h
    rw [heq, List.length_dropLast] at this; omega
  · intro ⟨h, hne⟩
    have := prefix_length_le _ _ h
    have : q.length ≠ p.length := fun he => hne (isPrefixOf_eq_of_length q p h (by omega))
    exact prefix_total q _ p h (dropLast_isPrefixOf p) (by rw [List.length_dropLast]; omega)

theorem snoc_induction {α : Type} {motive : List α → Prop} (nil : motive [])
    (snoc : ∀ l a, motive l → motive (l ++ [a])) (l : List α) : motive l := by
  induction hk : l.length generalizing l with
  | zero => cases List.eq_nil_of_length_eq_zero hk; exact nil
  | succ k ih =>
    rw [← List.dropLast_concat_getLast (List.ne_nil_of_length_eq_add_one hk)]
    exact snoc _ _ (ih _ (by simp [hk]))

theorem le_depthBound {h : Host} {e : Path × Node} (he : e ∈ h) : e.1.length ≤ depthBound h := by
  induction h with
  | nil => cases he
  | cons x xs ih =>
    simp only [depthBound, List.map_cons, List.foldr_cons]
    rcases List.mem_cons.mp he with rfl | hm
    · exact Nat.le_max_left _ _
    · exact Nat.le_trans (ih hm) (Nat.le_max_right _ _)

theorem mem_of_get (h : Host) (p : Path) (n : Node) (hp : p ≠ []) (hg : h.get p = some n) : (p, n) ∈ h := by
  unfold Host.get at hg
  simp only [hp, if_false, Option.map_eq_some_iff] at hg
  obtain ⟨e, he, hn⟩ := hg
  have hp' : e.1 = p := by simpa using List.find?_some he
  rw [← hp', ← hn]; exact List.mem_of_find?_eq_some he

theorem get_len {h : Host} {p : Path} {n : Node} (hg : h.get p = some n) : p.length ≤ depthBound h := by
  by_cases hp : p = []
  · subst hp; simp
  · exact le_depthBound (mem_of_get h p n hp hg)

theorem get_of_mem (h : Host) (wf : HostWF h) (p : Path) (n : Node) (hm : (p, n) ∈ h) : h.get p = some n := by
  unfold Host.get
  rw [if_neg (wf.nonempty _ hm)]
  have hnd := List.pairwise_map.mp wf.nodup
  clear wf
  induction h with
  | nil => cases hm
  | cons x xs ih =>
    rw [List.pairwise_cons] at hnd
    rcases List.mem_cons.mp hm with rfl | hm'
    · simp
    · have hx : x.1 ≠ p := hnd.1 _ hm'
      simpa [List.find?_cons, hx] using ih hm' hnd.2

theorem child_entry {e : Path × Node} {p : Path} {c : Name}
    (hc : (if e.1.dropLast = p ∧ e.1 ≠ [] then e.1.getLast? else none) = some c) : e.1 = p ++ [c] := by
  split at hc
  · rename_i hcond
    obtain ⟨ys, hys⟩ := List.getLast?_eq_some_iff.mp hc
    rw [← hcond.1, hys]; simp
  · cases hc

theorem mem_children {h : Host} {p : Path} {c : Name} (hc : c ∈ h.children p) :
    ∃ n, (p ++ [c], n) ∈ h := by
  obtain ⟨e, he, hh⟩ := List.mem_filterMap.mp hc
  exact ⟨e.2, by rw [← child_entry hh]; exact he⟩

theorem children_of_mem (h : Host) (p : Path) (c : Name) (n : Node) (hm : (p ++ [c], n) ∈ h) :
    c ∈ h.children p := by
  unfold Host.children
  simp only [List.mem_filterMap]
  exact ⟨(p ++ [c], n), hm, by simp⟩

theorem length_children (h : Host) (p : Path) : (h.children p).length ≤ h.length := by
  unfold Host.children; exact List.length_filterMap_le _ _

theorem nodup_children (h : Host) (wf : HostWF h) (p : Path) : (h.children p).Nodup := by
  refine List.Pairwise.filterMap _ (fun a a' hne b hb b' hb' heq => hne ?_) (List.pairwise_map.mp wf.nodup)
  rw [child_entry hb, child_entry hb', heq]

theorem insertName_perm (x : Name) (l : List Name) : (insertName x l).Perm (x :: l) := by
  induction l with
  | nil => exact .refl _
  | cons y ys ih =>
    simp only [insertName]
    split
    · exact .refl _
    · exact (ih.cons y).trans (.swap x y ys)

theorem sortNames_perm (l : List Name) : (sortNames l).Perm l := by
  induction l with
  | nil => exact .refl _
  | cons z zs ih => exact (insertName_perm z _).trans (ih.cons z)

theorem mem_sortNames (y : Name) (l : List Name) : y ∈ sortNames l ↔ y ∈ l := (sortNames_perm l).mem_iff

theorem length_sortNames (l : List Name) : (sortNames l).length = l.length := (sortNames_perm l).length_eq

theorem nodup_sortNames (l : List Name) (hl : l.Nodup) : (sortNames l).Nodup :=
  (sortNames_perm l).nodup_iff.mpr hl

theorem children_spec (h : Host) (wf : HostWF h) (p : Path) (c : Name) (hc : c ∈ sortNames (h.children p)) :
    CleanName c ∧ ∃ n, h.get (p ++ [c]) = some n := by
  rw [mem_sortNames] at hc
  obtain ⟨nd, hmem⟩ := mem_children hc
  exact ⟨wf.clean _ hmem c (by simp), nd, get_of_mem h wf _ _ hmem⟩

/-! ## `namei`

The cases of `fun_induction namei`, in the order of its definition: 1 no component left; 2 `""` / `"."`;
3 `".."`; 4 no such entry; 5 a directory (descend); 6 a link as last component (found, not followed);
7 a link on the way, follow limit reached; 8 an absolute link on the way; 9 a relative link on the way
(followed); 10 a file or special file as last component; 11 one with components left. -/

theorem namei_nil (h : Host) (cur : Path) (cnt : Nat) : namei h cur [] cnt = .found cur .dir := by
  rw [namei]

theorem namei_single {h : Host} {p : Path} {c : Name} (cnt : Nat) {n : Node}
    (hc : CleanName c) (hg : h.get (p ++ [c]) = some n) :
    namei h p [c] cnt = .found (p ++ [c]) n := by
  obtain ⟨h1, h2, h3⟩ := hc
  rw [namei]
  simp only [h1, h2, h3, or_self, if_false, hg]
  cases n <;> simp [namei_nil]

/-- if `cur/a` is a directory `p`, then `cur/a/b` is resolved as `p/b` (with some number of links
already followed) -/
theorem namei_append {h : Host} {a : List Name} {cur : Path} {cnt : Nat} (b : List Name) {p : Path} :
    namei h cur a cnt = .found p .dir → ∃ cnt', namei h cur (a ++ b) cnt = namei h p b cnt' := by
  fun_induction namei h cur a cnt with
  | case1 cur cnt => intro hf; cases hf; exact ⟨cnt, by simp⟩
  | case2 _ _ _ _ _ ih | case3 _ _ _ _ ih | case5 _ _ _ _ _ _ _ ih =>
    intro hf
    obtain ⟨c', hc'⟩ := ih hf
    -- one unfolding; the case's hypotheses decide the tests, `hc'` is what remains
    exact ⟨c', by rw [List.cons_append, namei]; simp only [*, if_true, if_false]⟩
  | case9 _ _ _ rest h1 h2 _ _ hg hr hl ha ih =>
    intro hf
    obtain ⟨c', hc'⟩ := ih hf
    refine ⟨c', ?_⟩
    rw [List.cons_append, namei]
    have : rest ++ b ≠ [] := by simp [hr]
    simp only [h1, h2, if_false, hg, this, hl, ha]
    rw [← List.append_assoc]; exact hc'
  | case10 _ _ _ _ _ _ hn1 => intro hf; cases hf; exact absurd rfl hn1
  | case4 | case6 | case7 | case8 | case11 => intro hf; cases hf

theorem namei_nolink (h : Host) (rel cur : Path) (cnt : Nat) (p : Path) (n : Node) :
    (∀ c ∈ rel, CleanName c) →
    (∀ k, 0 < k → k < rel.length → ∀ a t, h.get (cur ++ rel.take k) ≠ some (.link a t)) →
    namei h cur rel cnt = .found p n → p = cur ++ rel := by
  fun_induction namei h cur rel cnt with
  | case1 cur cnt => intro _ _ hf; cases hf; simp
  | case2 cur cnt c rest hc => exact fun hcl => absurd hc (by have := hcl c (by simp); simp [this.1, this.2.1])
  | case3 cur cnt rest _ => exact fun hcl => absurd rfl (hcl ".." (by simp)).2.2
  | case5 cur cnt c rest _ _ hg ih =>
    intro hcl hnl hf
    simpa using ih (fun x hx => hcl x (List.mem_cons_of_mem _ hx))
      (fun k hk0 hk a t => by simpa [List.take_succ_cons] using hnl (k + 1) (by omega) (by simp; omega) a t) hf
  | case6 | case10 => intro _ _ hf; cases hf; rfl
  | case7 cur cnt c rest _ _ a t hg hr | case8 cur cnt c rest _ _ t hr _ hg | case9 cur cnt c rest _ _ a t hg hr =>
    intro _ hnl
    have := hnl 1 (by omega) (by cases rest with | nil => exact absurd rfl hr | cons _ _ => simp)
    simp only [List.take_succ_cons, List.take_zero] at this
    exact absurd hg (this _ _)
  | case4 | case11 => intro _ _ hf; cases hf

theorem namei_get {h : Host} {cur : Path} {comps : List Name} {cnt : Nat} {p : Path} {n : Node} :
    (∀ q, q.isPrefixOf cur = true → h.get q = some .dir) →
    namei h cur comps cnt = .found p n → h.get p = some n := by
  fun_induction namei h cur comps cnt with
  | case1 cur cnt => intro hc hf; cases hf; exact hc _ (isPrefixOf_self _)
  | case2 | case9 => rename_i ih; exact ih
  | case3 cur _ _ _ ih =>
    exact fun hc => ih fun q hq =>
      hc q (prefix_trans' _ _ _ hq (List.isPrefixOf_iff_prefix.mpr (List.dropLast_prefix cur)))
  | case5 _ _ _ _ _ _ hg ih =>
    refine fun hc => ih fun q hq => ?_
    rcases prefix_of_prefix_append_singleton _ _ _ hq with h1 | h1
    · exact hc q h1
    · rw [h1]; exact hg
  | case6 _ _ _ _ _ _ _ hg | case10 _ _ _ _ _ _ _ _ hg => intro _ hf; cases hf; exact hg
  | case4 | case7 | case8 | case11 => intro _ hf; cases hf

theorem namei_root {h : Host} {comps : List Name} {cnt : Nat} {p : Path} {n : Node}
    (hf : namei h [] comps cnt = .found p n) : h.get p = some n :=
  namei_get (fun q hq => by cases (by simpa using hq : q = []); rfl) hf

/-- the host path `walkHostFS` stats for the container path `src` -/
def hostPath (cfg : Cfg) (src : Path) : Path := cfg.hostOut ++ src.drop cfg.ctrOut.length

/-- the target of the link `src -> t` as `walkHostFS` computes it: an absolute target is used as written,
a relative one is `filepath.Join(filepath.Dir(src), t)` -/
def linkTarget (src : Path) (abs : Bool) (t : Path) : Path :=
  if abs then t else cleanAbs (src.dropLast ++ t)

theorem hostPath_child (cfg : Cfg) (src : Path) (c : Name) (hp : cfg.ctrOut.isPrefixOf src = true) :
    hostPath cfg (src ++ [c]) = hostPath cfg src ++ [c] := by
  unfold hostPath
  rw [List.drop_append_of_le_length (prefix_length_le _ _ hp), List.append_assoc]

theorem namei_child {h : Host} {cfg : Cfg} {src p : Path} {c : Name} {n : Node}
    (hp : cfg.ctrOut.isPrefixOf src = true)
    (hd : namei h [] (hostPath cfg src) 0 = .found p .dir) (hc : CleanName c)
    (hg : h.get (p ++ [c]) = some n) :
    namei h [] (hostPath cfg (src ++ [c])) 0 = .found (p ++ [c]) n := by
  obtain ⟨cnt', hcnt⟩ := namei_append [c] hd
  rw [hostPath_child cfg src c hp, hcnt]
  exact namei_single cnt' hc hg

theorem hostPath_out (cfg : Cfg) : hostPath cfg cfg.ctrOut = cfg.hostOut := by
  unfold hostPath; simp

theorem hostPath_prefix (cfg : Cfg) (x s : Path) (hx : cfg.ctrOut.isPrefixOf x = true)
    (hs : cfg.ctrOut.isPrefixOf s = true) (hp : (hostPath cfg x).isPrefixOf (hostPath cfg s) = true) :
    x.isPrefixOf s = true := by
  unfold hostPath at hp
  rw [← prefix_append_drop _ _ hx, ← prefix_append_drop _ _ hs, isPrefixOf_append_cancel]
  rwa [isPrefixOf_append_cancel] at hp

/-- the host output directory exists: every prefix of its path is a real directory -/
def OutDirReal (h : Host) (cfg : Cfg) : Prop :=
  namei h [] cfg.hostOut 0 = .found cfg.hostOut .dir

end ArvVerif.C17
