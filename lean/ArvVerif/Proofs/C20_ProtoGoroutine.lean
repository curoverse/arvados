/-
The invariant of one goroutine (`LInv`) of the goroutine / channel / collector transition system of
Model/C20_Proto.lean, and what one goroutine step does to it (`gstep_facts`).
-/
import ArvVerif.Proofs.C20_LoopResult
import ArvVerif.Model.C20_Proto
namespace ArvVerif.C20

theorem afterCall_eq (g : GState) (todo : List Uuid) (idx : Nat) (req : Opts) (resp : Resp) :
    afterCall g todo idx req resp =
      match verdict todo resp with
      | .stop pg st => ({ g with acc := g.acc.add pg req resp, phase := .finished st }, some st.status?)
      | .more items =>
        ({ g with acc := g.acc.add [items] req resp, phase := .loop (remaining todo items) (idx + 1) }, none) := by
  cases resp with
  | error s => rfl
  | page items =>
    simp only [afterCall, verdict]
    split
    · rename_i hi; subst hi; rfl
    · split
      · rfl
      · split <;> rfl

def prependAcc (a : Acc) (r : CRes) : CRes := ⟨a.pages ++ r.pages, a.log ++ r.log, r.stop⟩

/-- The goroutine's whole run as the sequential model computes it, its calls from index `cut` on
failing because of the cancelled context (`runClusterCut`, stated with the forwarded options). -/
def full (cfg : Cfg) (ropts : Opts) (c : ClusterId) (todo0 : List Uuid) (cut : Option Nat) : CRes :=
  match backendFor cfg c with
  | none => ⟨[], [], .failed 404⟩
  | some B => clusterLoop (cutBackend B cut) ropts todo0.length todo0 0

/-- At the head of the loop with `todo` left and `idx` calls made: under *every* cancellation `cut` at or
after `idx` the goroutine's whole sequential run (`full`) is what it has done so far, followed by the
loop from here under that cut. -/
def Ahead (cfg : Cfg) (ropts : Opts) (g : GState) (B : Backend) (todo : List Uuid) (idx : Nat) : Prop :=
  ∀ cut : Option Nat, (∀ k, cut = some k → idx ≤ k) →
    full cfg ropts g.c g.todo0 cut = prependAcc g.acc (clusterLoop (cutBackend B cut) ropts todo.length todo idx)

/-- The invariant of one goroutine, and the idea of the protocol proof: a running goroutine does not
know whether, or at which call, it will see the cancelled context, so what it has done is kept a
prefix of the sequential run under every cut that can still come (`Ahead`); a `call` step stays
compatible with all cuts after it, a `callCancelled` step picks the cut at the present index. In
`prepared` the goroutine's variable holds the request for its own `todo` (what distinct slots
protect). A finished goroutine has made the sequential run under no cut or under the cut `k` it saw,
and then `k` lies inside its undisturbed run: the cluster is `affected`. -/
def LInv (cfg : Cfg) (ropts : Opts) (vars : ClusterId → Opts) (g : GState) : Prop :=
  match g.phase with
  | .loop todo idx =>
      g.sawCancel = none ∧ g.acc.log.length = idx ∧
      (backendFor cfg g.c = none → g.acc = ⟨[], []⟩) ∧
      ∀ B, backendFor cfg g.c = some B → Ahead cfg ropts g B todo idx
  | .prepared todo idx =>
      g.sawCancel = none ∧ g.acc.log.length = idx ∧ todo ≠ [] ∧ vars g.slot = batchReq ropts todo ∧
      ∃ B, backendFor cfg g.c = some B ∧ Ahead cfg ropts g B todo idx
  | .finished st =>
      match g.sawCancel with
      | none => full cfg ropts g.c g.todo0 none = ⟨g.acc.pages, g.acc.log, st⟩
      | some k => full cfg ropts g.c g.todo0 (some k) = ⟨g.acc.pages, g.acc.log, st⟩ ∧ st = .failed 502 ∧
          k < (full cfg ropts g.c g.todo0 none).log.length

theorem isFinished_iff (g : GState) : g.isFinished = true ↔ ∃ st, g.phase = .finished st := by
  cases h : g.phase <;> simp [GState.isFinished, h]

theorem linv_finished {cfg : Cfg} {ropts : Opts} {vars : ClusterId → Opts} {g : GState} {st : Stop}
    (hl : LInv cfg ropts vars g) (hp : g.phase = .finished st) :
    full cfg ropts g.c g.todo0 g.sawCancel = ⟨g.acc.pages, g.acc.log, st⟩ := by
  simp only [LInv, hp] at hl
  cases hsc : g.sawCancel with
  | none => rw [hsc] at hl; exact hl
  | some k => rw [hsc] at hl; exact hl.1

def staticOf (g : GState) : ClusterId × List Uuid × ClusterId := (g.c, g.todo0, g.slot)

variable {cfg : Cfg} {ropts : Opts} {vars : ClusterId → Opts}

theorem linv_setVar {g : GState} {s : ClusterId} {v : Opts}
    (hne : g.slot ≠ s) (h : LInv cfg ropts vars g) : LInv cfg ropts (setVar vars s v) g := by
  unfold LInv at h ⊢
  cases hp : g.phase with
  | loop todo idx => rw [hp] at h; exact h
  | prepared todo idx =>
    rw [hp] at h
    obtain ⟨h1, h2, h3, h4, h5⟩ := h
    exact ⟨h1, h2, h3, by simp [setVar, hne, h4], h5⟩
  | finished st => rw [hp] at h; exact h

theorem gstep_measure {vars' : ClusterId → Opts} {cn : Bool} {g g' : GState} {sent : Option Sent}
    (h : GStep cfg ropts vars cn g g' vars' sent) : g'.measure < g.measure := by
  cases h with
  | noBackend todo idx hp hb => simp [GState.measure, hp]
  | exit idx B hp hb => simp [GState.measure, hp]
  | prepare todo idx B hp hne hb => simp [GState.measure, hp]
  | callCancelled todo idx hp hcn => simp [GState.measure, hp]
  | call todo idx B hp hb =>
    rw [afterCall_eq]
    cases hvd : verdict todo (B (vars g.slot) idx) with
    | stop pg st => simp [GState.measure, hp]
    | more items =>
      have := verdict_more_lt hvd
      simp only [GState.measure, hp]
      omega

/-- What a goroutine step hands to `pstep_inv`, in the order of the conjuncts: the static fields stay
(`PInv.static`); the goroutine had not finished (`count`, and a finished one is not the one that
moved); its write leaves the invariants of the other slots alone (`loc` for the others); it sends
nothing and runs on, or sends the status of the stop it finishes with (`chan_src`, `count`,
`failed_seen`); `sawCancel` changes only under a cancelled context (`nocancel`); `LInv` holds after
the step (`loc` for itself). -/
theorem gstep_facts {vars' : ClusterId → Opts} {cn : Bool}
    {g g' : GState} {sent : Option Sent} (h : GStep cfg ropts vars cn g g' vars' sent)
    (hinv : LInv cfg ropts vars g) :
    staticOf g' = staticOf g ∧ g.isFinished = false ∧
    (∀ x : GState, x.slot ≠ g.slot → LInv cfg ropts vars x → LInv cfg ropts vars' x) ∧
    ((sent = none ∧ g'.isFinished = false) ∨
      ∃ st, sent = some st.status? ∧ g'.phase = .finished st ∧ st ≠ .starved) ∧
    (g'.sawCancel = g.sawCancel ∨ cn = true) ∧ LInv cfg ropts vars' g' := by
  have hfin : g.isFinished = false := by cases h <;> simp [GState.isFinished, *]
  cases h with
  | noBackend todo idx hp hb =>
    refine ⟨rfl, hfin, fun _ _ h => h, Or.inr ⟨_, rfl, rfl, nofun⟩, Or.inl rfl, ?_⟩
    simp only [LInv, hp] at hinv
    obtain ⟨hs, _, hacc, _⟩ := hinv
    simp only [LInv, hs, full, hb]
    rw [hacc hb]
  | exit idx B hp hb =>
    refine ⟨rfl, hfin, fun _ _ h => h, Or.inr ⟨_, rfl, rfl, nofun⟩, Or.inl rfl, ?_⟩
    simp only [LInv, hp] at hinv
    obtain ⟨hs, _, _, hah⟩ := hinv
    simp only [LInv, hs]
    rw [hah B hb none nofun]
    simp [prependAcc, clusterLoop]
  | prepare todo idx B hp hne hb =>
    refine ⟨rfl, hfin, fun x hx h => linv_setVar hx h,
      Or.inl ⟨rfl, rfl⟩, Or.inl rfl, ?_⟩
    simp only [LInv, hp] at hinv
    obtain ⟨hs, hl, _, hah⟩ := hinv
    exact ⟨hs, hl, hne, by simp [setVar], B, hb, hah B hb⟩
  | callCancelled todo idx hp hcn =>
    refine ⟨rfl, hfin, fun _ _ h => h, Or.inr ⟨_, rfl, rfl, nofun⟩, Or.inr hcn, ?_⟩
    simp only [LInv, hp] at hinv
    obtain ⟨_, hl, hne, hv, B, hb, hah⟩ := hinv
    simp only [LInv]
    refine ⟨?_, trivial, ?_⟩
    · rw [hah (some idx) (by intro k hk; cases hk; exact Nat.le_refl _), loop_cut_at idx hne, hv]
      simp [prependAcc, Acc.add]
    · rw [hah none nofun]
      have := (loop_run (B := cutBackend B none) (ropts := ropts) (idx := idx) (Nat.le_refl todo.length)).ends.2.2 hne
      simp only [prependAcc, List.length_append]
      omega
  | call todo idx B hp hb =>
    simp only [LInv, hp] at hinv
    obtain ⟨hs, hl, hne, hv, B', hb', hah⟩ := hinv
    obtain rfl : B' = B := Option.some.inj (hb'.symm.trans hb)
    rw [hv, afterCall_eq]
    cases hvd : verdict todo (B' (batchReq ropts todo) idx) with
    | stop pg st =>
      refine ⟨rfl, hfin, fun _ _ h => h, Or.inr ⟨st, rfl, rfl, ?_⟩, Or.inl rfl, ?_⟩
      · rcases (verdict_stop hvd).2 with h | ⟨h, _⟩ <;> simp [h]
      · simp only [LInv, hs]
        rw [hah none nofun, loop_unfold hne, cutBackend, hvd]
        rfl
    | more items =>
      refine ⟨rfl, hfin, fun _ _ h => h, Or.inl ⟨rfl, rfl⟩, Or.inl rfl, ?_⟩
      simp only [LInv]
      refine ⟨hs, by simp [Acc.add, hl], fun hnb => absurd (hb.symm.trans hnb) nofun, ?_⟩
      intro B2 hb2 cut hcut
      obtain rfl : B2 = B' := Option.some.inj (hb2.symm.trans hb)
      show full cfg ropts g.c g.todo0 cut = _
      rw [hah cut (fun k hk => by have := hcut k hk; omega), loop_unfold hne,
        cutBackend_lt B2 cut idx _ hcut, hvd]
      simp [prependAcc, Acc.add, CRes.push]

theorem gstep_progress (cn : Bool) {g : GState}
    (hl : LInv cfg ropts vars g) (hf : g.isFinished = false) :
    ∃ g' vars' sent, GStep cfg ropts vars cn g g' vars' sent := by
  cases hp : g.phase with
  | finished st => simp [GState.isFinished, hp] at hf
  | loop todo idx =>
    cases hb : backendFor cfg g.c with
    | none => exact ⟨_, _, _, .noBackend g todo idx hp hb⟩
    | some B =>
      by_cases hne : todo = []
      · subst hne; exact ⟨_, _, _, .exit g idx B hp hb⟩
      · exact ⟨_, _, _, .prepare g todo idx B hp hne hb⟩
  | prepared todo idx =>
    simp only [LInv, hp] at hl
    obtain ⟨_, _, _, _, B, hb, _⟩ := hl
    exact ⟨_, _, _, .call g todo idx B hp hb⟩

end ArvVerif.C20
