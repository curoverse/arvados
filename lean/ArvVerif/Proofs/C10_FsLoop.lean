/-
C10 — the range loop of `dirnode.loadManifest` (with its carried `(segIdx, pos)` cursor) agrees
with the reference interpreter `resolveTok`, keeps the cursor consistent, and reports "invalid
segment" exactly when the token reaches past the end of the stream.
-/
import ArvVerif.Proofs.C10_Resolve
namespace ArvVerif.C10

theorem keep_append_eq (acc : List Seg) (b : Loc) (base pos len : Nat) (off n : Int)
    (hoff : off = ((max pos base - base : Nat) : Int))
    (hn : n = ((min (pos + len) (base + b.size) : Nat) : Int) - ((max pos base : Nat) : Int)) :
    (if n > 0 then acc ++ [(⟨b.text, off.toNat, n.toNat⟩ : Seg)] else acc) = acc ++ piece b base pos len := by
  rw [← keep_eq_piece b base pos len off n hoff hn]
  split <;> simp

/-- One block of the loop, in natural numbers: no int64 overflow, since the caller passes `ol = o + l`. -/
theorem fsLoop_cons (o l : Nat) (b : Loc) (rest : List Loc) (idx p : Nat) (acc : List Seg) :
    fsLoop (o : Int) ((o + l : Nat) : Int) (b :: rest) idx (p : Int) acc =
      if p + b.size ≤ o ∨ b.size = 0 ∨ p + b.size ≤ o + l then
        fsLoop (o : Int) ((o + l : Nat) : Int) rest (idx + 1) ((p + b.size : Nat) : Int) (acc ++ piece b p o l)
      else (idx, (p : Int), acc ++ piece b p o l) := by
  rw [fsLoop]
  simp only [← Int.natCast_add]
  by_cases hskip : p + b.size ≤ o ∨ b.size = 0
  · rw [if_pos (by omega), if_pos (by omega), piece_nil_of_le b p o l (by omega), List.append_nil]
  · rw [if_neg (by omega)]
    by_cases hbrk : o + l ≤ p
    · rw [if_pos (by omega), if_neg (by omega), piece_nil_of_le b p o l (by omega), List.append_nil]
    · rw [if_neg (by omega), keep_append_eq acc b p o l]
      · by_cases hstop : o + l < p + b.size
        · rw [if_pos (by omega), if_neg (by omega)]
        · rw [if_neg (by omega), if_pos (by omega)]
      · split <;> omega
      · repeat' split
        all_goals omega

/-- `rest = segments[segIdx:]`, whose first block starts at stream offset `p`; the cursor moves by `k` whole
blocks. -/
theorem fsLoop_spec (o l : Nat) :
    ∀ (rest : List Loc) (idx p : Nat) (acc : List Seg),
      ∃ k, k ≤ rest.length ∧ (k < rest.length → o + l ≤ p + streamLen rest) ∧
        fsLoop (o : Int) ((o + l : Nat) : Int) rest idx (p : Int) acc =
          (idx + k, ((p + streamLen (rest.take k) : Nat) : Int), acc ++ resolveTok rest p o l) := by
  intro rest
  induction rest with
  | nil => intro idx p acc; exact ⟨0, Nat.le_refl _, nofun, by simp [fsLoop, resolveTok]⟩
  | cons b rest ih =>
    intro idx p acc
    rw [fsLoop_cons, resolveTok_cons, ← List.append_assoc]
    split
    · obtain ⟨k, hk, hkt, h⟩ := ih (idx + 1) (p + b.size) (acc ++ piece b p o l)
      refine ⟨k + 1, by simpa using hk, fun hlt => ?_, ?_⟩
      · have := hkt (by simpa using hlt)
        rw [streamLen_cons]; omega
      · rw [h, List.take_succ_cons, streamLen_cons, Nat.add_assoc, Nat.add_assoc, Nat.add_comm 1 k]
    · rw [resolveTok_nil_of_ge rest _ o l (by omega), List.append_nil]
      exact ⟨0, by simp, fun _ => by rw [streamLen_cons]; omega, by simp⟩

/-- the loader's "ran off the end of the stream" test after the loop -/
theorem fsLoop_pastEnd (o l : Nat) (rest : List Loc) (idx p : Nat) (acc : List Seg) :
    ((fsLoop (o : Int) ((o + l : Nat) : Int) rest idx (p : Int) acc).1 = idx + rest.length ∧
      (fsLoop (o : Int) ((o + l : Nat) : Int) rest idx (p : Int) acc).2.1 < ((o + l : Nat) : Int)) ↔
    p + streamLen rest < o + l := by
  obtain ⟨k, hk1, hk2, h⟩ := fsLoop_spec o l rest idx p acc
  rw [h]
  dsimp only
  -- a loop that stopped early (`k` short of all blocks) had reached the token's end
  rcases Nat.lt_or_eq_of_le hk1 with hh | rfl
  · have := hk2 hh
    omega
  · rw [List.take_length]
    omega

/-- the loader's carried `(segIdx, pos)` is consistent: `pos` is the stream offset at which block `idx` starts -/
def Cursor (segs : List Loc) (idx : Nat) (pos : Int) : Prop :=
  idx ≤ segs.length ∧ pos = ((streamLen (segs.take idx) : Nat) : Int)

theorem addI64_eq (a b : Nat) (h : a + b < two63) : addI64 (a : Int) (b : Int) = ((a + b : Nat) : Int) := by
  unfold addI64 toI64
  unfold two63 at *
  unfold two64
  split <;> omega

theorem fsLoop_cursor (segs : List Loc) (o l idx0 : Nat) (hidx0 : idx0 ≤ segs.length)
    (hle : streamLen (segs.take idx0) ≤ o) (hin : o + l ≤ streamLen segs) :
    ∃ idx pos, fsLoop (o : Int) ((o + l : Nat) : Int) (segs.drop idx0) idx0
        ((streamLen (segs.take idx0) : Nat) : Int) [] = (idx, pos, resolveTok segs 0 o l) ∧
      Cursor segs idx pos ∧ ¬ (idx = segs.length ∧ pos < ((o + l : Nat) : Int)) := by
  obtain ⟨k, hk1, hk2, h⟩ := fsLoop_spec o l (segs.drop idx0) idx0 (streamLen (segs.take idx0)) []
  have hsplit := streamLen_take_drop segs idx0
  rw [List.length_drop] at hk1 hk2
  refine ⟨idx0 + k, ((streamLen (segs.take idx0) + streamLen ((segs.drop idx0).take k) : Nat) : Int),
    by rw [h, resolveTok_drop segs 0 o l idx0 (by omega), Nat.zero_add]; rfl,
    ⟨by omega, by rw [List.take_add, streamLen_append]⟩, fun ⟨ha, hb⟩ => ?_⟩
  -- all blocks consumed: the stream ends at the cursor, and the token lies inside it
  obtain rfl : k = segs.length - idx0 := by omega
  rw [← List.length_drop, List.take_length] at hb
  omega

end ArvVerif.C10
