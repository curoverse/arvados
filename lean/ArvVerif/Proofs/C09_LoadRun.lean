/-
C09 helper lemmas: how `loadManifest` (`C10.fsToken` … `C10.fsLoad`) uses the tree. Whatever the text, the
tree it builds comes from the empty tree by a run of C10's tree operations (`fsLoad_run`): each
`createFileAndParents` of a path, then `appendSegs` of some segments to the file found. So a property of
trees that these two preserve holds for the tree of every accepted text (`fsLoad_gen`).
-/
import ArvVerif.Proofs.C10_FsTree
namespace ArvVerif.C09

open ArvVerif.C10 (bSlash bColon FsTree FsLine Created createFileAndParents appendSegs fsToken fsTokens fsLine fsLines Contrib applyOp
  runOps runOps_append applyOp_some createFile_cases)

theorem runOps_trans {a b : Contrib} {t ta t' : FsTree} (h1 : runOps a t = some ta) (h2 : runOps b ta = some t') :
    runOps (a ++ b) t = some t' := by
  rw [runOps_append, h1]; exact h2

theorem fsToken_run {tok : Bytes} {st st' : FsLine} {t t' : FsTree} (h : fsToken tok st t = some (st', t')) :
    ∃ os, runOps os t = some t' := by
  unfold fsToken at h
  split at h
  · -- no colon: a locator token; the tree is handed on
    refine ⟨[], ?_⟩
    split at h
    · cases h
    · split at h <;> cases h
      rfl
  · -- a file token `pos:len:name`; every exit before `createFileAndParents` is an error
    split at h
    · cases h
    · split at h
      · split at h
        · split at h
          · cases h
          · next nm _ _ _ _ _ _ _ _ =>
            simp only [] at h
            generalize hc : createFileAndParents (st.dirname ++ bSlash :: C10.fsUnescape nm) t = r at h
            obtain ⟨res, ta⟩ := r
            cases res with
            | error => cases h
            | marker =>
              -- name `.`: the directory is made, no segments are added
              simp only [] at h
              split at h <;> cases h
              exact ⟨[(st.dirname ++ bSlash :: C10.fsUnescape nm, [])], by simp only [runOps, applyOp, hc]; rfl⟩
            | file p =>
              simp only [] at h
              split at h <;> split at h <;> cases h <;>
                exact ⟨[(st.dirname ++ bSlash :: C10.fsUnescape nm, _)], by simp only [runOps, applyOp, hc]; rfl⟩
        · cases h
      · cases h

theorem fsTokens_run : ∀ {toks : List Bytes} {st st' : FsLine} {t t' : FsTree}, fsTokens toks st t = some (st', t') →
    ∃ os, runOps os t = some t'
  | [], _, _, _, _, h => by cases h; exact ⟨[], rfl⟩
  | tok :: rest, st, _, t, _, h => by
    rw [fsTokens] at h
    split at h
    · next h1 =>
      obtain ⟨os1, e1⟩ := fsToken_run h1
      obtain ⟨os2, e2⟩ := fsTokens_run h
      exact ⟨os1 ++ os2, runOps_trans e1 e2⟩
    · cases h

theorem fsLine_run {line : Bytes} {t t' : FsTree} (h : fsLine line t = some t') : ∃ os, runOps os t = some t' := by
  unfold fsLine at h
  split at h
  · cases h
  · split at h
    · next h1 =>
      split at h <;> cases h
      exact fsTokens_run h1
    · cases h

theorem fsLines_run : ∀ {ls : List Bytes} {t t' : FsTree}, fsLines ls t = some t' → ∃ os, runOps os t = some t'
  | [], _, _, h => by cases h; exact ⟨[], rfl⟩
  | l :: ls, t, _, h => by
    rw [fsLines] at h
    split at h
    · next h1 =>
      obtain ⟨os1, e1⟩ := fsLine_run h1
      obtain ⟨os2, e2⟩ := fsLines_run h
      exact ⟨os1 ++ os2, runOps_trans e1 e2⟩
    · cases h

theorem fsLoad_run {txt : Bytes} {tr : FsTree} (h : C10.fsLoad txt = some tr) : ∃ os, runOps os ⟨[], []⟩ = some tr := by
  unfold C10.fsLoad at h
  simp only [] at h
  split at h
  · cases h
  · exact fsLines_run h

section Generic
variable (P : FsTree → Prop)
  (hcreate : ∀ path t res t', createFileAndParents path t = (res, t') → P t → P t')
  (happ : ∀ t p segs, P t → P (appendSegs t p segs))
include hcreate happ

theorem runOps_gen : ∀ (os : Contrib) (t t' : FsTree), runOps os t = some t' → P t → P t'
  | [], t, t', h, hp => by cases h; exact hp
  | o :: os, t, t', h, hp => by
    obtain ⟨ta, h1, h2⟩ := Option.bind_eq_some_iff.mp h
    refine runOps_gen os ta t' h2 ?_
    obtain ⟨res, tb, hc, ⟨_, rfl⟩ | ⟨p, _, rfl⟩⟩ := applyOp_some h1
    · exact hcreate _ _ _ _ hc hp
    · exact happ _ _ _ (hcreate _ _ _ _ hc hp)

theorem fsLoad_gen (h0 : P ⟨[], []⟩) (txt : Bytes) (tr : FsTree) (h : C10.fsLoad txt = some tr) : P tr := by
  obtain ⟨os, e⟩ := fsLoad_run h
  exact runOps_gen P hcreate happ os _ tr e h0

end Generic

def keysOf (t : FsTree) : List (List Bytes) := t.files.map (·.1)

theorem mem_keysOf {t : FsTree} {k : List Bytes} : k ∈ keysOf t ↔ t.files.any (·.1 = k) = true := by
  simp [keysOf]

theorem keysOf_addFile (t : FsTree) (e : List Bytes × List C10.Seg) :
    keysOf { t with files := t.files ++ [e] } = keysOf t ++ [e.1] := by
  simp [keysOf]

theorem createFile_keys (path : Bytes) (t t' : FsTree) (res : Created) (h : createFileAndParents path t = (res, t')) :
    (∀ k ∈ keysOf t, k ∈ keysOf t') ∧ (∀ p, res = Created.file p → p ∈ keysOf t') := by
  rcases createFile_cases h with ⟨rfl, rfl⟩ | ⟨cur, ta, _, hw, rfl, hc⟩
  · exact ⟨fun k hk => hk, fun p hp => by cases hp⟩
  · have hkeep : ∀ k ∈ keysOf t, k ∈ keysOf ta := fun k hk => by unfold keysOf at hk ⊢; rw [C10.walkParents_files hw]; exact hk
    rcases hc with ⟨hr, rfl⟩ | ⟨rfl, _, _, _, ⟨hany, rfl⟩ | ⟨_, rfl⟩⟩
    · exact ⟨hkeep, fun p hp => by rcases hr with rfl | ⟨rfl, _⟩ <;> cases hp⟩
    · refine ⟨hkeep, fun p hp => ?_⟩
      cases hp
      exact mem_keysOf.mpr hany
    · rw [keysOf_addFile]
      exact ⟨fun k hk => List.mem_append_left _ (hkeep k hk), fun p hp => by cases hp; simp⟩

theorem appendSegs_keys (t : FsTree) (p : List Bytes) (segs : List C10.Seg) : keysOf (appendSegs t p segs) = keysOf t := by
  unfold keysOf appendSegs
  simp only [List.map_map]
  apply List.map_congr_left
  intro e _
  simp only [Function.comp]
  split <;> rfl

theorem runOps_keys_mono {os : Contrib} {t t' : FsTree} (h : runOps os t = some t') : ∀ k ∈ keysOf t, k ∈ keysOf t' :=
  runOps_gen (fun u => ∀ k ∈ keysOf t, k ∈ keysOf u)
    (fun path u res u' hc hp k hk => (createFile_keys path u u' res hc).1 k (hp k hk))
    (fun u p segs hp k hk => by rw [appendSegs_keys]; exact hp k hk) os t t' h (fun k hk => hk)

end ArvVerif.C09
