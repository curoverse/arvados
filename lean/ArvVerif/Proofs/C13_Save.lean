/-
C13: MarshalManifest / Sync (`Ev.save`). The sync flush of C08 (`doSync`)
keeps the token invariant (it only replaces mem segments by stored ones); in the plain model a flush
is the identity; the snapshot read from the concrete state is the snapshot of the abstract state.
-/
import ArvVerif.Proofs.C13_Complete
import ArvVerif.Proofs.C13_Marks
namespace ArvVerif.C13
open ArvVerif.C08

variable {max : Nat} {hash : Bytes → Loc}

variable {Q : Bytes → Flush → Prop}

theorem setSeg_allG {files : List FileNode} (h : ∀ fn ∈ files, AllG Q fn.segs) (r : Ref) (loc : Loc) (a b c : Nat) :
    ∀ fn ∈ setSeg files r (Seg.stored loc a b c), AllG Q fn.segs := by
  unfold setSeg
  cases hf : files[r.1]? with
  | none => exact h
  | some fn => exact forall_mem_set h r.1 ((h fn (List.mem_of_getElem? hf)).set AllG.single_stored _)

theorem commitBlock_allG {files : List FileNode} (h : ∀ fn ∈ files, AllG Q fn.segs) (st : Store) (refs : List Ref) :
    ∀ fn ∈ (commitBlock hash st files refs).2, AllG Q fn.segs := by
  refine commitBlock_ind (P := fun _ fs => ∀ fn ∈ fs, AllG Q fn.segs) st files refs h fun _ r _ fs _ h' => ?_
  cases refBuf files r with
  | none => exact h'
  | some buf => exact setSeg_allG h' _ _ _ _ _

theorem flushFiles_allG {files : List FileNode} (h : ∀ fn ∈ files, AllG Q fn.segs) (st : Store) (short : Bool) :
    ∀ fn ∈ (flushFiles hash max st files short).2, AllG Q fn.segs :=
  List.foldlRecOn _ _ (motive := fun (acc : Store × List FileNode) => ∀ fn ∈ acc.2, AllG Q fn.segs) h
    (fun acc h' g _ => commitBlock_allG h' acc.1 g)

theorem flushDir_marks (hinj : Function.Injective hash) {fs : Conc} (hinv : Inv max hash fs) (toks : List Tok)
    (hm : AllSegs (MarkOK max hash fs.world toks) fs) (short : Bool) (d : Nat) :
    AllSegs (MarkOK max hash (flushDir (concImpl hash max) short fs d).world toks) (flushDir (concImpl hash max) short fs d) := by
  obtain ⟨cs, hcs, hw, hfiles⟩ := flushDir_files (concImpl hash max) short fs d
  rw [hw]
  have hext := (flushFiles_spec hinj hinv.ok cs (fun fn hfn => by
    obtain ⟨nf, hnf, rfl⟩ := hcs fn hfn
    exact (hinv.files nf hnf).1.segs) short).1
  -- a file that comes out of the flush: its mem segments are old ones
  have hsub := flushFiles_allG (hash := hash) (max := max) (files := cs)
    (Q := fun b fl => MarkOK max hash fs.world toks (Seg.mem b fl))
    (fun fn hfn b fl hb => by
      obtain ⟨nf, hnf, rfl⟩ := hcs fn hfn
      exact hm nf hnf _ hb) fs.world short
  intro nf hnf
  rcases hfiles nf hnf with h | h
  · exact fun sg hsg => (hm nf h sg hsg).ext_world hext
  · exact AllG.all_segs (fun _ _ _ _ => trivial) fun b fl hsg => (hsub nf.2 h b fl hsg).ext_world hext

theorem doSync_marks (hinj : Function.Injective hash) {fs : Conc} (hinv : Inv max hash fs) (toks : List Tok)
    (hm : AllSegs (MarkOK max hash fs.world toks) fs) :
    AllSegs (MarkOK max hash (doSync (concImpl hash max) fs).1.world toks) (doSync (concImpl hash max) fs).1 :=
  (List.foldlRecOn _ _ (motive := fun fs' => Inv max hash fs' ∧ AllSegs (MarkOK max hash fs'.world toks) fs') ⟨hinv, hm⟩
    (fun _ h d _ => ⟨(flushDir_ref hinj h.1 true d).2, flushDir_marks hinj h.1 toks h.2 true d⟩)).2

theorem doSync_plain_id (S : Plain) : (doSync specImpl S).1 = S :=
  doSync_spec_id S

theorem snapFrom_abs (fs : Conc) : ∀ (fuel d : Nat) (path : String),
    snapFrom (abs fs.world) fs fuel d path = snapFrom id (absFS fs) fuel d path := by
  intro fuel
  induction fuel with
  | zero => intro d path; rfl
  | succ fuel ih =>
    intro d path
    simp only [snapFrom, absFS_ents]
    congr 1
    funext e
    cases e.2 with
    | dir c => exact ih c _
    | file f =>
      simp only [absFS_files, absFiles_get]
      cases fs.files[f]? <;> rfl

theorem snapshot_abs (fs : Conc) : snapshot (abs fs.world) fs = snapshot id (absFS fs) :=
  snapFrom_abs fs _ _ _

theorem save_spec (hinj : Function.Injective hash) {s : St} (hinv : Inv13 max hash s) (w mask : Nat) (fail : Bool) :
    Inv13 max hash (evStep hash max s (Ev.save w mask fail)).1 ∧
    absFS (evStep hash max s (Ev.save w mask fail)).1.fs = absFS s.fs ∧
    ((evStep hash max s (Ev.save w mask fail)).2 = Out.snap (snapshot id (absFS s.fs)) ∨
     ((evStep hash max s (Ev.save w mask fail)).2 = Out.failed ∧ fail = true)) := by
  simp only [evStep]
  obtain ⟨h1, h2⟩ := completeAll_spec mask s.groups.length 0 hinv
  generalize completeAll hash max mask s.groups.length s 0 = s1 at h1 h2
  split
  · next hc =>
    refine ⟨h1, h2, Or.inr ⟨rfl, ?_⟩⟩
    cases fail with
    | true => rfl
    | false => simp at hc
  · obtain ⟨_, r2, r3⟩ := doSync_ref hinj h1.base
    have hid : absFS (doSync (concImpl hash max) s1.fs).1 = absFS s1.fs := by
      rw [r2]; exact doSync_plain_id _
    refine ⟨⟨r3, doSync_marks hinj h1.base s1.toks h1.marks⟩, by rw [hid, h2], Or.inl ?_⟩
    rw [snapshot_abs, hid, h2]

end ArvVerif.C13
