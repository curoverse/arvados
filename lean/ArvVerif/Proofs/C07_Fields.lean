/-
C07: strings as separated fields. Every string is, in exactly one way, a separator-free head
followed by separator-free fields, each preceded by the separator (`exists_fields`,
`splitOn_join`); the other files compute the model's functions on that form. `hints fs` is that
form for `+`; the lemmas for an arbitrary separator write the `flatMap` out. `splitOn` is the
model's own recursion, not core's `List.splitOn` (which `s.splitOn c` would pick and which
computes the same); none of core's lemmas is used.
-/
import ArvVerif.Model.C07
namespace ArvVerif.C07

/-- `+f1+f2…` -/
def hints (fs : List Str) : Str := fs.flatMap (fun f => '+' :: f)

@[simp] theorem hints_nil : hints [] = [] := rfl
@[simp] theorem hints_cons (f : Str) (fs : List Str) : hints (f :: fs) = '+' :: f ++ hints fs := by
  simp [hints]
theorem hints_append (a b : List Str) : hints (a ++ b) = hints a ++ hints b := by
  simp [hints]

def Free (sep : Char) (f : Str) : Prop := ∀ c ∈ f, c ≠ sep

instance (sep : Char) (f : Str) : Decidable (Free sep f) :=
  inferInstanceAs (Decidable (∀ c ∈ f, c ≠ sep))

theorem free_nil (sep : Char) : Free sep [] := fun _ h => nomatch h

section
variable {sep : Char}

theorem free_cons {c : Char} {f : Str} : Free sep (c :: f) ↔ c ≠ sep ∧ Free sep f :=
  List.forall_mem_cons

theorem free_append {a b : Str} : Free sep (a ++ b) ↔ Free sep a ∧ Free sep b := by
  simp only [Free, List.mem_append, or_imp, forall_and]

theorem free_of_all {p : Char → Bool} {f : Str} (hsep : p sep = false)
    (h : f.all p = true) : Free sep f := by
  intro c hc e
  rw [e] at hc
  exact absurd (List.all_eq_true.mp h sep hc) (by simp [hsep])

theorem splitOn_free {f : Str} (h : Free sep f) : splitOn sep f = [f] := by
  induction f with
  | nil => rfl
  | cons c cs ih =>
    obtain ⟨hc, hcs⟩ := free_cons.mp h
    simp [splitOn, hc, ih hcs]

theorem splitOn_append_sep {a b : Str} (h : Free sep a) :
    splitOn sep (a ++ sep :: b) = a :: splitOn sep b := by
  induction a with
  | nil => simp [splitOn]
  | cons c cs ih =>
    obtain ⟨hc, hcs⟩ := free_cons.mp h
    simp [splitOn, hc, ih hcs]

theorem splitOn_join {h : Str} {fs : List Str} (hh : Free sep h)
    (hfs : ∀ f ∈ fs, Free sep f) :
    splitOn sep (h ++ fs.flatMap (fun f => sep :: f)) = h :: fs := by
  induction fs generalizing h with
  | nil => simpa using splitOn_free hh
  | cons f fs ih =>
    obtain ⟨hf, hfs'⟩ := List.forall_mem_cons.mp hfs
    rw [List.flatMap_cons, List.cons_append, splitOn_append_sep hh, ih hf hfs']

end

theorem free_hints {sep : Char} {fs : List Str} (hsep : '+' ≠ sep) (hfs : ∀ g ∈ fs, Free sep g) :
    Free sep (hints fs) := by
  induction fs with
  | nil => exact free_nil _
  | cons f fs ih =>
    obtain ⟨hf, hfs'⟩ := List.forall_mem_cons.mp hfs
    rw [hints_cons]
    exact free_cons.mpr ⟨hsep, free_append.mpr ⟨hf, ih hfs'⟩⟩

theorem splitOn_hints {h : Str} {fs : List Str} (hh : Free '+' h) (hfs : ∀ f ∈ fs, Free '+' f) :
    splitOn '+' (h ++ hints fs) = h :: fs := splitOn_join hh hfs

theorem exists_fields (sep : Char) (s : Str) :
    ∃ (h : Str) (fs : List Str),
      s = h ++ fs.flatMap (fun f => sep :: f) ∧ Free sep h ∧ ∀ f ∈ fs, Free sep f := by
  induction s with
  | nil => exact ⟨[], [], rfl, free_nil _, fun _ h => nomatch h⟩
  | cons c cs ih =>
    obtain ⟨h, fs, rfl, hh, hfs⟩ := ih
    by_cases hc : c = sep
    · exact ⟨[], h :: fs, by simp [hc], free_nil _, List.forall_mem_cons.mpr ⟨hh, hfs⟩⟩
    · exact ⟨c :: h, fs, rfl, free_cons.mpr ⟨hc, hh⟩, hfs⟩

theorem splitOn_eq_cons {sep : Char} {s h : Str} {fs : List Str} (e : splitOn sep s = h :: fs) :
    s = h ++ fs.flatMap (fun f => sep :: f) ∧ Free sep h ∧ ∀ f ∈ fs, Free sep f := by
  obtain ⟨h', fs', rfl, hh, hfs⟩ := exists_fields sep s
  rw [splitOn_join hh hfs] at e
  cases e
  exact ⟨rfl, hh, hfs⟩

theorem takeWhile_join {sep : Char} {h : Str} (fs : List Str) (hh : Free sep h) :
    (h ++ fs.flatMap (fun f => sep :: f)).takeWhile (· ≠ sep) = h := by
  have hp : ∀ c ∈ h, (decide (c ≠ sep)) = true := fun c hc => by simpa using hh c hc
  cases fs with
  | nil => simpa using List.takeWhile_append_of_pos (l₂ := []) hp
  | cons f fs => rw [List.flatMap_cons, List.cons_append, List.takeWhile_append_of_pos hp]; simp

theorem takeWhile_eq_head_splitOn (sep : Char) (s : Str) :
    ∃ fs, splitOn sep s = s.takeWhile (· ≠ sep) :: fs := by
  obtain ⟨h, fs, rfl, hh, hfs⟩ := exists_fields sep s
  exact ⟨fs, by rw [splitOn_join hh hfs, takeWhile_join fs hh]⟩

theorem hashPart_hints {hash : Str} (fs : List Str) (hfree : Free '+' hash) :
    hashPart (hash ++ hints fs) = hash :=
  takeWhile_join fs hfree

theorem first_sep_unique {sep : Char} {a a' b b' : Str} (ha : Free sep a) (ha' : Free sep a')
    (h : a ++ sep :: b = a' ++ sep :: b') : a = a' ∧ b = b' := by
  have hs := congrArg (splitOn sep) h
  rw [splitOn_append_sep ha, splitOn_append_sep ha'] at hs
  obtain rfl := (List.cons.inj hs).1
  exact ⟨rfl, List.cons.inj (List.append_cancel_left h) |>.2⟩

theorem last_sep_unique {sep : Char} {a a' b b' : Str} (hb : Free sep b) (hb' : Free sep b')
    (h : a ++ sep :: b = a' ++ sep :: b') : a = a' ∧ b = b' := by
  have h2 := congrArg List.reverse h
  simp only [List.reverse_append, List.reverse_cons, List.append_assoc, List.singleton_append] at h2
  obtain ⟨e1, e2⟩ := first_sep_unique (a := b.reverse) (a' := b'.reverse)
    (fun c hc => hb c (List.mem_reverse.mp hc)) (fun c hc => hb' c (List.mem_reverse.mp hc)) h2
  exact ⟨List.reverse_inj.mp e2, List.reverse_inj.mp e1⟩

end ArvVerif.C07
