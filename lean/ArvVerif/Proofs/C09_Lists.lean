/-
C09 helper lemmas: facts about lists and byte strings that the C09 proofs share.
-/
import ArvVerif.Model.C10
namespace ArvVerif.C09

theorem byteArray_toList_loop (bs : ByteArray) (i : Nat) (r : List UInt8) :
    ByteArray.toList.loop bs i r = r.reverse ++ bs.data.toList.drop i := by
  have hsz : bs.data.toList.length = bs.size := rfl
  induction h : bs.size - i generalizing i r with
  | zero =>
    unfold ByteArray.toList.loop
    rw [if_neg (by omega), List.drop_of_length_le (by omega), List.append_nil]
  | succ n ih =>
    have hi : i < bs.data.toList.length := by omega
    unfold ByteArray.toList.loop
    rw [if_pos (by omega), ih (i + 1) _ (by omega), List.reverse_cons, List.append_assoc,
      List.drop_eq_getElem_cons hi]
    congr 1
    simp only [List.singleton_append, List.cons.injEq, and_true]
    exact getElem!_pos bs.data i hi

/-- The bytes of a string literal, character by character. `ByteArray.toList` tests `i < bs.size` at
every step, and the kernel evaluates the encoded array again for each test; after rewriting with this
equation a literal's bytes are computed in one pass. -/
theorem str_ofList (l : List Char) : C10.str (String.ofList l) = l.flatMap String.utf8EncodeChar := by
  unfold C10.str ByteArray.toList
  rw [byteArray_toList_loop]
  simp [String.toByteArray_ofList, List.utf8Encode]

theorem map_eq_map_of {α β γ δ : Type} {f : α → γ} {g : β → γ} {F : α → δ} {G : β → δ}
    (h : ∀ a b, f a = g b → F a = G b) : ∀ {l : List α} {l' : List β}, l.map f = l'.map g → l.map F = l'.map G
  | [], [], _ => rfl
  | [], _ :: _, e => by cases e
  | _ :: _, [], e => by cases e
  | a :: l, b :: l', e => by
    simp only [List.map_cons, List.cons.injEq] at e ⊢
    exact ⟨h a b e.1, map_eq_map_of h e.2⟩

theorem map_pair {α β γ δ : Type} {p1 : α → γ} {q1 : β → γ} {p2 : α → δ} {q2 : β → δ} {l : List α} {l' : List β}
    (e1 : l.map p1 = l'.map q1) (e2 : l.map p2 = l'.map q2) :
    l.map (fun x => (p1 x, p2 x)) = l'.map (fun x => (q1 x, q2 x)) := by
  rw [← List.zip_map', ← List.zip_map', e1, e2]

theorem zip_fst_snd {α β : Type} (l : List (α × β)) : (l.map (·.1)).zip (l.map (·.2)) = l :=
  (List.zip_of_prod rfl rfl).symm

theorem mem_append_singleton {α : Type} {P : α → Prop} {l : List α} {x : α} (hl : ∀ c ∈ l, P c) (hx : P x) :
    ∀ c ∈ l ++ [x], P c := by
  intro c hc
  rcases List.mem_append.mp hc with hc | hc
  · exact hl c hc
  · rw [List.mem_singleton.mp hc]; exact hx

theorem exists_bound {α : Type} (f : α → Nat) : ∀ (l : List α), ∃ M, ∀ x ∈ l, f x ≤ M
  | [] => ⟨0, fun _ hx => by cases hx⟩
  | a :: r => by
    obtain ⟨M, hM⟩ := exists_bound f r
    refine ⟨max (f a) M, fun x hx => ?_⟩
    rcases List.mem_cons.mp hx with rfl | hx
    · exact Nat.le_max_left _ _
    · exact Nat.le_trans (hM x hx) (Nat.le_max_right _ _)

theorem nodup_concat {α : Type} {l : List α} {a : α} (h : l.Nodup) (ha : a ∉ l) : (l ++ [a]).Nodup := by
  rw [List.nodup_append]
  exact ⟨h, by simp, fun x hx y hy e => ha (by rw [List.mem_singleton.mp hy] at e; exact e ▸ hx)⟩

theorem getLastD_mem {α : Type} (l : List α) (d : α) (h : l ≠ []) : l.getLastD d ∈ l := by
  rw [List.getLastD_eq_getLast?, List.getLast?_eq_some_getLast h]
  exact List.getLast_mem h

theorem path_split (k : List Bytes) (h : k ≠ []) : k.dropLast ++ [k.getLastD []] = k := by
  rw [List.getLastD_eq_getLast?, List.getLast?_eq_some_getLast h]
  exact List.dropLast_concat_getLast h

theorem dropLast_of_concat_eq {α : Type} {a p rest : List α} {f x : α} (h : a ++ [f] = p ++ x :: rest) :
    a = p ++ (x :: rest).dropLast := by
  have := congrArg List.dropLast h
  rwa [List.dropLast_concat, List.dropLast_append_of_ne_nil (by simp)] at this

end ArvVerif.C09
