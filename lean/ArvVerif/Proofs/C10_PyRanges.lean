/-
C10 — the Python range mapper (`first_block` + `locators_and_ranges`) agrees with the reference
interpreter `resolveTok` on every range that lies inside the stream and raises nothing there.
-/
import ArvVerif.Proofs.C10_Resolve
namespace ArvVerif.C10

def pyKeep (ps : List PyLR) : List Seg :=
  ps.filterMap fun p => if p.len > 0 then some ⟨p.loc, p.off.toNat, p.len.toNat⟩ else none

theorem pyKeep_cons (p : PyLR) (ps : List PyLR) :
    pyKeep (p :: ps) = (if p.len > 0 then [⟨p.loc, p.off.toNat, p.len.toNat⟩] else []) ++ pyKeep ps := by
  by_cases h : p.len > 0 <;> simp [pyKeep, h]

theorem pyRangesFrom_contiguous : ∀ (bs : List Loc) (base : Nat), Contiguous (pyRangesFrom base bs)
  | [], _ => trivial
  | [_], _ => trivial
  | b :: b' :: rest, base => by
    have := pyRangesFrom_contiguous (b' :: rest) (base + b.size)
    simp only [pyRangesFrom, Contiguous] at this ⊢
    exact ⟨trivial, this⟩

theorem pyRangesFrom_get : ∀ (bs : List Loc) (base i : Nat) (hi : i < bs.length),
    (pyRangesFrom base bs)[i]? = some ⟨bs[i].text, base + streamLen (bs.take i), bs[i].size⟩
  | b :: rest, base, 0, _ => by simp [pyRangesFrom]
  | b :: rest, base, i + 1, hi => by
    simp only [pyRangesFrom, List.getElem?_cons_succ, List.take_succ_cons, streamLen_cons, List.getElem_cons_succ]
    rw [pyRangesFrom_get rest (base + b.size) i (by simpa using hi), Nat.add_assoc]

theorem pyRangesFrom_drop : ∀ (bs : List Loc) (base i : Nat),
    (pyRangesFrom base bs).drop i = pyRangesFrom (base + streamLen (bs.take i)) (bs.drop i)
  | [], base, i => by simp [pyRangesFrom]
  | b :: rest, base, 0 => by simp
  | b :: rest, base, i + 1 => by
    simp only [pyRangesFrom, List.drop_succ_cons, List.take_succ_cons, streamLen_cons]
    rw [pyRangesFrom_drop rest (base + b.size) i]
    congr 1; omega

theorem pyRangesFrom_ne_nil (bs : List Loc) (base : Nat) (h : bs ≠ []) : pyRangesFrom base bs ≠ [] := by
  cases bs with
  | nil => exact absurd rfl h
  | cons b rest => simp [pyRangesFrom]

/-- the hypothesis on `bs.head?`: the loop starts at the block `first_block` found, which ends after `start` -/
theorem pyLrLoop_spec (start size : Nat) :
    ∀ (bs : List Loc) (base : Nat), (∀ b ∈ bs.head?, start < base + b.size) →
      pyKeep (pyLrLoop start size (pyRangesFrom base bs)) = resolveTok bs base start size := by
  intro bs
  induction bs with
  | nil => intro base _; rfl
  | cons b rest ih =>
    intro base hpre
    have hlt : start < base + b.size := hpre b rfl
    have ih' := ih (base + b.size) (fun b' _ => by omega)
    simp only [pyRangesFrom, pyLrLoop]
    by_cases hbrk : start + size ≤ base
    · rw [if_pos hbrk, resolveTok_nil_of_ge _ _ _ _ hbrk]; rfl
    · rw [if_neg hbrk, resolveTok_cons, ← ih']
      -- each of the four clipping cases keeps `piece`
      repeat' split
      all_goals
        rw [pyKeep_cons]
        congr 1
        exact keep_eq_piece _ _ _ _ _ _ (by dsimp only; omega) (by dsimp only; omega)

/-- This is the statement that failed before fix 9f993b5 (where `first_block` returned `None` and the
result was silently `[]`). -/
theorem pyLocatorsAndRanges_spec (bs : List Loc) (pos len : Nat) (hin : pos + len ≤ streamLen bs) :
    ∃ segs, pyLocatorsAndRanges pyFirstBlock (pyRangesFrom 0 bs) pos len = .ok segs ∧
      pyKeep segs = resolveTok bs 0 pos len := by
  unfold pyLocatorsAndRanges
  by_cases h0 : len = 0
  · rw [if_pos h0, h0, resolveTok_len0]; exact ⟨_, rfl, rfl⟩
  · rw [if_neg h0]
    obtain ⟨i, hil, h1, h2⟩ := exists_inBlock bs pos (by omega)
    rw [pyFirstBlock_found (pyRangesFrom_contiguous bs 0)
      ⟨_, pyRangesFrom_get bs 0 i hil, by dsimp only; omega, by dsimp only; omega⟩]
    refine ⟨_, rfl, ?_⟩
    rw [pyRangesFrom_drop,
      pyLrLoop_spec pos len (bs.drop i) (0 + streamLen (bs.take i))
        (fun b hb => by rw [List.drop_eq_getElem_cons hil] at hb; cases hb; omega),
      resolveTok_drop bs 0 pos len i (by omega)]

end ArvVerif.C10
