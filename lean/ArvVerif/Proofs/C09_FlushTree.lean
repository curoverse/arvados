/-
C09 helper lemmas: the synchronous flush of a whole tree (`flushTree9`) under any script:
directory structure, names, per-file keys (bytes per segment, lengths, size) are kept, the store
grows by acknowledged blocks only, the flag is "every consumed outcome was ok" and the script is
consumed one entry per block group.
-/
import ArvVerif.Proofs.C09_Flush
import ArvVerif.Proofs.C09_Lists
namespace ArvVerif.C09

open ArvVerif.C08 (Seg FileNode Ptr Flush Store Ref StoreOK StoreExt AllWF fileKey SegWF)

variable {max : Nat} {hash : Bytes → C08.Loc}

structure DirKept (max : Nat) (hash : Bytes → C08.Loc) (st : Store) (new : Seg → Prop) (d d' : Dir9) : Prop where
  path : d'.path = d.path
  nsub : d'.nsub = d.nsub
  names : d'.files.map (·.1) = d.files.map (·.1)
  kept : Kept max hash st new (d.files.map (·.2)) (d'.files.map (·.2))

theorem Dir9.isEmpty_iff {d : Dir9} : d.isEmpty = true ↔ d.files = [] ∧ d.nsub = 0 := by
  simp [Dir9.isEmpty]

/-- number of block groups (= Keep writes attempted or skipped) the flush of a directory has -/
def dirGroups (max : Nat) (d : Dir9) : Nat :=
  if d.isEmpty then 0 else (C08.flushGroups max true (d.files.map (·.2))).length

theorem flushDir9_script (k : Keep) (d : Dir9) :
    (flushDir9 hash max k d).2.2 = allOk (dirGroups max d) k ∧
    ScriptEq (flushDir9 hash max k d).1 (nextN (dirGroups max d) k) := by
  unfold flushDir9 dirGroups
  split
  · exact ⟨rfl, ScriptEq.refl k⟩
  · exact flushFilesK_script k _ true

theorem flushDir9_spec (hinj : Function.Injective hash) {k : Keep} (hk : KeepOK hash k) (d : Dir9)
    (hwf : AllWF max hash k.store (d.files.map (·.2))) :
    KeepOK hash (flushDir9 hash max k d).1 ∧ KeepStep hash k (flushDir9 hash max k d).1 ∧
    DirKept max hash (flushDir9 hash max k d).1.store (Fresh hash (flushDir9 hash max k d).1) d (flushDir9 hash max k d).2.1 := by
  unfold flushDir9
  by_cases he : d.isEmpty = true
  · simp only [he, if_true]
    exact ⟨hk, KeepStep.refl k, ⟨rfl, rfl, rfl, Kept.refl hwf⟩⟩
  · simp only [he, if_false, Bool.false_eq_true]
    obtain ⟨h1, h2, h3, _⟩ := flushFilesK_spec (max := max) hinj hk (d.files.map (·.2)) hwf true
    have hlen : (d.files.map (·.1)).length = (flushFilesK hash max k (d.files.map (·.2)) true).2.1.length := by
      simpa using (congrArg List.length h3.key).symm
    refine ⟨h1, h2, ⟨rfl, rfl, ?_, ?_⟩⟩
    · exact List.map_fst_zip (Nat.le_of_eq hlen)
    · simp only [Dir9.setFiles]
      rw [List.map_snd_zip (Nat.le_of_eq hlen.symm)]
      exact h3

def TreeAllWF (max : Nat) (hash : Bytes → C08.Loc) (st : Store) (t : Tree9) : Prop :=
  ∀ d ∈ t, AllWF max hash st (d.files.map (·.2))

theorem TreeAllWF.segs {st : Store} {t : Tree9} (h : TreeAllWF max hash st t) :
    ∀ d ∈ t, ∀ f ∈ d.files, ∀ s ∈ f.2.segs, SegWF max hash st s :=
  fun d hd f hf => h d hd f.2 (List.mem_map.mpr ⟨f, hf, rfl⟩)

theorem TreeAllWF.of_segs {st : Store} {t : Tree9} (h : ∀ d ∈ t, ∀ f ∈ d.files, ∀ s ∈ f.2.segs, SegWF max hash st s) :
    TreeAllWF max hash st t := by
  intro d hd fn hfn
  obtain ⟨f, hf, rfl⟩ := List.mem_map.mp hfn
  exact h d hd f hf

def treeGroups (max : Nat) : Tree9 → Nat
  | [] => 0
  | d :: rest => dirGroups max d + treeGroups max rest

inductive TreeKept (max : Nat) (hash : Bytes → C08.Loc) (st : Store) (new : Seg → Prop) : Tree9 → Tree9 → Prop
  | nil : TreeKept max hash st new [] []
  | cons {d d' : Dir9} {t t' : Tree9} : DirKept max hash st new d d' → TreeKept max hash st new t t' →
      TreeKept max hash st new (d :: t) (d' :: t')

theorem DirKept.ext {st st' : Store} {new new' : Seg → Prop} {d d' : Dir9} (h : DirKept max hash st new d d')
    (he : StoreExt st st') (hwf : AllWF max hash st (d.files.map (·.2))) (hn : ∀ x, new x → new' x) :
    DirKept max hash st' new' d d' :=
  ⟨h.path, h.nsub, h.names, h.kept.ext he hwf hn⟩

theorem flushTree9_script : ∀ (t : Tree9) (k : Keep),
    (flushTree9 hash max k t).2.2 = allOk (treeGroups max t) k ∧
    ScriptEq (flushTree9 hash max k t).1 (nextN (treeGroups max t) k)
  | [], k => ⟨rfl, ScriptEq.refl k⟩
  | d :: rest, k => by
    obtain ⟨a1, a2⟩ := flushDir9_script (hash := hash) (max := max) k d
    obtain ⟨b1, b2⟩ := flushTree9_script rest (flushDir9 hash max k d).1
    unfold flushTree9
    simp only [treeGroups]
    exact ⟨by rw [a1, b1, allOk_add, allOk_congr _ a2], by rw [nextN_add]; exact b2.trans (nextN_congr _ a2)⟩

theorem flushTree9_spec (hinj : Function.Injective hash) : ∀ (t : Tree9) (k : Keep), KeepOK hash k →
    TreeAllWF max hash k.store t →
    KeepOK hash (flushTree9 hash max k t).1 ∧ KeepStep hash k (flushTree9 hash max k t).1 ∧
    TreeKept max hash (flushTree9 hash max k t).1.store (Fresh hash (flushTree9 hash max k t).1) t (flushTree9 hash max k t).2.1 ∧
    (flushTree9 hash max k t).2.2 = allOk (treeGroups max t) k ∧
    ScriptEq (flushTree9 hash max k t).1 (nextN (treeGroups max t) k)
  | [], k, hk, _ => ⟨hk, KeepStep.refl k, TreeKept.nil, rfl, ScriptEq.refl k⟩
  | d :: rest, k, hk, hwf => by
    obtain ⟨a1, a2, a3⟩ := flushDir9_spec (max := max) hinj hk d (hwf d (by simp))
    have hwf' : TreeAllWF max hash (flushDir9 hash max k d).1.store rest :=
      fun d' hd' => allWF_ext (hwf d' (List.mem_cons_of_mem _ hd')) a2.ext
    obtain ⟨b1, b2, b3, _⟩ := flushTree9_spec hinj rest (flushDir9 hash max k d).1 a1 hwf'
    refine ⟨b1, a2.trans b2, ?_, flushTree9_script (d :: rest) k⟩
    exact TreeKept.cons
      (a3.ext b2.ext (allWF_ext (hwf d (by simp)) a2.ext) (fun x hx => hx.mono b2)) b3

theorem Kept.abs_eq {st0 st : Store} {new : Seg → Prop} {fs fs' : List FileNode}
    (h : Kept max hash st new fs fs') (he : StoreExt st0 st) (hwf : AllWF max hash st0 fs) :
    fs'.map (C08.abs st) = fs.map (C08.abs st0) ∧ fs'.map (·.size) = fs.map (·.size) := by
  have hkey := h.key.trans (map_fileKey_ext he hwf)
  exact ⟨map_eq_map_of (fun _ _ hi => (C08.abs_of_key hi).1) hkey,
    map_eq_map_of (fun _ _ hi => (C08.abs_of_key hi).2.2.1) hkey⟩

theorem DirKept.abs_eq {st0 st : Store} {new : Seg → Prop} {d d' : Dir9}
    (h : DirKept max hash st new d d') (he : StoreExt st0 st) (hwf : AllWF max hash st0 (d.files.map (·.2))) :
    d'.files.map (fun f => ((d'.path, f.1), C08.abs st f.2)) = d.files.map (fun f => ((d.path, f.1), C08.abs st0 f.2)) ∧
    d'.files.map (fun f => f.2.size) = d.files.map (fun f => f.2.size) := by
  obtain ⟨a1, a2⟩ := h.kept.abs_eq he hwf
  rw [List.map_map, List.map_map] at a1 a2
  refine ⟨?_, a2⟩
  have := congrArg (List.map fun p : Bytes × Bytes => ((d.path, p.1), p.2)) (map_pair h.names a1)
  rw [List.map_map, List.map_map] at this
  rw [h.path]
  exact this

theorem TreeKept.map_eq {st : Store} {new : Seg → Prop} {α : Type} {f g : Dir9 → α} : ∀ {t t' : Tree9},
    TreeKept max hash st new t t' → (∀ d ∈ t, ∀ d', DirKept max hash st new d d' → f d' = g d) → t'.map f = t.map g
  | _, _, TreeKept.nil, _ => rfl
  | _, _, TreeKept.cons hd ht, h => by
    rw [List.map_cons, List.map_cons, h _ List.mem_cons_self _ hd,
      TreeKept.map_eq ht fun d hd => h d (List.mem_cons_of_mem _ hd)]

theorem TreeKept.paths {st : Store} {new : Seg → Prop} : ∀ {t t' : Tree9}, TreeKept max hash st new t t' →
    dirPaths t' = dirPaths t :=
  fun h => h.map_eq fun _ _ _ hd => hd.path

theorem TreeKept.abs_eq {st0 st : Store} {new : Seg → Prop} : ∀ {t t' : Tree9}, TreeKept max hash st new t t' →
    StoreExt st0 st → TreeAllWF max hash st0 t →
    absTree st t' = absTree st0 t ∧ dirPaths t' = dirPaths t ∧ treeSize t' = treeSize t ∧
    t'.map (·.nsub) = t.map (·.nsub) := by
  intro t t' h he hwf
  refine ⟨?_, h.paths, ?_, h.map_eq fun _ _ _ hd => hd.nsub⟩
  · unfold absTree
    rw [List.flatMap_def, List.flatMap_def, h.map_eq fun d hd d' hk => (hk.abs_eq he (hwf d hd)).1]
  · unfold treeSize
    rw [List.flatMap_def, List.flatMap_def, h.map_eq fun d hd d' hk => (hk.abs_eq he (hwf d hd)).2]

section
variable {st : Store} {new : Seg → Prop}

theorem TreeKept.mem : ∀ {t t' : Tree9}, TreeKept max hash st new t t' →
    ∀ d' ∈ t', ∃ d ∈ t, DirKept max hash st new d d'
  | _, _, TreeKept.nil, d', hd' => by cases hd'
  | _, _, TreeKept.cons (d := d) hd ht, d', hd' => by
    rcases List.mem_cons.mp hd' with rfl | hd'
    · exact ⟨d, List.mem_cons_self, hd⟩
    · obtain ⟨dd, hdd, h⟩ := TreeKept.mem ht d' hd'
      exact ⟨dd, List.mem_cons_of_mem _ hdd, h⟩

theorem TreeKept.segs_from {t t' : Tree9} (h : TreeKept max hash st new t t') :
    ∀ d' ∈ t', ∀ f' ∈ d'.files, ∀ x ∈ f'.2.segs,
      (∃ d ∈ t, ∃ f ∈ d.files, x ∈ f.2.segs) ∨ x.isMem = true ∨ new x := by
  intro d' hd' f' hf' x hx
  obtain ⟨d, hd, hk⟩ := h.mem d' hd'
  rcases hk.kept.segs f'.2 (List.mem_map.mpr ⟨f', hf', rfl⟩) x hx with ⟨fn, hfn, hx'⟩ | h'
  · obtain ⟨f, hf, rfl⟩ := List.mem_map.mp hfn
    exact Or.inl ⟨d, hd, f, hf, hx'⟩
  · exact Or.inr h'

theorem TreeKept.wf {t t' : Tree9} (h : TreeKept max hash st new t t') :
    TreeAllWF max hash st t' := by
  intro d' hd'
  obtain ⟨_, _, hk⟩ := h.mem d' hd'
  exact hk.kept.wf

theorem TreeKept.shape {t t' : Tree9} (h : TreeKept max hash st new t t') :
    ∀ d' ∈ t', ∃ d ∈ t, d'.path = d.path ∧ d'.nsub = d.nsub ∧ d'.files.map (·.1) = d.files.map (·.1) := by
  intro d' hd'
  obtain ⟨d, hd, hk⟩ := h.mem d' hd'
  exact ⟨d, hd, hk.path, hk.nsub, hk.names⟩

theorem TreeKept.file {t t' : Tree9} (h : TreeKept max hash st new t t') {d' : Dir9}
    (hd' : d' ∈ t') {f' : Bytes × FileNode} (hf' : f' ∈ d'.files) :
    ∃ d ∈ t, d'.path = d.path ∧ ∃ f ∈ d.files, f.1 = f'.1 := by
  obtain ⟨d, hd, e1, _, e3⟩ := h.shape d' hd'
  have : f'.1 ∈ d.files.map (·.1) := by rw [← e3]; exact List.mem_map.mpr ⟨f', hf', rfl⟩
  obtain ⟨f, hf, hn⟩ := List.mem_map.mp this
  exact ⟨d, hd, e1, f, hf, hn⟩

end

end ArvVerif.C09
