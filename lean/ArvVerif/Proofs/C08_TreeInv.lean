/-
C08 treeness: `TreeInv` (directory table is a tree, entries name existing directories) is kept by
every elementary update of `Eff`, hence by every operation of `step`, for every file implementation.
-/
import ArvVerif.Proofs.C08_DirsOK
import ArvVerif.Proofs.C08_Eff
namespace ArvVerif.C08

section
variable {F P W : Type}

def EntsDirOK (ents : List ((Nat × String) × Node)) (n : Nat) : Prop :=
  ∀ e ∈ ents, ∀ k, e.2 = Node.dir k → k < n

structure TreeInv (s : FS F P W) : Prop where
  dirs : DirsOK s.dirs
  ents : EntsDirOK s.ents s.dirs.length

theorem TreeInv.of_same {a b : FS F P W} (h : a.ents = b.ents ∧ a.dirs = b.dirs) (hb : TreeInv b) : TreeInv a :=
  ⟨by rw [h.2]; exact hb.dirs, by rw [h.1, h.2]; exact hb.ents⟩

theorem EntsDirOK.mono {ents : List ((Nat × String) × Node)} {n m : Nat} (h : EntsDirOK ents n) (hle : n ≤ m) :
    EntsDirOK ents m := fun e he k hk => Nat.lt_of_lt_of_le (h e he k hk) hle

theorem lookupDir_valid {s : FS F P W} (h : TreeInv s) {comps : List String} {d : Nat}
    (hl : lookupDir s comps = Except.ok d) : d < s.dirs.length := by
  refine (lookupDir_ind (Q := fun k => k < s.dirs.length) h.dirs.nonempty h.dirs.closed ?_ comps).1 d hl
  intro d name k _ hc
  obtain ⟨e, he1, he2⟩ := child_mem hc
  exact h.ents e he1 k he2

theorem TreeInv.addNode {s : FS F P W} (h : TreeInv s) (impl : FileImpl F P W) {d : Nat} (hd : d < s.dirs.length)
    (name : String) (isDir : Bool) : TreeInv (ArvVerif.C08.addNode impl s d name isDir).1 := by
  cases isDir with
  | true =>
    simp only [ArvVerif.C08.addNode, if_true]
    refine ⟨h.dirs.append name hd, ?_⟩
    show EntsDirOK (setEnt s.ents d name (Node.dir s.dirs.length)) (s.dirs ++ [(name, d)]).length
    refine forall_setEnt (h.ents.mono (by simp)) d name _ ?_
    intro k hk; cases hk; simp
  | false =>
    simp only [ArvVerif.C08.addNode, Bool.false_eq_true, if_false]
    exact ⟨h.dirs, forall_setEnt h.ents d name _ (fun k hk => by cases hk)⟩

theorem flushDir_tree (impl : FileImpl F P W) (short : Bool) (s : FS F P W) (d : Nat) :
    (flushDir impl short s d).ents = s.ents ∧ (flushDir impl short s d).dirs = s.dirs := by
  unfold flushDir
  exact List.foldlRecOn _ _ (motive := fun t : FS F P W => t.ents = s.ents ∧ t.dirs = s.dirs) ⟨rfl, rfl⟩
    fun b hb _ _ => ⟨(setFile_tree b _ _).1.trans hb.1, (setFile_tree b _ _).2.trans hb.2⟩

/-- Every elementary update keeps the tree a tree. For `Rename` the `locked` test (complete, by
`mem_ancestors`) excludes exactly the re-parentings that would close a cycle. -/
theorem Eff.tree {impl : FileImpl F P W} {io : Bool} {s s' : FS F P W} (he : Eff impl io s s') :
    TreeInv s → TreeInv s' := by
  induction he with
  | refl s => exact id
  | trans _ _ ih1 ih2 => exact ih2 ∘ ih1
  | handle s h v => exact TreeInv.of_same ⟨rfl, rfl⟩
  | close s h => exact TreeInv.of_same ⟨rfl, rfl⟩
  | add name isDir hl => exact fun h => h.addNode impl (lookupDir_valid h hl) name isDir
  | erase s d name => exact fun h => ⟨h.dirs, forall_eraseEnt h.ents d name⟩
  | trunc _ _ => exact TreeInv.of_same (setFile_tree ..)
  | write _ _ _ => exact TreeInv.of_same (setFile_tree ..)
  | flush s short d _ => exact TreeInv.of_same (flushDir_tree impl short s d)
  | @rename s o nw od nd n hr =>
    intro h
    obtain ⟨_, _, _, hnd, hch, hself, _⟩ := hr
    have hndv := lookupDir_valid h hnd
    obtain ⟨e, he1, he2⟩ := child_mem hch
    have hnv : ∀ k, n = Node.dir k → k < s.dirs.length := fun k hk => h.ents e he1 k (by rw [he2, hk])
    constructor
    · rw [renamed_dirs]
      cases n with
      | file f => exact h.dirs
      | dir k =>
        refine h.dirs.reparent (Nat.le_of_eq List.length_set.symm) (fun j hj => Or.inl (List.length_set ▸ hj))
          (parentOf_set _ nd (hnv k rfl)) hndv (fun i hi => ?_)
        have hk := hself k rfl
        have : k ∈ ancestors s.dirs s.dirs.length od ++ ancestors s.dirs s.dirs.length nd :=
          List.mem_append_right _ ((mem_ancestors h.dirs.root (h.dirs.reach nd hndv)).mpr ⟨i, hi⟩)
        rw [← List.contains_iff_mem, hk] at this
        cases this
    · have hlen : (renamed s od o.2 nd (newName o nw) n).dirs.length = s.dirs.length := by
        rw [renamed_dirs]; cases n <;> simp
      rw [hlen]
      exact forall_renamed_ents h.ents od o.2 hnv

theorem step_tree (impl : FileImpl F P W) {s : FS F P W} (h : TreeInv s) (op : Op) : TreeInv (step impl s op).1 :=
  (step_eff impl s op).tree h

theorem TreeInv.init (w : W) : TreeInv (FS.init w : FS F P W) :=
  ⟨DirsOK.init, fun _ h => by cases h⟩

end

end ArvVerif.C08
