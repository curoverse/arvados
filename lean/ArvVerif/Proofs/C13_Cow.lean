/-
C13: copy-on-write. In the heap model of memSegment (Model/C13_Cow.lean) a
buffer that was handed to a background writer is never written again: every in-place write needs
`flushing == nil`, a hand-off sets `flushing`, and `flushing` only goes back to nil together with a
fresh allocation.
-/
import ArvVerif.Model.C13_Cow
import ArvVerif.Proofs.C13_Opt
namespace ArvVerif.C13.Cow
open ArvVerif.C13 (OptAll)

/-- `intact` is the claim; the other clauses make it inductive. -/
structure Inv (st : State) : Prop where
  noalias : ∀ (i j : Nat) (a b : MSeg), st.segs[i]? = some a → st.segs[j]? = some b → a.ptr = b.ptr → i = j
  segptr : ∀ sg ∈ st.segs, sg.ptr < st.heap.length
  shptr : ∀ sh ∈ st.shared, sh.ptr < st.heap.length
  guard : ∀ sh ∈ st.shared, ∀ sg ∈ st.segs, sg.ptr = sh.ptr → sg.flushing ≠ none
  intact : ∀ sh ∈ st.shared, ((st.heap[sh.ptr]?).getD []).take sh.len = sh.snap

theorem zeroRange_noop (buf : Bytes) {a b : Nat} (h : b ≤ a) : zeroRange buf a b = buf := by
  unfold zeroRange
  rw [if_neg (by omega)]

theorem getElem?_set_cases {α : Type} {l : List α} {i a : Nat} {x y : α} (h : (l.set i x)[a]? = some y) :
    (a = i ∧ y = x) ∨ l[a]? = some y := by
  rw [List.getElem?_set] at h
  split at h
  · next e =>
    split at h
    · exact Or.inl ⟨e.symm, (Option.some.inj h).symm⟩
    · cases h
  · exact Or.inr h

theorem getElem?_snoc_cases {α : Type} {l : List α} {a : Nat} {x y : α} (h : (l ++ [x])[a]? = some y) :
    (a = l.length ∧ y = x) ∨ l[a]? = some y := by
  rw [List.getElem?_append] at h
  split at h
  · exact Or.inr h
  · rw [List.getElem?_singleton] at h
    split at h
    · exact Or.inl ⟨by omega, (Option.some.inj h).symm⟩
    · cases h

variable {st : State}

theorem Inv.retag (hinv : Inv st) {i : Nat} {sg sg' : MSeg} (hi : st.segs[i]? = some sg)
    (hp : sg'.ptr = sg.ptr) (hfl : sg.flushing ≠ none → sg'.flushing ≠ none) :
    Inv { st with segs := st.segs.set i sg' } := by
  have key : ∀ (a : Nat) (y : MSeg), (st.segs.set i sg')[a]? = some y →
      ∃ y0 : MSeg, st.segs[a]? = some y0 ∧ y0.ptr = y.ptr ∧ (y0.flushing ≠ none → y.flushing ≠ none) := by
    intro a y ha
    rcases getElem?_set_cases ha with ⟨rfl, rfl⟩ | h
    · exact ⟨sg, hi, hp.symm, hfl⟩
    · exact ⟨y, h, rfl, id⟩
  refine ⟨?_, ?_, hinv.shptr, ?_, hinv.intact⟩
  · intro a b x y ha hb hxy
    obtain ⟨x0, hx0, hx1, _⟩ := key a x ha
    obtain ⟨y0, hy0, hy1, _⟩ := key b y hb
    exact hinv.noalias a b x0 y0 hx0 hy0 (by rw [hx1, hy1]; exact hxy)
  · intro x hx
    obtain ⟨a, ha⟩ := List.getElem?_of_mem hx
    obtain ⟨x0, hx0, hx1, _⟩ := key a x ha
    exact hx1 ▸ hinv.segptr x0 (List.mem_of_getElem? hx0)
  · intro sh hsh x hx hxp
    obtain ⟨a, ha⟩ := List.getElem?_of_mem hx
    obtain ⟨x0, hx0, hx1, hx2⟩ := key a x ha
    exact hx2 (hinv.guard sh hsh x0 (List.mem_of_getElem? hx0) (hx1.trans hxp))

theorem Inv.poke (hinv : Inv st) (p : Nat) (x : Bytes)
    (hx : ∀ sh ∈ st.shared, sh.ptr = p → x.take sh.len = ((st.heap[p]?).getD []).take sh.len) :
    Inv { st with heap := st.heap.set p x } := by
  refine ⟨hinv.noalias, fun sg h => by simpa using hinv.segptr sg h, fun sh h => by simpa using hinv.shptr sh h,
    hinv.guard, fun sh hsh => ?_⟩
  by_cases hp : sh.ptr = p
  · rw [← hinv.intact sh hsh, hp, List.getElem?_set_self (hp ▸ hinv.shptr sh hsh)]
    exact hx sh hsh hp
  · rw [List.getElem?_set_ne (Ne.symm hp)]
    exact hinv.intact sh hsh

theorem Inv.alloc (hinv : Inv st) (buf : Bytes) : Inv { st with heap := st.heap ++ [buf] } := by
  refine ⟨hinv.noalias, fun sg h => by simpa using Nat.lt_add_right 1 (hinv.segptr sg h),
    fun sh h => by simpa using Nat.lt_add_right 1 (hinv.shptr sh h), hinv.guard, fun sh hsh => ?_⟩
  rw [List.getElem?_append_left (hinv.shptr sh hsh)]
  exact hinv.intact sh hsh

theorem Inv.placeNew (hinv : Inv st) (buf : Bytes) {segs' : List MSeg} {k : Nat} {new : MSeg}
    (hn : new.ptr = st.heap.length) (h : ∀ a y, segs'[a]? = some y → (a = k ∧ y = new) ∨ st.segs[a]? = some y) :
    Inv { st with heap := st.heap ++ [buf], segs := segs' } := by
  have hinv' := hinv.alloc buf
  -- nothing lies over the new allocation yet
  have hs : ∀ sg ∈ st.segs, sg.ptr ≠ new.ptr := fun sg hsg => hn ▸ Nat.ne_of_lt (hinv.segptr sg hsg)
  refine ⟨?_, ?_, hinv'.shptr, ?_, hinv'.intact⟩
  · intro a b x y ha hb hxy
    rcases h a x ha with ⟨ha1, rfl⟩ | ha1 <;> rcases h b y hb with ⟨hb1, rfl⟩ | hb1
    · rw [ha1, hb1]
    · exact absurd hxy.symm (hs y (List.mem_of_getElem? hb1))
    · exact absurd hxy (hs x (List.mem_of_getElem? ha1))
    · exact hinv.noalias a b x y ha1 hb1 hxy
  · intro x hx
    obtain ⟨a, ha⟩ := List.getElem?_of_mem hx
    rcases h a x ha with ⟨_, rfl⟩ | ha1
    · exact hn ▸ List.length_append ▸ Nat.lt_add_one _
    · exact hinv'.segptr x (List.mem_of_getElem? ha1)
  · intro sh hsh x hx hxp
    obtain ⟨a, ha⟩ := List.getElem?_of_mem hx
    rcases h a x ha with ⟨_, rfl⟩ | ha1
    · exact absurd (hn ▸ hxp.symm) (Nat.ne_of_lt (hinv.shptr sh hsh))
    · exact hinv.guard sh hsh x (List.mem_of_getElem? ha1) hxp

theorem Inv.fresh (hinv : Inv st) {i : Nat} {newbuf : Bytes} {len cap : Nat} :
    Inv { st with heap := st.heap ++ [newbuf],
                  segs := st.segs.set i { ptr := st.heap.length, len := len, cap := cap, flushing := none } } :=
  hinv.placeNew newbuf rfl (fun _ _ => getElem?_set_cases)

theorem Inv.share (hinv : Inv st) {i : Nat} {sg : MSeg} (hi : st.segs[i]? = some sg) (hfl : sg.flushing ≠ none) :
    Inv { st with shared := ⟨sg.ptr, sg.len, bufOf st sg⟩ :: st.shared } := by
  refine ⟨hinv.noalias, hinv.segptr, ?_, ?_, ?_⟩
  · intro sh hsh
    rcases List.mem_cons.mp hsh with h | h
    · rw [h]; exact hinv.segptr sg (List.mem_of_getElem? hi)
    · exact hinv.shptr sh h
  · intro sh hsh x hx hxp
    rcases List.mem_cons.mp hsh with h | h
    · -- another segment over the same allocation would alias
      obtain ⟨a, ha⟩ := List.getElem?_of_mem hx
      cases hinv.noalias a i x sg ha hi (by rw [hxp, h])
      rw [ha] at hi
      cases hi
      exact hfl
    · exact hinv.guard sh h x hx hxp
  · intro sh hsh
    rcases List.mem_cons.mp hsh with h | h
    · rw [h]; rfl
    · exact hinv.intact sh h

theorem Inv.drop (hinv : Inv st) (i : Nat) : Inv { st with segs := st.segs.eraseIdx i } := by
  refine ⟨?_, ?_, hinv.shptr, ?_, hinv.intact⟩
  · intro a b x y ha hb hp
    simp only [List.getElem?_eraseIdx] at ha hb
    have key := hinv.noalias (if a < i then a else a + 1) (if b < i then b else b + 1) x y
      (by split <;> simp_all) (by split <;> simp_all) hp
    split at key <;> split at key <;> omega
  · intro x hx; exact hinv.segptr x (List.mem_of_mem_eraseIdx hx)
  · intro sh hsh x hx hp; exact hinv.guard sh hsh x (List.mem_of_mem_eraseIdx hx) hp

def Keeps (st st' : State) : Prop := Inv st' ∧ ∀ sh ∈ st.shared, sh ∈ st'.shared

theorem step_inv (hinv : Inv st) (op : Op) : OptAll (Keeps st) (step st op) := by
  cases op
  all_goals rw [step]
  case drop i => exact OptAll.ite ⟨hinv.drop i, fun _ h => h⟩ trivial
  all_goals
    generalize hi : st.segs[(_ : Nat)]? = o
    cases o with
    | none => trivial
    | some sg => ?_
  case slice =>
    exact OptAll.ite trivial ⟨hinv.placeNew _ rfl (fun _ _ => getElem?_snoc_cases), fun _ h => h⟩
  case handOff tok =>
    exact ⟨(hinv.retag (sg' := { sg with flushing := some tok }) hi rfl (fun _ => Option.some_ne_none tok)).share
      (sg := { sg with flushing := some tok }) (List.getElem?_set_self (List.getElem?_eq_some_iff.mp hi).1)
      (Option.some_ne_none tok), fun _ h => List.mem_cons_of_mem _ h⟩
  case truncate n =>
    refine OptAll.ite_neg ⟨hinv.fresh, fun _ h => h⟩ (fun hc => ?_)
    refine ⟨(hinv.poke sg.ptr _ (fun sh hsh hp => ?_)).retag hi rfl id, fun _ h => h⟩
    -- the allocation is shared: flushing ≠ nil, so the code did not grow in place
    have hfl := hinv.guard sh hsh sg (List.mem_of_getElem? hi) hp.symm
    rw [zeroRange_noop _ (Nat.le_of_not_gt (fun hgt => hc (Or.inr ⟨hfl, hgt⟩)))]
  case writeAt p off =>
    -- in place only when flushing = nil, and then the allocation is not shared
    exact OptAll.ite trivial (OptAll.ite_neg ⟨hinv.fresh, fun _ h => h⟩ (fun hfl => ⟨hinv.poke sg.ptr _
      (fun sh hsh hp => absurd (hinv.guard sh hsh sg (List.mem_of_getElem? hi) hp.symm) hfl), fun _ h => h⟩))

theorem Inv.empty : Inv ⟨[], [], []⟩ :=
  ⟨nofun, nofun, nofun, nofun,
   nofun⟩

theorem Inv.single (buf : Bytes) (len cap : Nat) (fl : Option Nat) : Inv ⟨[buf], [⟨0, len, cap, fl⟩], []⟩ :=
  Inv.empty.placeNew buf rfl (fun _ _ => getElem?_snoc_cases (l := []))

/-- Any sequence of Truncate / WriteAt / Slice / hand-off / drop operations, on any number of
segments: every buffer ever handed to a background writer still holds, at the end, exactly the
bytes it held at hand-off. -/
theorem run_inv : ∀ (ops : List Op) {st st' : State}, Inv st → run st ops = some st' →
    Inv st' ∧ ∀ sh ∈ st.shared, sh ∈ st'.shared := by
  intro ops
  induction ops with
  | nil => intro st st' hinv h; simp only [run] at h; cases h; exact ⟨hinv, fun _ h => h⟩
  | cons op rest ih =>
    intro st st' hinv h
    simp only [run] at h
    cases hs : step st op with
    | none => rw [hs] at h; cases h
    | some st1 =>
      rw [hs] at h
      obtain ⟨h1, h2⟩ := (step_inv hinv op).of_eq hs
      obtain ⟨h3, h4⟩ := ih h1 h
      exact ⟨h3, fun sh hsh => h4 sh (h2 sh hsh)⟩

end ArvVerif.C13.Cow
