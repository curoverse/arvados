/-
C09 helper lemmas: which directories a saved text mentions. Every line is the line of a
directory of the tree; an empty directory below the root has its marker, a directory with files has
its stream; so every directory is a prefix of some line's directory and vice versa.
-/
import ArvVerif.Proofs.C09_Stream
import ArvVerif.Proofs.C09_FlushTree
namespace ArvVerif.C09

open ArvVerif.C08 (Seg FileNode Store SegWF)
open ArvVerif.C10 (bSlash bDot)

variable {max : Nat} {hash : Bytes → C08.Loc}

theorem dirLines_names {d : Dir9} {L : List Line9} (hL : dirLines d = some L) (n : Bytes) :
    n ∈ lineNames L ↔ n = prefixOf d.path ∧ (d.files ≠ [] ∨ (d.isEmpty = true ∧ d.path ≠ [])) := by
  rcases dirLines_shape hL with ⟨hf, rfl⟩ | ⟨hf, s, rfl, hs, _⟩
  · by_cases h0 : d.nsub = 0 <;> by_cases hp : d.path = [] <;> simp [h0, hp, hf, lineNames, Dir9.isEmpty_iff]
  · simp [lineNames, hs, hf]

theorem treeLines_names {t : Tree9} {L : List Line9} (hL : treeLines t = some L) (n : Bytes) :
    n ∈ lineNames L ↔ ∃ d ∈ t, n = prefixOf d.path ∧ (d.files ≠ [] ∨ (d.isEmpty = true ∧ d.path ≠ [])) := by
  rw [mem_lineNames]
  constructor
  · rintro ⟨x, hx, rfl⟩
    obtain ⟨d, hd, Ld, hLd, hx'⟩ := (mem_treeLines hL x).mp hx
    exact ⟨d, hd, (dirLines_names hLd _).mp (mem_lineNames.mpr ⟨x, hx', rfl⟩)⟩
  · rintro ⟨d, hd, h⟩
    obtain ⟨Ld, hLd, hsub⟩ : ∃ Ld, dirLines d = some Ld ∧ ∀ x ∈ Ld, x ∈ L := treeLines_dir hL hd
    obtain ⟨x, hx, rfl⟩ := mem_lineNames.mp ((dirLines_names hLd n).mpr h)
    exact ⟨x, hsub x hx, rfl⟩

structure TreeClosed (t : Tree9) : Prop where
  parent : ∀ d ∈ t, d.path ≠ [] → d.path.dropLast ∈ dirPaths t
  child : ∀ d ∈ t, 0 < d.nsub → ∃ c ∈ t, ∃ n, c.path = d.path ++ [n]

theorem TreeClosed.prefixes {t : Tree9} (h : TreeClosed t) (q p : List Bytes) (hp : p ++ q ∈ dirPaths t) : p ∈ dirPaths t := by
  induction q generalizing p with
  | nil => simpa using hp
  | cons x q ih =>
    obtain ⟨d, hd, hdp⟩ := List.mem_map.mp (ih (p ++ [x]) (by simpa using hp))
    have := h.parent d hd (by rw [hdp]; simp)
    rwa [hdp, List.dropLast_concat] at this

theorem TreeKept.closed {st : Store} {new : Seg → Prop} {t t' : Tree9} (hk : TreeKept max hash st new t t')
    (hclosed : TreeClosed t) : TreeClosed t' := by
  have hshape := TreeKept.shape hk
  constructor
  · intro d' hd' hne
    obtain ⟨d, hd, e1, _, _⟩ := hshape d' hd'
    rw [TreeKept.paths hk, e1]
    exact hclosed.parent d hd (e1 ▸ hne)
  · intro d' hd' hsub
    obtain ⟨d, hd, e1, e2, _⟩ := hshape d' hd'
    obtain ⟨c, hc, n, hcn⟩ := hclosed.child d hd (e2 ▸ hsub)
    have : c.path ∈ dirPaths t' := by
      rw [TreeKept.paths hk]; exact List.mem_map.mpr ⟨c, hc, rfl⟩
    obtain ⟨c', hc', hcp⟩ := List.mem_map.mp this
    exact ⟨c', hc', n, by rw [hcp, hcn, e1]⟩

theorem TreeKept.noClash {st : Store} {new : Seg → Prop} {t t' : Tree9} (hk : TreeKept max hash st new t t')
    (hclash : ∀ d ∈ t, ∀ f ∈ d.files, d.path ++ [f.1] ∉ dirPaths t) :
    ∀ d ∈ t', ∀ f ∈ d.files, d.path ++ [f.1] ∉ dirPaths t' := by
  intro d' hd' f' hf'
  obtain ⟨d, hd, e1, f, hf, hn⟩ := hk.file hd' hf'
  rw [TreeKept.paths hk, e1, ← hn]
  exact hclash d hd f hf

theorem TreeClosed.key_not_prefix {t : Tree9} (hclosed : TreeClosed t)
    (hclash : ∀ d ∈ t, ∀ f ∈ d.files, d.path ++ [f.1] ∉ dirPaths t) {d : Dir9} (hd : d ∈ t) {f : Bytes × FileNode}
    (hf : f ∈ d.files) {d2 : Dir9} (hd2 : d2 ∈ t) (q : List Bytes) : d2.path ≠ d.path ++ [f.1] ++ q :=
  fun h => hclash d hd f hf (hclosed.prefixes q _ (by rw [← h]; exact List.mem_map.mpr ⟨d2, hd2, rfl⟩))

/-- the depth of the list bounds the descent -/
theorem TreeClosed.leaf {t : Tree9} (h : TreeClosed t) {d : Dir9} (hd : d ∈ t) :
    ∃ d' ∈ t, ∃ q, d'.path = d.path ++ q ∧ (d'.files ≠ [] ∨ d'.isEmpty = true) := by
  obtain ⟨M, hM⟩ := exists_bound (fun d : Dir9 => d.path.length) t
  induction hk : M - d.path.length using Nat.strongRecOn generalizing d with
  | _ k ih =>
    by_cases hline : d.files ≠ [] ∨ d.isEmpty = true
    · exact ⟨d, hd, [], by simp, hline⟩
    · have hsub : 0 < d.nsub := Nat.pos_of_ne_zero fun h0 =>
        hline (Or.inr (Dir9.isEmpty_iff.mpr ⟨Classical.byContradiction fun hf => hline (Or.inl hf), h0⟩))
      obtain ⟨c, hc, x, hcx⟩ := h.child d hd hsub
      have hlen : c.path.length = d.path.length + 1 := by rw [hcx]; simp
      have := hM c hc
      obtain ⟨d', hd', q, e, hl⟩ := ih (M - c.path.length) (by omega) hc rfl
      exact ⟨d', hd', x :: q, by rw [e, hcx]; simp, hl⟩

theorem dirs_recovered {t : Tree9} {L : List Line9} (hL : treeLines t = some L) (hclosed : TreeClosed t)
    (hns : ∀ d ∈ t, ∀ c ∈ d.path, bSlash ∉ c) (p : List Bytes) (hp : p ≠ []) (hps : ∀ c ∈ p, bSlash ∉ c) :
    p ∈ dirPaths t ↔ ∃ n ∈ lineNames L, ∃ q, (∀ c ∈ q, bSlash ∉ c) ∧ n = prefixOf (p ++ q) := by
  constructor
  · intro hmem
    obtain ⟨d, hd, rfl⟩ := List.mem_map.mp hmem
    obtain ⟨d', hd', q, e, hl⟩ := hclosed.leaf hd
    refine ⟨_, (treeLines_names hL _).mpr ⟨d', hd', rfl, hl.imp_right fun he => ⟨he, by rw [e]; simp [hp]⟩⟩, q,
      fun c hc => hns d' hd' c (by rw [e]; simp [hc]), by rw [e]⟩
  · rintro ⟨n, hn, q, hq, e⟩
    obtain ⟨d, hd, hnd, _⟩ := (treeLines_names hL n).mp hn
    have hpq : ∀ c ∈ p ++ q, bSlash ∉ c := fun c hc => (List.mem_append.mp hc).elim (hps c) (hq c)
    apply hclosed.prefixes q p
    rw [prefixOf_inj hpq (hns d hd) (e.symm.trans hnd)]
    exact List.mem_map.mpr ⟨d, hd, rfl⟩

end ArvVerif.C09
