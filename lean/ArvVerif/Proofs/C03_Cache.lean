/-
C03: BlockCache (block_cache.go). What the fetch goroutine stores without error (`fetchBody_ok`,
`fetch_ok`); under collision-freeness and a consistent size hint that is the block (`sound_exact`);
ReadAt on an entry; Sweep only deletes.
-/
import ArvVerif.Proofs.C03_Reader
import ArvVerif.Proofs.C03_GetOrHead
namespace ArvVerif.C03

section
variable {D : Type} [DecidableEq D] (hash : Bytes → D)

def SoundData (digest : List Char → D) (loc : List Char) (d : Bytes) : Prop :=
  ∃ content : Bytes, hash content = digest (loc.take 32) ∧
    ∃ n, n ≤ content.length ∧ d = content.take n ∧ ∀ h, hint64 loc = some h → n = h

theorem fetchBody_ok {check : D} {bufsize : Nat} {body : Body} {expect : Nat}
    (herr : (fetchBody hash check bufsize body expect).err = none) :
    body.fin = .eof ∧ hash body.content = check ∧
    (fetchBody hash check bufsize body expect).data = body.content.take expect ∧
    expect ≤ body.content.length ∧ expect ≤ bufsize := by
  unfold fetchBody at herr ⊢
  by_cases hb : bufsize < expect
  · rw [if_pos hb] at herr; cases herr
  · rw [if_neg hb] at herr ⊢
    obtain ⟨h1, _, h3, h5⟩ := (readFullClose_eq_none hash check).mp herr
    refine ⟨h1, h3, ?_, h5, by omega⟩
    dsimp only
    rw [readFullClose_fst, List.length_take, Nat.min_eq_left h5, Nat.sub_self]
    exact List.append_nil _

/-- What the fetch goroutine stores for each outcome of kc.Get (block_cache.go:90-109). -/
def fetchOf (check : D) (bufsize : Nat) : GetRes → Entry
  | .empty => { data := [], err := none }
  | .err e => { data := [], err := some e }
  | .rdr body expect => fetchBody hash check bufsize body expect

/-- `fetch` is only ever unfolded here. Wherever the kernel has to compare `fetch …` with its body it
reduces `match getOrHead … with …`, and on the way evaluates `emptyLocator`, the `toList` of a
string literal, which is slow. -/
theorem fetch_of (digest : List Char → D) {loc : List Char} {tries : Nat} {order : List Nat} {g g' : G}
    {r : GetRes} (hq : getOrHead loc tries order g = (r, g')) :
    fetch hash digest loc tries order g = (fetchOf hash (digest (loc.take 32)) (bufSize loc) r, g') := by
  unfold fetch
  rw [hq]
  cases r <;> rfl

theorem fetch_of_ne (digest : List Char → D) {c : Char} (hc : c ≠ 'd') (cs : List Char) (tries : Nat)
    (order : List Nat) (g : G) :
    (fetch hash digest (c :: cs) tries order g).1 =
      fetchOf hash (digest ((c :: cs).take 32)) (bufSize (c :: cs))
        (getRounds (hint64 (c :: cs)) tries order g).1 :=
  congrArg Prod.fst (fetch_of hash digest ((getOrHead_of_ne hc cs tries order g).trans (Prod.eta _).symm))

theorem fetch_ok (digest : List Char → D) (loc : List Char) (tries : Nat) (order : List Nat) (g : G)
    (e : Entry) (g' : G)
    (h : fetch hash digest loc tries order g = (e, g')) (herr : e.err = none) :
    (emptyLocator.isPrefixOf loc = true ∧ e.data = []) ∨
    (∃ body clen expect, Offered g.scripts (.ok clen body) ∧
        accept200 (hint64 loc) clen = some expect ∧ body.fin = .eof ∧
        hash body.content = digest (loc.take 32) ∧
        e.data = body.content.take expect ∧ expect ≤ body.content.length ∧ expect ≤ bufSize loc) := by
  cases hq : getOrHead loc tries order g with | mk r g1 =>
  rw [fetch_of hash digest hq] at h
  cases r <;> cases h
  · exact .inl ⟨getOrHead_inv hq, rfl⟩
  · cases herr
  · rename_i body expect
    obtain ⟨clen, ho, ha⟩ := getOrHead_inv hq
    exact .inr ⟨body, clen, expect, ho, ha, fetchBody_ok hash herr⟩

omit [DecidableEq D] in
theorem sound_exact {digest : List Char → D} (hEmpty : hash [] = digest (emptyLocator.take 32))
    {loc : List Char} {b : Bytes} (hnc : ∀ x, hash x = digest (loc.take 32) → x = b)
    (hhint : hint64 loc = some b.length) {d : Bytes}
    (h : (emptyLocator.isPrefixOf loc = true ∧ d = []) ∨ SoundData hash digest loc d) : d = b := by
  rcases h with ⟨hp, rfl⟩ | ⟨c, hc, n, _, rfl, hn⟩
  · obtain ⟨t, rfl⟩ := List.isPrefixOf_iff_prefix.mp hp
    refine hnc [] ?_
    rw [List.take_append_of_le_length]
    · exact hEmpty
    · unfold emptyLocator
      rw [String.toList_ofList]
      decide
  · cases hnc c hc
    rw [hn _ hhint, List.take_length]

end

theorem readAtEntry_ok {e : Entry} {off len : Nat} {d : Bytes} (h : readAtEntry e off len = (d, none)) :
    e.err = none ∧ d = (e.data.drop off).take len ∧ off ≤ e.data.length := by
  unfold readAtEntry at h
  split at h
  · cases h
  · split at h <;> cases h
    exact ⟨‹_›, rfl, by omega⟩

theorem sweep_sub (maxBlocks : Nat) (slots : List Slot) : ∀ s ∈ sweep maxBlocks slots, s ∈ slots := by
  intro s hs
  unfold sweep at hs
  generalize (if maxBlocks = 0 then defaultMaxBlocks else maxBlocks) = max at hs
  dsimp only at hs
  split at hs
  · exact hs
  · split at hs
    · exact hs
    · exact (List.mem_filter.mp hs).1

end ArvVerif.C03
