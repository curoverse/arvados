/-
C09 helper lemmas: lines. The text `marshalManifest` writes is the lines of the tree printed (`treeText_eq`, no
hypothesis); and printing any list of well-formed lines and parsing it, under the published grammar plus the
empty-directory marker, gives the list back (`parse9_render`).
-/
import ArvVerif.Proofs.C09_TextLines
namespace ArvVerif.C09

open ArvVerif.C10 (bSpace bNL joinWith fsEscape specLocator mapOpt)

theorem treeLines_cons {d : Dir9} {rest : Tree9} {L : List Line9} (h : treeLines (d :: rest) = some L) :
    ∃ a b, dirLines d = some a ∧ treeLines rest = some b ∧ L = a ++ b := by
  unfold treeLines at h
  split at h
  · next a b ha hb => exact ⟨a, b, ha, hb, (Option.some.inj h).symm⟩
  · cases h

theorem treeLines_induction {P : Tree9 → List Line9 → Prop} (nil : P [] [])
    (cons : ∀ d rest a b, dirLines d = some a → treeLines rest = some b → P rest b → P (d :: rest) (a ++ b)) :
    ∀ (t : Tree9) (L : List Line9), treeLines t = some L → P t L
  | [], L, h => by cases h; exact nil
  | d :: rest, L, h => by
    obtain ⟨a, b, ha, hb, rfl⟩ := treeLines_cons h
    exact cons d rest a b ha hb (treeLines_induction nil cons rest b hb)

theorem mem_treeLines {t : Tree9} {L : List Line9} (h : treeLines t = some L) (x : Line9) :
    x ∈ L ↔ ∃ d ∈ t, ∃ Ld, dirLines d = some Ld ∧ x ∈ Ld := by
  refine treeLines_induction (P := fun t L => x ∈ L ↔ ∃ d ∈ t, ∃ Ld, dirLines d = some Ld ∧ x ∈ Ld) (by simp) ?_ t L h
  intro d rest a b ha hb ih
  simp [ih, ha]

theorem treeLines_dir : ∀ {t : Tree9} {L : List Line9}, treeLines t = some L → ∀ {d : Dir9}, d ∈ t →
    ∃ Ld, dirLines d = some Ld ∧ ∀ x ∈ Ld, x ∈ L
  | [], _, _, _, hd => by cases hd
  | d0 :: rest, L, h, d, hd => by
    obtain ⟨a, b, ha, hb, rfl⟩ := treeLines_cons h
    rcases List.mem_cons.mp hd with rfl | hd
    · exact ⟨a, ha, fun x hx => List.mem_append_left _ hx⟩
    · obtain ⟨Ld, e1, e2⟩ := treeLines_dir hb hd
      exact ⟨Ld, e1, fun x hx => List.mem_append_right _ (e2 x hx)⟩

def Line9.name : Line9 → Bytes
  | .stream s => s.name
  | .marker n => n

theorem streamsOf_append (a b : List Line9) : streamsOf (a ++ b) = streamsOf a ++ streamsOf b := by
  induction a with
  | nil => rfl
  | cons x a ih => cases x <;> simp [streamsOf, ih]

theorem markersOf_append (a b : List Line9) : markersOf (a ++ b) = markersOf a ++ markersOf b := by
  induction a with
  | nil => rfl
  | cons x a ih => cases x <;> simp [markersOf, ih]

theorem mem_streamsOf {L : List Line9} {s : C10.Stream} : s ∈ streamsOf L ↔ Line9.stream s ∈ L := by
  induction L with
  | nil => simp [streamsOf]
  | cons x L ih => cases x <;> simp [streamsOf, ih]

theorem mem_lineNames {L : List Line9} {n : Bytes} : n ∈ lineNames L ↔ ∃ x ∈ L, x.name = n := by
  induction L with
  | nil => simp [lineNames]
  | cons x L ih => cases x <;> simp [lineNames, Line9.name, ih, eq_comm]

/-- the text of one line, newline included: what `lineOf` / `markerLine` write, from the line alone -/
def lineText : Line9 → Bytes
  | .stream s => joinWith bSpace (fsEscape s.name :: (s.blocks.map (·.text) ++
      s.files.map fun f => tokText ⟨f.name, f.pos, f.len⟩)) ++ [bNL]
  | .marker n => joinWith bSpace [fsEscape n, emptyLoc, markerTok] ++ [bNL]

def render (L : List Line9) : Bytes := L.flatMap lineText

theorem dirText_eq (d : Dir9) : dirText d = (dirLines d).map render := by
  unfold dirText dirLines
  split
  · split <;> simp [render, lineText, markerLine]
  · cases emitFiles ⟨[], 0, []⟩ d.files with
    | none => rfl
    | some e =>
      simp only [Option.map_some, lineOf, List.isEmpty_reverse]
      split
      · rfl
      · simp only [render, lineText, streamOfEmit, List.flatMap_cons, List.flatMap_nil, List.append_nil, List.map_map]
        split <;> rfl

theorem treeText_eq : ∀ (t : Tree9), treeText t = (treeLines t).map render
  | [] => rfl
  | d :: rest => by
    unfold treeText treeLines
    rw [dirText_eq d, treeText_eq rest]
    cases dirLines d <;> cases treeLines rest <;> simp [render]

/-- what makes a line print to something that parses back to it -/
def LineOK : Line9 → Prop
  | .stream s => (∃ path, PathOK path ∧ s.name = prefixOf path) ∧ s.blocks ≠ [] ∧
      (∀ b ∈ s.blocks, specLocator b.text = some b) ∧ s.files ≠ [] ∧
      ∀ f ∈ s.files, (NameOK f.name ∧ (127 : UInt8) ∉ f.name) ∧ f.pos + f.len ≤ C10.streamLen s.blocks
  | .marker n => ∃ path, PathOK path ∧ path ≠ [] ∧ n = prefixOf path

theorem lineText_reads {x : Line9} (h : LineOK x) :
    ∃ l, lineText x = l ++ [bNL] ∧ bNL ∉ l ∧ specLine9 l = some x := by
  cases x with
  | stream s =>
    obtain ⟨⟨path, hpath, hn⟩, hbne, hb, hfne, hf⟩ := h
    obtain ⟨s1, s2⟩ := specLine_stream path s.blocks (s.files.map fun f => ⟨f.name, f.pos, f.len⟩) hpath hb hbne
      (by simpa using fun f hf' => (hf f hf').1) (by simpa using hfne) (by simpa using fun f hf' => (hf f hf').2)
    refine ⟨_, by simp only [lineText, hn, List.map_map]; rfl, s2, ?_⟩
    unfold specLine9
    rw [s1, List.map_map, ← hn]
    exact congrArg (fun fs => some (Line9.stream ⟨s.name, s.blocks, fs⟩)) (List.map_id s.files)
  | marker n =>
    obtain ⟨path, hpath, hne, rfl⟩ := h
    obtain ⟨m1, m2⟩ := specLine9_marker path hpath hne
    exact ⟨_, rfl, m2, m1⟩

theorem parse9_render {L : List Line9} (h : ∀ x ∈ L, LineOK x) : parse9 (render L) = some L := by
  have : ∃ ls, render L = unlines ls ∧ (∀ l ∈ ls, bNL ∉ l) ∧ mapOpt specLine9 ls = some L := by
    induction L with
    | nil => exact ⟨[], rfl, nofun, rfl⟩
    | cons x L ih =>
      obtain ⟨hx, hL⟩ := List.forall_mem_cons.mp h
      obtain ⟨ls, e1, e2, e3⟩ := ih hL
      obtain ⟨l, f1, f2, f3⟩ := lineText_reads hx
      exact ⟨l :: ls, by unfold render at e1 ⊢; rw [List.flatMap_cons, f1, e1]; rfl,
        List.forall_mem_cons.mpr ⟨f2, e2⟩, by simp [mapOpt, f3, e3]⟩
  obtain ⟨ls, e1, e2, e3⟩ := this
  rw [e1, parse9_unlines e2, e3]

end ArvVerif.C09
