/-
C10 — `manifestTextForPath` / `Extract` at the level of streams: which streams and files are
selected, under which names they are relocated (the `/` boundary of the stream test), and what
`normalizedText` renders for each of them (block list of pass 1, span tokens of pass 2, whose bytes
are the file's bytes).
-/
import ArvVerif.Proofs.C10_Normalize
import ArvVerif.Proofs.C10_Text
namespace ArvVerif.C10

theorem insertSorted_perm (a : Bytes) : ∀ l : List Bytes, (insertSorted a l).Perm (a :: l)
  | [] => .refl _
  | y :: ys => by
    unfold insertSorted
    split
    · exact ((insertSorted_perm a ys).cons y).trans (.swap a y ys)
    · exact .refl _

theorem sortBytes_perm : ∀ l : List Bytes, (sortBytes l).Perm l
  | [] => .refl _
  | a :: l => (insertSorted_perm a _).trans ((sortBytes_perm l).cons a)

/-- `k == srcpath || strings.HasPrefix(k, srcpath+"/")` says exactly: the path components of
`srcpath` are a prefix of the path components of `k`. (The seeded change C10-c replaced it by a
plain string prefix, for which this fails: `./a` vs `./ab`.) -/
theorem selected_iff_components (src k : Bytes) :
    (k = src ∨ (src ++ [bSlash]).isPrefixOf k = true) ↔ splitOn bSlash src <+: splitOn bSlash k := by
  constructor
  · rintro (rfl | h)
    · exact List.prefix_refl _
    · rw [List.isPrefixOf_iff_prefix] at h
      obtain ⟨rest, rfl⟩ := h
      rw [List.append_assoc, List.singleton_append, splitOn_append_sep_gen]
      exact List.prefix_append _ _
  · rintro ⟨more, hm⟩
    have hk := joinWith_splitOn bSlash k
    have hs := joinWith_splitOn bSlash src
    by_cases he : more = []
    · subst he
      left
      rw [← hk, ← hm, List.append_nil, hs]
    · right
      rw [List.isPrefixOf_iff_prefix, ← hk, ← hm,
        joinWith_append bSlash _ more (splitOn_ne_nil _ _) he, hs]
      exact ⟨joinWith bSlash more, by simp⟩

/-- the streams `manifestTextForPath` hands to `normalizedText`: (output stream name, its files) -/
def extractS (m : SegMap) (srcpath relocate : Bytes) : List (Bytes × List (Bytes × List Seg)) :=
  let src := fixStreamName srcpath
  let suffix : Bytes := if relocate.getLast? = some bSlash then [bSlash] else []
  let rel := fixStreamName relocate ++ suffix
  match m.find? (·.1 = ((splitPath src).1, (splitPath src).2)) with
  | some e =>
    let rf := if (splitPath rel).2 = [] then (splitPath src).2 else (splitPath rel).2
    [((splitPath rel).1, [(rf, e.2)])]
  | none =>
    let pre := src ++ [bSlash]
    let rel' := if rel.getLast? = some bSlash then rel.dropLast else rel
    (sortBytes (streamNames m)).filterMap fun k =>
      if pre.isPrefixOf k ∨ k = src then some (rel' ++ k.drop src.length, streamFiles m k) else none

theorem flatMap_filterMap_ite {α β γ : Type} (c : α → Prop) {_ : DecidablePred c} (f : α → β)
    (g : β → List γ) (l : List α) :
    (l.filterMap fun k => if c k then some (f k) else none).flatMap g =
      l.flatMap fun k => if c k then g (f k) else [] := by
  induction l with
  | nil => rfl
  | cons k rest ih => by_cases hc : c k <;> simp [hc, ih]

theorem manifestTextForPath_eq (m : SegMap) (srcpath relocate : Bytes) :
    manifestTextForPath m srcpath relocate =
      (extractS m srcpath relocate).flatMap fun x => normalizedText x.1 x.2 := by
  unfold manifestTextForPath extractS
  simp only []
  split <;> rename_i h <;> simp only [h]
  · simp
  · rw [flatMap_filterMap_ite]

/-- all segments `normalizedText` looks at, in its order -/
def allSegs (files : List (Bytes × List Seg)) : List Seg :=
  (sortBytes (files.map (·.1))).flatMap fun fn => match files.find? (·.1 = fn) with | some e => e.2 | none => []

def segsOfFiles (files : List (Bytes × List Seg)) (fn : Bytes) : List Seg :=
  match files.find? (·.1 = fn) with | some e => e.2 | none => []

theorem allSegs_eq (files : List (Bytes × List Seg)) :
    allSegs files = (sortBytes (files.map (·.1))).flatMap (segsOfFiles files) := rfl

def normFileToks (tbl : List (Bytes × Nat)) (fn : Bytes) (segs : List Seg) : List Bytes :=
  (normSpansS tbl segs none).map (spanTok (pkgEscape fn)) ++
    (if segs.isEmpty then [fileTokText 0 0 (pkgEscape fn)] else [])

def fileSpans (tbl : List (Bytes × Nat)) (segs : List Seg) : List (Nat × Nat) :=
  normSpansS tbl segs none ++ (if segs.isEmpty then [(0, 0)] else [])

theorem normFileToks_eq (tbl : List (Bytes × Nat)) (fn : Bytes) (segs : List Seg) :
    normFileToks tbl fn segs = (fileSpans tbl segs).map (spanTok (pkgEscape fn)) := by
  unfold normFileToks fileSpans
  rw [List.map_append]
  split <;> rfl

theorem mem_fileSpans {tbl : List (Bytes × Nat)} {segs : List Seg} {p : Nat × Nat} (h : p ∈ fileSpans tbl segs) :
    p ∈ normSpansS tbl segs none ∨ p = (0, 0) := by
  unfold fileSpans at h
  split at h
  · simpa using h
  · exact Or.inl (by simpa using h)

/-- pass 1 over all segments of a stream: digest table, block tokens, stream length -/
def pass1 (files : List (Bytes × List Seg)) : List (Bytes × Nat) × List Bytes × Nat :=
  normBlocks (allSegs files) [] [] 0

def lineBtoks (files : List (Bytes × List Seg)) : List Bytes :=
  if (pass1 files).2.1 = [] then [emptyBlockLocator] else (pass1 files).2.1

theorem normalizedText_eq (name : Bytes) (files : List (Bytes × List Seg)) :
    normalizedText name files = joinWith bSpace (pkgEscape name :: (lineBtoks files ++
      (sortBytes (files.map (·.1))).flatMap fun fn => normFileToks (pass1 files).1 fn (segsOfFiles files fn))) ++ [bNL] := by
  unfold normalizedText lineBtoks pass1 allSegs normFileToks segsOfFiles
  simp only [normSpans_eq _ _ _ none (fun _ _ h => nomatch h)]
  rfl

/-- the spans `normalizedText` writes for a file, cut out of the concatenation of the blocks it lists,
are that file's bytes -/
theorem normalizedText_bytes (blk : Bytes → Bytes) (files : List (Bytes × List Seg))
    (hc : DigestConsistent blk (allSegs files)) (fn : Bytes) (hfn : fn ∈ sortBytes (files.map (·.1))) :
    (normSpansS (pass1 files).1 (segsOfFiles files fn) none).flatMap
        (spanSlice (streamBytes blk ((pass1 files).2.1.map fun t => ⟨t, locSize t⟩))) =
      segBytes blk (segsOfFiles files fn) := by
  have h := normalize_preserves_bytes blk ((sortBytes (files.map (·.1))).map (segsOfFiles files))
  rw [← List.flatMap_def, ← allSegs_eq] at h
  exact h hc _ (List.mem_map_of_mem hfn)

end ArvVerif.C10
