/-
C09 helper lemmas: from the lines of a tree to the manifest semantics. For the lines of a
(flushed) tree, the document's reading of the manifest (`C10.fileContent`: for every file token with
the combined path, in order, the bytes pos…pos+size of the concatenated blocks) gives every file of
the tree exactly its content, given distinct directory paths, distinct names per directory and no '/' in a
name (`TreeShape`).
-/
import ArvVerif.Proofs.C09_Stream
namespace ArvVerif.C09

open ArvVerif.C08 (Seg FileNode Store SegWF AllWF)
open ArvVerif.C10 (bSpace bNL bSlash bColon bDot splitOn joinWith specLocator)

variable {max : Nat} {hash : Bytes → C08.Loc}

theorem flatMap_unique {α κ : Type} [DecidableEq κ] (key : α → κ) (g : α → Bytes) {l : List α}
    (hnd : (l.map key).Nodup) {a : α} (ha : a ∈ l) : (l.flatMap fun x => if key x = key a then g x else []) = g a := by
  induction l with
  | nil => cases ha
  | cons x rest ih =>
    obtain ⟨hx, hnd⟩ := List.nodup_cons.mp hnd
    rw [List.flatMap_cons]
    rcases List.mem_cons.mp ha with rfl | ha
    · rw [if_pos rfl, List.flatMap_eq_nil_iff.mpr, List.append_nil]
      exact fun y hy => if_neg fun h => hx (List.mem_map.mpr ⟨y, hy, h⟩)
    · rw [if_neg fun h => hx (List.mem_map.mpr ⟨a, ha, h.symm⟩), ih hnd ha, List.nil_append]

theorem fileContent_append (blk : Bytes → Bytes) (a b : C10.Manifest) (p : Bytes) :
    C10.fileContent blk (a ++ b) p = C10.fileContent blk a p ++ C10.fileContent blk b p := by
  simp [C10.fileContent]

structure TreeShape (t : Tree9) : Prop where
  paths_nodup : (dirPaths t).Nodup
  names_nodup : ∀ d ∈ t, (d.files.map (·.1)).Nodup
  noslash : ∀ d ∈ t, (∀ c ∈ d.path, bSlash ∉ c) ∧ ∀ f ∈ d.files, bSlash ∉ f.1

theorem TreeShape.tail {d : Dir9} {t : Tree9} (h : TreeShape (d :: t)) : TreeShape t :=
  ⟨(List.nodup_cons.mp h.paths_nodup).2, fun x hx => h.names_nodup x (List.mem_cons_of_mem _ hx),
   fun x hx => h.noslash x (List.mem_cons_of_mem _ hx)⟩

theorem TreeShape.key_noslash {t : Tree9} (h : TreeShape t) {d : Dir9} (hd : d ∈ t) {f : Bytes × FileNode} (hf : f ∈ d.files) :
    ∀ c ∈ d.path ++ [f.1], bSlash ∉ c :=
  mem_append_singleton (h.noslash d hd).1 ((h.noslash d hd).2 f hf)

theorem dirLines_read {st : Store} {t : Tree9} (hshape : TreeShape t)
    (hsegs : ∀ d ∈ t, ∀ f ∈ d.files, ∀ s ∈ f.2.segs, SegWF max hash st s) {d : Dir9} (hd : d ∈ t) {L : List Line9}
    (hL : dirLines d = some L) {path : List Bytes} {n : Bytes} (hp : ∀ c ∈ path, bSlash ∉ c) (hn : bSlash ∉ n) :
    C10.fileContent (blkOf st) (streamsOf L) (C10.pathOf (prefixOf path) n) =
      if d.path = path then d.files.flatMap fun f => if f.1 = n then C08.abs st f.2 else [] else [] := by
  rcases dirLines_spec (hsegs d hd) hL with ⟨hf, rfl⟩ | ⟨_, s, rfl, hs⟩
  · rw [hf]
    split <;> split <;> rfl
  · split
    · next h => subst h; exact hs.content n
    · -- a token of this stream names a file of `d`, so its path lies in another directory
      next h =>
      simp only [streamsOf, C10.fileContent, List.flatMap_cons, List.flatMap_nil, List.append_nil]
      rw [List.flatMap_eq_nil_iff]
      intro ft hft
      obtain ⟨⟨f, hf, hfn⟩, _⟩ := hs.toks ft hft
      rw [if_neg]
      rw [hs.name, hfn]
      exact fun e => h (pathOf_inj (hshape.noslash d hd).1 hp ((hshape.noslash d hd).2 f hf) hn e).1

theorem treeLines_read {st : Store} {path : List Bytes} {n : Bytes} (hp : ∀ c ∈ path, bSlash ∉ c) (hn : bSlash ∉ n) :
    ∀ (t : Tree9) (L : List Line9), treeLines t = some L → TreeShape t →
    (∀ d ∈ t, ∀ f ∈ d.files, ∀ s ∈ f.2.segs, SegWF max hash st s) →
    C10.fileContent (blkOf st) (streamsOf L) (C10.pathOf (prefixOf path) n) =
      t.flatMap fun d => if d.path = path then d.files.flatMap fun f => if f.1 = n then C08.abs st f.2 else [] else [] := by
  refine treeLines_induction (fun _ _ => rfl) ?_
  intro d rest a b ha _ ih hshape hsegs
  rw [streamsOf_append, fileContent_append, dirLines_read hshape hsegs List.mem_cons_self ha hp hn,
    ih hshape.tail (fun x hx => hsegs x (List.mem_cons_of_mem _ hx)), List.flatMap_cons]

theorem treeLines_content {st : Store} : ∀ (t : Tree9) (L : List Line9), TreeShape t →
    (∀ d ∈ t, ∀ f ∈ d.files, ∀ s ∈ f.2.segs, SegWF max hash st s) → treeLines t = some L →
    ∀ d ∈ t, ∀ f ∈ d.files,
      C10.fileContent (blkOf st) (streamsOf L) (C10.pathOf (prefixOf d.path) f.1) = C08.abs st f.2 := by
  intro t L hshape hsegs hL d hd f hf
  rw [treeLines_read (hshape.noslash d hd).1 ((hshape.noslash d hd).2 f hf) t L hL hshape hsegs]
  exact (flatMap_unique Dir9.path _ hshape.paths_nodup hd).trans
    (flatMap_unique Prod.fst _ (hshape.names_nodup d hd) hf)

end ArvVerif.C09
