/-
C13: the invariant of the concurrent model (`Inv13` = C08's invariant + every
flushing token on a segment is backed by the bytes that were handed to PutB), the steps the plain
model does not see (`Quiet`), and the one all of them are made of: "replace one mem segment by a
segment with the same bytes" (a new `flushing` value, or a stored segment).
-/
import ArvVerif.Props.C08_History
import ArvVerif.Model.C13
namespace ArvVerif.C13
open ArvVerif.C08

variable {max : Nat} {hash : Bytes → Loc}

/-- Token `t` was handed out for a buffer of which `b` is what is left (a prefix): `b` is a prefix of
the token's piece of the block, and the block is in Keep (under its own locator). -/
def TokOK (hash : Bytes → Loc) (world : Store) (toks : List Tok) (t : Nat) (b : Bytes) : Prop :=
  ∃ tk, toks[t]? = some tk ∧ b = (tk.block.drop tk.off).take b.length ∧ world (hash tk.block) = some tk.block

/-- A `flushing` value in a reachable state is nil, a closed anonymous channel, or a token that is
backed by Keep. -/
def MarkOK (max : Nat) (hash : Bytes → Loc) (world : Store) (toks : List Tok) : Seg → Prop
  | Seg.mem b (Flush.pending t l) => l = max + 1 ∧ TokOK hash world toks t b
  | _ => True

structure Inv13 (max : Nat) (hash : Bytes → Loc) (s : St) : Prop where
  base : Inv max hash s.fs
  marks : ∀ nf ∈ s.fs.files, ∀ sg ∈ nf.2.segs, MarkOK max hash s.fs.world s.toks sg

variable {world world' : Store} {toks more : List Tok} {t : Nat} {b : Bytes} {sg : Seg}

theorem TokOK.mono (he : StoreExt world world') (h : TokOK hash world toks t b) : TokOK hash world' (toks ++ more) t b := by
  obtain ⟨tk, h1, h2, h3⟩ := h
  refine ⟨tk, ?_, h2, he _ _ h3⟩
  rw [List.getElem?_append_left (List.getElem?_eq_some_iff.mp h1).1]
  exact h1

theorem TokOK.take (n : Nat) (h : TokOK hash world toks t b) : TokOK hash world toks t (b.take n) := by
  obtain ⟨tk, h1, h2, h3⟩ := h
  refine ⟨tk, h1, ?_, h3⟩
  conv => lhs; rw [h2]
  rw [List.take_take, List.length_take]

theorem MarkOK.mono (he : StoreExt world world') (h : MarkOK max hash world toks sg) : MarkOK max hash world' (toks ++ more) sg := by
  cases sg with
  | stored => trivial
  | mem b fl =>
    cases fl with
    | none => trivial
    | stale => trivial
    | pending t l => exact ⟨h.1, h.2.mono he⟩

theorem MarkOK.ext_world (he : StoreExt world world')
    (h : MarkOK max hash world toks sg) : MarkOK max hash world' toks sg :=
  List.append_nil toks ▸ h.mono he

theorem MarkOK.take {fl : Flush} (n : Nat) (h : MarkOK max hash world toks (Seg.mem b fl)) :
    MarkOK max hash world toks (Seg.mem (b.take n) fl) := by
  cases fl with
  | pending t l => exact ⟨h.1, h.2.take n⟩
  | _ => trivial

theorem Inv13.ext {s : St} (hinv : Inv13 max hash s) {world' : Store} (he : StoreExt s.fs.world world')
    (hok : StoreOK hash world') (more : List Tok) :
    Inv13 max hash { s with fs := { s.fs with world := world' }, toks := s.toks ++ more } :=
  ⟨hinv.base.ext_world he hok, fun nf hnf sg hsg => (hinv.marks nf hnf sg hsg).mono he⟩

theorem forall_mem_set {α : Type} {P : α → Prop} {l : List α} (h : ∀ x ∈ l, P x) (i : Nat) {a : α} (ha : P a) :
    ∀ x ∈ l.set i a, P x :=
  fun _ hx => (List.mem_or_eq_of_mem_set hx).elim (h _) (fun e => e ▸ ha)

/-- `Inv13.marks` is this, written out. Where C08's file layer is followed (Marks) the form is `AllG`: one
segment list, a predicate on (buffer, `flushing`) of mem segments only; `AllG.all_segs` leads back. -/
def AllSegs (P : Seg → Prop) (fs : Conc) : Prop := ∀ nf ∈ fs.files, ∀ sg ∈ nf.2.segs, P sg

theorem AllSegs.setFile {P : Seg → Prop} {fs : Conc} (h : AllSegs P fs) (f : Nat) (c : FileNode)
    (hc : ∀ sg ∈ c.segs, P sg) : AllSegs P (setFile fs f c) :=
  fun nf hnf => (mem_setFile hnf).elim (h nf) fun e => e ▸ hc

theorem setSeg_segs {fs : Conc} {f i : Nat} {sg' : Seg} {P : Seg → Prop} (hall : AllSegs P fs) (hnew : P sg') :
    AllSegs P (setSegAt fs f i sg') := by
  unfold setSegAt
  cases hf : fs.files[f]? with
  | none => exact hall
  | some nf =>
    exact hall.setFile f _ (forall_mem_set (hall nf (List.mem_of_getElem? hf)) i hnew)

@[simp] theorem setSegAt_world (fs : Conc) (f i : Nat) (sg : Seg) : (setSegAt fs f i sg).world = fs.world := by
  unfold setSegAt
  cases fs.files[f]? with
  | none => rfl
  | some nf => exact setFile_world ..

theorem Inv13.setSeg {s : St} (hinv : Inv13 max hash s) {f i : Nat} {nf : String × FileNode} {b : Bytes}
    {fl : Flush} {sg' : Seg} (hf : s.fs.files[f]? = some nf) (hi : nf.2.segs[i]? = some (Seg.mem b fl))
    (hlen : sg'.len = b.length) (hbytes : sg'.bytes s.fs.world = b) (hwf : SegWF max hash s.fs.world sg')
    (hmark : MarkOK max hash s.fs.world s.toks sg') :
    Inv13 max hash { s with fs := setSegAt s.fs f i sg' } ∧ absFS (setSegAt s.fs f i sg') = absFS s.fs := by
  have hset : setSegAt s.fs f i sg' = setFile s.fs f { nf.2 with segs := nf.2.segs.set i sg' } := by
    unfold setSegAt; rw [hf]
  have hwf0 := (hinv.base.files nf (List.mem_of_getElem? hf)).1
  -- the file with the new segment is another representation of the old one
  obtain ⟨h1, h2⟩ := hinv.base.setFile_key hf (fileKey_set hi hbytes hlen)
    (forall_mem_set hwf0.segs i hwf)
  rw [← hset] at h1 h2
  refine ⟨⟨h1, ?_⟩, h2⟩
  rw [setSegAt_world]
  exact setSeg_segs hinv.marks hmark

/-- A step the plain model does not see; every background move (completion, async flush) is one. -/
def Quiet (max : Nat) (hash : Bytes → Loc) (s s' : St) : Prop := Inv13 max hash s' ∧ absFS s'.fs = absFS s.fs

theorem Quiet.refl {s : St} (h : Inv13 max hash s) : Quiet max hash s s := ⟨h, rfl⟩

theorem Quiet.trans {a b c : St} (h1 : Quiet max hash a b) (h2 : Quiet max hash b c) : Quiet max hash a c :=
  ⟨h2.1, h2.2.trans h1.2⟩

theorem Quiet.groups {s s' : St} (h : Quiet max hash s s') (g : List Group) : Quiet max hash s { s' with groups := g } :=
  ⟨⟨h.1.base, h.1.marks⟩, h.2⟩

theorem segAt_eq {fs : Conc} {f i : Nat} {sg : Seg} (h : segAt fs f i = some sg) :
    ∃ nf, fs.files[f]? = some nf ∧ nf.2.segs[i]? = some sg := by
  unfold segAt at h
  cases hf : fs.files[f]? with
  | none => rw [hf] at h; cases h
  | some nf => rw [hf] at h; exact ⟨nf, rfl, h⟩

theorem Inv13.segAt_wf {s : St} (hinv : Inv13 max hash s) {f i : Nat} {sg : Seg} (h : segAt s.fs f i = some sg) :
    SegWF max hash s.fs.world sg := by
  obtain ⟨nf, hf, hi⟩ := segAt_eq h
  exact (hinv.base.files nf (List.mem_of_getElem? hf)).1.segs _ (List.mem_of_getElem? hi)

theorem Inv13.segAt_mark {s : St} (hinv : Inv13 max hash s) {f i : Nat} {sg : Seg} (h : segAt s.fs f i = some sg) :
    MarkOK max hash s.fs.world s.toks sg := by
  obtain ⟨nf, hf, hi⟩ := segAt_eq h
  exact hinv.marks nf (List.mem_of_getElem? hf) _ (List.mem_of_getElem? hi)

theorem Inv13.setSegAt {s : St} (hinv : Inv13 max hash s) {f i : Nat} {b : Bytes} {fl : Flush} {sg' : Seg}
    (h : segAt s.fs f i = some (Seg.mem b fl)) (hlen : sg'.len = b.length) (hbytes : sg'.bytes s.fs.world = b)
    (hwf : SegWF max hash s.fs.world sg') (hmark : MarkOK max hash s.fs.world s.toks sg') :
    Quiet max hash s { s with fs := setSegAt s.fs f i sg' } := by
  obtain ⟨nf, hf, hi⟩ := segAt_eq h
  exact hinv.setSeg hf hi hlen hbytes hwf hmark

/-! A mem segment stays well-formed under the two `flushing` values the background moves write. For a token
this is why `mark max t` is `pending t (max + 1)`: a buffer is at most `max` long, so C08's clause for
`pending i l` (`buf.length ≤ l`, and the buffer in Keep if `l = buf.length`) holds of it and asks for nothing.
C08's proofs about `write` and `truncate` therefore go through with tokens on the segments. -/

theorem segWF_mark {st : Store} {fl : Flush} (h : SegWF max hash st (Seg.mem b fl)) (t : Nat) :
    SegWF max hash st (Seg.mem b (mark max t)) := by
  refine ⟨h.1, h.2.1, ?_⟩
  intro i l hil
  cases hil
  have := h.2.1
  exact ⟨by omega, fun heq => by omega⟩

theorem segWF_stale {st : Store} {fl : Flush} (h : SegWF max hash st (Seg.mem b fl)) :
    SegWF max hash st (Seg.mem b Flush.stale) :=
  ⟨h.1, h.2.1, nofun⟩

theorem init_inv13 : Inv13 max hash St.init :=
  ⟨C08_init_inv, nofun⟩

end ArvVerif.C13
