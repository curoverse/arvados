/-
C09 — proofs about the goroutine protocol of a synchronous flush (Model/C09_Conc.lean):
throttle balance, the progress measure, deadlock freedom.
-/
import ArvVerif.Model.C09_Conc
namespace ArvVerif.C09.Conc

open ArvVerif.C09 (Outcome)

theorem sumF_set (f : PC → Nat) : ∀ (l : List PC) (i : Nat) (p x : PC), l[i]? = some p →
    sumF f (l.set i x) + f p = sumF f l + f x
  | [], i, p, x, h => by simp at h
  | a :: l, 0, p, x, h => by
    cases h
    simp only [sumF, List.set_cons_zero, List.map_cons, List.sum_cons]; omega
  | a :: l, i + 1, p, x, h => by
    have := sumF_set f l i p x h
    simp only [sumF, List.set_cons_succ, List.map_cons, List.sum_cons] at this ⊢; omega

theorem getElem?_set' {l : List PC} {i : Nat} {p : PC} (h : l[i]? = some p) (x : PC) (j : Nat) :
    (l.set i x)[j]? = if j = i then some x else l[j]? := by
  obtain ⟨hlt, _⟩ := List.getElem?_eq_some_iff.mp h
  simp [List.getElem?_set, hlt, eq_comm]

theorem sumF_replicate (f : PC → Nat) (n : Nat) (p : PC) : sumF f (List.replicate n p) = n * f p := by
  simp [sumF]

theorem nHold_eq_zero {l : List PC} : nHold l = 0 ↔ ∀ p ∈ l, p.holding = false := by
  simp [nHold, sumF, List.sum_eq_zero_iff_forall_eq_nat]

theorem nHold_pos {l : List PC} : 0 < nHold l ↔ ∃ p ∈ l, p.holding = true := by
  rw [Nat.pos_iff_ne_zero, Ne, nHold_eq_zero]; simp

/-- the summand of `nHold` (the model writes it as a lambda), so that `nHold = sumF hold` by definition -/
def hold (p : PC) : Nat := if p.holding then 1 else 0

/-- The moves of one task in state `s`: from `p` to `x`; the flag says that the wrapper records the
task's error in `cg.err` and cancels the context (the first task to finish with an error). -/
inductive Move (cap : Nat) (s : CS) : PC → PC → Bool → Prop
  | spawn : Move cap s .idle (if s.cgErr.isSome then .dropped else .spawned) false
  | check : Move cap s .spawned (if s.cancelled then .returned .skip true else .waiting) false
  | acquire : s.inUse < cap → Move cap s .waiting .writing false
  | putb : Move cap s .writing (.answered (s.script.headD s.dflt)) false
  | release (b : Bool) : Move cap s (.answered b) (.released b) false
  | ret (b : Bool) : Move cap s (.released b) (.returned (outcomeOf b) false) false
  | closeR (o : Outcome) : Move cap s (.returned o false) (.returned o true) false
  | closeF (o : Outcome) : Move cap s (.finished o false) (.finished o true) false
  | finish (o : Outcome) (c : Bool) : ¬ (o ≠ Outcome.ok ∧ s.cgErr = none) → Move cap s (.returned o c) (.finished o c) false
  | finishErr (o : Outcome) (c : Bool) : o ≠ Outcome.ok → s.cgErr = none → Move cap s (.returned o c) (.finished o c) true

structure TaskStep (cap : Nat) (s u : CS) (i : Nat) (p x : PC) (r : Bool) : Prop where
  pc : s.pcs[i]? = some p
  move : Move cap s p x r
  pcs : u.pcs = s.pcs.set i x
  bg : u.bg = s.bg
  ext : u.ext = s.ext
  inUse : u.inUse = s.inUse + hold x - hold p
  cgErr : u.cgErr = if r then some i else s.cgErr
  cancelled : u.cancelled = (r || s.cancelled)

theorem step_cases {cap : Nat} {s u : CS} {a : Act} (h : step cap s a = some u) :
    (∃ i p x r, TaskStep cap s u i p x r) ∨
    (0 < s.bg ∧ u = { s with bg := s.bg - 1, inUse := s.inUse - 1 }) ∨
    (s.cancelled = false ∧ u = { s with cancelled := true, ext := true }) := by
  cases a with
  | spawn i =>
    simp only [step] at h
    split at h
    · next hp => cases h; exact Or.inl ⟨i, _, _, _, hp, .spawn, rfl, rfl, rfl, by split <;> rfl, rfl, rfl⟩
    · cases h
  | check i =>
    simp only [step] at h
    split at h
    · next hp => cases h; exact Or.inl ⟨i, _, _, _, hp, .check, rfl, rfl, rfl, by split <;> rfl, rfl, rfl⟩
    · cases h
  | acquire i =>
    simp only [step] at h
    split at h
    · next hp =>
      split at h
      · next hlt => cases h; exact Or.inl ⟨i, _, _, _, hp, .acquire hlt, rfl, rfl, rfl, rfl, rfl, rfl⟩
      · cases h
    · cases h
  | putb i =>
    simp only [step] at h
    split at h
    · next hp => cases h; exact Or.inl ⟨i, _, _, _, hp, .putb, rfl, rfl, rfl, rfl, rfl, rfl⟩
    · cases h
  | release i =>
    simp only [step] at h
    split at h
    · next b hp => cases h; exact Or.inl ⟨i, _, _, _, hp, .release b, rfl, rfl, rfl, rfl, rfl, rfl⟩
    · cases h
  | ret i =>
    simp only [step] at h
    split at h
    · next b hp => cases h; exact Or.inl ⟨i, _, _, _, hp, .ret b, rfl, rfl, rfl, rfl, rfl, rfl⟩
    · cases h
  | closeDone i =>
    simp only [step] at h
    split at h
    · next o hp => cases h; exact Or.inl ⟨i, _, _, _, hp, .closeR o, rfl, rfl, rfl, rfl, rfl, rfl⟩
    · next o hp => cases h; exact Or.inl ⟨i, _, _, _, hp, .closeF o, rfl, rfl, rfl, rfl, rfl, rfl⟩
    · cases h
  | finish i =>
    simp only [step] at h
    split at h
    · next o c hp =>
      split at h
      · next hc => cases h; exact Or.inl ⟨i, _, _, _, hp, .finishErr o c hc.1 hc.2, rfl, rfl, rfl, rfl, rfl, rfl⟩
      · next hc => cases h; exact Or.inl ⟨i, _, _, _, hp, .finish o c hc, rfl, rfl, rfl, rfl, rfl, rfl⟩
    · cases h
  | bgRelease =>
    simp only [step] at h
    split at h
    · next hb => cases h; exact Or.inr (Or.inl ⟨hb, rfl⟩)
    · cases h
  | extCancel =>
    simp only [step] at h
    split at h
    · cases h
    · next hc => cases h; exact Or.inr (Or.inr ⟨by simpa using hc, rfl⟩)

theorem Move.hold_le {cap : Nat} {s : CS} {p x : PC} {r : Bool} (h : Move cap s p x r) :
    hold x ≤ hold p ∨ (hold x = 1 ∧ s.inUse < cap) := by
  cases h with
  | acquire hlt => exact Or.inr ⟨rfl, hlt⟩
  | spawn => left; split <;> simp [hold, PC.holding]
  | check => left; split <;> simp [hold, PC.holding]
  | _ => left; simp [hold, PC.holding]

theorem Move.rank_lt {cap : Nat} {s : CS} {p x : PC} {r : Bool} (h : Move cap s p x r) : x.rank < p.rank := by
  cases h with
  | spawn => split <;> simp [PC.rank]
  | check => split <;> simp [PC.rank]
  | finish o c _ => cases c <;> simp [PC.rank]
  | finishErr o c _ _ => cases c <;> simp [PC.rank]
  | _ => simp [PC.rank]

structure TInv (cap : Nat) (s : CS) : Prop where
  use : s.inUse = s.bg + nHold s.pcs
  le : s.inUse ≤ cap

theorem nHold_set {l : List PC} {i : Nat} {p : PC} (h : l[i]? = some p) (x : PC) :
    nHold (l.set i x) + hold p = nHold l + hold x :=
  sumF_set _ l i p x h

theorem TInv.init (n bg : Nat) (script : List Bool) (dflt : Bool) (h : bg ≤ cap) : TInv cap (init n bg script dflt) :=
  ⟨by simp [Conc.init, nHold, sumF_replicate, PC.holding], h⟩

theorem step_tinv {cap : Nat} {s u : CS} {a : Act} (hs : TInv cap s) (h : step cap s a = some u) : TInv cap u := by
  obtain ⟨h1, h2⟩ := hs
  rcases step_cases h with ⟨i, p, x, r, ht⟩ | ⟨hb, rfl⟩ | ⟨_, rfl⟩
  · have hset := nHold_set ht.pc x
    have hp : hold p ≤ nHold s.pcs := by have := nHold_set ht.pc PC.idle; have : hold PC.idle = 0 := rfl; omega
    have := ht.inUse
    constructor
    · rw [ht.pcs, ht.bg]; omega
    · rcases ht.move.hold_le with h' | h' <;> omega
  · exact ⟨by simp only; omega, by simp only; omega⟩
  · exact ⟨h1, h2⟩

theorem Reach.invariant {cap : Nat} {P : CS → Prop} (hstep : ∀ {s u a}, P s → step cap s a = some u → P u)
    {s u : CS} (hs : P s) (h : Reach cap s u) : P u := by
  induction h with
  | refl => exact hs
  | tail a _ hst ih => exact hstep ih hst

theorem reach_tinv {cap : Nat} {s u : CS} (hs : TInv cap s) (h : Reach cap s u) : TInv cap u :=
  h.invariant step_tinv hs

theorem step_mu {cap : Nat} {s u : CS} {a : Act} (h : step cap s a = some u) : mu u < mu s := by
  rcases step_cases h with ⟨i, p, x, r, ht⟩ | ⟨hb, rfl⟩ | ⟨hc, rfl⟩
  · have hset : sumF PC.rank (s.pcs.set i x) + p.rank = sumF PC.rank s.pcs + x.rank := sumF_set _ _ i p x ht.pc
    have := ht.move.rank_lt
    have hc : (bif u.cancelled then 0 else 1) ≤ (bif s.cancelled then 0 else 1) := by
      rw [ht.cancelled]; cases r <;> cases s.cancelled <;> decide
    simp only [mu, ht.pcs, ht.bg]; omega
  · simp only [mu]; omega
  · simp only [mu, hc]; simp

def runAll (cap : Nat) : CS → List Act → Option CS
  | s, [] => some s
  | s, a :: rest => match step cap s a with
    | some t => runAll cap t rest
    | none => none

theorem runAll_cons {cap : Nat} {s u : CS} {a : Act} {rest : List Act} (h : runAll cap s (a :: rest) = some u) :
    ∃ t, step cap s a = some t ∧ runAll cap t rest = some u := by
  simp only [runAll] at h
  split at h
  · next t ht => exact ⟨t, ht, h⟩
  · cases h

theorem runAll_mu {cap : Nat} : ∀ (acts : List Act) (s u : CS), runAll cap s acts = some u → acts.length + mu u ≤ mu s
  | [], s, u, h => by cases h; simp
  | a :: rest, s, u, h => by
    obtain ⟨t, ht, h⟩ := runAll_cons h
    have := runAll_mu rest t u h
    have := step_mu ht
    simp only [List.length_cons]; omega

theorem Reach.trans {cap : Nat} {s t u : CS} (h1 : Reach cap s t) (h2 : Reach cap t u) : Reach cap s u :=
  h2.invariant (Reach.tail _) h1

theorem runAll_reach {cap : Nat} : ∀ (acts : List Act) (s u : CS), runAll cap s acts = some u → Reach cap s u
  | [], s, u, h => by cases h; exact Reach.refl s
  | a :: rest, s, u, h => by
    obtain ⟨t, ht, h⟩ := runAll_cons h
    exact (Reach.tail a (Reach.refl s) ht).trans (runAll_reach rest t u h)

def Act.own : Act → Bool
  | .extCancel => false
  | _ => true

/-- No deadlock. The one hard case is a task waiting in `Acquire` with every slot taken: then a
holder of a slot can move, since it needs nothing to answer and release (a background writer releases
BEFORE taking a file lock; a task of the flush releases right after PutB). -/
theorem progress {cap : Nat} {s : CS} (hcap : 1 ≤ cap) (hs : TInv cap s) (hq : s.pcs.all PC.quiet = false) :
    ∃ a, a.own = true ∧ (step cap s a).isSome = true := by
  obtain ⟨p, hmem, hnq⟩ := List.all_eq_false.mp hq
  obtain ⟨i, hp⟩ := List.getElem?_of_mem hmem
  cases p with
  | idle => exact ⟨.spawn i, rfl, by simp only [step, hp, Option.isSome_some]⟩
  | dropped => simp [PC.quiet] at hnq
  | spawned => exact ⟨.check i, rfl, by simp only [step, hp, Option.isSome_some]⟩
  | waiting =>
    by_cases hfree : s.inUse < cap
    · exact ⟨.acquire i, rfl, by simp only [step, hp, hfree, if_true, Option.isSome_some]⟩
    · by_cases hbg : 0 < s.bg
      · exact ⟨.bgRelease, rfl, by simp only [step, hbg, if_true, Option.isSome_some]⟩
      · obtain ⟨q, hmem, hq2⟩ := (nHold_pos (l := s.pcs)).mp (by have := hs.use; omega)
        obtain ⟨j, hq1⟩ := List.getElem?_of_mem hmem
        cases q with
        | writing => exact ⟨.putb j, rfl, by simp only [step, hq1, Option.isSome_some]⟩
        | answered b => exact ⟨.release j, rfl, by simp only [step, hq1, Option.isSome_some]⟩
        | _ => simp [PC.holding] at hq2
  | writing => exact ⟨.putb i, rfl, by simp only [step, hp, Option.isSome_some]⟩
  | answered b => exact ⟨.release i, rfl, by simp only [step, hp, Option.isSome_some]⟩
  | released b => exact ⟨.ret i, rfl, by simp only [step, hp, Option.isSome_some]⟩
  | returned o c => exact ⟨.finish i, rfl, by simp only [step, hp]; split <;> rfl⟩
  | finished o c =>
    cases c with
    | true => simp [PC.quiet] at hnq
    | false => exact ⟨.closeDone i, rfl, by simp only [step, hp, Option.isSome_some]⟩

theorem reach_quiet {cap : Nat} (hcap : 1 ≤ cap) : ∀ (m : Nat) (s : CS), mu s ≤ m → TInv cap s →
    ∃ u, Reach cap s u ∧ u.pcs.all PC.quiet = true
  | m, s, hm, hs => by
    cases hq : s.pcs.all PC.quiet with
    | true => exact ⟨s, Reach.refl s, hq⟩
    | false =>
      obtain ⟨a, _, hu⟩ := progress hcap hs hq
      obtain ⟨u, hu⟩ := Option.isSome_iff_exists.mp hu
      have hlt := step_mu hu
      obtain ⟨v, hv, hvq⟩ := reach_quiet hcap (m - 1) u (by omega) (step_tinv hs hu)
      exact ⟨v, (Reach.tail a (Reach.refl s) hu).trans hv, hvq⟩
termination_by m => m
decreasing_by omega

end ArvVerif.C09.Conc
