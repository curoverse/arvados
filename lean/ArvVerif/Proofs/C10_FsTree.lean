/-
C10 — the loader at tree level. What a file token asks of the tree is a *contribution*: its combined path and
its `resolveTok` pieces (`contribsOf`, `manifestContribs`); `applyOp` applies one (`createFileAndParents`, then
append), `runOps` a list. `createFileAndParents` on the flat tree: for a clean path that conflicts with no
path seen so far it returns the file node of that path (creating parents), and appending the token's
segments keeps the tree equal to "every path ↦ concatenation of its contributions so far" (`FsInv`,
`fs_step`); so a run of contributions whose paths do not conflict succeeds and keeps `FsInv` (`runOps_fsInv`).
-/
import ArvVerif.Proofs.C10_WalkParents
namespace ArvVerif.C10

/-- contributions processed so far: (combined path, segments of one file token), in manifest order -/
abbrev Contrib := List (Bytes × List Seg)

def contribOf (done : Contrib) (p : Bytes) : List Seg := (done.filter (·.1 = p)).flatMap (·.2)

theorem contribOf_eq_flatMap (done : Contrib) (p : Bytes) :
    contribOf done p = done.flatMap fun c => if c.1 = p then c.2 else [] := by
  unfold contribOf
  induction done with
  | nil => rfl
  | cons c cs ih =>
    rw [List.filter_cons, List.flatMap_cons, ← ih]
    by_cases h : c.1 = p <;> simp [h]

theorem contribOf_append (done : Contrib) (p q : Bytes) (segs : List Seg) :
    contribOf (done ++ [(q, segs)]) p = contribOf done p ++ (if q = p then segs else []) := by
  rw [contribOf_eq_flatMap, contribOf_eq_flatMap, List.flatMap_append, List.flatMap_singleton]

def contribsOf (sname : Bytes) (blocks : List Loc) (files : List FTok) : Contrib :=
  files.map fun f => (pathOf sname f.name, resolveTok blocks 0 f.pos f.len)

def manifestContribs (M : Manifest) : Contrib := M.flatMap fun s => contribsOf s.name s.blocks s.files

theorem mem_pathsOf {M : Manifest} {p : Bytes} :
    p ∈ pathsOf M ↔ ∃ s ∈ M, ∃ f ∈ s.files, pathOf s.name f.name = p := by
  simp only [pathsOf, List.mem_eraseDups, List.mem_flatMap, List.mem_map]

theorem mem_manifestContribs {M : Manifest} {c : Bytes × List Seg} :
    c ∈ manifestContribs M ↔ ∃ s ∈ M, ∃ f ∈ s.files, (pathOf s.name f.name, resolveTok s.blocks 0 f.pos f.len) = c := by
  simp only [manifestContribs, contribsOf, List.mem_flatMap, List.mem_map]

theorem contribOf_manifest (M : Manifest) (p : Bytes) : contribOf (manifestContribs M) p = resolve M p := by
  rw [contribOf_eq_flatMap, manifestContribs, List.flatMap_assoc]
  simp only [contribsOf, List.flatMap_map]
  rfl

/-- what `createFileAndParents` returns: an error before the walk; or, after the walk, an error or the
marker on the walked tree; or the file `k` below the directory the walk ended in, found or appended -/
theorem createFile_cases {path : Bytes} {t t' : FsTree} {res : Created} (h : createFileAndParents path t = (res, t')) :
    (res = Created.error ∧ t' = t) ∨
    ∃ cur ta base, walkParents (splitOn bSlash path).dropLast [] t = some (cur, ta) ∧
      base = (splitOn bSlash path).getLastD [] ∧
      ((res = Created.error ∨ res = Created.marker ∧ base = [bDot]) ∧ t' = ta ∨
       res = Created.file (cur ++ [base]) ∧ base ≠ [bDot] ∧ ¬ (base = [] ∨ base = [bDot, bDot]) ∧ cur ++ [base] ∉ ta.dirs ∧
         (ta.files.any (·.1 = cur ++ [base]) = true ∧ t' = ta ∨
          ta.files.any (·.1 = cur ++ [base]) = false ∧ t' = { ta with files := ta.files ++ [(cur ++ [base], [])] })) := by
  revert h
  -- the six returns, in the order of the code: walk failed, marker, name not permitted, directory in the way,
  -- file found, file appended
  fun_cases createFileAndParents path t with
  | case1 => rintro ⟨⟩; exact Or.inl ⟨rfl, rfl⟩
  | case2 names base cur ta hw hb => rintro ⟨⟩; exact Or.inr ⟨_, _, _, hw, rfl, Or.inl ⟨Or.inr ⟨rfl, hb⟩, rfl⟩⟩
  | case3 names base cur ta hw => rintro ⟨⟩; exact Or.inr ⟨_, _, _, hw, rfl, Or.inl ⟨Or.inl rfl, rfl⟩⟩
  | case4 names base cur ta hw => rintro ⟨⟩; exact Or.inr ⟨_, _, _, hw, rfl, Or.inl ⟨Or.inl rfl, rfl⟩⟩
  | case5 names base cur ta hw hb1 hb2 child hnd hany =>
    rintro ⟨⟩
    exact Or.inr ⟨_, _, _, hw, rfl, Or.inr ⟨rfl, hb1, hb2, mt List.contains_iff_mem.mpr hnd, Or.inl ⟨hany, rfl⟩⟩⟩
  | case6 names base cur ta hw hb1 hb2 child hnd hany =>
    rintro ⟨⟩
    exact Or.inr ⟨_, _, _, hw, rfl, Or.inr ⟨rfl, hb1, hb2, mt List.contains_iff_mem.mpr hnd,
      Or.inr ⟨Bool.eq_false_iff.mpr hany, rfl⟩⟩⟩

theorem createFile_kind (path : Bytes) (t : FsTree) :
    ((createFileAndParents path t).1 = Created.marker → (splitOn bSlash path).getLastD [] = [bDot]) ∧
    ∀ p, (createFileAndParents path t).1 = Created.file p → (splitOn bSlash path).getLastD [] ≠ [bDot] := by
  cases h : createFileAndParents path t with
  | mk res t' =>
    rcases createFile_cases h with ⟨rfl, _⟩ | ⟨_, _, _, _, rfl, ⟨rfl | ⟨rfl, hb⟩, _⟩ | ⟨rfl, hb, _⟩⟩
    · exact ⟨nofun, nofun⟩
    · exact ⟨nofun, nofun⟩
    · exact ⟨fun _ => hb, nofun⟩
    · exact ⟨nofun, fun _ _ => hb⟩

def applyOp (o : Bytes × List Seg) (t : FsTree) : Option FsTree :=
  match createFileAndParents o.1 t with
  | (.marker, t') => some t'
  | (.error, _) => none
  | (.file p, t') => some (appendSegs t' p o.2)

def runOps : Contrib → FsTree → Option FsTree
  | [], t => some t
  | o :: os, t => (applyOp o t).bind (runOps os)

theorem runOps_append (a b : Contrib) (t : FsTree) : runOps (a ++ b) t = (runOps a t).bind (runOps b) := by
  induction a generalizing t with
  | nil => rfl
  | cons o os ih => simp only [List.cons_append, runOps]; cases applyOp o t <;> simp [ih]

theorem applyOp_some {o : Bytes × List Seg} {t t' : FsTree} (h : applyOp o t = some t') :
    ∃ res ta, createFileAndParents o.1 t = (res, ta) ∧
      (res = Created.marker ∧ t' = ta ∨ ∃ p, res = Created.file p ∧ t' = appendSegs ta p o.2) := by
  unfold applyOp at h
  split at h
  · next ta e => cases h; exact ⟨_, _, e, .inl ⟨rfl, rfl⟩⟩
  · cases h
  · next p ta e => cases h; exact ⟨_, _, e, .inr ⟨p, rfl, rfl⟩⟩

/-- the tree holds exactly the contributions processed so far. `dirs`: every directory lies properly above some file;
so a directory in the way of a new file would be a path seen so far of which the new path is a prefix, which
`TreeConsistent` excludes (`fs_step`). -/
structure FsInv (done : Contrib) (t : FsTree) : Prop where
  files : ∀ e ∈ t.files, KeyOk e.1 ∧ pathOfKey e.1 ∈ done.map (·.1) ∧ e.2 = contribOf done (pathOfKey e.1)
  has : ∀ c ∈ done, ∃ e ∈ t.files, pathOfKey e.1 = c.1
  dirs : ∀ d ∈ t.dirs, d ≠ [] ∧ ∃ e ∈ t.files, ∃ x rest, e.1 = d ++ x :: rest

theorem fsInv_empty : FsInv [] ⟨[], []⟩ := ⟨by simp, by simp, by simp⟩

theorem fsSegsOf_of_inv {done : Contrib} {t : FsTree} (hinv : FsInv done t) {c : Bytes × List Seg} (hc : c ∈ done) :
    fsSegsOf t c.1 = some (contribOf done c.1) := by
  obtain ⟨e, he, hpe⟩ := hinv.has c hc
  unfold fsSegsOf
  cases hf : t.files.find? (fun e => decide (joinWith bSlash ([bDot] :: e.1) = c.1)) with
  | none => exact absurd hpe (by simpa [pathOfKey] using List.find?_eq_none.mp hf e he)
  | some e' =>
    have hp' : pathOfKey e'.1 = c.1 := by simpa [pathOfKey] using List.find?_some hf
    rw [Option.map_some, (hinv.files e' (List.mem_of_find?_eq_some hf)).2.2, hp']

theorem any_key_false_iff (fs : List (List Bytes × List Seg)) (k : List Bytes) :
    fs.any (·.1 = k) = false ↔ ∀ e ∈ fs, e.1 ≠ k := by
  rw [Bool.eq_false_iff]
  simp only [ne_eq, List.any_eq_true, decide_eq_true_eq, not_exists, not_and]

theorem createFile_spec (t : FsTree) (k : List Bytes) (hk : KeyOk k)
    (hnf : ∀ e ∈ t.files, ∀ x r, k ≠ e.1 ++ x :: r) (hnd : k ∉ t.dirs) :
    ∃ t', createFileAndParents (pathOfKey k) t = (.file k, t') ∧
      t'.files = (if t.files.any (·.1 = k) then t.files else t.files ++ [(k, [])]) ∧
      ∀ d ∈ t'.dirs, d ∈ t.dirs ∨ d ≠ [] ∧ ∃ x r, k = d ++ x :: r := by
  -- `k = d ++ [b]`: the walk over `d` meets no file (`hnf`) and creates only proper prefixes of `k`; then `b` is a
  -- permitted name, `k` is no directory (`hnd`, or a proper prefix would have `k`'s length), and the file is found or appended
  have hsplit := splitOn_pathOfKey hk
  obtain ⟨hkne, hkok, _⟩ := hk
  obtain ⟨d, b, rfl⟩ : ∃ d b, k = d ++ [b] := ⟨_, _, (List.dropLast_concat_getLast hkne).symm⟩
  have hproper : ∀ pre, pre <+: d → ∃ x r, d ++ [b] = pre ++ x :: r := by
    rintro pre ⟨s, rfl⟩
    cases s with
    | nil => exact ⟨b, [], by simp⟩
    | cons x s => exact ⟨x, s ++ [b], by simp⟩
  rw [componentsOk_append, Bool.and_eq_true] at hkok
  have hbok := componentsOk_mem (cs := [b]) hkok.2 List.mem_cons_self
  obtain ⟨t1, hw1, hw2, hw3⟩ := walkParents_spec d [] t hkok.1 (by
    intro pre _ hp
    obtain ⟨x, r, hxr⟩ := hproper pre hp
    exact (any_key_false_iff _ _).mpr fun e he heq => hnf e he x r (by rw [hxr, heq, List.nil_append]))
  have hdirs : ∀ d' ∈ t1.dirs, d' ∈ t.dirs ∨ d' ≠ [] ∧ ∃ x r, d ++ [b] = d' ++ x :: r := by
    intro d' hd'
    refine ((hw3 d').mp hd').imp_right ?_
    rintro ⟨pre, hp1, hp2, hp3⟩
    rw [hp3, List.nil_append]
    exact ⟨hp1, hproper pre hp2⟩
  have hnodir : t1.dirs.contains (d ++ [b]) = false := by
    rw [Bool.eq_false_iff]
    intro hc
    rcases hdirs _ (List.contains_iff_mem.mp hc) with h | ⟨_, x, r, h⟩
    · exact hnd h
    · exact absurd (congrArg List.length h) (by simp)
  unfold createFileAndParents
  simp only [hsplit, ← List.cons_append, List.dropLast_concat, List.getLastD_eq_getLast?, List.getLast?_concat,
    Option.getD_some]
  rw [walkParents, if_pos (Or.inr rfl), hw1]
  simp only [List.nil_append]
  rw [if_neg hbok.2.1, if_neg (not_or.mpr ⟨hbok.1, hbok.2.2⟩), hnodir, hw2]
  simp only [Bool.false_eq_true, if_false]
  split
  · exact ⟨t1, rfl, hw2, hdirs⟩
  · exact ⟨_, rfl, rfl, hdirs⟩

theorem appendSegs_files (t : FsTree) (k : List Bytes) (segs : List Seg) :
    (appendSegs t k segs).files = t.files.map fun e => (e.1, e.2 ++ if e.1 = k then segs else []) :=
  List.map_congr_left fun e _ => by split <;> simp

theorem fsInv_appendSegs {done : Contrib} {t t' : FsTree} (hinv : FsInv done t) {k : List Bytes} (hk : KeyOk k)
    (hfiles : t'.files = if t.files.any (·.1 = k) then t.files else t.files ++ [(k, [])])
    (hdirs : ∀ d ∈ t'.dirs, d ∈ t.dirs ∨ d ≠ [] ∧ ∃ x r, k = d ++ x :: r) (segs : List Seg) :
    FsInv (done ++ [(pathOfKey k, segs)]) (appendSegs t' k segs) := by
  -- `k` is the only key with its path
  have hpath : ∀ e : List Bytes × List Seg, KeyOk e.1 → (pathOfKey k = pathOfKey e.1 ↔ e.1 = k) :=
    fun e he => ⟨fun h => pathOfKey_inj he hk h.symm, fun h => by rw [h]⟩
  -- the entries before `appendSegs`: those of `t`, and the empty file `k` if it is new
  obtain ⟨hfiles', hold, e0, he0, he0k⟩ : (∀ e ∈ t'.files, KeyOk e.1 ∧
        (pathOfKey e.1 ∈ done.map (·.1) ∨ e.1 = k) ∧ e.2 = contribOf done (pathOfKey e.1)) ∧
      (∀ e ∈ t.files, e ∈ t'.files) ∧ ∃ e ∈ t'.files, e.1 = k := by
    rw [hfiles]
    split
    · next h => exact ⟨fun e he => (hinv.files e he).imp id (.imp Or.inl id), fun e he => he, by simpa using h⟩
    · next h =>
      refine ⟨List.forall_mem_append.mpr ⟨fun e he => (hinv.files e he).imp id (.imp Or.inl id),
          List.forall_mem_singleton.mpr ⟨hk, Or.inr rfl, ?_⟩⟩,
        by simp +contextual, (k, []), by simp, rfl⟩
      -- a new file has no contributions yet
      unfold contribOf
      rw [List.filter_eq_nil_iff.mpr, List.flatMap_nil]
      intro c hc hcp
      obtain ⟨e, he, hpe⟩ := hinv.has c hc
      exact (any_key_false_iff _ _).mp (Bool.eq_false_iff.mpr h) e he
        (pathOfKey_inj (hinv.files e he).1 hk (by simpa [hpe] using hcp))
  have hmem : ∀ e ∈ t'.files, (e.1, e.2 ++ if e.1 = k then segs else []) ∈ (appendSegs t' k segs).files :=
    fun e he => appendSegs_files t' k segs ▸ List.mem_map_of_mem he
  refine ⟨fun e' he' => ?_, fun c hc => ?_, fun d hd => ?_⟩
  · rw [appendSegs_files] at he'
    obtain ⟨e, he, rfl⟩ := List.mem_map.mp he'
    obtain ⟨f1, f2, f3⟩ := hfiles' e he
    refine ⟨f1, ?_, ?_⟩
    · rcases f2 with f2 | f2 <;> simp [f2]
    · simp only [contribOf_append, ← f3, hpath e f1]
  · rcases List.mem_append.mp hc with hc | hc
    · obtain ⟨e, he, hpe⟩ := hinv.has c hc
      exact ⟨_, hmem e (hold e he), hpe⟩
    · obtain rfl : c = (pathOfKey k, segs) := by simpa using hc
      exact ⟨_, hmem e0 he0, congrArg pathOfKey he0k⟩
  · rcases hdirs d hd with h | ⟨hdne, x, r, hxr⟩
    · obtain ⟨hdne, e, he, hxr⟩ := hinv.dirs d h
      exact ⟨hdne, _, hmem e (hold e he), hxr⟩
    · exact ⟨hdne, _, hmem e0 he0, x, r, he0k.trans hxr⟩

def NoConflictWith (paths : List Bytes) (p : Bytes) : Prop :=
  ∀ q ∈ paths, isDirPrefix q p = false ∧ isDirPrefix p q = false

theorem fs_step (done : Contrib) (t : FsTree) (hinv : FsInv done t) (k : List Bytes) (hk : KeyOk k)
    (hnc : NoConflictWith (done.map (·.1)) (pathOfKey k)) :
    ∃ t', createFileAndParents (pathOfKey k) t = (.file k, t') ∧
      ∀ segs, FsInv (done ++ [(pathOfKey k, segs)]) (appendSegs t' k segs) := by
  -- a file or directory in the way would be a path seen so far in conflict with `k`
  obtain ⟨t', hc, hfiles, hdirs⟩ := createFile_spec t k hk
    (by
      intro e he x r heq
      have h := (hnc _ (hinv.files e he).2.1).1
      rw [heq, isDirPrefix_of_key] at h
      exact Bool.noConfusion h)
    (by
      intro hd
      obtain ⟨_, e, he, x, r, hxr⟩ := hinv.dirs k hd
      have h := (hnc _ (hinv.files e he).2.1).2
      rw [hxr, isDirPrefix_of_key] at h
      exact Bool.noConfusion h)
  exact ⟨t', hc, fsInv_appendSegs hinv hk hfiles hdirs⟩

theorem runOps_fsInv (allPaths : List Bytes) : ∀ (cs done : Contrib) (t : FsTree), FsInv done t →
    (∀ q ∈ done.map (·.1), q ∈ allPaths) →
    (∀ c ∈ cs, (∃ k, KeyOk k ∧ c.1 = pathOfKey k) ∧ c.1 ∈ allPaths ∧ NoConflictWith allPaths c.1) →
    ∃ t', runOps cs t = some t' ∧ FsInv (done ++ cs) t'
  | [], done, t, hinv, _, _ => ⟨t, rfl, by simpa using hinv⟩
  | c :: cs, done, t, hinv, hdone, hcs => by
    obtain ⟨⟨⟨k, hk, hck⟩, hmem, hnc⟩, hrest⟩ := List.forall_mem_cons.mp hcs
    obtain ⟨t1, hcreate, hafter⟩ := fs_step done t hinv k hk fun q hq => hck ▸ hnc q (hdone q hq)
    obtain ⟨t', g1, g2⟩ := runOps_fsInv allPaths cs (done ++ [c]) _ (hck ▸ hafter c.2)
      (by rw [List.map_append]; exact List.forall_mem_append.mpr ⟨hdone, by simpa using hmem⟩) hrest
    refine ⟨t', ?_, by simpa using g2⟩
    rw [runOps, applyOp, hck, hcreate]
    exact g1

end ArvVerif.C10
