/-
C17 — the plan a scan produces has `Shape`. Proved by showing that a call for the destination `d`
only adds destinations at or below `d`, and siblings have different names.
-/
import ArvVerif.Proofs.C17_Collect
import ArvVerif.Proofs.C17_Shape
namespace ArvVerif.C17

def MayAdd : Call → Path → Prop
  | .mount d _ _ _, x => d.isPrefixOf x = true
  | .below _ _ _ _, _ => False
  | .host d _ _ _, x => d.isPrefixOf x = true
  | .children d _ _ names, x => ∃ c ∈ names, (d ++ [c]).isPrefixOf x = true

def HostPre (h : Host) (cfg : Cfg) (st : Plan) (d s : Path) : Prop :=
  Unused st d ∧ (d.dropLast = [] ∨ d.dropLast ∈ st.dirs) ∧
  (d = [] → ∃ p, namei h [] (hostPath cfg s) 0 = .found p .dir) ∧ cfg.ctrOut.isPrefixOf s = true

/-- what the caller guarantees (the counterpart of `CallJust` for `Run.shape`) -/
def ShapePre (h : Host) (cfg : Cfg) (st : Plan) : Call → Prop
  | .mount d s _ _ => InOut cfg s → HostPre h cfg st d s
  | .below _ _ _ _ => False
  | .host d s _ _ => HostPre h cfg st d s
  | .children d s _ names =>
    names.Nodup ∧ (∀ c ∈ names, Unused st (d ++ [c])) ∧ (d = [] ∨ d ∈ st.dirs) ∧
    cfg.ctrOut.isPrefixOf s = true

theorem Run.shape {h : Host} {cfg : Cfg} (hwf : HostWF h) (hs : supported cfg = true)
    {c : Call} {st st' : Plan} (hr : Run h cfg c st st') :
    ShapePre h cfg st c → Shape st → Shape st' ∧ ∀ x ∈ dests st', x ∈ dests st ∨ MayAdd c x := by
  -- a host call starts with its loop over the mounts below, which has added no destination
  have hprelude : ∀ {dest src n} {inc : Bool} {st a : Plan},
      Run h cfg (.below dest src n (if inc then cfg.mounts else [])) st a → HostPre h cfg st dest src → Shape st →
      HostPre h cfg a dest src ∧ Shape a ∧ ∃ fs, a = { st with frags := fs } := by
    intro dest src n inc st a hr hp hsh
    cases hr.frags_eq (.below fun _ => not_properPrefix_of_prefix _ _ hp.2.2.2)
    exact ⟨hp, hsh.withFrags _, _, rfl⟩
  -- at the output root only a directory is walked
  have hroot_dir : ∀ {dest src p node} {st : Plan}, HostPre h cfg st dest src →
      namei h [] (hostPath cfg src) 0 = .found p node → node ≠ .dir → dest ≠ [] := by
    intro dest src p node st hp hst hn h0
    obtain ⟨p', hp'⟩ := hp.2.2.1 h0
    rw [hst] at hp'; cases hp'; exact hn rfl
  induction hr with
  | secret | childrenNil => exact fun _ hsh => ⟨hsh, fun x hx => Or.inl hx⟩
  | belowNil | belowSkip | belowTake => exact fun hp => hp.elim
  | exclude _ hsm _ hr | coll _ hsm _ _ _ _ hr =>
    intro _ hsh
    cases hr.frags_eq (.below fun _ => not_above_of_srcMount hs hsm)
    exact ⟨hsh.withFrags _, fun x hx => Or.inl hx⟩
  | tmp hsec hsm hex hk _ ih => exact fun hp hsh => ih (hp ⟨hsec, _, hsm, hk, hex⟩) hsh
  | @link dest _ _ _ _ _ _ _ _ _ hpl hst _ _ _ ih =>
    intro hp hsh
    have hne := hroot_dir hp hst (by simp)
    obtain ⟨⟨huna, hpara, _, _⟩, hsa, _, rfl⟩ := hprelude hpl hp hsh
    exact ih (fun hin => ⟨huna, hpara, fun h0 => absurd h0 hne, inOut_pre cfg _ hin⟩) hsa
  | @file dest _ _ _ _ _ p _ hpl hst =>
    intro hp hsh
    have hne := hroot_dir hp hst (by simp)
    obtain ⟨⟨huna, hpara, _, _⟩, hsa, _, rfl⟩ := hprelude hpl hp hsh
    refine ⟨hsa.addFileGen (dest, some p) hne huna.fresh hpara, fun x hx => ?_⟩
    exact (dests_addFile _ dest p x hx).imp_right fun (h1 : x = dest) => h1 ▸ isPrefixOf_self dest
  | @emptyDir dest _ _ _ _ _ _ hpl _ _ =>
    intro hp hsh
    obtain ⟨⟨huna, hpara, _, _⟩, hsa, _, rfl⟩ := hprelude hpl hp hsh
    refine ⟨(hsa.addDir dest huna hpara).addKeep dest (huna.addDir ".keep").fresh (mem_addDir _ dest),
      fun x hx => ?_⟩
    rcases dests_addKeep _ dest x hx with h1 | h1
    · exact (dests_addDir _ dest x h1).imp_right fun (h2 : x = dest) => h2 ▸ isPrefixOf_self dest
    · exact Or.inr (h1 ▸ isPrefixOf_append dest _)
  | @dir dest _ _ _ _ _ _ p hpl _ _ _ _ ih =>
    intro hp hsh
    obtain ⟨⟨huna, hpara, _, hcpre⟩, hsa, _, rfl⟩ := hprelude hpl hp hsh
    obtain ⟨r1, r2⟩ := ih ⟨nodup_sortNames _ (nodup_children h hwf p), fun c _ => huna.addDir c, mem_addDir _ dest, hcpre⟩
      (hsa.addDir dest huna hpara)
    refine ⟨r1, fun x hx => ?_⟩
    rcases r2 x hx with h1 | ⟨c, _, h1⟩
    · exact (dests_addDir _ dest x h1).imp_right fun (h2 : x = dest) => h2 ▸ isPrefixOf_self dest
    · exact Or.inr (prefix_trans' dest _ x (isPrefixOf_append dest [c]) h1)
  | @childSkip _ _ _ name _ _ _ _ _ ih =>
    intro ⟨hnd, hun, hdir, hcpre⟩ hsh
    obtain ⟨r1, r2⟩ := ih ⟨(List.nodup_cons.mp hnd).2, (List.forall_mem_cons.mp hun).2, hdir, hcpre⟩ hsh
    exact ⟨r1, fun x hx => (r2 x hx).imp_right fun ⟨c, hc, h1⟩ => ⟨c, List.mem_cons_of_mem _ hc, h1⟩⟩
  | @childTake dest _ _ name names _ a _ _ _ ha _ ih1 ih2 =>
    intro ⟨hnd, hun, hdir, hcpre⟩ hsh
    rw [List.nodup_cons] at hnd
    rw [List.forall_mem_cons] at hun
    obtain ⟨s1, a1⟩ := ih1 ⟨hun.1, by rw [List.dropLast_concat]; exact hdir,
      fun h0 => by simp at h0, isPrefixOf_append_right _ _ _ hcpre⟩ hsh
    -- what the call on `name` added lies below `dest/name`, hence not below a sibling
    have hun' : ∀ c ∈ names, Unused a (dest ++ [c]) := by
      intro c hc x hx
      rcases a1 x hx with h2 | h2
      · exact hun.2 c hc x h2
      · exact Bool.eq_false_iff.mpr fun hp => hnd.1 (sibling_prefix dest name c x h2 hp ▸ hc)
    obtain ⟨s2, a2⟩ := ih2 ⟨hnd.2, hun', hdir.imp_right fun hm => ha.mono.dirs.subset hm, hcpre⟩ s1
    refine ⟨s2, fun x hx => ?_⟩
    rcases a2 x hx with h1 | ⟨c, hc, h1⟩
    · exact (a1 x h1).imp_right fun h2 => ⟨name, List.mem_cons_self .., h2⟩
    · exact Or.inr ⟨c, List.mem_cons_of_mem _ hc, h1⟩

theorem scan_shape (h : Host) (cfg : Cfg) (hwf : HostWF h) (hs : supported cfg = true) (hreal : OutDirReal h cfg)
    (fuel : Nat) (plan : Plan) (hscan : scan h cfg fuel = .ok plan) : Shape plan := by
  refine ((Run.of_walk hscan).shape hwf hs ?_ ⟨trivial, by simp, by simp, by simp, by simp⟩).1
  intro _
  refine ⟨fun x hx => by simp [dests] at hx, Or.inl rfl, fun _ => ⟨cfg.hostOut, ?_⟩, isPrefixOf_self _⟩
  rw [hostPath_out]; exact hreal

end ArvVerif.C17
