/-
C04 sequential layer: when GET answers 200 for an acknowledged hash. Two invariants give an INTACT copy:

* `AllGood`: no copy on the server, block file or trashed file, is corrupt. Every request keeps it, so with it
  the copy that `Prot` promises is intact.
* `ProtQ (· = true)` over the PUT acknowledgements (`runGP`), with no assumption about the other copies: every hash
  whose PUT was acknowledged at t has, while now < t + TTL, an intact copy stamped ≥ t — over every history in which
  `untrash` never restores a corrupt trashed file (`CleanUntrash`). The hypothesis is necessary: see the witness in
  Props/C04.lean.
-/
import ArvVerif.Proofs.C04_Hist
namespace ArvVerif.C04

def VolGood (v : Vol) : Prop :=
  (∀ h f, v.blocks h = some f → f.good = true) ∧ (∀ e ∈ v.trash, e.file.good = true)

def AllGood (s : St) : Prop := ∀ v ∈ s.vols, VolGood v

theorem volGood_setBlock {v : Vol} (hv : VolGood v) (h : Hash) {x : Option File} {tr : List TrashEnt}
    (hx : ∀ f, x = some f → f.good = true) (htr : ∀ e ∈ tr, e.file.good = true) :
    VolGood { v.setBlock h x with trash := tr } := by
  refine ⟨fun h' f hf => ?_, htr⟩
  by_cases he : h' = h
  · subst he; exact hx f ((setBlock_same ..).symm.trans hf)
  · exact hv.1 h' f ((setBlock_other v x he).symm.trans hf)

theorem volStep_good {c : Cfg} {s : St} {op : Op} {v v' : Vol} (hs : VolStep c s op v v') (hv : VolGood v) :
    VolGood v' := by
  cases hs with
  | same => exact hv
  | touch h f hf => exact volGood_setBlock hv h (fun _ hf' => by cases hf'; exact hv.1 h f hf) hv.2
  | write h => exact volGood_setBlock hv h (fun _ hf' => by cases hf'; rfl) hv.2
  | trash h f hf _ =>
    refine volGood_setBlock hv h (fun _ hf' => by cases hf') fun e he => ?_
    split at he
    · exact hv.2 e he
    · simp only [trashInsert, List.mem_cons, List.mem_filter] at he
      cases he with
      | inl he => subst he; exact hv.1 h f hf
      | inr he => exact hv.2 e he.1
  | untrash h _ e _ hm =>
    exact volGood_setBlock hv h (fun _ hf' => by cases hf'; exact hv.2 e (minEntry_mem hm))
      fun x hx => hv.2 x (List.mem_filter.mp hx).1
  | sweep tr htr => exact ⟨hv.1, fun x hx => hv.2 x ((htr x).mp hx).1⟩

theorem allGood_step {c : Cfg} {s : St} (hg : AllGood s) (op : Op) : AllGood (step c s op).1 := by
  obtain ⟨F, hF, hs⟩ := step_map c s op
  intro v hv
  rw [hF] at hv
  obtain ⟨w, hw, rfl⟩ := List.mem_map.mp hv
  exact volStep_good (hs w) (hg w hw)

theorem allGood_runG {c : Cfg} : ∀ (ops : List Op) (s : St) (g : Ghost), AllGood s → AllGood (runG c s g ops).1
  | [], _, _, hg => hg
  | op :: ops, _, _, hg => allGood_runG ops _ _ (allGood_step hg op)

/-- the hash a PUT acknowledges (a TOUCH does not look at the content) -/
def putAckOf : Op → Res → Option Hash
  | .put h true, .code 200 => some h
  | _, _ => none

def ghostStepP (g : Ghost) (now : Time) (op : Op) (r : Res) : Ghost :=
  match putAckOf op r with
  | some h => fun h' => if h' = h then some now else g h'
  | none => g

def runGP (c : Cfg) : St → Ghost → List Op → St × Ghost
  | s, g, [] => (s, g)
  | s, g, op :: ops => runGP c (step c s op).1 (ghostStepP g s.now op (step c s op).2) ops

def CleanOp (s : St) : Op → Prop
  | .untrash h => ∀ v ∈ s.vols, v.ro = false → ∀ e, minEntry h v.trash = some e → e.file.good = true
  | _ => True

def CleanUntrash (c : Cfg) : St → List Op → Prop
  | _, [] => True
  | s, op :: ops => CleanOp s op ∧ CleanUntrash c (step c s op).1 ops

theorem putAckOf_some {op : Op} {r : Res} {h : Hash} (ha : putAckOf op r = some h) :
    r = .code 200 ∧ op = .put h true := by
  unfold putAckOf at ha
  split at ha <;> simp_all

theorem protG_step {c : Cfg} {s : St} {g : Ghost} (hp : ProtQ (· = true) c s g) (op : Op) (hclean : CleanOp s op) :
    ProtQ (· = true) c (step c s op).1 (ghostStepP g s.now op (step c s op).2) := by
  refine protQ_step (G := (· = true)) rfl hp op (fun h0 hop => by subst hop; exact hclean) _ fun h ha => ?_
  obtain ⟨hr, rfl⟩ := putAckOf_some ha
  exact put_holds (G := (· = true)) rfl c s h hr

theorem protG_run {c : Cfg} : ∀ (ops : List Op) (s : St) (g : Ghost), ProtQ (· = true) c s g →
    CleanUntrash c s ops → ProtQ (· = true) c (runGP c s g ops).1 (runGP c s g ops).2
  | [], _, _, hp, _ => hp
  | op :: ops, _, _, hp, hs => protG_run ops _ _ (protG_step hp op hs.1) hs.2

theorem runGP_state (c : Cfg) : ∀ (ops : List Op) (s : St) (g g' : Ghost), (runGP c s g ops).1 = (runG c s g' ops).1 := by
  intro ops
  induction ops with
  | nil => intro s g g'; rfl
  | cons op ops ih => intro s g g'; exact ih _ _ _

end ArvVerif.C04
