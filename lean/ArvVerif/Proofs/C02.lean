/-
The ground the C02 proofs stand on: what one step stores at a path (`get_apply`), and what holds at every crash
prefix of an event list (`Always`).
-/
import ArvVerif.Model.C02
namespace ArvVerif.C02

variable {fs : FS} {p : Path} {s : Step}

theorem lookupP_filter (p q : Path) (l : List (Path × File)) :
    lookupP p (l.filter (fun e => !decide (e.1 = q))) = if q = p then none else lookupP p l := by
  induction l with
  | nil => simp [lookupP]
  | cons e rest ih =>
    by_cases hq : e.1 = q <;> by_cases hp : e.1 = p <;> simp_all [lookupP, @eq_comm _ q]

theorem lookupP_mem {f : File} : ∀ {l : List (Path × File)}, lookupP p l = some f → (p, f) ∈ l
  | [], h => by simp [lookupP] at h
  | (q, g) :: rest, h => by
    by_cases hq : q = p
    · subst hq; simp [lookupP] at h; subst h; exact List.mem_cons_self
    · simp [lookupP, hq] at h; exact List.mem_cons_of_mem _ (lookupP_mem h)

theorem get_set (fs : FS) (q : Path) (g : File) (p : Path) :
    (fs.set q g).get p = if q = p then some g else fs.get p := by
  simp only [FS.get, FS.set, lookupP, lookupP_filter]
  split <;> rfl

theorem get_erase (fs : FS) (q p : Path) : (fs.erase q).get p = if q = p then none else fs.get p :=
  lookupP_filter p q fs.files

theorem get_some_mem {f : File} (h : fs.get p = some f) : (p, f) ∈ fs.files :=
  lookupP_mem h

theorem mem_erase {q : Path} {e : Path × File} (h : e ∈ (fs.erase q).files) :
    e ∈ fs.files ∧ e.1 ≠ q := by
  simpa [FS.erase, List.mem_filter] using h

theorem mem_set {q : Path} {g : File} {e : Path × File} (h : e ∈ (fs.set q g).files) :
    e = (q, g) ∨ (e ∈ fs.files ∧ e.1 ≠ q) := by
  simpa [FS.set, List.mem_filter] using h

def WF (fs : FS) : Prop := (fs.files.map (·.1)).Nodup

theorem wf_empty : WF FS.empty := by simp [WF, FS.empty]

theorem wf_erase {q : Path} (h : WF fs) : WF (fs.erase q) := by
  unfold WF FS.erase at *
  simp only
  exact (List.Nodup.sublist ((List.filter_sublist).map _) h)

theorem wf_set {q : Path} {g : File} (h : WF fs) : WF (fs.set q g) := by
  have h1 := wf_erase (q := q) h
  unfold WF FS.set FS.erase at *
  simp only [List.map_cons, List.nodup_cons]
  refine ⟨?_, h1⟩
  intro hm
  obtain ⟨e, he, heq⟩ := List.mem_map.1 hm
  simp [List.mem_filter] at he
  exact he.2 heq

theorem lookupP_of_mem_nodup {f : File} :
    ∀ {l : List (Path × File)}, (l.map (·.1)).Nodup → (p, f) ∈ l → lookupP p l = some f
  | [], _, h => by simp at h
  | (q, g) :: rest, hn, h => by
    simp only [List.map_cons, List.nodup_cons] at hn
    rcases List.mem_cons.1 h with h | h
    · cases h; simp [lookupP]
    · have : q ≠ p := by
        intro hq; subst hq
        exact hn.1 (List.mem_map.2 ⟨(q, f), h, rfl⟩)
      simp [lookupP, this, lookupP_of_mem_nodup hn.2 h]

theorem get_of_mem (h : WF fs) {f : File} (hm : (p, f) ∈ fs.files) :
    fs.get p = some f := lookupP_of_mem_nodup h hm

theorem wf_apply (h : WF fs) (s : Step) : WF (s.apply fs) := by
  cases s with
  | nop => exact h
  | mkdirAll d => simp only [Step.apply]; split <;> exact h
  | createTemp p t => exact wf_set h
  | append p _ | chtimes p _ =>
    simp only [Step.apply]; split
    · exact wf_set h
    · exact h
  | rename a b =>
    simp only [Step.apply]; split
    · exact wf_set (wf_erase h)
    · exact h
  | remove p => exact wf_erase h

@[simp] theorem run_nil (fs : FS) : run fs [] = fs := rfl
@[simp] theorem run_cons (fs : FS) (e : Ev) (es : List Ev) : run fs (e :: es) = run (e.eff.apply fs) es := rfl
theorem run_append (fs : FS) (a b : List Ev) : run fs (a ++ b) = run (run fs a) b := by
  simp [run, List.foldl_append]

theorem wf_run (h : WF fs) (evs : List Ev) : WF (run fs evs) := by
  induction evs generalizing fs with
  | nil => exact h
  | cons e es ih => exact ih (wf_apply h _)

/- Predicates on one step, strongest first: `LocalAt q` (touches `q` only, no rename) gives `avoids p` for every `p ≠ q`
(`local_avoids`), which gives `NoLoss p` (`noLoss_of_avoids`, C02_Ops). `LocalAt q` for `q` without owner, and `LooksAt h`
(C02_Put), give the model's `envOk` (`envOk_of_local`, `looks_envOk`, C02_Reach). -/

def Step.avoids (p : Path) : Step → Prop
  | .nop => True
  | .mkdirAll _ => True
  | .createTemp q _ => q ≠ p
  | .append q _ => q ≠ p
  | .chtimes q _ => q ≠ p
  | .rename a b => a ≠ p ∧ b ≠ p
  | .remove q => q ≠ p

theorem get_apply (s : Step) (fs : FS) (p : Path) : (s.apply fs).get p =
    match s with
    | .nop | .mkdirAll _ => fs.get p
    | .createTemp q t => if q = p then some ⟨[], t⟩ else fs.get p
    | .append q c => if q = p then (fs.get p).map fun f => ⟨f.data ++ c, f.mtime⟩ else fs.get p
    | .chtimes q t => if q = p then (fs.get p).map fun f => ⟨f.data, t⟩ else fs.get p
    | .rename a b =>
      if (fs.get a).isSome then (if b = p then fs.get a else if a = p then none else fs.get p) else fs.get p
    | .remove q => if q = p then none else fs.get p := by
  cases s with
  | nop => rfl
  | mkdirAll d => simp only [Step.apply]; split <;> rfl
  | createTemp q t => exact get_set ..
  | remove q => exact get_erase ..
  | append q _ | chtimes q _ =>
    simp only [Step.apply]
    cases hq : fs.get q <;> simp only [get_set] <;> split <;> simp_all
  | rename a b => simp only [Step.apply]; cases ha : fs.get a <;> simp [get_set, get_erase]

theorem get_apply_of_avoids (h : s.avoids p) (fs : FS) :
    (s.apply fs).get p = fs.get p := by
  rw [get_apply]
  cases s <;> simp_all [Step.avoids]

def LocalAt (p : Path) : Step → Prop
  | .nop => True
  | .mkdirAll _ => True
  | .createTemp q _ => q = p
  | .append q _ => q = p
  | .chtimes q _ => q = p
  | .remove q => q = p
  | .rename _ _ => False

/-- What a step that is `LocalAt p` makes of the content of `p` (`get_apply_local`). -/
def localStep : Step → Option File → Option File
  | .createTemp _ t, _ => some ⟨[], t⟩
  | .append _ c, x => x.map fun f => ⟨f.data ++ c, f.mtime⟩
  | .chtimes _ t, x => x.map fun f => ⟨f.data, t⟩
  | .remove _, _ => none
  | _, x => x

theorem local_avoids {p q : Path} (hne : p ≠ q) (h : LocalAt p s) : s.avoids q := by
  cases s <;> simp_all [LocalAt, Step.avoids]

theorem get_apply_local (h : LocalAt p s) (fs : FS) :
    (s.apply fs).get p = localStep s (fs.get p) := by
  rw [get_apply]
  cases s <;> simp_all [LocalAt, localStep]

def Always (R : FS → FS → Prop) (evs : List Ev) : Prop := ∀ fs k, R fs (run fs (evs.take k))

section Always
variable {R : FS → FS → Prop} {evs : List Ev}

theorem Always.run (ha : Always R evs) (fs : FS) : R fs (run fs evs) := by
  have := ha fs evs.length
  rwa [List.take_length] at this

theorem always_nil (refl : ∀ a, R a a) : Always R [] := fun _ _ => by rw [List.take_nil]; exact refl _

theorem always_append (trans : ∀ a b c, R a b → R b c → R a c) {a b : List Ev}
    (ha : Always R a) (hb : Always R b) : Always R (a ++ b) := by
  intro fs k
  rw [List.take_append, run_append]
  exact trans _ _ _ (ha fs k) (hb _ _)

theorem Always.of_steps {Q : Step → Prop} (refl : ∀ a, R a a) (trans : ∀ a b c, R a b → R b c → R a c)
    (step : ∀ fs s, Q s → R fs (s.apply fs)) (h : ∀ e ∈ evs, Q e.eff) : Always R evs := by
  induction evs with
  | nil => exact always_nil refl
  | cons e es ih =>
    obtain ⟨h0, ht⟩ := List.forall_mem_cons.1 h
    intro fs k
    cases k with
    | zero => exact refl _
    | succ k => exact trans _ _ _ (step fs _ h0) (ih ht _ k)

theorem avoids_always (h : ∀ e ∈ evs, e.eff.avoids p) : Always (fun a b => b.get p = a.get p) evs :=
  .of_steps (fun _ => rfl) (fun _ _ _ h1 h2 => h2.trans h1) (fun fs _ hs => get_apply_of_avoids hs fs) h

end Always

variable {h : Name} {hash : Bytes → Name}

/-- Touch changes the mtime of an identical copy, so what a request does is stated about `data`; what one
`WriteBlock` run does, about `get`. -/
def FS.data (fs : FS) (p : Path) : Option Bytes := (fs.get p).map (·.data)

theorem data_of_get {f : File} (h : fs.get p = some f) : fs.data p = some f.data := by
  rw [FS.data, h]; rfl

theorem data_chtimes (fs : FS) (q : Path) (t : Nat) (p : Path) :
    ((Step.chtimes q t).apply fs).data p = fs.data p := by
  simp only [FS.data, get_apply]
  split <;> cases fs.get p <;> rfl

theorem getBlock_eq (hash : Bytes → Name) (fs : FS) (h : Name) : getBlock hash fs h =
    match fs.data (blockPath h) with
    | none => .notFound
    | some b => if hash b = h then .ok b else .diskHashError := by
  unfold getBlock FS.data
  cases fs.get (blockPath h) <;> rfl

theorem getBlock_ok_hash {b : Bytes}
    (hb : getBlock hash fs h = .ok b) : hash b = h := by
  rw [getBlock_eq] at hb
  split at hb
  · cases hb
  · split at hb <;> cases hb
    assumption

theorem getBlock_of_data {b : Bytes}
    (hd : fs.data (blockPath h) = some b) (hh : hash b = h) : getBlock hash fs h = .ok b := by
  rw [getBlock_eq, hd]
  exact if_pos hh

theorem getBlock_congr_data {fs fs' : FS}
    (hd : fs'.data (blockPath h) = fs.data (blockPath h)) : getBlock hash fs' h = getBlock hash fs h := by
  rw [getBlock_eq, getBlock_eq, hd]

end ArvVerif.C02
