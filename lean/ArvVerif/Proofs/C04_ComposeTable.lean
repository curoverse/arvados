/-
GENERATED table (untrusted; `Proofs/C04_ComposeCheck.lean` re-checks every entry by kernel evaluation): for
each race configuration, in the order of `allCfgs` / `cfgIdx`, what an observer sees at the end of the
two SEQUENTIAL schedules of the interleaving model: (all of P then all of T, all of T then all of P).
Regenerate after a change of `Model/C04_Race.lean` / `Model/C04_Compose.lean`: print
  allCfgs.map fun c => (obsR (run schedPT (init c)), obsR (run schedTP (init c)))
-/
import ArvVerif.Model.C04_Compose
import ArvVerif.Proofs.C04_RaceTable
namespace ArvVerif.C04.Race
open ArvVerif.C04 ArvVerif.C04.Compose

def linTab : List (Obs × Obs) := [
  ({ p := .code 404, t := .code 404, blk := none, trash := [] }, { p := .code 404, t := .code 404, blk := none, trash := [] }),
  ({ p := .code 404, t := .quiet, blk := none, trash := [] }, { p := .code 404, t := .quiet, blk := none, trash := [] }),
  ({ p := .code 404, t := .code 200, blk := some (true, true), trash := [] }, { p := .code 200, t := .code 200, blk := some (true, true), trash := [] }),
  ({ p := .code 200, t := .deleted 1 0, blk := some (true, true), trash := [] }, { p := .code 200, t := .code 404, blk := some (true, true), trash := [] }),
  ({ p := .code 200, t := .quiet, blk := some (true, true), trash := [] }, { p := .code 200, t := .quiet, blk := some (true, true), trash := [] }),
  ({ p := .code 200, t := .code 200, blk := some (true, true), trash := [] }, { p := .code 200, t := .code 200, blk := some (true, true), trash := [] }),
  ({ p := .code 404, t := .code 404, blk := none, trash := [] }, { p := .code 404, t := .code 404, blk := none, trash := [] }),
  ({ p := .code 404, t := .quiet, blk := none, trash := [] }, { p := .code 404, t := .quiet, blk := none, trash := [] }),
  ({ p := .code 404, t := .code 200, blk := some (true, true), trash := [] }, { p := .code 200, t := .code 200, blk := some (true, true), trash := [] }),
  ({ p := .code 200, t := .deleted 1 0, blk := some (true, true), trash := [] }, { p := .code 200, t := .code 404, blk := some (true, true), trash := [] }),
  ({ p := .code 200, t := .quiet, blk := some (true, true), trash := [] }, { p := .code 200, t := .quiet, blk := some (true, true), trash := [] }),
  ({ p := .code 200, t := .code 200, blk := some (true, true), trash := [] }, { p := .code 200, t := .code 200, blk := some (true, true), trash := [] }),
  ({ p := .code 200, t := .deleted 1 0, blk := some (true, true), trash := [] }, { p := .code 200, t := .deleted 1 0, blk := some (true, true), trash := [] }),
  ({ p := .code 200, t := .quiet, blk := some (true, true), trash := [] }, { p := .code 200, t := .quiet, blk := some (true, true), trash := [] }),
  ({ p := .code 200, t := .code 200, blk := some (true, true), trash := [] }, { p := .code 200, t := .code 200, blk := some (true, true), trash := [] }),
  ({ p := .code 200, t := .deleted 1 0, blk := some (true, true), trash := [] }, { p := .code 200, t := .deleted 1 0, blk := some (true, true), trash := [] }),
  ({ p := .code 200, t := .quiet, blk := some (true, true), trash := [] }, { p := .code 200, t := .quiet, blk := some (true, true), trash := [] }),
  ({ p := .code 200, t := .code 200, blk := some (true, true), trash := [] }, { p := .code 200, t := .code 200, blk := some (true, true), trash := [] }),
  ({ p := .code 200, t := .deleted 1 0, blk := some (true, true), trash := [] }, { p := .code 404, t := .deleted 1 0, blk := none, trash := [true] }),
  ({ p := .code 200, t := .quiet, blk := some (true, true), trash := [] }, { p := .code 404, t := .quiet, blk := none, trash := [true] }),
  ({ p := .code 200, t := .code 200, blk := some (true, true), trash := [] }, { p := .code 200, t := .code 200, blk := some (true, true), trash := [] }),
  ({ p := .code 200, t := .deleted 1 0, blk := some (true, true), trash := [] }, { p := .code 200, t := .deleted 1 0, blk := some (true, true), trash := [true] }),
  ({ p := .code 200, t := .quiet, blk := some (true, true), trash := [] }, { p := .code 200, t := .quiet, blk := some (true, true), trash := [true] }),
  ({ p := .code 200, t := .code 200, blk := some (true, true), trash := [] }, { p := .code 200, t := .code 200, blk := some (true, true), trash := [] }),
  ({ p := .code 200, t := .deleted 1 0, blk := some (false, true), trash := [] }, { p := .code 200, t := .deleted 1 0, blk := some (false, true), trash := [] }),
  ({ p := .code 200, t := .quiet, blk := some (false, true), trash := [] }, { p := .code 200, t := .quiet, blk := some (false, true), trash := [] }),
  ({ p := .code 200, t := .code 200, blk := some (true, true), trash := [] }, { p := .code 200, t := .code 200, blk := some (true, true), trash := [] }),
  ({ p := .code 200, t := .deleted 1 0, blk := some (true, true), trash := [] }, { p := .code 200, t := .deleted 1 0, blk := some (true, true), trash := [] }),
  ({ p := .code 200, t := .quiet, blk := some (true, true), trash := [] }, { p := .code 200, t := .quiet, blk := some (true, true), trash := [] }),
  ({ p := .code 200, t := .code 200, blk := some (true, true), trash := [] }, { p := .code 200, t := .code 200, blk := some (true, true), trash := [] }),
  ({ p := .code 200, t := .deleted 1 0, blk := some (false, true), trash := [] }, { p := .code 404, t := .deleted 1 0, blk := none, trash := [false] }),
  ({ p := .code 200, t := .quiet, blk := some (false, true), trash := [] }, { p := .code 404, t := .quiet, blk := none, trash := [false] }),
  ({ p := .code 200, t := .code 200, blk := some (true, true), trash := [] }, { p := .code 200, t := .code 200, blk := some (true, true), trash := [] }),
  ({ p := .code 200, t := .deleted 1 0, blk := some (true, true), trash := [] }, { p := .code 200, t := .deleted 1 0, blk := some (true, true), trash := [false] }),
  ({ p := .code 200, t := .quiet, blk := some (true, true), trash := [] }, { p := .code 200, t := .quiet, blk := some (true, true), trash := [false] }),
  ({ p := .code 200, t := .code 200, blk := some (true, true), trash := [] }, { p := .code 200, t := .code 200, blk := some (true, true), trash := [] }),
  ({ p := .code 404, t := .code 404, blk := none, trash := [] }, { p := .code 404, t := .code 404, blk := none, trash := [] }),
  ({ p := .code 404, t := .quiet, blk := none, trash := [] }, { p := .code 404, t := .quiet, blk := none, trash := [] }),
  ({ p := .code 404, t := .code 200, blk := some (true, true), trash := [] }, { p := .code 200, t := .code 200, blk := some (true, true), trash := [] }),
  ({ p := .code 200, t := .deleted 1 0, blk := some (true, true), trash := [] }, { p := .code 200, t := .code 404, blk := some (true, true), trash := [] }),
  ({ p := .code 200, t := .quiet, blk := some (true, true), trash := [] }, { p := .code 200, t := .quiet, blk := some (true, true), trash := [] }),
  ({ p := .code 200, t := .code 200, blk := some (true, true), trash := [] }, { p := .code 200, t := .code 200, blk := some (true, true), trash := [] }),
  ({ p := .code 404, t := .code 404, blk := none, trash := [] }, { p := .code 404, t := .code 404, blk := none, trash := [] }),
  ({ p := .code 404, t := .quiet, blk := none, trash := [] }, { p := .code 404, t := .quiet, blk := none, trash := [] }),
  ({ p := .code 404, t := .code 200, blk := some (true, true), trash := [] }, { p := .code 200, t := .code 200, blk := some (true, true), trash := [] }),
  ({ p := .code 200, t := .deleted 1 0, blk := some (true, true), trash := [] }, { p := .code 200, t := .code 404, blk := some (true, true), trash := [] }),
  ({ p := .code 200, t := .quiet, blk := some (true, true), trash := [] }, { p := .code 200, t := .quiet, blk := some (true, true), trash := [] }),
  ({ p := .code 200, t := .code 200, blk := some (true, true), trash := [] }, { p := .code 200, t := .code 200, blk := some (true, true), trash := [] }),
  ({ p := .code 200, t := .deleted 1 0, blk := some (true, true), trash := [] }, { p := .code 200, t := .deleted 1 0, blk := some (true, true), trash := [] }),
  ({ p := .code 200, t := .quiet, blk := some (true, true), trash := [] }, { p := .code 200, t := .quiet, blk := some (true, true), trash := [] }),
  ({ p := .code 200, t := .code 200, blk := some (true, true), trash := [] }, { p := .code 200, t := .code 200, blk := some (true, true), trash := [] }),
  ({ p := .code 200, t := .deleted 1 0, blk := some (true, true), trash := [] }, { p := .code 200, t := .deleted 1 0, blk := some (true, true), trash := [] }),
  ({ p := .code 200, t := .quiet, blk := some (true, true), trash := [] }, { p := .code 200, t := .quiet, blk := some (true, true), trash := [] }),
  ({ p := .code 200, t := .code 200, blk := some (true, true), trash := [] }, { p := .code 200, t := .code 200, blk := some (true, true), trash := [] }),
  ({ p := .code 200, t := .deleted 1 0, blk := some (true, true), trash := [] }, { p := .code 404, t := .deleted 1 0, blk := none, trash := [] }),
  ({ p := .code 200, t := .quiet, blk := some (true, true), trash := [] }, { p := .code 404, t := .quiet, blk := none, trash := [] }),
  ({ p := .code 200, t := .code 200, blk := some (true, true), trash := [] }, { p := .code 200, t := .code 200, blk := some (true, true), trash := [] }),
  ({ p := .code 200, t := .deleted 1 0, blk := some (true, true), trash := [] }, { p := .code 200, t := .deleted 1 0, blk := some (true, true), trash := [] }),
  ({ p := .code 200, t := .quiet, blk := some (true, true), trash := [] }, { p := .code 200, t := .quiet, blk := some (true, true), trash := [] }),
  ({ p := .code 200, t := .code 200, blk := some (true, true), trash := [] }, { p := .code 200, t := .code 200, blk := some (true, true), trash := [] }),
  ({ p := .code 200, t := .deleted 1 0, blk := some (false, true), trash := [] }, { p := .code 200, t := .deleted 1 0, blk := some (false, true), trash := [] }),
  ({ p := .code 200, t := .quiet, blk := some (false, true), trash := [] }, { p := .code 200, t := .quiet, blk := some (false, true), trash := [] }),
  ({ p := .code 200, t := .code 200, blk := some (true, true), trash := [] }, { p := .code 200, t := .code 200, blk := some (true, true), trash := [] }),
  ({ p := .code 200, t := .deleted 1 0, blk := some (true, true), trash := [] }, { p := .code 200, t := .deleted 1 0, blk := some (true, true), trash := [] }),
  ({ p := .code 200, t := .quiet, blk := some (true, true), trash := [] }, { p := .code 200, t := .quiet, blk := some (true, true), trash := [] }),
  ({ p := .code 200, t := .code 200, blk := some (true, true), trash := [] }, { p := .code 200, t := .code 200, blk := some (true, true), trash := [] }),
  ({ p := .code 200, t := .deleted 1 0, blk := some (false, true), trash := [] }, { p := .code 404, t := .deleted 1 0, blk := none, trash := [] }),
  ({ p := .code 200, t := .quiet, blk := some (false, true), trash := [] }, { p := .code 404, t := .quiet, blk := none, trash := [] }),
  ({ p := .code 200, t := .code 200, blk := some (true, true), trash := [] }, { p := .code 200, t := .code 200, blk := some (true, true), trash := [] }),
  ({ p := .code 200, t := .deleted 1 0, blk := some (true, true), trash := [] }, { p := .code 200, t := .deleted 1 0, blk := some (true, true), trash := [] }),
  ({ p := .code 200, t := .quiet, blk := some (true, true), trash := [] }, { p := .code 200, t := .quiet, blk := some (true, true), trash := [] }),
  ({ p := .code 200, t := .code 200, blk := some (true, true), trash := [] }, { p := .code 200, t := .code 200, blk := some (true, true), trash := [] }),
  ({ p := .code 404, t := .code 404, blk := none, trash := [] }, { p := .code 404, t := .code 404, blk := none, trash := [] }),
  ({ p := .code 404, t := .quiet, blk := none, trash := [] }, { p := .code 404, t := .quiet, blk := none, trash := [] }),
  ({ p := .code 404, t := .code 200, blk := some (true, true), trash := [] }, { p := .code 200, t := .code 200, blk := some (true, true), trash := [] }),
  ({ p := .code 200, t := .deleted 1 0, blk := some (true, true), trash := [] }, { p := .code 200, t := .code 404, blk := some (true, true), trash := [] }),
  ({ p := .code 200, t := .quiet, blk := some (true, true), trash := [] }, { p := .code 200, t := .quiet, blk := some (true, true), trash := [] }),
  ({ p := .code 200, t := .code 200, blk := some (true, true), trash := [] }, { p := .code 200, t := .code 200, blk := some (true, true), trash := [] }),
  ({ p := .code 404, t := .code 404, blk := none, trash := [] }, { p := .code 404, t := .code 404, blk := none, trash := [] }),
  ({ p := .code 404, t := .quiet, blk := none, trash := [] }, { p := .code 404, t := .quiet, blk := none, trash := [] }),
  ({ p := .code 404, t := .code 200, blk := some (true, true), trash := [] }, { p := .code 200, t := .code 200, blk := some (true, true), trash := [] }),
  ({ p := .code 200, t := .deleted 1 0, blk := some (true, true), trash := [] }, { p := .code 200, t := .code 404, blk := some (true, true), trash := [] }),
  ({ p := .code 200, t := .quiet, blk := some (true, true), trash := [] }, { p := .code 200, t := .quiet, blk := some (true, true), trash := [] }),
  ({ p := .code 200, t := .code 200, blk := some (true, true), trash := [] }, { p := .code 200, t := .code 200, blk := some (true, true), trash := [] }),
  ({ p := .code 200, t := .deleted 1 0, blk := some (true, true), trash := [] }, { p := .code 200, t := .deleted 1 0, blk := some (true, true), trash := [] }),
  ({ p := .code 200, t := .quiet, blk := some (true, true), trash := [] }, { p := .code 200, t := .quiet, blk := some (true, true), trash := [] }),
  ({ p := .code 200, t := .code 200, blk := some (true, true), trash := [] }, { p := .code 200, t := .code 200, blk := some (true, true), trash := [] }),
  ({ p := .code 200, t := .deleted 1 0, blk := some (true, true), trash := [] }, { p := .code 200, t := .deleted 1 0, blk := some (true, true), trash := [] }),
  ({ p := .code 200, t := .quiet, blk := some (true, true), trash := [] }, { p := .code 200, t := .quiet, blk := some (true, true), trash := [] }),
  ({ p := .code 200, t := .code 200, blk := some (true, true), trash := [] }, { p := .code 200, t := .code 200, blk := some (true, true), trash := [] }),
  ({ p := .code 200, t := .deleted 1 0, blk := some (true, true), trash := [] }, { p := .code 404, t := .deleted 1 0, blk := none, trash := [true] }),
  ({ p := .code 200, t := .quiet, blk := some (true, true), trash := [] }, { p := .code 404, t := .quiet, blk := none, trash := [true] }),
  ({ p := .code 200, t := .code 200, blk := some (true, true), trash := [] }, { p := .code 200, t := .code 200, blk := some (true, true), trash := [] }),
  ({ p := .code 200, t := .deleted 1 0, blk := some (true, true), trash := [] }, { p := .code 200, t := .deleted 1 0, blk := some (true, true), trash := [true] }),
  ({ p := .code 200, t := .quiet, blk := some (true, true), trash := [] }, { p := .code 200, t := .quiet, blk := some (true, true), trash := [true] }),
  ({ p := .code 200, t := .code 200, blk := some (true, true), trash := [] }, { p := .code 200, t := .code 200, blk := some (true, true), trash := [] }),
  ({ p := .code 200, t := .deleted 1 0, blk := some (false, true), trash := [] }, { p := .code 200, t := .deleted 1 0, blk := some (false, true), trash := [] }),
  ({ p := .code 200, t := .quiet, blk := some (false, true), trash := [] }, { p := .code 200, t := .quiet, blk := some (false, true), trash := [] }),
  ({ p := .code 200, t := .code 200, blk := some (true, true), trash := [] }, { p := .code 200, t := .code 200, blk := some (true, true), trash := [] }),
  ({ p := .code 200, t := .deleted 1 0, blk := some (true, true), trash := [] }, { p := .code 200, t := .deleted 1 0, blk := some (true, true), trash := [] }),
  ({ p := .code 200, t := .quiet, blk := some (true, true), trash := [] }, { p := .code 200, t := .quiet, blk := some (true, true), trash := [] }),
  ({ p := .code 200, t := .code 200, blk := some (true, true), trash := [] }, { p := .code 200, t := .code 200, blk := some (true, true), trash := [] }),
  ({ p := .code 200, t := .deleted 1 0, blk := some (false, true), trash := [] }, { p := .code 404, t := .deleted 1 0, blk := none, trash := [false] }),
  ({ p := .code 200, t := .quiet, blk := some (false, true), trash := [] }, { p := .code 404, t := .quiet, blk := none, trash := [false] }),
  ({ p := .code 200, t := .code 200, blk := some (true, true), trash := [] }, { p := .code 200, t := .code 200, blk := some (true, true), trash := [] }),
  ({ p := .code 200, t := .deleted 1 0, blk := some (true, true), trash := [] }, { p := .code 200, t := .deleted 1 0, blk := some (true, true), trash := [false] }),
  ({ p := .code 200, t := .quiet, blk := some (true, true), trash := [] }, { p := .code 200, t := .quiet, blk := some (true, true), trash := [false] }),
  ({ p := .code 200, t := .code 200, blk := some (true, true), trash := [] }, { p := .code 200, t := .code 200, blk := some (true, true), trash := [] }),
  ({ p := .code 404, t := .code 404, blk := none, trash := [] }, { p := .code 404, t := .code 404, blk := none, trash := [] }),
  ({ p := .code 404, t := .quiet, blk := none, trash := [] }, { p := .code 404, t := .quiet, blk := none, trash := [] }),
  ({ p := .code 404, t := .code 200, blk := some (true, true), trash := [] }, { p := .code 200, t := .code 200, blk := some (true, true), trash := [] }),
  ({ p := .code 200, t := .deleted 1 0, blk := some (true, true), trash := [] }, { p := .code 200, t := .code 404, blk := some (true, true), trash := [] }),
  ({ p := .code 200, t := .quiet, blk := some (true, true), trash := [] }, { p := .code 200, t := .quiet, blk := some (true, true), trash := [] }),
  ({ p := .code 200, t := .code 200, blk := some (true, true), trash := [] }, { p := .code 200, t := .code 200, blk := some (true, true), trash := [] }),
  ({ p := .code 404, t := .code 404, blk := none, trash := [] }, { p := .code 404, t := .code 404, blk := none, trash := [] }),
  ({ p := .code 404, t := .quiet, blk := none, trash := [] }, { p := .code 404, t := .quiet, blk := none, trash := [] }),
  ({ p := .code 404, t := .code 200, blk := some (true, true), trash := [] }, { p := .code 200, t := .code 200, blk := some (true, true), trash := [] }),
  ({ p := .code 200, t := .deleted 1 0, blk := some (true, true), trash := [] }, { p := .code 200, t := .code 404, blk := some (true, true), trash := [] }),
  ({ p := .code 200, t := .quiet, blk := some (true, true), trash := [] }, { p := .code 200, t := .quiet, blk := some (true, true), trash := [] }),
  ({ p := .code 200, t := .code 200, blk := some (true, true), trash := [] }, { p := .code 200, t := .code 200, blk := some (true, true), trash := [] }),
  ({ p := .code 200, t := .deleted 1 0, blk := some (true, true), trash := [] }, { p := .code 200, t := .deleted 1 0, blk := some (true, true), trash := [] }),
  ({ p := .code 200, t := .quiet, blk := some (true, true), trash := [] }, { p := .code 200, t := .quiet, blk := some (true, true), trash := [] }),
  ({ p := .code 200, t := .code 200, blk := some (true, true), trash := [] }, { p := .code 200, t := .code 200, blk := some (true, true), trash := [] }),
  ({ p := .code 200, t := .deleted 1 0, blk := some (true, true), trash := [] }, { p := .code 200, t := .deleted 1 0, blk := some (true, true), trash := [] }),
  ({ p := .code 200, t := .quiet, blk := some (true, true), trash := [] }, { p := .code 200, t := .quiet, blk := some (true, true), trash := [] }),
  ({ p := .code 200, t := .code 200, blk := some (true, true), trash := [] }, { p := .code 200, t := .code 200, blk := some (true, true), trash := [] }),
  ({ p := .code 200, t := .deleted 1 0, blk := some (true, true), trash := [] }, { p := .code 404, t := .deleted 1 0, blk := none, trash := [] }),
  ({ p := .code 200, t := .quiet, blk := some (true, true), trash := [] }, { p := .code 404, t := .quiet, blk := none, trash := [] }),
  ({ p := .code 200, t := .code 200, blk := some (true, true), trash := [] }, { p := .code 200, t := .code 200, blk := some (true, true), trash := [] }),
  ({ p := .code 200, t := .deleted 1 0, blk := some (true, true), trash := [] }, { p := .code 200, t := .deleted 1 0, blk := some (true, true), trash := [] }),
  ({ p := .code 200, t := .quiet, blk := some (true, true), trash := [] }, { p := .code 200, t := .quiet, blk := some (true, true), trash := [] }),
  ({ p := .code 200, t := .code 200, blk := some (true, true), trash := [] }, { p := .code 200, t := .code 200, blk := some (true, true), trash := [] }),
  ({ p := .code 200, t := .deleted 1 0, blk := some (false, true), trash := [] }, { p := .code 200, t := .deleted 1 0, blk := some (false, true), trash := [] }),
  ({ p := .code 200, t := .quiet, blk := some (false, true), trash := [] }, { p := .code 200, t := .quiet, blk := some (false, true), trash := [] }),
  ({ p := .code 200, t := .code 200, blk := some (true, true), trash := [] }, { p := .code 200, t := .code 200, blk := some (true, true), trash := [] }),
  ({ p := .code 200, t := .deleted 1 0, blk := some (true, true), trash := [] }, { p := .code 200, t := .deleted 1 0, blk := some (true, true), trash := [] }),
  ({ p := .code 200, t := .quiet, blk := some (true, true), trash := [] }, { p := .code 200, t := .quiet, blk := some (true, true), trash := [] }),
  ({ p := .code 200, t := .code 200, blk := some (true, true), trash := [] }, { p := .code 200, t := .code 200, blk := some (true, true), trash := [] }),
  ({ p := .code 200, t := .deleted 1 0, blk := some (false, true), trash := [] }, { p := .code 404, t := .deleted 1 0, blk := none, trash := [] }),
  ({ p := .code 200, t := .quiet, blk := some (false, true), trash := [] }, { p := .code 404, t := .quiet, blk := none, trash := [] }),
  ({ p := .code 200, t := .code 200, blk := some (true, true), trash := [] }, { p := .code 200, t := .code 200, blk := some (true, true), trash := [] }),
  ({ p := .code 200, t := .deleted 1 0, blk := some (true, true), trash := [] }, { p := .code 200, t := .deleted 1 0, blk := some (true, true), trash := [] }),
  ({ p := .code 200, t := .quiet, blk := some (true, true), trash := [] }, { p := .code 200, t := .quiet, blk := some (true, true), trash := [] }),
  ({ p := .code 200, t := .code 200, blk := some (true, true), trash := [] }, { p := .code 200, t := .code 200, blk := some (true, true), trash := [] })
]

def linOf (c : Cfg) : Obs × Obs :=
  linTab.getD (cfgIdx c) ({ p := .quiet, t := .quiet, blk := none, trash := [] }, { p := .quiet, t := .quiet, blk := none, trash := [] })

def linLocal (o : Obs × Obs) (s : St) : Bool :=
  !finished s || decide (obsR s = o.1) || decide (obsR s = o.2)

def linCfg (c : Cfg) (R : List Nat) (o : Obs × Obs) : Bool :=
  decide (obsR (run schedPT (init c)) = o.1) && decide (obsR (run schedTP (init c)) = o.2) &&
  finished (run schedPT (init c)) && finished (run schedTP (init c)) &&
  R.all fun n => withForced (decode n) fun s => linLocal o s

end ArvVerif.C04.Race
