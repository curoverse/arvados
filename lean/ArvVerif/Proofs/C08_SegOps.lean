/-
C08: the operations of a single segment, on a well-formed one: `memTruncate` (growing resets the flush state, shrinking
leaves it behind with a length that no longer matches), `slice` of a stored segment from its start (`slice 0 (some n)`)
and to its end (`slice n none`), `Seg.readAt`. Each keeps `SegWF` and has the expected bytes and length.
-/
import ArvVerif.Proofs.C08_Segs
namespace ArvVerif.C08

variable {max : Nat} {hash : Bytes → Loc} {st : Store}

theorem memTruncate_bytes (buf : Bytes) (fl : Flush) (n : Nat) :
    (memTruncate buf fl n).bytes st = buf.take n ++ zeros (n - buf.length) := rfl

theorem memTruncate_len (buf : Bytes) (fl : Flush) (n : Nat) : (memTruncate buf fl n).len = n := by
  simp only [memTruncate, Seg.len_mem, List.length_append, List.length_take, zeros_length]; omega

theorem memTruncate_grow (pb : Bytes) (pfl : Flush) (k : Nat) :
    memTruncate pb pfl (pb.length + k) =
      Seg.mem (pb ++ zeros k) (if pfl ≠ Flush.none ∧ pb.length + k > pb.length then Flush.none else pfl) := by
  unfold memTruncate
  rw [List.take_of_length_le (by omega), Nat.add_sub_cancel_left]

/-- a mem segment that has (strictly) grown — a new one from `[]` included — is well-formed: the flush state is reset -/
theorem memTruncate_wf_grow {buf : Bytes} {fl : Flush} {n : Nat} (hgt : buf.length < n) (hn : n ≤ max) :
    SegWF max hash st (memTruncate buf fl n) := by
  have hlen := memTruncate_len buf fl n
  unfold memTruncate at *
  rw [Seg.len_mem] at hlen
  refine ⟨by omega, by omega, fun i l hfl => ?_⟩
  by_cases hc : fl = Flush.none <;> simp [hc, hgt] at hfl

/-- shrinking a well-formed mem segment to `0 < n < length` keeps it well-formed (the flush state
stays, but its recorded length no longer matches) -/
theorem memTruncate_wf_shrink {buf : Bytes} {fl : Flush} {n : Nat}
    (h : SegWF max hash st (Seg.mem buf fl)) (h0 : 0 < n) (hlt : n < buf.length) :
    SegWF max hash st (memTruncate buf fl n) := by
  have hlen := memTruncate_len buf fl n
  obtain ⟨_, hmax, hp⟩ := h
  unfold memTruncate at *
  simp only [Seg.len_mem] at hlen
  refine ⟨by omega, by omega, fun i l hfl => ?_⟩
  rw [if_neg (by omega)] at hfl
  have := (hp i l hfl).1
  exact ⟨by omega, fun heq => by omega⟩

theorem stored_slice_wf {loc : Loc} {size off l n : Nat}
    (h : SegWF max hash st (Seg.stored loc size off l)) (h0 : 0 < n) (hn : n ≤ l) :
    SegWF max hash st ((Seg.stored loc size off l).slice 0 (some n)) := by
  obtain ⟨_, hle, b, hb, hlen⟩ := h
  simp only [Seg.slice]
  refine ⟨?_, ?_, b, hb, hlen⟩ <;> split <;> omega

theorem stored_slice_bytes {loc : Loc} {size off l n : Nat}
    (h : SegWF max hash st (Seg.stored loc size off l)) (hn : n ≤ l) :
    ((Seg.stored loc size off l).slice 0 (some n)).bytes st = ((Seg.stored loc size off l).bytes st).take n := by
  obtain ⟨_, hle, b, hb, hlen⟩ := h
  simp only [Seg.slice]
  rw [Seg.bytes_stored hb, Seg.bytes_stored hb, List.take_take]
  congr 1
  split <;> omega

theorem stored_slice_len {loc : Loc} {size off l n : Nat} (hn : n ≤ l) :
    ((Seg.stored loc size off l).slice 0 (some n)).len = n := by
  simp only [Seg.slice, Seg.len_stored]; split <;> omega

theorem stored_tail_wf {loc : Loc} {size off l n : Nat}
    (h : SegWF max hash st (Seg.stored loc size off l)) (hn : n < l) :
    SegWF max hash st ((Seg.stored loc size off l).slice n none) := by
  obtain ⟨_, hle, b, hb, hlen⟩ := h
  simp only [Seg.slice]
  exact ⟨by omega, by omega, b, hb, hlen⟩

theorem stored_tail_bytes {loc : Loc} {size off l n : Nat}
    (h : SegWF max hash st (Seg.stored loc size off l)) :
    ((Seg.stored loc size off l).slice n none).bytes st = ((Seg.stored loc size off l).bytes st).drop n := by
  obtain ⟨_, hle, b, hb, hlen⟩ := h
  simp only [Seg.slice]
  rw [Seg.bytes_stored hb, Seg.bytes_stored hb, List.drop_take, List.drop_drop]

theorem stored_tail_len {loc : Loc} {size off l n : Nat} :
    ((Seg.stored loc size off l).slice n none).len = l - n := rfl

/-- `segment.ReadAt` from a well-formed segment: the bytes from `off`, at most `want` of them;
EOF exactly when the request reaches past the end of the segment. -/
theorem Seg.readAt_spec {s : Seg} (h : SegWF max hash st s) (want off : Nat) (ho : off ≤ s.len) :
    s.readAt st want off =
      (((s.bytes st).drop off).take want, if want > s.len - off then IOErr.eof else IOErr.ok) := by
  cases s with
  | mem buf fl =>
    have ho' : off ≤ buf.length := ho
    simp only [Seg.readAt, Seg.bytes_mem]
    rw [if_neg (by omega)]
    have hiff : ((List.drop off buf).take want).length < want ↔ want > (Seg.mem buf fl).len - off := by
      simp only [List.length_take, List.length_drop, Seg.len_mem]; omega
    simp only [hiff]
  | stored loc size boff l =>
    obtain ⟨_, hle, b, hb, hlen⟩ := h
    simp only [Seg.len_stored] at ho
    simp only [Seg.readAt, Seg.len_stored, hb, Seg.bytes_stored hb]
    rw [if_neg (by omega), if_neg (by omega)]
    congr 1
    rw [List.drop_take, List.drop_drop, List.take_take]
    rw [Nat.add_comm off boff]
    congr 1
    split <;> omega

end ArvVerif.C08
