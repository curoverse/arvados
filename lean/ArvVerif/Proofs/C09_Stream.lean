/-
C09 helper lemmas: the stream of a directory, said in terms of the directory (`DirStream`): its name,
where its blocks come from and that Keep holds them, which file tokens it has, that they lie inside
the stream and what they read. `dirLines_spec` is the one place where the stream builder is run;
everything after it speaks about lines. With it, the lines of a well-formed tree (`DirOK`/`TreeOK`: proper
names without 0x7f, well-formed stored segments with grammar locators — what `HashOK` gives for the blocks a
save writes) are well-formed lines, so its text parses back to them (`treeText_parse9`).
-/
import ArvVerif.Proofs.C09_Emit
import ArvVerif.Proofs.C09_TextRender
namespace ArvVerif.C09

open ArvVerif.C08 (Seg FileNode Store SegWF)
open ArvVerif.C10 (specLocator)

variable {max : Nat} {hash : Bytes → C08.Loc}

theorem streamOfEmit_blocks {st : Store} {e : Emit} (hinv : EInv st e) (path : List Bytes) :
    (∀ b ∈ (streamOfEmit path e).blocks, b = ⟨emptyLoc, 0⟩ ∨ b ∈ e.blocksRev) ∧
    (streamOfEmit path e).blocks ≠ [] ∧ e.len ≤ C10.streamLen (streamOfEmit path e).blocks := by
  unfold streamOfEmit
  by_cases hbe : e.blocksRev.isEmpty = true
  · simp only [hbe, if_true]
    refine ⟨fun b hb => Or.inl (List.mem_singleton.mp hb), by simp, ?_⟩
    rw [hinv.len, List.isEmpty_iff.mp hbe]; exact Nat.zero_le _
  · simp only [hbe, if_false, Bool.false_eq_true]
    exact ⟨fun b hb => Or.inr (List.mem_reverse.mp hb), fun hh => hbe (by rw [List.reverse_eq_nil_iff.mp hh]; rfl),
      by rw [hinv.len]; exact Nat.le_refl _⟩

theorem contentRev_eq (S n : Bytes) (ps : List Part) :
    contentRev S n ps = ps.reverse.flatMap fun p => if p.name = n then partBytes S p else [] := by
  induction ps with
  | nil => rfl
  | cons p ps ih => simp [contentRev, ih]

theorem stream_content {st : Store} (path : List Bytes) {e : Emit} (hinv : EInv st e) (n : Bytes) :
    C10.fileContent (blkOf st) [streamOfEmit path e] (C10.pathOf (prefixOf path) n) =
      contentRev (streamOf st e) n e.partsRev := by
  have hname : ∀ m : Bytes, C10.pathOf (prefixOf path) m = C10.pathOf (prefixOf path) n ↔ m = n := fun m =>
    ⟨fun h => by simpa [C10.pathOf] using h, fun h => h ▸ rfl⟩
  simp only [C10.fileContent, streamOfEmit, List.flatMap_cons, List.flatMap_nil, List.append_nil, List.flatMap_map,
    contentRev_eq, hname]
  rw [List.flatMap_def, List.flatMap_def]
  refine congrArg _ (List.map_congr_left fun p hp => ?_)
  by_cases hn : p.name = n
  · simp only [hn, if_true]
    split
    · -- without a block every part is empty
      next hb =>
      have h0 : e.len = 0 := by rw [hinv.len, List.isEmpty_iff.mp hb]; rfl
      have := hinv.parts p (List.mem_reverse.mp hp)
      simp [partBytes, C10.slice, show p.len = 0 by omega]
    · rfl
  · simp only [hn, if_false]

theorem dirLines_cases {d : Dir9} {L : List Line9} (h : dirLines d = some L) :
    (d.files = [] ∧ L = if d.nsub = 0 ∧ d.path ≠ [] then [Line9.marker (prefixOf d.path)] else []) ∨
    (d.files ≠ [] ∧ ∃ e, emitFiles ⟨[], 0, []⟩ d.files = some e ∧ L = [Line9.stream (streamOfEmit d.path e)]) := by
  unfold dirLines at h
  by_cases hf : d.files = []
  · refine Or.inl ⟨hf, ?_⟩
    by_cases h0 : d.nsub = 0 <;> by_cases hp : d.path = [] <;>
      simp [Dir9.isEmpty, hf, emitFiles, h0, hp] at h <;> simp [h0, hp, h]
  · refine Or.inr ⟨hf, ?_⟩
    rw [if_neg (by simp [Dir9.isEmpty, hf])] at h
    split at h
    · cases h
    · next e hem =>
      -- every file leaves a part, so there is a line
      obtain ⟨f0, hf0⟩ := List.exists_mem_of_ne_nil _ hf
      have hp := (emitFiles_grows hem).2 f0 hf0
      rw [if_neg (by intro hpe; rw [List.isEmpty_iff.mp hpe] at hp; cases hp)] at h
      exact ⟨e, hem, (Option.some.inj h).symm⟩

theorem streamOfEmit_has {files : List (Bytes × FileNode)} {e : Emit} (hem : emitFiles ⟨[], 0, []⟩ files = some e)
    (path : List Bytes) : ∀ f ∈ files, ∃ ft ∈ (streamOfEmit path e).files, ft.name = f.1 := by
  intro f hf
  obtain ⟨p, hp, hn⟩ := List.mem_map.mp ((emitFiles_grows hem).2 f hf)
  exact ⟨⟨p.off, p.len, p.name⟩, by simp only [streamOfEmit, List.mem_map, List.mem_reverse]; exact ⟨p, hp, rfl⟩, hn⟩

theorem dirLines_shape {d : Dir9} {L : List Line9} (h : dirLines d = some L) :
    (d.files = [] ∧ L = if d.nsub = 0 ∧ d.path ≠ [] then [Line9.marker (prefixOf d.path)] else []) ∨
    (d.files ≠ [] ∧ ∃ s, L = [Line9.stream s] ∧ s.name = prefixOf d.path ∧ ∀ f ∈ d.files, ∃ ft ∈ s.files, ft.name = f.1) :=
  (dirLines_cases h).imp_right fun ⟨hf, _, hem, hL⟩ => ⟨hf, _, hL, rfl, streamOfEmit_has hem d.path⟩

structure DirStream (st : Store) (d : Dir9) (s : C10.Stream) : Prop where
  name : s.name = prefixOf d.path
  blocks_ne : s.blocks ≠ []
  /-- the placeholder of a stream without data, or the block of a stored segment, held by Keep -/
  blocks : ∀ b ∈ s.blocks, b = ⟨emptyLoc, 0⟩ ∨ ((∃ x, st b.text = some x ∧ x.length = b.size) ∧
    ∃ f ∈ d.files, ∃ off len, Seg.stored b.text b.size off len ∈ f.2.segs)
  toks : ∀ ft ∈ s.files, (∃ f ∈ d.files, ft.name = f.1) ∧ ft.pos + ft.len ≤ C10.streamLen s.blocks
  has : ∀ f ∈ d.files, ∃ ft ∈ s.files, ft.name = f.1
  content : ∀ n, C10.fileContent (blkOf st) [s] (C10.pathOf (prefixOf d.path) n) =
    d.files.flatMap fun f => if f.1 = n then C08.abs st f.2 else []

theorem dirLines_spec {st : Store} {d : Dir9} (hsegs : ∀ f ∈ d.files, ∀ s ∈ f.2.segs, SegWF max hash st s)
    {L : List Line9} (h : dirLines d = some L) :
    (d.files = [] ∧ L = if d.nsub = 0 ∧ d.path ≠ [] then [Line9.marker (prefixOf d.path)] else []) ∨
    (d.files ≠ [] ∧ ∃ s, L = [Line9.stream s] ∧ DirStream st d s) := by
  refine (dirLines_cases h).imp_right fun ⟨hf, e, hem, hL⟩ => ⟨hf, _, hL, ?_⟩
  have hinit : EInv st ⟨[], 0, []⟩ := ⟨rfl, fun _ h => (by cases h), fun _ h => (by cases h)⟩
  obtain ⟨hinv, hcontent, hblocks, hparts⟩ := emitFiles_spec (max := max) (hash := hash) d.files _ e hinit hsegs hem
  obtain ⟨hbfrom, hbne, hlen⟩ := streamOfEmit_blocks hinv d.path
  simp only [List.not_mem_nil, false_or, or_false] at hblocks hparts
  refine ⟨rfl, hbne, fun b hb => (hbfrom b hb).imp_right fun hb => ⟨hinv.blk b hb, hblocks b hb⟩, ?_,
    streamOfEmit_has hem d.path, ?_⟩
  · intro ft hft
    simp only [streamOfEmit, List.mem_map, List.mem_reverse] at hft
    obtain ⟨p, hp, rfl⟩ := hft
    exact ⟨hparts p hp, Nat.le_trans (hinv.parts p hp) hlen⟩
  · intro n
    rw [stream_content d.path hinv n, hcontent n]
    rfl

theorem treeLines_stream {st : Store} {t : Tree9} {L : List Line9} (hL : treeLines t = some L)
    (hsegs : ∀ d ∈ t, ∀ f ∈ d.files, ∀ s ∈ f.2.segs, SegWF max hash st s) {s : C10.Stream} (hs : s ∈ streamsOf L) :
    ∃ d ∈ t, DirStream st d s := by
  obtain ⟨d, hd, Ld, hLd, hx⟩ := (mem_treeLines hL _).mp (mem_streamsOf.mp hs)
  rcases dirLines_spec (hsegs d hd) hLd with ⟨_, rfl⟩ | ⟨_, s', rfl, h'⟩
  · split at hx <;> simp at hx
  · cases List.mem_singleton.mp hx
    exact ⟨d, hd, h'⟩

theorem treeLines_tokens {st : Store} {t : Tree9} {L : List Line9} (h : treeLines t = some L)
    (hsegs : ∀ d ∈ t, ∀ f ∈ d.files, ∀ s ∈ f.2.segs, SegWF max hash st s) :
    ∀ s ∈ streamsOf L, ∀ ft ∈ s.files, ∃ d ∈ t, ∃ f ∈ d.files, s.name = prefixOf d.path ∧ ft.name = f.1 := by
  intro s hs ft hft
  obtain ⟨d, hd, hds⟩ := treeLines_stream h hsegs hs
  obtain ⟨⟨f, hf, hn⟩, _⟩ := hds.toks ft hft
  exact ⟨d, hd, f, hf, hds.name, hn⟩

theorem treeLines_markers (t : Tree9) (L : List Line9) (h : treeLines t = some L) :
    markersOf L = (t.filter fun d => d.isEmpty && !d.path.isEmpty).map fun d => prefixOf d.path := by
  refine treeLines_induction (P := fun t L =>
    markersOf L = (t.filter fun d => d.isEmpty && !d.path.isEmpty).map fun d => prefixOf d.path) rfl ?_ t L h
  intro d rest a b ha _ ih
  rw [markersOf_append, ih, List.filter_cons]
  rcases dirLines_shape ha with ⟨hf, rfl⟩ | ⟨hf, s, rfl, _, _⟩
  · by_cases h0 : d.nsub = 0 <;> by_cases hp : d.path = [] <;> simp [Dir9.isEmpty, hf, h0, hp, markersOf]
  · simp [Dir9.isEmpty, hf, markersOf]

theorem file_has_token {t : Tree9} {L : List Line9} (hL : treeLines t = some L) {d : Dir9} (hd : d ∈ t)
    {f : Bytes × C08.FileNode} (hf : f ∈ d.files) :
    ∃ c ∈ C10.manifestContribs (streamsOf L), c.1 = C10.pathOf (prefixOf d.path) f.1 := by
  obtain ⟨Ld, hLd, hsub⟩ := treeLines_dir hL hd
  rcases dirLines_shape hLd with ⟨he, _⟩ | ⟨_, s, rfl, hname, hhas⟩
  · rw [he] at hf; cases hf
  · obtain ⟨ft, hft, hn⟩ := hhas f hf
    exact ⟨_, C10.mem_manifestContribs.mpr ⟨s, mem_streamsOf.mpr (hsub _ (by simp)), ft, hft, rfl⟩, by rw [hname, hn]⟩

/-- assumptions on the locator function: no collisions, and what it returns is a locator of the
published grammar that carries the block size (`md5hex ++ "+" ++ size` in the code) -/
structure HashOK (hash : Bytes → C08.Loc) : Prop where
  inj : Function.Injective hash
  loc : ∀ b, specLocator (hash b) = some ⟨hash b, b.length⟩

/-- the placeholder of a stream without data has size 0 whether or not Keep holds the empty block -/
theorem DirStream.block_sizes {st : Store} {d : Dir9} {s : C10.Stream} (hds : DirStream st d s) (hh : HashOK hash)
    (hst : C08.StoreOK hash st) : ∀ b ∈ s.blocks, (blkOf st b.text).length = b.size := by
  intro b hb
  rcases hds.blocks b hb with rfl | ⟨⟨x, hx, hxl⟩, _⟩
  · simp only [blkOf]
    cases hst' : st emptyLoc with
    | none => rfl
    | some x =>
      have hl := hh.loc x
      rw [← hst _ _ hst', emptyLoc_ok] at hl
      simp [← (C10.Loc.mk.inj (Option.some.inj hl)).2]
  · simp [blkOf, hx, hxl]

/-- what makes the lines of a directory `LineOK`; `path` and `names` carry the exclusion of byte 0x7f, which
`manifestEscape` leaves raw (finding F9a) -/
structure DirOK (max : Nat) (hash : Bytes → C08.Loc) (st : Store) (d : Dir9) : Prop where
  path : PathOK d.path
  names : ∀ f ∈ d.files, NameOK f.1 ∧ (127 : UInt8) ∉ f.1
  segs : ∀ f ∈ d.files, ∀ s ∈ f.2.segs, SegWF max hash st s
  locs : ∀ f ∈ d.files, ∀ loc size off len, Seg.stored loc size off len ∈ f.2.segs →
    specLocator loc = some ⟨loc, size⟩

theorem dirLines_ok {st : Store} {d : Dir9} (hd : DirOK max hash st d) {L : List Line9} (h : dirLines d = some L) :
    ∀ x ∈ L, LineOK x := by
  rcases dirLines_spec hd.segs h with ⟨_, rfl⟩ | ⟨hf, s, rfl, hs⟩
  · split
    · next h' => exact List.forall_mem_singleton.mpr ⟨d.path, hd.path, h'.2, rfl⟩
    · nofun
  · refine List.forall_mem_singleton.mpr ⟨⟨d.path, hd.path, hs.name⟩, hs.blocks_ne, fun b hb => ?_, ?_, fun ft hft => ?_⟩
    · rcases hs.blocks b hb with rfl | ⟨_, f, hf', off, len, hseg⟩
      · exact emptyLoc_ok
      · exact hd.locs f hf' _ _ _ _ hseg
    · obtain ⟨f0, hf0⟩ := List.exists_mem_of_ne_nil _ hf
      obtain ⟨ft, hft, _⟩ := hs.has f0 hf0
      exact List.ne_nil_of_mem hft
    · obtain ⟨⟨f, hf', hn⟩, hle⟩ := hs.toks ft hft
      exact ⟨hn ▸ hd.names f hf', hle⟩

def TreeOK (max : Nat) (hash : Bytes → C08.Loc) (st : Store) (t : Tree9) : Prop := ∀ d ∈ t, DirOK max hash st d

theorem treeLines_parse9 {st : Store} {t : Tree9} (hok : TreeOK max hash st t) {L : List Line9} (hL : treeLines t = some L) :
    parse9 (render L) = some L := by
  refine parse9_render fun x hx => ?_
  obtain ⟨d, hd, Ld, hLd, hx'⟩ := (mem_treeLines hL x).mp hx
  exact dirLines_ok (hok d hd) hLd x hx'

theorem treeText_parse9 {st : Store} (t : Tree9) (hok : TreeOK max hash st t) (txt : Bytes) (h : treeText t = some txt) :
    ∃ L, treeLines t = some L ∧ parse9 txt = some L := by
  rw [treeText_eq] at h
  obtain ⟨L, hL, rfl⟩ := Option.map_eq_some_iff.mp h
  exact ⟨L, hL, treeLines_parse9 hok hL⟩

end ArvVerif.C09
