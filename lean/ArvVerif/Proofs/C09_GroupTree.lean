/-
C09 helper lemmas: the canonical directory list of a loaded tree (root and the loader's
directories, each with the loader's files that lie directly in it) satisfies every hypothesis
`C09_load_marshal_preserves` puts on a directory list — for the tree of ANY accepted text.
-/
import ArvVerif.Model.C09_FS
import ArvVerif.Proofs.C09_LoadWf
import ArvVerif.Proofs.C09_Represents
import ArvVerif.Proofs.C09_Dirs
namespace ArvVerif.C09

open ArvVerif.C08 (Seg FileNode)
open ArvVerif.C10 (bSlash bDot FsTree)

def filesIn (tr : FsTree) (p : List Bytes) : List (Bytes × FileNode) :=
  (tr.files.filter (fun e => e.1.dropLast = p)).map fun e =>
    (e.1.getLastD [], ⟨e.2.map segOfC10, C08.sumLen (e.2.map segOfC10), 0⟩)

def groupTree (tr : FsTree) : Tree9 :=
  ([] :: tr.dirs).map fun p => ⟨p, filesIn tr p, (tr.dirs.filter (fun d => d.dropLast = p)).length⟩

theorem dirPaths_groupTree (tr : FsTree) : dirPaths (groupTree tr) = [] :: tr.dirs := by
  unfold dirPaths groupTree
  rw [List.map_map]
  have : ((fun x : Dir9 => x.path) ∘ fun p => (⟨p, filesIn tr p, (tr.dirs.filter (fun d => d.dropLast = p)).length⟩ : Dir9)) = id := by
    funext p; rfl
  rw [this, List.map_id]

theorem FsWf.key_split {tr : FsTree} (hw : FsWf tr) {e : List Bytes × List C10.Seg} (he : e ∈ tr.files) :
    e.1 = e.1.dropLast ++ [e.1.getLastD []] :=
  (path_split e.1 (hw.keyComps e.1 (List.mem_map_of_mem he)).1).symm

theorem groupTree_file {tr : FsTree} (hw : FsWf tr) {d : Dir9} (hd : d ∈ groupTree tr) {f : Bytes × FileNode}
    (hf : f ∈ d.files) : ∃ e ∈ tr.files, e.1 = d.path ++ [f.1] ∧ f.2.segs = e.2.map (segOf sizeOfLoc) := by
  obtain ⟨p, _, rfl⟩ := List.mem_map.mp hd
  obtain ⟨e, he, rfl⟩ := List.mem_map.mp hf
  obtain ⟨he1, he2⟩ := List.mem_filter.mp he
  -- the segments agree by `rfl`: the model's `segOfC10` is `segOf sizeOfLoc`
  refine ⟨e, he1, ?_, rfl⟩
  show e.1 = p ++ [e.1.getLastD []]
  rw [← of_decide_eq_true he2]
  exact hw.key_split he1

theorem groupTree_ok (tr : FsTree) (hw : FsWf tr) (hc : KeyParent tr) :
    Represents sizeOfLoc tr (groupTree tr) ∧ (dirPaths (groupTree tr)).Nodup ∧
    (∀ d ∈ groupTree tr, (d.files.map (·.1)).Nodup) ∧ (∀ d ∈ groupTree tr, ∀ c ∈ d.path, NameOK c) := by
  refine ⟨⟨fun d hd f hf => groupTree_file hw hd hf, ?_⟩, ?_, ?_, ?_⟩
  · intro e he
    have hp : e.1.dropLast ∈ ([] : List Bytes) :: tr.dirs := List.mem_cons.mpr (hc e.1 (List.mem_map_of_mem he))
    exact ⟨_, List.mem_map.mpr ⟨e.1.dropLast, hp, rfl⟩, _,
      List.mem_map.mpr ⟨e, List.mem_filter.mpr ⟨he, by simp⟩, rfl⟩, hw.key_split he⟩
  · rw [dirPaths_groupTree, List.nodup_cons]
    exact ⟨fun h => (hw.dirComps [] h).1 rfl, hw.dirsNodup⟩
  · intro d hd
    obtain ⟨p, _, rfl⟩ := List.mem_map.mp hd
    show ((filesIn tr p).map (·.1)).Nodup
    unfold filesIn
    rw [List.map_map]
    -- two files of one directory with the same name have the same key
    refine List.pairwise_map.mpr (((List.pairwise_map.mp hw.keysNodup).filter _).imp_of_mem
      fun {a b} ha hb hab heq => hab ?_)
    obtain ⟨ha1, ha2⟩ := List.mem_filter.mp ha
    obtain ⟨hb1, hb2⟩ := List.mem_filter.mp hb
    rw [hw.key_split ha1, hw.key_split hb1, of_decide_eq_true ha2, of_decide_eq_true hb2]
    exact congrArg (p ++ [·]) heq
  · intro d hd c hcm
    obtain ⟨p, hp, rfl⟩ := List.mem_map.mp hd
    rcases List.mem_cons.mp hp with rfl | hp
    · cases hcm
    · exact (hw.dirComps p hp).2 c hcm

theorem groupTree_closed (tr : FsTree) (hw : FsWf tr) :
    TreeClosed (groupTree tr) ∧ ∀ d ∈ groupTree tr, ∀ f ∈ d.files, d.path ++ [f.1] ∉ dirPaths (groupTree tr) := by
  refine ⟨⟨?_, ?_⟩, ?_⟩
  · intro d hd hne
    obtain ⟨p, hp, rfl⟩ := List.mem_map.mp hd
    rw [dirPaths_groupTree]
    rcases List.mem_cons.mp hp with rfl | hp
    · exact absurd rfl hne
    · exact List.mem_cons.mpr (hw.parentFirst.parent p hp)
  · intro d hd hsub
    obtain ⟨p, hp, rfl⟩ := List.mem_map.mp hd
    have hsub' : 0 < (tr.dirs.filter (fun d => d.dropLast = p)).length := hsub
    obtain ⟨c, hc⟩ := List.exists_mem_of_length_pos hsub'
    obtain ⟨hc1, hc2⟩ := List.mem_filter.mp hc
    have hcne := (hw.dirComps c hc1).1
    refine ⟨_, List.mem_map.mpr ⟨c, List.mem_cons_of_mem _ hc1, rfl⟩, c.getLastD [], ?_⟩
    show c = p ++ [c.getLastD []]
    rw [← of_decide_eq_true hc2]
    exact (path_split c hcne).symm
  · intro d hd f hf hm
    obtain ⟨e, he, hkey, _⟩ := groupTree_file hw hd hf
    have hk : e.1 ∈ keysOf tr := List.mem_map_of_mem he
    rw [dirPaths_groupTree, ← hkey] at hm
    rcases List.mem_cons.mp hm with h' | h'
    · exact (hw.keyComps e.1 hk).1 h'
    · exact hw.disjoint e.1 hk h'

end ArvVerif.C09
