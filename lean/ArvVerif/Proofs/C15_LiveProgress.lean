/-
C15 liveness system: enabledness of the fair kinds. While the goal is not reached some fair action is
enabled (`progress`) and at rest none is (`not_enabled_at_rest`); `Stable` is enabledness that survives
the steps which leave the variant unchanged (`stable_keep`), the form `converge_fair` asks for.
-/
import ArvVerif.Proofs.C15_LiveDescent
import ArvVerif.Proofs.C15_LiveShape
namespace ArvVerif.C15
open ArvVerif.C14 (Uuid IType)

/-- the fair action `k` is enabled in a way that survives stuttering steps: these (`lockQ`, `unlockQ`) exist only at
quota and stay there (`step_mu`), where `quotaExpire` is enabled whatever they do to the containers -/
def Stable (k : Kind) (s : LState) : Prop := Enabled k s ∧ (k = .quotaExpire ∨ s.atQuota = false)

theorem stable_keep {s t : LState} {a : Act} {k : Kind} (h : Step s a t) (he : mu t = mu s) (hs : Stable k s) :
    Stable k t := by
  rcases step_stutter h he with ⟨hq, hq'⟩ | e
  · rcases hs.2 with hk | hk
    · subst hk; exact ⟨hq', Or.inl rfl⟩
    · rw [hq] at hk; cases hk
  · rw [e]; exact hs

theorem progress_inst (s : LState) (i : Inst) (hi : i ∈ s.insts) (hg : i.ph ≠ .gone) :
    ∃ k, Enabled k s := by
  cases hp : i.ph with
  | gone => exact absurd hp hg
  | creating => exact ⟨.createDone, i, hi, hp⟩
  | booting =>
    cases hh : i.health with
    | ok => exact ⟨.boot, i, hi, hp, by simp [hh]⟩
    | drain => exact ⟨.drainShutdown, i, hi, Or.inl hp, hh⟩
    | broken => exact ⟨.brokenTimeout, i, hi, hh, Or.inl hp⟩
  | unknown j =>
    by_cases hh : i.health = .broken
    · exact ⟨.brokenTimeout, i, hi, hh, Or.inr (Or.inl ⟨j, hp⟩)⟩
    · exact ⟨.probeUnknown, i, hi, j, hp, hh⟩
  | shutP j => exact ⟨.destroyOk, i, hi, j, hp⟩
  | shutF j => exact ⟨.destroyRetry, i, hi, j, hp⟩
  | up j =>
    by_cases hh : i.health = .broken
    · exact ⟨.brokenTimeout, i, hi, hh, Or.inr (Or.inr ⟨j, hp⟩)⟩
    · cases j with
      | some j =>
        cases hj : j.ph with
        | starting => exact ⟨.exec, i, hi, j, Or.inr hp, hh, hj⟩
        | runL => exact ⟨.apiRun, i, hi, j, by simp [hp, IPh.job], hj⟩
        | runR => exact ⟨.complete, i, hi, j, by simp [hp, IPh.job], hj⟩
        | deadL => exact ⟨.noticeDead, i, hi, j, hp, hh, Or.inl hj⟩
        | deadR => exact ⟨.noticeDead, i, hi, j, hp, hh, Or.inr hj⟩
        | done => exact ⟨.jobGone, i, hi, j, hp, hh, hj⟩
      | none =>
        cases hh' : i.health with
        | broken => exact absurd hh' hh
        | drain => exact ⟨.drainShutdown, i, hi, Or.inr hp, hh'⟩
        | ok =>
          by_cases hr : s.recovering = true
          · exact ⟨.idleTimeout, i, hi, hp, hh', Or.inl hr⟩
          · by_cases hw : waiting s.ctrs i.ty = 0
            · exact ⟨.idleTimeout, i, hi, hp, hh', Or.inr hw⟩
            · have hr' : s.recovering = false := by simpa using hr
              have hpos : 0 < waiting s.ctrs i.ty := Nat.pos_of_ne_zero hw
              unfold waiting at hpos
              obtain ⟨c, hc, hcp⟩ := List.countP_pos_iff.mp hpos
              simp only [Bool.and_eq_true, beq_iff_eq] at hcp
              exact ⟨.start, hr', c, hc, i, hi, hcp.1, hp, hh', hcp.2.symm⟩

theorem progress (s : LState) (hT : TypesOK s) (hg : ¬ (AllFinal s ∧ NoInstances s)) : ∃ k, Stable k s := by
  by_cases hq : s.atQuota = true
  · exact ⟨.quotaExpire, hq, Or.inl rfl⟩
  have hq : s.atQuota = false := by simpa using hq
  suffices h : ∃ k, Enabled k s from h.imp fun k hk => ⟨hk, Or.inr hq⟩
  by_cases hex : ∃ i ∈ s.insts, i.ph ≠ .gone
  · obtain ⟨i, hi, hgone⟩ := hex
    exact progress_inst s i hi hgone
  have hno : NoInstances s := fun i hi => Decidable.of_not_not fun h => hex ⟨i, hi, h⟩
  -- no instance: nothing is Unknown, and some free container is not final
  have nou : ∀ i ∈ s.insts, ∀ j, i.ph ≠ .unknown j := fun i hi j hj => nomatch (hno i hi).symm.trans hj
  obtain ⟨c, hcm, hcf⟩ : ∃ c ∈ s.ctrs, c.ph ≠ .fin := Classical.byContradiction fun hc =>
    hg ⟨⟨fun c hm => Decidable.of_not_not fun h => hc ⟨c, hm, h⟩,
      fun i hi j hj => nomatch (congrArg IPh.job (hno i hi)).symm.trans hj⟩, hno⟩
  by_cases hr : s.recovering = true
  · exact ⟨.recoveryDone, hr, fun i hi j => nou i hi (some j)⟩
  have hr : s.recovering = false := by simpa using hr
  cases hp : c.ph with
  | fin => exact absurd hp hcf
  | queued => exact ⟨.lock, hr, hq, c, hcm, hp⟩
  | exitedL => exact ⟨.requeue, hr, c, hcm, hp⟩
  | lockedStale => exact ⟨.staleResolve, hr, c, hcm, hp⟩
  | lostR => exact ⟨.cancel, hr, nou, c, hcm, hp⟩
  | locked =>
    refine ⟨.create, hr, hq, c.ty, hT.1 c hcm, ?_⟩
    have h0 : unallocReal s.insts c.ty = 0 :=
      List.countP_eq_zero.mpr fun i hi => by simp [Inst.unallocReal, hno i hi]
    have h1 : 0 < waiting s.ctrs c.ty := List.countP_pos_iff.mpr ⟨c, hcm, by simp [hp]⟩
    omega

theorem not_enabled_at_rest (s : LState) (hq : s.atQuota = false) (hr : s.recovering = false)
    (hc : ∀ c ∈ s.ctrs, c.ph = .fin) (hi : NoInstances s) (k : Kind) : ¬ Enabled k s := by
  intro h
  cases k with
  | lock | cancel => obtain ⟨_, _, c, hm, h⟩ := h; rw [hc c hm] at h; cases h
  | requeue | staleResolve => obtain ⟨_, c, hm, h⟩ := h; rw [hc c hm] at h; cases h
  | start => obtain ⟨_, c, hm, _, _, h, _⟩ := h; rw [hc c hm] at h; cases h
  | create =>
    obtain ⟨_, _, t, _, h⟩ := h
    have : waiting s.ctrs t = 0 := List.countP_eq_zero.mpr (fun c hm => by simp [hc c hm])
    omega
  | recoveryDone => exact absurd (hr.symm.trans h.1) (by decide)
  | quotaExpire => exact absurd (hq.symm.trans h) (by decide)
  | createDone => obtain ⟨i, hm, h⟩ := h; rw [hi i hm] at h; cases h
  | boot | idleTimeout => obtain ⟨i, hm, h, _⟩ := h; rw [hi i hm] at h; cases h
  | destroyRetry | destroyOk => obtain ⟨i, hm, _, h⟩ := h; rw [hi i hm] at h; cases h
  | probeUnknown | noticeDead | jobGone | apiRun | complete =>
    obtain ⟨i, hm, _, h, _⟩ := h; rw [hi i hm] at h; cases h
  | drainShutdown => obtain ⟨i, hm, h | h, _⟩ := h <;> rw [hi i hm] at h <;> cases h
  | brokenTimeout => obtain ⟨i, hm, _, h | ⟨_, h⟩ | ⟨_, h⟩⟩ := h <;> rw [hi i hm] at h <;> cases h
  | exec => obtain ⟨i, hm, _, h | h, _⟩ := h <;> rw [hi i hm] at h <;> cases h

end ArvVerif.C15
