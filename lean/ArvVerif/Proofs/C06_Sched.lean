/-
C06(a) proofs: a finite schedule of modify/add/delete operations (as the correspondence check
scripts them) yields an environment function that satisfies the hypotheses of the completeness
theorem, provided no operation deletes or re-adds a collection of `P` and modifications of
`P`-collections never move modified_at backwards.
-/
import ArvVerif.Proofs.C06_Paging
namespace ArvVerif.C06

def OpOK (P : List Nat) (db : List Coll) : Op → Prop
  | .modify u t => u ∈ P → ∀ c ∈ db, c.uuid = u → c.time ≤ t
  | .add u _ => u ∉ P
  | .del u => u ∉ P

def OpsOK (P : List Nat) : List Coll → List Op → Prop
  | _, [] => True
  | db, op :: rest => OpOK P db op ∧ OpsOK P (applyOp db op) rest

def SchedOK (P : List Nat) : List Coll → List (List Op) → Prop
  | _, [] => True
  | db, ops :: rest => OpsOK P db ops ∧ SchedOK P (applyOps db ops) rest

def Present (P : List Nat) (db : List Coll) : Prop := ∀ u ∈ P, ∃ c ∈ db, c.uuid = u

theorem env_refl {P db} (h : Present P db) : Env P db db :=
  ⟨h, fun c' hc' _ => ⟨c', hc', rfl, Nat.le_refl _⟩⟩

theorem env_trans {P a b c} (h1 : Env P a b) (h2 : Env P b c) : Env P a c := by
  refine ⟨h2.stay, ?_⟩
  intro c' hc' hP
  obtain ⟨b', hb', hu, ht⟩ := h2.mono c' hc' hP
  obtain ⟨a', ha', hu', ht'⟩ := h1.mono b' hb' (hu ▸ hP)
  exact ⟨a', ha', hu'.trans hu, Nat.le_trans ht' ht⟩

theorem applyOp_nodup {db : List Coll} (op : Op) (h : (db.map Coll.uuid).Nodup) :
    ((applyOp db op).map Coll.uuid).Nodup := by
  cases op with
  | modify u t =>
    simp only [applyOp, List.map_map]
    have : (Coll.uuid ∘ fun c => if c.uuid = u then { c with time := t } else c) = Coll.uuid := by
      funext c; simp only [Function.comp]; split <;> rfl
    rw [this]; exact h
  | add u t =>
    simp only [applyOp, List.map_append, List.map_cons, List.map_nil]
    refine List.nodup_append.mpr ⟨h.sublist (List.filter_sublist.map _), by simp, fun a ha b hb => ?_⟩
    obtain ⟨c, hc, rfl⟩ := List.mem_map.1 ha
    rw [List.mem_singleton.1 hb]
    exact of_decide_eq_true (List.mem_filter.1 hc).2
  | del u => exact h.sublist (List.filter_sublist.map _)

theorem del_env {P : List Nat} {db : List Coll} {u : Nat} (hP : Present P db) (hu : u ∉ P) :
    Env P db (db.filter (fun c => c.uuid ≠ u)) :=
  ⟨fun p hp => by
      obtain ⟨c, hc, rfl⟩ := hP p hp
      exact ⟨c, List.mem_filter.2 ⟨hc, decide_eq_true fun h => hu (h ▸ hp)⟩, rfl⟩,
   fun c' hc' _ => ⟨c', (List.mem_filter.1 hc').1, rfl, Nat.le_refl _⟩⟩

theorem applyOp_env {P : List Nat} {db : List Coll} (op : Op) (hP : Present P db) (hok : OpOK P db op) :
    Env P db (applyOp db op) := by
  cases op with
  | modify u t =>
    simp only [OpOK] at hok
    refine ⟨?_, ?_⟩
    · intro p hp
      obtain ⟨c, hc, hcu⟩ := hP p hp
      exact ⟨_, List.mem_map_of_mem hc, by split <;> exact hcu⟩
    · intro c' hc' hcP
      simp only [applyOp, List.mem_map] at hc'
      obtain ⟨c, hc, rfl⟩ := hc'
      by_cases hcu : c.uuid = u
      · simp only [hcu, if_true] at hcP ⊢
        exact ⟨c, hc, hcu, hok hcP c hc hcu⟩
      · simp only [hcu, if_false] at hcP ⊢
        exact ⟨c, hc, rfl, Nat.le_refl _⟩
  | add u t =>
    have e := del_env hP hok
    exact ⟨fun p hp => (e.stay p hp).imp fun c h => ⟨List.mem_append_left _ h.1, h.2⟩,
      fun c' hc' hcP => (List.mem_append.1 hc').elim (fun h => e.mono c' h hcP)
        fun h => absurd (show u ∈ P by rw [List.mem_singleton.1 h] at hcP; exact hcP) hok⟩
  | del u => exact del_env hP hok

theorem applyOps_nodup (ops : List Op) (db : List Coll) (h : (db.map Coll.uuid).Nodup) :
    ((applyOps db ops).map Coll.uuid).Nodup := by
  induction ops generalizing db with
  | nil => exact h
  | cons op rest ih => exact ih _ (applyOp_nodup op h)

theorem applyOps_env {P : List Nat} (ops : List Op) (db : List Coll) (hP : Present P db) (hok : OpsOK P db ops) :
    Env P db (applyOps db ops) := by
  induction ops generalizing db with
  | nil => exact env_refl hP
  | cons op rest ih =>
    have e1 := applyOp_env op hP hok.1
    exact env_trans e1 (ih _ e1.stay hok.2)

theorem envOf_ok {P : List Nat} (sched : List (List Op)) (db : List Coll)
    (hnd : (db.map Coll.uuid).Nodup) (hP : Present P db) (hok : SchedOK P db sched) :
    (∀ k, ((envOf db sched k).map Coll.uuid).Nodup) ∧ Present P (envOf db sched 0) ∧
    (∀ k, Env P (envOf db sched k) (envOf db sched (k + 1))) := by
  induction sched generalizing db with
  | nil => exact ⟨fun _ => hnd, hP, fun _ => env_refl hP⟩
  | cons ops rest ih =>
    have hnd' := applyOps_nodup ops db hnd
    have e1 := applyOps_env ops db hP hok.1
    obtain ⟨i1, i2, i3⟩ := ih (applyOps db ops) hnd' e1.stay hok.2
    refine ⟨?_, e1.stay, ?_⟩
    · intro k
      cases k with
      | zero => exact hnd'
      | succ k => exact i1 k
    · intro k
      cases k with
      | zero =>
        show Env P (applyOps db ops) (envOf (applyOps db ops) rest 0)
        cases rest with
        | nil => exact env_refl e1.stay
        | cons ops1 r => exact applyOps_env ops1 _ e1.stay hok.2.1
      | succ k => exact i3 k

theorem envOf_const (sched : List (List Op)) (db : List Coll) (j : Nat) : sched.length ≤ j →
    envOf db sched j = envOf db sched sched.length := by
  fun_induction envOf db sched j
  case case1 => exact fun _ => rfl
  case case2 => exact fun h => absurd h (by simp)
  case case3 ih => exact fun h => ih (Nat.le_of_succ_le_succ h)

end ArvVerif.C06
