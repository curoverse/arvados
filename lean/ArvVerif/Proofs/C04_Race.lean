/-
C04 interleaving layer: what the table check says of `run sched (init c)` for EVERY schedule `sched : List Bool`.
`run_ok` is `checkTable_run` on the kernel-checked tables of `Proofs/C04_RaceCheck0..3.lean`; the theorems after it
read off the conjuncts of `okAll c` one by one. Progress of the fair round, with `round_rank`, gives `pairs_finish`:
`k` rounds P, T finish both threads from a state of rank ≤ k (no deadlock).
-/
import ArvVerif.Proofs.C04_RaceSteps
import ArvVerif.Proofs.C04_RaceCheck0
import ArvVerif.Proofs.C04_RaceCheck1
import ArvVerif.Proofs.C04_RaceCheck2
import ArvVerif.Proofs.C04_RaceCheck3
namespace ArvVerif.C04.Race

theorem check_of (c : Cfg) : checkAll c = true := by
  have hm := mem_cfgGroup c
  cases hs : c.serialize <;> cases hl : c.life0 <;> rw [hs, hl] at hm
  · exact (List.all_eq_true.mp checkGroup0) c hm
  · exact (List.all_eq_true.mp checkGroup1) c hm
  · exact (List.all_eq_true.mp checkGroup2) c hm
  · exact (List.all_eq_true.mp checkGroup3) c hm

theorem run_ok (c : Cfg) (sched : List Bool) : okAll c (run sched (init c)) = true :=
  checkTable_run (check_of c) sched

theorem run_contract (c : Cfg) (sched : List Bool) :
    ¬ ((run sched (init c)).resP = .okTouch ∧ (run sched (init c)).resT = .trashed) := by
  have h := ((okAll_iff c _).mp (run_ok c sched)).1
  intro ⟨h1, h2⟩
  simp [contract, h1, h2] at h

theorem run_ackSafe (c : Cfg) (htop : c.top ≠ .untrash) (sched : List Bool) :
    ackSafe (run sched (init c)) = true := by
  simpa only [htop, if_false] using ((okAll_iff c _).mp (run_ok c sched)).2.1

/-- with an untrash as second thread: at quiescence -/
theorem run_ackSafe_fin (c : Cfg) (sched : List Bool) (hf : finished (run sched (init c)) = true) :
    ackSafe (run sched (init c)) = true := by
  have h := ((okAll_iff c _).mp (run_ok c sched)).2.1
  split at h
  · simpa [hf] using h
  · exact h

theorem lin_run (c : Cfg) (sched : List Bool) (hfin : finished (run sched (init c)) = true) :
    Compose.obsR (run sched (init c)) = (linOf c).1 ∨ Compose.obsR (run sched (init c)) = (linOf c).2 := by
  have h := ((okAll_iff c _).mp (run_ok c sched)).2.2.2
  simpa only [linLocal, hfin, Bool.not_true, Bool.false_or, Bool.or_eq_true, decide_eq_true_eq] using h

theorem pairs_finish (c : Cfg) :
    ∀ (k : Nat) (sched : List Bool), rank (run sched (init c)) ≤ k →
      finished (run (pairs k) (run sched (init c))) = true := by
  intro k
  induction k with
  | zero => intro sched hr; exact rank_zero_finished (Nat.le_zero.mp hr)
  | succ k ih =>
    intro sched hr
    cases ((okAll_iff c _).mp (run_ok c sched)).2.2.1 with
    | inl hf => rw [run_finished hf]; exact hf
    | inr hmove =>
      have hlt := round_rank _ hmove
      have := ih (sched ++ [true, false]) (by rw [run_append]; exact Nat.le_of_lt_succ (Nat.lt_of_lt_of_le hlt hr))
      rwa [run_append] at this

end ArvVerif.C04.Race
