/-
C04 sequential layer: the protection invariant `Prot` over arbitrary request histories.

The acknowledgements are a ghost (`runG`). Per volume (`step_map`), `Keeps` says that a copy stamped ≥ t stays while
now < t + TTL (`volStep_keeps`, one case per kind of step); from it `protQ_step`, for any demand `G` on the intactness
of the surviving copy (`Prot`: none; `Proofs/C04_HistGood.lean`: intact).
-/
import ArvVerif.Proofs.C04_Step
namespace ArvVerif.C04

abbrev Ghost := Hash → Option Time

def ackOf : Op → Res → Option Hash
  | .put h true, .code 200 => some h
  | .touch h, .code 200 => some h
  | _, _ => none

def ghostStep (g : Ghost) (now : Time) (op : Op) (r : Res) : Ghost :=
  match ackOf op r with
  | some h => fun h' => if h' = h then some now else g h'
  | none => g

def runG (c : Cfg) : St → Ghost → List Op → St × Ghost
  | s, g, [] => (s, g)
  | s, g, op :: ops => runG c (step c s op).1 (ghostStep g s.now op (step c s op).2) ops

theorem runG_fst (c : Cfg) : ∀ (ops : List Op) (s : St) (g : Ghost), (runG c s g ops).1 = (run c s ops).1
  | [], _, _ => rfl
  | _ :: ops, _, _ => runG_fst c ops _ _

def HoldsL (vs : List Vol) (h : Hash) (t : Time) : Prop :=
  ∃ v ∈ vs, ∃ f, v.blocks h = some f ∧ t ≤ f.mtime

/-- THE invariant: every acknowledged hash whose TTL has not run out is still on the server, with a
timestamp not older than the acknowledgement -/
def Prot (c : Cfg) (s : St) (g : Ghost) : Prop :=
  ∀ h t, g h = some t → t ≤ s.now ∧ (s.now < t + c.ttl → HoldsL s.vols h t)

def Holds (G : Bool → Prop) (vs : List Vol) (h : Hash) (t : Time) : Prop :=
  ∃ v ∈ vs, ∃ f, v.blocks h = some f ∧ t ≤ f.mtime ∧ G f.good

/-- `Prot` with a demand `G` on the intactness of the copy that is still there. `Prot` is the case of no
demand; `G = (· = true)`, for acknowledged PUTs only, is the invariant of `Proofs/C04_HistGood.lean`. -/
def ProtQ (G : Bool → Prop) (c : Cfg) (s : St) (g : Ghost) : Prop :=
  ∀ h t, g h = some t → t ≤ s.now ∧ (s.now < t + c.ttl → Holds G s.vols h t)

theorem protQ_true {c : Cfg} {s : St} {g : Ghost} : ProtQ (fun _ => True) c s g ↔ Prot c s g := by
  simp [ProtQ, Prot, Holds, HoldsL]

variable {G : Bool → Prop}

def Keeps (G : Bool → Prop) (h : Hash) (t : Time) (v v' : Vol) : Prop :=
  ∀ f, v.blocks h = some f → t ≤ f.mtime → G f.good → ∃ f', v'.blocks h = some f' ∧ t ≤ f'.mtime ∧ G f'.good

theorem keeps_of_eq {h : Hash} {t : Time} {v v' : Vol} (he : v'.blocks h = v.blocks h) : Keeps G h t v v' :=
  fun f hf ht hg => ⟨f, he ▸ hf, ht, hg⟩

theorem keeps_setBlock {h h' : Hash} {t : Time} {v : Vol} {f' : File} (tr : List TrashEnt) (ht : t ≤ f'.mtime)
    (hg : ∀ f, v.blocks h = some f → G f.good → G f'.good) :
    Keeps G h' t v { v.setBlock h (some f') with trash := tr } := by
  intro f hf hft hgf
  by_cases he : h' = h
  · subst he
    exact ⟨f', setBlock_same .., ht, hg f hf hgf⟩
  · exact ⟨f, (setBlock_other v _ he).trans hf, hft, hgf⟩

/-- `hclean`: what an untrash restores satisfies `G` -/
theorem volStep_keeps (hG : G true) {c : Cfg} {s : St} {op : Op} {v v' : Vol} (hs : VolStep c s op v v')
    {h : Hash} {t : Time} (ht : t ≤ s.now) (hlt : s.now < t + c.ttl)
    (hclean : ∀ h0, op = .untrash h0 → v.ro = false → ∀ e, minEntry h0 v.trash = some e → G e.file.good) :
    Keeps G h t v v' := by
  cases hs with
  | same | sweep => exact keeps_of_eq rfl
  | touch h0 f0 hf0 => exact keeps_setBlock v.trash ht fun f hf hg => by rw [hf0] at hf; cases hf; exact hg
  | write h0 => exact keeps_setBlock v.trash ht fun _ _ _ => hG
  | trash h0 f0 hf0 hold =>
    -- only a copy stamped before `s.now - ttl`, hence before `t`, is removed
    by_cases he : h = h0
    · subst he
      intro f hf hft _
      rw [hf] at hf0
      cases hf0
      exact absurd (Nat.lt_of_lt_of_le hlt (Nat.add_le_add_right hft _)) hold
    · exact keeps_of_eq (setBlock_other v none he)
  | untrash h0 hop e hro he =>
    exact keeps_setBlock _ (Nat.le_trans ht (Nat.le_add_right _ _)) fun _ _ _ => hclean h0 hop hro e he

theorem holds_updVol {vs : List Vol} {v : Vol} (F : Vol → Vol) {h : Hash} {t : Time} {f : File} (hv : v ∈ vs)
    (hf : (F v).blocks h = some f) (ht : t ≤ f.mtime) (hg : G f.good) : Holds G (updVol vs v.id F) h t :=
  ⟨F v, List.mem_map.mpr ⟨v, hv, by simp⟩, f, hf, ht, hg⟩

theorem put_holds (hG : G true) (c : Cfg) (s : St) (h : Hash) :
    (step c s (.put h true)).2 = .code 200 → Holds G (step c s (.put h true)).1.vols h s.now := by
  simp only [step]
  split
  · simp
  · split
    · simp
    · split
      · rename_i id hcat
        obtain ⟨v, hvw, rfl, f, hf, hgood⟩ := compareAndTouch_some hcat
        obtain ⟨hv, hro⟩ := mem_writables hvw
        exact fun _ => holds_updVol (f := { f with mtime := s.now }) _ hv
          (by simp [Vol.touch, hro, hf, Vol.setBlock]) (Nat.le_refl _) (hgood ▸ hG)
      · split
        · rename_i w0 hw0
          split
          · rename_i w hw
            have hv := (mem_writables (pickTarget_mem (List.mem_of_getElem? hw0) hw)).1
            exact fun _ => holds_updVol (f := { good := true, mtime := s.now }) _ hv
              (by simp [Vol.write, Vol.setBlock]) (Nat.le_refl _) hG
          · simp
        · simp

theorem touch_holds (c : Cfg) (s : St) (h : Hash) :
    (step c s (.touch h)).2 = .code 200 → Holds (fun _ => True) (step c s (.touch h)).1.vols h s.now := by
  simp only [step]
  split
  · rename_i id hfh
    obtain ⟨v, hvw, rfl, f, hf⟩ := firstHolding_some hfh
    obtain ⟨hv, hro⟩ := mem_writables hvw
    exact fun _ => holds_updVol (f := { f with mtime := s.now }) _ hv
      (by simp [Vol.touch, hro, hf, Vol.setBlock]) (Nat.le_refl _) trivial
  · simp

/-- `a`: the hash the request acknowledges, if any. The new ghost is written as the `match` that both `ghostStep` and
`ghostStepP` unfold to. -/
theorem protQ_step (hG : G true) {c : Cfg} {s : St} {g : Ghost} (hp : ProtQ G c s g) (op : Op)
    (hclean : ∀ h0, op = .untrash h0 → ∀ v ∈ s.vols, v.ro = false → ∀ e, minEntry h0 v.trash = some e → G e.file.good)
    (a : Option Hash) (ha : ∀ h, a = some h → Holds G (step c s op).1.vols h s.now) :
    ProtQ G c (step c s op).1
      (match (generalizing := false) a with
       | some h => fun h' => if h' = h then some s.now else g h'
       | none => g) := by
  have hnow := step_now_ge c s op
  -- what was acknowledged before survives the step
  have hk : ProtQ G c (step c s op).1 g := by
    obtain ⟨F, hF, hv⟩ := step_map c s op
    intro h t hg
    obtain ⟨h1, h2⟩ := hp h t hg
    refine ⟨Nat.le_trans h1 hnow, fun hlt => ?_⟩
    have hlt' := Nat.lt_of_le_of_lt hnow hlt
    obtain ⟨v, hvm, f, hf, hft, hgf⟩ := h2 hlt'
    obtain ⟨f', hf', hft', hgf'⟩ :=
      volStep_keeps hG (hv v) h1 hlt' (fun h0 hop => hclean h0 hop v hvm) f hf hft hgf
    exact ⟨F v, by rw [hF]; exact List.mem_map_of_mem hvm, f', hf', hft', hgf'⟩
  cases a with
  | none => exact hk
  | some h =>
    intro h' t hg
    by_cases he : h' = h
    · subst he
      simp only [if_true, Option.some.injEq] at hg
      subst hg
      exact ⟨hnow, fun _ => ha _ rfl⟩
    · simp only [he, if_false] at hg
      exact hk h' t hg

theorem ackOf_some {op : Op} {r : Res} {h : Hash} (ha : ackOf op r = some h) :
    r = .code 200 ∧ (op = .put h true ∨ op = .touch h) := by
  unfold ackOf at ha
  split at ha <;> simp_all

theorem prot_step {c : Cfg} {s : St} {g : Ghost} (hp : Prot c s g) (op : Op) :
    Prot c (step c s op).1 (ghostStep g s.now op (step c s op).2) := by
  refine protQ_true.mp (protQ_step trivial (protQ_true.mpr hp) op (fun _ _ _ _ _ _ _ => trivial) _ fun h ha => ?_)
  obtain ⟨hr, rfl | rfl⟩ := ackOf_some ha
  · exact put_holds trivial c s h hr
  · exact touch_holds c s h hr

theorem prot_run {c : Cfg} : ∀ (ops : List Op) (s : St) (g : Ghost), Prot c s g →
    Prot c (runG c s g ops).1 (runG c s g ops).2
  | [], _, _, hp => hp
  | op :: ops, _, _, hp => prot_run ops _ _ (prot_step hp op)

end ArvVerif.C04
