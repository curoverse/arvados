/-
C10 — the Go manifest package's range mapper (`sendFileSegmentIterByName`: firstBlock + block loop)
agrees with the reference interpreter `resolveTok` on every file token that lies inside its stream,
and never reaches one of its `panic`s there.
-/
import ArvVerif.Proofs.C10_Resolve
namespace ArvVerif.C10

/-- (locator, blockPos, blockEnd) triples of a block list laid out from `base` -/
def spansFrom : Nat → List Loc → List (Bytes × Nat × Nat)
  | _, [] => []
  | base, b :: rest => (b.text, base, base + b.size) :: spansFrom (base + b.size) rest

theorem spansOf_plain : ∀ (bs : List Loc) (base : Nat), spansOf bs (plainOffsets base bs) = spansFrom base bs
  | [], base => by simp [spansOf, spansFrom]
  | b :: rest, base => by
    obtain ⟨tl, htl⟩ := plainOffsets_head rest (base + b.size)
    have ih := spansOf_plain rest (base + b.size)
    simp only [spansOf, plainOffsets, spansFrom, htl, List.tail_cons, List.zip_cons_cons, List.map_cons] at ih ⊢
    rw [ih]

theorem spansFrom_drop : ∀ (bs : List Loc) (base i : Nat),
    (spansFrom base bs).drop i = spansFrom (base + streamLen (bs.take i)) (bs.drop i)
  | [], base, i => by simp [spansFrom]
  | b :: rest, base, 0 => by simp
  | b :: rest, base, i + 1 => by
    simp only [spansFrom, List.drop_succ_cons, List.take_succ_cons, streamLen_cons]
    rw [spansFrom_drop rest (base + b.size) i]
    congr 1; omega

theorem toI64_subU64 {a b : Nat} (hba : b ≤ a) (ha : a < two64) (hd : a - b < two63) :
    toI64 (subU64 a b) = (a : Int) - (b : Int) := by
  unfold toI64 subU64
  unfold two64 two63 at *
  split <;> omega

theorem keepPositive_cons (p : PSeg) (ps : List PSeg) :
    keepPositive (p :: ps) =
      (if p.len > 0 then [⟨p.loc, p.off.toNat, p.len.toNat⟩] else []) ++ keepPositive ps := by
  by_cases h : p.len > 0 <;> simp [keepPositive, h]

theorem keepPositive_append (a b : List PSeg) : keepPositive (a ++ b) = keepPositive a ++ keepPositive b := by
  simp [keepPositive, List.filterMap_append]

/-- `bs` = the blocks from the one `firstBlock` found on, laid out from `base`; the hypothesis on `bs.head?` is what
the search guarantees (the first block ends after `wantPos`), so the loop's `panic` test never fires. -/
theorem sendLoop_spec (wantPos wl : Nat) (hwl : wantPos < wl) :
    ∀ (bs : List Loc) (base : Nat),
      (∀ b ∈ bs, b.size < two63) → base + streamLen bs < two64 →
      (∀ b ∈ bs.head?, wantPos < base + b.size) →
      ∃ segs, sendLoop wantPos wl (spansFrom base bs) = .ok segs ∧
        keepPositive segs = resolveTok bs base wantPos (wl - wantPos) := by
  intro bs
  induction bs with
  | nil => intro base _ _ _; exact ⟨[], rfl, rfl⟩
  | cons b rest ih =>
    intro base hsz htot hpre
    obtain ⟨hb, hrest⟩ := List.forall_mem_cons.mp hsz
    have hnp : wantPos < base + b.size := hpre b rfl
    simp only [streamLen_cons] at htot
    simp only [spansFrom, sendLoop]
    rw [if_neg (by omega)]
    by_cases hbrk : base ≥ wl
    · rw [if_pos hbrk, resolveTok_nil_of_ge _ _ _ _ (by omega)]
      exact ⟨[], rfl, rfl⟩
    · rw [if_neg hbrk]
      obtain ⟨segs', hs', hk'⟩ := ih (base + b.size) hrest (by omega) (fun b' _ => by omega)
      rw [hs']
      refine ⟨_, rfl, ?_⟩
      rw [keepPositive_cons, hk', resolveTok_cons]
      congr 1
      have h2 : two64 = 2 * two63 := rfl
      -- both ends of every uint64 difference taken here lie in this block, so it is the plain difference
      have e : ∀ a, base ≤ a → a ≤ base + b.size → toI64 (subU64 a base) = (a : Int) - base :=
        fun a h1 h2 => toI64_subU64 h1 (by omega) (by omega)
      have hoff : (if base < wantPos then toI64 (subU64 wantPos base) else 0) =
          ((max wantPos base - base : Nat) : Int) := by
        split
        · rw [e wantPos (by omega) (by omega)]; omega
        · omega
      dsimp only
      rw [hoff, e (base + b.size) (by omega) (Nat.le_refl _)]
      apply keep_eq_piece _ _ _ _ _ _ rfl
      split
      · rw [e wl (by omega) (by omega)]; omega
      · split <;> omega

/-- Block sizes `< 2^63` are what `ParseInt` guarantees. This is the statement that failed before fix
584d30b. -/
theorem sendTok_spec (name : Bytes) (bs : List Loc) (files : List FTok) (f : FTok)
    (hsz : ∀ b ∈ bs, b.size < two63) (htot : streamLen bs < two64)
    (hin : f.pos + f.len ≤ streamLen bs) :
    ∃ segs, sendTok firstBlock ⟨name, bs, offsetsFrom 0 bs, files, false⟩ f = .ok segs ∧
      keepPositive segs = resolveTok bs 0 f.pos f.len := by
  unfold sendTok
  by_cases h0 : f.len = 0
  · rw [if_pos h0, h0, resolveTok_len0]
    exact ⟨_, rfl, by simp [keepPositive]⟩
  · rw [if_neg h0]
    obtain ⟨i, hil, h1, h2⟩ := exists_inBlock bs f.pos (by omega)
    have hlen : 2 ≤ (plainOffsets 0 bs).length := by rw [plainOffsets_length]; omega
    simp only []
    rw [offsetsFrom_eq_plain bs 0 (by omega),
      (firstBlock_found_iff _ _ i hlen (plainOffsets_sorted bs 0)).mpr (inBlock_of_take bs f.pos i hil h1 h2)]
    simp only []
    rw [spansOf_plain, spansFrom_drop, Nat.mod_eq_of_lt (by omega), resolveTok_drop bs 0 f.pos f.len i (by omega)]
    have hsplit := streamLen_take_drop bs i
    have := sendLoop_spec f.pos (f.pos + f.len) (by omega) (bs.drop i) (0 + streamLen (bs.take i))
      (fun x hx => hsz x (List.mem_of_mem_drop hx)) (by omega)
      (fun b hb => by rw [List.drop_eq_getElem_cons hil] at hb; cases hb; omega)
    rwa [Nat.add_sub_cancel_left] at this

end ArvVerif.C10
