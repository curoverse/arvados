/-
C13: the `Write` step of the concurrent model (C08's `filenode.Write` without
`settle`, then the fresh pruneMemSegments marks become tokens) refines the plain `pwrite` and keeps
the invariant.
-/
import ArvVerif.Proofs.C13_Sim
import ArvVerif.Proofs.C13_Marks
namespace ArvVerif.C13
open ArvVerif.C08

variable {max : Nat} {hash : Bytes → Loc}

/-- The token invariant as a `MarkPred`: `MarkOK` of the marks that are tokens. The marks `pruneSegs` sets
during the call (captured length ≤ `max`) are not judged; `tokenizeFrom` turns them into tokens. -/
def GTok (max : Nat) (hash : Bytes → Loc) (world : Store) (toks : List Tok) (b : Bytes) (fl : Flush) : Prop :=
  ∀ t, fl = Flush.pending t (max + 1) → TokOK hash world toks t b

theorem GTok.pred (world : Store) (toks : List Tok) : MarkPred max (GTok max hash world toks) :=
  ⟨⟨nofun, fun _ _ n h t e => (h t e).take n⟩,
   fun b i hb t e => by have := (Flush.pending.inj e).2; omega⟩

variable {world world' st : Store} {toks more : List Tok} {b : Bytes} {fl : Flush}

theorem GTok.of_mark (h : MarkOK max hash world toks (Seg.mem b fl)) : GTok max hash world toks b fl := by
  intro t e
  subst e
  exact h.2

theorem GTok.mono (he : StoreExt world world') (h : GTok max hash world toks b fl) : GTok max hash world' (toks ++ more) b fl :=
  fun t e => (h t e).mono he

/-- what `tokenizeFrom` promises about its output `out` for the input `segs`; `toks` is the final
token table -/
def TokSpec (max : Nat) (hash : Bytes → Loc) (st : Store) (toks : List Tok) (out segs : List Seg) : Prop :=
  out.map Seg.len = segs.map Seg.len ∧ out.map (Seg.bytes st) = segs.map (Seg.bytes st) ∧
  (∀ sg ∈ out, SegWF max hash st sg) ∧ (∀ sg ∈ out, MarkOK max hash st toks sg)

theorem TokSpec.cons {x sg : Seg} {out segs : List Seg} (h1 : x.len = sg.len)
    (h2 : x.bytes st = sg.bytes st) (h3 : SegWF max hash st x) (h4 : MarkOK max hash st toks x)
    (h : TokSpec max hash st toks out segs) : TokSpec max hash st toks (x :: out) (sg :: segs) :=
  ⟨by rw [List.map_cons, List.map_cons, h1, h.1], by rw [List.map_cons, List.map_cons, h2, h.2.1],
   List.forall_mem_cons.mpr ⟨h3, h.2.2.1⟩, List.forall_mem_cons.mpr ⟨h4, h.2.2.2⟩⟩

theorem tokenizeFrom_spec {st0 st : Store} (he : StoreExt st0 st) (f : Nat) : ∀ (segs : List Seg) (pos n : Nat) (toks0 : List Tok),
    toks0.length = n → (∀ sg ∈ segs, SegWF max hash st sg) → AllG (GTok max hash st0 toks0) segs →
    TokSpec max hash st (toks0 ++ (tokenizeFrom max f segs pos n).2.1) (tokenizeFrom max f segs pos n).1 segs := by
  intro segs
  induction segs with
  | nil => intro pos n toks0 _ _ _; exact ⟨rfl, rfl, nofun, nofun⟩
  | cons sg rest ih =>
    intro pos n toks0 hn hwf hG
    obtain ⟨hwf0, hwf'⟩ := List.forall_mem_cons.mp hwf
    have tail := ih (pos + 1) n toks0 hn hwf' (hG.sub (fun _ => List.mem_cons_of_mem _))
    have keep : MarkOK max hash st0 toks0 sg →
        TokSpec max hash st (toks0 ++ (tokenizeFrom max f rest (pos + 1) n).2.1)
          (sg :: (tokenizeFrom max f rest (pos + 1) n).1) (sg :: rest) :=
      fun hm => TokSpec.cons rfl rfl hwf0 (hm.mono he) tail
    cases sg with
    | stored loc size off l => exact keep trivial
    | mem buf fl =>
      cases fl with
      | none => exact keep trivial
      | stale => exact keep trivial
      | pending i l =>
        unfold tokenizeFrom
        dsimp only
        by_cases hl : l = max + 1
        · rw [if_pos hl]
          exact keep ⟨hl, hG _ _ (List.mem_cons_self ..) _ (hl ▸ rfl)⟩
        · rw [if_neg hl]
          by_cases hl2 : l = buf.length
          · -- a fresh pruneMemSegments mark: the snapshot is in Keep, it gets the next token
            rw [if_pos hl2]
            have tail' := ih (pos + 1) (n + 1) (toks0 ++ [⟨buf, 0, some l⟩]) (by simp [hn]) hwf'
              (fun b fl hm => (hG b fl (List.mem_cons_of_mem _ hm)).mono (StoreExt.refl _))
            rw [List.append_assoc] at tail'
            refine TokSpec.cons rfl rfl (segWF_mark hwf0 n) ⟨rfl, ⟨buf, 0, some l⟩, ?_, by simp, ?_⟩ tail'
            · simp [← hn]
            · exact (hwf0.2.2 i l rfl).2 hl2
          · rw [if_neg hl2]
            exact TokSpec.cons rfl rfl (segWF_stale hwf0) trivial tail

theorem doWrite_ref (hinj : Function.Injective hash) (hmax : 1 ≤ max) {s : St} (hinv : Inv13 max hash s)
    (h : Nat) (data : Bytes) :
    (doWrite hash max s h data).2.1 = (step specImpl (absFS s.fs) (Op.write h data)).2 ∧
    absFS (doWrite hash max s h data).1.fs = (step specImpl (absFS s.fs) (Op.write h data)).1 ∧
    Inv13 max hash (doWrite hash max s h data).1 := by
  unfold doWrite step
  simp only [getHandle_abs]
  cases hg : getHandle s.fs h with
  | none => exact ⟨rfl, rfl, hinv⟩
  | some hd =>
    simp only [Option.map_some, absH_node]
    have hwr : (absH hd).wr = hd.wr := rfl
    rw [hwr]
    cases hdwr : hd.wr with
    | false => exact ⟨rfl, rfl, hinv⟩
    | true =>
      simp only [Bool.not_true, Bool.false_eq_true, if_false]
      cases hnode : hd.node with
      | dir d =>
        simp only []
        refine ⟨trivial, by rw [setHandle_abs]; rfl, ⟨?_, hinv.marks⟩⟩
        apply hinv.base.setHandle
        intro f hf; simp at hf
      | file f =>
        simp only [absFS_files, absFiles_get]
        cases hf : s.fs.files[f]? with
        | none => exact ⟨rfl, rfl, hinv⟩
        | some nf =>
          simp only [Option.map_some]
          obtain ⟨hwf, hrep⟩ := hinv.base.files nf (List.mem_of_getElem? hf)
          have hp0 := ite_pred (c := hd.app = true) (appendPtr_ok nf.2) (hinv.base.handle_ptr hg hnode hf)
          obtain ⟨w, hw1, hw2⟩ := write_spec hinj hmax hinv.base.ok hwf hrep hp0 data
          rw [hw1]
          dsimp only [specImpl, absH, pure, Except.pure]
          have hG1 : AllG (GTok max hash s.fs.world s.toks) w.fn.segs :=
            write_G hinj hmax (GTok.pred _ _) hinv.base.ok hwf hrep hp0 data
              (fun _ _ hm => GTok.of_mark (hinv.marks nf (List.mem_of_getElem? hf) _ hm)) hw1
          obtain ⟨t1, t2, t3, t4⟩ := tokenizeFrom_spec hw2.ext f w.fn.segs 0 s.toks.length s.toks rfl hw2.wf.segs hG1
          generalize tokenizeFrom max f w.fn.segs 0 s.toks.length = r at t1 t2 t3 t4 ⊢
          -- the tokenised file is another representation of the written one
          have hk : fileKey w.st { w.fn with segs := r.1 } = fileKey w.st w.fn := by unfold fileKey; rw [t2, t1]
          obtain ⟨a, i⟩ := handleWrite_ref (h := h) hinv.base hnode hf (hw2.key hk t3)
          rw [hnode, hdwr] at a i
          refine ⟨rfl, a, i, ?_⟩
          simp only [setHandle, setFile_world]
          exact AllSegs.setFile (fs := { s.fs with world := w.st })
            (fun nf' h1 sg hsg => (hinv.marks nf' h1 sg hsg).mono hw2.ext) f _ t4

end ArvVerif.C13
