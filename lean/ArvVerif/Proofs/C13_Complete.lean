/-
C13: a completion step (the goroutine tail of pruneMemSegments / async
commitBlock after PutB returned) preserves the invariant and the abstract state, whatever it is
given: any segment reference, any token, success or failure, at any time.
-/
import ArvVerif.Proofs.C13_Sim
namespace ArvVerif.C13
open ArvVerif.C08

variable {max : Nat} {hash : Bytes → Loc}

theorem completeRef_failed (toks : List Tok) (fs : Conc) (r : Nat × Nat × Nat) :
    completeRef hash max toks false fs r = fs := by
  simp [completeRef]

/-- The segment at the captured index no longer carries this very token (overwritten — copy-on-write
reset `flushing` —, dropped, moved, replaced by another flush, or the index is past the end): stale
data is never put back. -/
theorem completeRef_guard (toks : List Tok) (ok : Bool) (fs : Conc) (r : Nat × Nat × Nat)
    (h : ∀ buf, segAt fs r.1 r.2.1 ≠ some (Seg.mem buf (mark max r.2.2))) :
    completeRef hash max toks ok fs r = fs := by
  unfold completeRef
  split
  · rfl
  · split
    · next tk buf t l _ hseg =>
      split
      · next hg =>
        exfalso
        apply h buf
        rw [hseg, hg.1, hg.2.1]; rfl
      · rfl
    · rfl

/-- pruneMemSegments' extra guard: a segment that was resized since the hand-off is left alone. -/
theorem completeRef_resized (toks : List Tok) (ok : Bool) (fs : Conc) (r : Nat × Nat × Nat) {tk : Tok} {n : Nat}
    {buf : Bytes} {fl : Flush}
    (htk : toks[r.2.2]? = some tk) (hp : tk.plen = some n) (hseg : segAt fs r.1 r.2.1 = some (Seg.mem buf fl))
    (hne : buf.length ≠ n) : completeRef hash max toks ok fs r = fs := by
  unfold completeRef
  split
  · rfl
  · rw [htk, hseg]
    cases fl with
    | none => rfl
    | stale => rfl
    | pending t l =>
      exact if_neg (fun hg => hg.2.2.elim (fun h => nomatch hp.symm.trans h)
        (fun h => hne (Option.some.inj (h.symm.trans hp))))

theorem completeRef_replaces (toks : List Tok) (fs : Conc) (r : Nat × Nat × Nat) {tk : Tok} {buf : Bytes}
    (htk : toks[r.2.2]? = some tk) (hseg : segAt fs r.1 r.2.1 = some (Seg.mem buf (mark max r.2.2)))
    (hp : tk.plen = none ∨ tk.plen = some buf.length) :
    completeRef hash max toks true fs r =
      setSegAt fs r.1 r.2.1 (Seg.stored (hash tk.block) tk.block.length tk.off buf.length) := by
  unfold completeRef
  simp only [Bool.not_true, Bool.false_eq_true, if_false, htk, hseg, mark]
  rw [if_pos ⟨trivial, trivial, hp⟩]

theorem completeRef_spec {s : St} (hinv : Inv13 max hash s) (ok : Bool) (r : Nat × Nat × Nat) :
    Quiet max hash s { s with fs := completeRef hash max s.toks ok s.fs r } := by
  by_cases hmk : ∃ buf, segAt s.fs r.1 r.2.1 = some (Seg.mem buf (mark max r.2.2))
  · obtain ⟨buf, hseg⟩ := hmk
    -- the marked segment's bytes are a prefix of the token's piece of the block, which is in Keep
    obtain ⟨_, tk, htk, h2, h3⟩ := hinv.segAt_mark hseg
    cases ok with
    | false => rw [completeRef_failed]; exact Quiet.refl hinv
    | true =>
      by_cases hp : tk.plen = none ∨ tk.plen = some buf.length
      · rw [completeRef_replaces s.toks s.fs r htk hseg hp]
        have hpos : 0 < buf.length := (hinv.segAt_wf hseg).1
        have hlen : buf.length ≤ tk.block.length - tk.off := by
          have := congrArg List.length h2
          simp only [List.length_take, List.length_drop] at this
          omega
        exact hinv.setSegAt hseg rfl (by rw [Seg.bytes_stored h3]; exact h2.symm)
          ⟨hpos, by omega, tk.block, h3, rfl⟩ trivial
      · cases hpl : tk.plen with
        | none => exact absurd (Or.inl hpl) hp
        | some n =>
          rw [completeRef_resized s.toks true s.fs r htk hpl hseg (fun e => hp (Or.inr (e ▸ hpl)))]
          exact Quiet.refl hinv
  · rw [completeRef_guard s.toks ok s.fs r (fun buf h => hmk ⟨buf, h⟩)]
    exact Quiet.refl hinv

theorem completeRefs_spec (ok : Bool) (refs : List (Nat × Nat × Nat)) {s : St} (hinv : Inv13 max hash s) :
    Quiet max hash s { s with fs := completeRefs hash max s.toks ok s.fs refs } :=
  List.foldlRecOn refs _ (motive := fun fs' => Quiet max hash s { s with fs := fs' }) (Quiet.refl hinv)
    (fun _ h r _ => h.trans (completeRef_spec h.1 ok r))

theorem complete_spec {s : St} (hinv : Inv13 max hash s) (g : Nat) (ok : Bool) :
    Quiet max hash s (complete hash max s g ok).1 := by
  unfold complete
  cases s.groups[g]? with
  | none => exact Quiet.refl hinv
  | some grp =>
    dsimp only
    split
    · exact (completeRefs_spec ok grp.refs hinv).groups _
    · exact Quiet.refl hinv

theorem completeAll_spec (mask : Nat) : ∀ (fuel : Nat) {s : St} (g : Nat), Inv13 max hash s →
    Quiet max hash s (completeAll hash max mask fuel s g) := by
  intro fuel
  induction fuel with
  | zero => intro s g hinv; exact Quiet.refl hinv
  | succ fuel ih =>
    intro s g hinv
    unfold completeAll
    split
    · exact Quiet.refl hinv
    · have h1 := complete_spec hinv g (mask.testBit (g % 30))
      exact h1.trans (ih (g + 1) h1.1)

end ArvVerif.C13
