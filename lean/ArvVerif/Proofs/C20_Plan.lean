/-
What `plan` is made of: the filter scan computes the intersection of the uuid filters
(`scan_spec`), `groups` partitions a list of uuids by home cluster (`groups_spec`, `groups_sum`),
and what a `split` plan says about the request (`plan_split`, `plan_split_groups`) with its
converse, the rejection rules (`plan_reject`).
-/
import ArvVerif.Model.C20
import ArvVerif.Proofs.Lib_List
namespace ArvVerif.C20

theorem mem_dedup (l : List Str) (x : Str) : x ∈ dedup l ↔ x ∈ l := by
  induction l with
  | nil => simp [dedup]
  | cons a l ih =>
    unfold dedup
    split
    · rename_i h
      rw [ih, List.mem_cons]
      exact ⟨Or.inr, fun hx => hx.elim (fun e => ih.mp (e ▸ h)) id⟩
    · simp only [List.mem_cons, ih]

theorem nodup_dedup (l : List Str) : (dedup l).Nodup := by
  induction l with
  | nil => exact List.nodup_nil
  | cons a l ih =>
    unfold dedup
    split
    · exact ih
    · exact List.nodup_cons.mpr ⟨‹_›, ih⟩

/-- `u` passes every `uuid =` / `uuid in` filter of `fs` (the statements' "is requested"). -/
def InAll (fs : List Filter) (u : Uuid) : Prop :=
  ∀ f ∈ fs, ∀ us, classifyFilter f = .set us → u ∈ us

/-- `fs` has a well-typed `uuid =` / `uuid in` filter at all (without one the request is not a list-by-uuid). -/
def HasSet (fs : List Filter) : Prop := ∃ f ∈ fs, ∃ us, classifyFilter f = .set us

theorem inAll_cons (f : Filter) (fs : List Filter) (u : Uuid) :
    InAll (f :: fs) u ↔ (∀ us, classifyFilter f = .set us → u ∈ us) ∧ InAll fs u := by
  simp [InAll]

theorem hasSet_cons (f : Filter) (fs : List Filter) :
    HasSet (f :: fs) ↔ (∃ us, classifyFilter f = .set us) ∨ HasSet fs := by
  simp [HasSet]

theorem scan_none_iff (fs : List Filter) (s : Scan) :
    scanFilters fs s = none ↔ ∃ f ∈ fs, classifyFilter f = .bad := by
  induction fs generalizing s with
  | nil => simp [scanFilters]
  | cons f fs ih =>
    unfold scanFilters
    cases hc : classifyFilter f with
    | notSplittable => simp [ih, hc]
    | bad => simp [hc]
    | set us => cases s.matchAll <;> simp [ih, hc]

/-- Go's `matchAllFilters == nil` stands for the set of all uuids: read that way, "in the running
intersection" is `∀ m, matchAll = some m → u ∈ m` and every `.set us` filter intersects with `us`,
whatever the state before. -/
theorem scan_spec {fs : List Filter} {s s' : Scan} (h : scanFilters fs s = some s') :
    (s'.cannotSplit = true ↔ s.cannotSplit = true ∨ ∃ f ∈ fs, classifyFilter f = .notSplittable) ∧
    (s'.matchAll = none ↔ s.matchAll = none ∧ ¬ HasSet fs) ∧
    ((∀ m, s.matchAll = some m → m.Nodup) → ∀ m, s'.matchAll = some m → m.Nodup) ∧
    ∀ u, (∀ m, s'.matchAll = some m → u ∈ m) ↔ (∀ m, s.matchAll = some m → u ∈ m) ∧ InAll fs u := by
  induction fs generalizing s with
  | nil => cases h; simp [HasSet, InAll]
  | cons f fs ih =>
    unfold scanFilters at h
    cases hc : classifyFilter f with
    | notSplittable => rw [hc] at h; simpa [hasSet_cons, inAll_cons, hc] using ih h
    | bad => rw [hc] at h; cases h
    | set us =>
      rw [hc] at h
      cases hm : s.matchAll <;> simp only [hm] at h
      · simpa [hasSet_cons, inAll_cons, hc, hm, mem_dedup, nodup_dedup] using ih h
      · obtain ⟨h1, h2, h3, h4⟩ := ih h
        exact ⟨by simpa [hc] using h1, by simpa using h2,
          fun hn => h3 fun _ e => by cases e; exact (hn _ rfl).filter _,
          fun u => by simpa [inAll_cons, hc, hm, and_assoc] using h4 u⟩

theorem mem_clusterIds {us : List Uuid} {c : ClusterId} : c ∈ clusterIds us ↔ ∃ u ∈ us, home u = c := by
  simp [clusterIds, mem_dedup]

theorem nodup_clusterIds (us : List Uuid) : (clusterIds us).Nodup := nodup_dedup _

theorem mem_groups {us : List Uuid} {g : ClusterId × List Uuid} :
    g ∈ groups us ↔ g.1 ∈ clusterIds us ∧ g.2 = us.filter (fun u => decide (home u = g.1)) := by
  simp only [groups, List.mem_map]
  constructor
  · rintro ⟨c, hc, rfl⟩; exact ⟨hc, rfl⟩
  · rintro ⟨h1, h2⟩
    refine ⟨g.1, h1, ?_⟩
    cases g; simp only at h2 ⊢; rw [h2]

theorem groups_fst (us : List Uuid) : (groups us).map (·.1) = clusterIds us := by
  simp [groups, List.map_map, Function.comp_def]

theorem groups_eq_nil (us : List Uuid) : groups us = [] ↔ us = [] := by
  constructor
  · intro h
    cases us with
    | nil => rfl
    | cons u us =>
      have : home u ∈ clusterIds (u :: us) := mem_clusterIds.mpr ⟨u, List.mem_cons_self, rfl⟩
      rw [← groups_fst, h] at this
      cases this
  · rintro rfl; rfl

theorem groups_spec (us : List Uuid) :
    ((groups us).map (·.1)).Nodup ∧ (∀ g ∈ groups us, g.2 ≠ [] ∧ ∀ u ∈ g.2, home u = g.1) ∧
    ∀ u, (∃ g ∈ groups us, u ∈ g.2) ↔ u ∈ us := by
  refine ⟨by rw [groups_fst]; exact nodup_clusterIds us, fun g hg => ?_, fun u => ⟨?_, fun hu => ?_⟩⟩
  · obtain ⟨h1, h2⟩ := mem_groups.mp hg
    obtain ⟨u, hu, hh⟩ := mem_clusterIds.mp h1
    rw [h2]
    exact ⟨List.ne_nil_of_mem (List.mem_filter.mpr ⟨hu, by simp [hh]⟩),
      fun v hv => by simpa using (List.mem_filter.mp hv).2⟩
  · rintro ⟨g, hg, hu⟩
    rw [(mem_groups.mp hg).2] at hu
    exact (List.mem_filter.mp hu).1
  · exact ⟨(home u, us.filter (fun v => decide (home v = home u))),
      mem_groups.mpr ⟨mem_clusterIds.mpr ⟨u, hu, rfl⟩, rfl⟩,
      List.mem_filter.mpr ⟨hu, by simp⟩⟩

theorem length_filter_disjoint (us : List Uuid) (p q : Uuid → Bool) (hd : ∀ u, p u = true → q u = false) :
    (us.filter p).length + (us.filter q).length = (us.filter (fun u => p u || q u)).length := by
  induction us with
  | nil => rfl
  | cons u us ih =>
    simp only [List.filter_cons]
    cases hp : p u <;> cases hq : q u
    · simpa using ih
    · simp only [Bool.false_or, if_true, List.length_cons, Bool.false_eq_true, if_false]; omega
    · simp only [Bool.true_or, if_true, List.length_cons, Bool.false_eq_true, if_false]; omega
    · have := hd u hp; rw [hq] at this; cases this

theorem sum_filter_home (ks : List ClusterId) (hk : ks.Nodup) (us : List Uuid) :
    (ks.map (fun c => (us.filter (fun u => decide (home u = c))).length)).sum =
      (us.filter (fun u => decide (home u ∈ ks))).length := by
  induction ks with
  | nil => simp [List.filter_eq_nil_iff.mpr]
  | cons c ks ih =>
    obtain ⟨hc, hk'⟩ := List.nodup_cons.mp hk
    rw [List.map_cons, List.sum_cons, ih hk',
      length_filter_disjoint us (fun u => decide (home u = c)) (fun u => decide (home u ∈ ks))
        fun u hu => by rw [of_decide_eq_true hu]; simpa using hc]
    congr 1
    apply List.filter_congr
    intro u _
    simp [List.mem_cons]

theorem groups_sum (us : List Uuid) : ((groups us).map (fun g => g.2.length)).sum = us.length := by
  have hall : us.filter (fun u => decide (home u ∈ clusterIds us)) = us :=
    List.filter_eq_self.mpr fun u hu => decide_eq_true (mem_clusterIds.mpr ⟨u, hu, rfl⟩)
  have h := sum_filter_home (clusterIds us) (nodup_clusterIds us) us
  rw [hall] at h
  rw [← h]
  simp [groups, List.map_map, Function.comp_def]

theorem plan_split {localId : ClusterId} {maxItems : Int} {o : Opts} {gs : List (ClusterId × List Uuid)}
    (h : plan localId maxItems o = .split gs) :
    ∃ m, scanFilters o.filters ⟨false, none⟩ = some ⟨false, some m⟩ ∧
      gs = groups (m.filter wellFormed) ∧
      o.bypass = false ∧ o.fwd = [] ∧ o.count = sNone ∧ o.limit < 0 ∧ o.offset = 0 ∧ o.order = [] ∧
      ((m.filter wellFormed).length : Int) ≤ maxItems ∧ gs ≠ [] ∧
      ¬ (gs.length = 1 ∧ localId ∈ gs.map (·.1)) := by
  unfold plan at h
  obtain ⟨hbf, h⟩ := Lib.ite_eq_of_ne h nofun
  split at h
  · cases h
  · cases h
  · rename_i cs m hscan
    obtain ⟨hne, h⟩ := Lib.ite_eq_of_ne h nofun
    obtain ⟨hloc, h⟩ := Lib.ite_eq_of_ne h nofun
    obtain ⟨hcs, h⟩ := Lib.ite_eq_of_ne h nofun
    obtain ⟨hcount, h⟩ := Lib.ite_eq_of_ne h nofun
    obtain ⟨hlim, h⟩ := Lib.ite_eq_of_ne h nofun
    obtain ⟨hmax, h⟩ := Lib.ite_eq_of_ne h nofun
    cases h
    simp only [not_or, Bool.not_eq_true, Classical.not_not, ne_eq] at hbf hcs hcount hlim
    subst hcs
    exact ⟨m, hscan, rfl, hbf.1, hbf.2, hcount, by omega, hlim.2.1, hlim.2.2, by omega, hne, hloc⟩

theorem plan_split_groups {localId : ClusterId} {maxItems : Int} {o : Opts} {gs : List (ClusterId × List Uuid)}
    (h : plan localId maxItems o = .split gs) :
    (gs.map (·.1)).Nodup ∧ (∀ g ∈ gs, g.2 ≠ [] ∧ ∀ u ∈ g.2, home u = g.1) ∧
    ∀ u, (∃ g ∈ gs, u ∈ g.2) ↔ InAll o.filters u ∧ wellFormed u = true := by
  obtain ⟨m, hscan, rfl, -⟩ := plan_split h
  obtain ⟨hk, hg, hmem⟩ := groups_spec (m.filter wellFormed)
  refine ⟨hk, hg, fun u => ?_⟩
  have hm : u ∈ m ↔ InAll o.filters u := by simpa using (scan_spec hscan).2.2.2 u
  rw [hmem, List.mem_filter, hm]

theorem plan_reject (localId : ClusterId) (maxItems : Int) (o : Opts) (cs : Bool) (m : List Uuid)
    (hb : o.bypass = false) (hf : o.fwd = [])
    (hscan : scanFilters o.filters ⟨false, none⟩ = some ⟨cs, some m⟩)
    (hne : groups (m.filter wellFormed) ≠ [])
    (hfed : ¬ ((groups (m.filter wellFormed)).length = 1 ∧ localId ∈ (groups (m.filter wellFormed)).map (·.1)))
    (hbad : cs = true ∨ o.count ≠ sNone ∨ o.limit ≥ 0 ∨ o.offset ≠ 0 ∨ o.order ≠ [] ∨
      ((m.filter wellFormed).length : Int) > maxItems) :
    plan localId maxItems o = .reject 400 := by
  unfold plan
  rw [if_neg (by simp [hb, hf]), hscan]
  simp only [hne, hfed, if_false, ite_eq_left_iff]
  intro c1 c2 c3 c4
  rcases hbad with h | h | h | h | h | h
  · exact absurd h c1
  · exact absurd h c2
  · exact absurd (Or.inl h) c3
  · exact absurd (Or.inr (Or.inl h)) c3
  · exact absurd (Or.inr (Or.inr h)) c3
  · exact absurd h c4

end ArvVerif.C20
