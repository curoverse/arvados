/-
C05 helper lemmas: the enumeration of sort results (Model/C05_Enum.lean). Every list it produces
is a permutation of the input, whatever the comparator — hence every outcome the executable model
prints is one the property theorems cover (`allSorted_perm`, `runPerm_of_enumerated`). For a strict
weak order it produces exactly the sorted permutations of its input (`allSorted_exact`) — so
"implementation ∈ allowed(model)" can neither miss a behaviour an unstable sort may show nor accept
one it cannot show.
-/
import ArvVerif.Model.C05_Enum
namespace ArvVerif.C05

theorem insertions_perm (a : α) : ∀ (l : List α), ∀ r ∈ insertions a l, r.Perm (a :: l) := by
  intro l
  induction l with
  | nil => intro r hr; simp [insertions] at hr; rw [hr]
  | cons b l ih =>
    intro r hr
    unfold insertions at hr
    rcases List.mem_cons.1 hr with rfl | hr'
    · exact List.Perm.refl _
    · obtain ⟨r', hr'', rfl⟩ := List.mem_map.1 hr'
      exact ((ih r' hr'').cons b).trans (List.Perm.swap a b l)

theorem perms_perm : ∀ (l : List α), ∀ r ∈ perms l, r.Perm l := by
  intro l
  induction l with
  | nil => intro r hr; simp [perms] at hr; rw [hr]
  | cons a l ih =>
    intro r hr
    unfold perms at hr
    obtain ⟨p, hp, hr'⟩ := List.mem_flatMap.1 hr
    exact (insertions_perm a p r hr').trans ((ih p hp).cons a)

theorem minOf_cons (lt : α → α → Bool) (a b : α) (l : List α) :
    minOf lt a (b :: l) = minOf lt (if lt b a then b else a) l := rfl

theorem minOf_mem (lt : α → α → Bool) (l : List α) (a : α) : minOf lt a l ∈ a :: l :=
  List.foldlRecOn l _ List.mem_cons_self fun m hm x hx => by
    split
    · exact List.mem_cons_of_mem _ hx
    · exact hm

theorem sortedGroups_flatten_perm (lt : α → α → Bool) : ∀ (n : Nat) (l : List α),
    (sortedGroups lt n l).flatten.Perm l
  | 0, l => by
    unfold sortedGroups
    split
    · rw [show l = [] from List.isEmpty_iff.1 ‹_›]; exact List.Perm.refl _
    · simp
  | _ + 1, [] => List.Perm.refl _
  | n + 1, a :: l => by
    unfold sortedGroups
    refine ((List.Perm.refl _).append (sortedGroups_flatten_perm lt n _)).trans ?_
    simpa using List.filter_append_perm (fun x => !lt (minOf lt a l) x) (a :: l)

theorem groupProducts_perm : ∀ (gs : List (List α)), ∀ r ∈ groupProducts gs, r.Perm gs.flatten := by
  intro gs
  induction gs with
  | nil => intro r hr; simp [groupProducts] at hr; rw [hr]; exact List.Perm.refl _
  | cons g gs ih =>
    intro r hr
    unfold groupProducts at hr
    obtain ⟨p, hp, hr'⟩ := List.mem_flatMap.1 hr
    obtain ⟨q, hq, rfl⟩ := List.mem_map.1 hr'
    simp only [List.flatten_cons]
    exact (perms_perm g p hp).append (ih q hq)

theorem allSorted_perm (lt : α → α → Bool) (l : List α) (rs : List (List α)) (h : allSorted lt l = some rs) :
    ∀ r ∈ rs, r.Perm l := by
  unfold allSorted at h
  simp only at h
  split at h
  · cases h
  · cases h
    intro r hr
    exact (groupProducts_perm _ r hr).trans (sortedGroups_flatten_perm lt _ l)

theorem runPerm_of_enumerated (env : Env) (sorter : Class → List Slot → List Slot)
    (h : ∀ c l, ∃ rs, allSorted (less env c) l = some rs ∧ sorter c l ∈ rs) :
    ∀ (cs : List Class) (b : BState), RunPerm env sorter cs b := by
  intro cs
  induction cs with
  | nil => intro b; trivial
  | cons c cs ih =>
    intro b
    unfold RunPerm
    split
    · exact ih b
    · obtain ⟨rs, hrs, hmem⟩ := h c b.slots
      exact ⟨allSorted_perm _ _ rs hrs _ hmem, ih _⟩

variable {α : Type}

/-- what `sort.Slice` needs of its `less` -/
structure StrictWeak (lt : α → α → Bool) : Prop where
  irrefl : ∀ a, lt a a = false
  trans : ∀ a b c, lt a b = true → lt b c = true → lt a c = true
  ntrans : ∀ a b c, lt a b = false → lt b c = false → lt a c = false

/-- sorted in the sense of `IsSorted` -/
def SortedBy (lt : α → α → Bool) (l : List α) : Prop := l.Pairwise (fun a b => lt b a = false)

theorem mem_insertions (a : α) : ∀ (l₁ l₂ : List α), (l₁ ++ a :: l₂) ∈ insertions a (l₁ ++ l₂) := by
  intro l₁
  induction l₁ with
  | nil => intro l₂; cases l₂ <;> simp [insertions]
  | cons b l₁ ih =>
    intro l₂
    simp only [List.cons_append]
    unfold insertions
    exact List.mem_cons_of_mem _ (List.mem_map.2 ⟨_, ih l₂, rfl⟩)

theorem perms_complete : ∀ (l r : List α), r.Perm l → r ∈ perms l := by
  intro l
  induction l with
  | nil => intro r h; rw [List.Perm.eq_nil h]; simp [perms]
  | cons a l ih =>
    intro r h
    have ha : a ∈ r := h.mem_iff.2 (List.mem_cons_self ..)
    obtain ⟨r₁, r₂, rfl⟩ := List.append_of_mem ha
    unfold perms
    exact List.mem_flatMap.2 ⟨r₁ ++ r₂, ih _ ((List.perm_cons a).1 (List.perm_middle.symm.trans h)),
      mem_insertions a r₁ r₂⟩

theorem minOf_le {lt : α → α → Bool} (h : StrictWeak lt) (l : List α) (a x : α)
    (hx : lt x a = false) : lt x (minOf lt a l) = false :=
  List.foldlRecOn l _ (motive := fun m => lt x m = false) hx fun m hm b _ => by
    split
    · cases hxb : lt x b with
      | false => rfl
      | true => rw [h.trans x b m hxb ‹_›] at hm; cases hm
    · exact hm

theorem minOf_minimal {lt : α → α → Bool} (h : StrictWeak lt) : ∀ (l : List α) (a : α),
    ∀ x ∈ a :: l, lt x (minOf lt a l) = false := by
  intro l a x hx
  -- the start is not below the result; an element of the list is not below the start it meets
  rcases List.mem_cons.1 hx with rfl | hl
  · exact minOf_le h l x x (h.irrefl x)
  · clear hx
    induction l generalizing a with
    | nil => cases hl
    | cons b l ih =>
      rw [minOf_cons]
      rcases List.mem_cons.1 hl with rfl | hl
      · refine minOf_le h l _ x ?_
        split
        · exact h.irrefl x
        · exact Bool.eq_false_iff.2 ‹_›
      · exact ih _ hl

theorem sorted_split_min {lt : α → α → Bool} (h : StrictWeak lt) (m : α) :
    ∀ (r : List α), SortedBy lt r →
      r = r.filter (fun x => !lt m x) ++ r.filter (fun x => lt m x) := by
  intro r
  induction r with
  | nil => intro _; rfl
  | cons a l ih =>
    intro hs
    have hs' := List.pairwise_cons.1 hs
    cases hma : lt m a with
    | false =>
      simp only [List.filter_cons, hma, Bool.not_false, if_true, Bool.false_eq_true, if_false, List.cons_append]
      congr 1
      exact ih hs'.2
    | true =>
      -- every later element is above `m` as well, so the first part is empty
      have hall : ∀ b ∈ a :: l, lt m b = true := List.forall_mem_cons.2 ⟨hma, fun b hb => by
        cases hmb : lt m b with
        | true => rfl
        | false => rw [h.ntrans m b a hmb (hs'.1 b hb)] at hma; cases hma⟩
      rw [List.filter_eq_self.2 hall, List.filter_eq_nil_iff.2 fun b hb => by simp [hall b hb]]
      rfl

theorem groupProducts_cons (g : List α) (gs : List (List α)) (r : List α) :
    r ∈ groupProducts (g :: gs) ↔ ∃ p ∈ perms g, ∃ q ∈ groupProducts gs, r = p ++ q := by
  have e : groupProducts (g :: gs) = (perms g).flatMap (fun p => (groupProducts gs).map (p ++ ·)) := rfl
  rw [e]
  simp only [List.mem_flatMap, List.mem_map]
  constructor <;> rintro ⟨p, hp, q, hq, rfl⟩ <;> exact ⟨p, hp, q, hq, rfl⟩

theorem sortedGroups_exact {lt : α → α → Bool} (h : StrictWeak lt) : ∀ (n : Nat) (l : List α), l.length ≤ n →
    ∀ r, r ∈ groupProducts (sortedGroups lt n l) ↔ (r.Perm l ∧ SortedBy lt r) := by
  have hnil : ∀ r : List α, r ∈ [[]] ↔ r.Perm [] ∧ SortedBy lt r := fun r =>
    List.mem_singleton.trans ⟨fun e => by subst e; exact ⟨.refl _, .nil⟩, fun hp => hp.1.eq_nil⟩
  intro n
  induction n with
  | zero =>
    intro l hl r
    cases List.length_eq_zero_iff.1 (Nat.le_zero.1 hl)
    exact hnil r
  | succ n ih =>
    intro l hl r
    cases l with
    | nil => exact hnil r
    | cons a l =>
      rw [show sortedGroups lt (n + 1) (a :: l) = _ :: _ from rfl, groupProducts_cons]
      generalize hm : minOf lt a l = m
      have hmem : m ∈ a :: l := hm ▸ minOf_mem lt l a
      have hmin : ∀ x ∈ a :: l, lt x m = false := hm ▸ minOf_minimal h l a
      -- `m` itself is filtered out
      have hlen : ((a :: l).filter (fun x => lt m x)).length ≤ n :=
        Nat.le_of_lt_succ (Nat.lt_of_lt_of_le
          (List.length_filter_lt_length_iff_exists.2 ⟨m, hmem, by rw [h.irrefl m]; simp⟩) hl)
      have IH := ih ((a :: l).filter (fun x => lt m x)) hlen
      have hpart : ((a :: l).filter (fun x => !lt m x) ++ (a :: l).filter (fun x => lt m x)).Perm (a :: l) := by
        simpa using List.filter_append_perm (fun x => !lt m x) (a :: l)
      -- nothing is below an element of the minimal class
      have hG : ∀ x ∈ (a :: l).filter (fun x => !lt m x), ∀ y ∈ a :: l, lt y x = false := fun x hx y hy =>
        h.ntrans y m x (hmin y hy) (by simpa using (List.mem_filter.1 hx).2)
      constructor
      · rintro ⟨p, hp, q, hq, rfl⟩
        have hpp := perms_perm _ p hp
        obtain ⟨hqp, hqs⟩ := (IH q).1 hq
        have hperm := (hpp.append hqp).trans hpart
        refine ⟨hperm, List.pairwise_append.2 ⟨?_, hqs, fun x hx y hy =>
          hG x (hpp.mem_iff.1 hx) y (hperm.mem_iff.1 (List.mem_append_right _ hy))⟩⟩
        exact List.pairwise_of_forall_mem_list fun x hx y hy =>
          hG x (hpp.mem_iff.1 hx) y (hperm.mem_iff.1 (List.mem_append_left _ hy))
      · rintro ⟨hperm, hsort⟩
        exact ⟨_, perms_complete _ _ (hperm.filter _), _,
          (IH _).2 ⟨hperm.filter _, hsort.sublist List.filter_sublist⟩, sorted_split_min h m r hsort⟩

theorem allSorted_exact {lt : α → α → Bool} (h : StrictWeak lt) (l : List α) (rs : List (List α))
    (hrs : allSorted lt l = some rs) (r : List α) : r ∈ rs ↔ IsSorted lt l r := by
  unfold allSorted at hrs
  simp only at hrs
  split at hrs
  · cases hrs
  · cases hrs
    exact sortedGroups_exact h l.length l (Nat.le_refl _) r

end ArvVerif.C05
