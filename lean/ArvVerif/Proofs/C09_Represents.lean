/-
C09: a tree that holds exactly what `loadManifest` built from a valid text (`Represents`): its
segments are `C10.resolve`'s pieces with the block size the locator states (`segOf`), so they lie
inside blocks of the manifest (`resolve_inside`).
-/
import ArvVerif.Proofs.C09_Emit
import ArvVerif.Proofs.C09_TextLines
namespace ArvVerif.C09

open ArvVerif.C08 (Seg FileNode Store SegWF AllWF StoreOK StoreExt)
open ArvVerif.C10 (bSlash bDot specLocator)

variable {max : Nat} {hash : Bytes → C08.Loc}

theorem contribs_paths {M : C10.Manifest} {q : Bytes} (h : q ∈ (C10.manifestContribs M).map (·.1)) : q ∈ C10.pathsOf M := by
  obtain ⟨c, hc, rfl⟩ := List.mem_map.mp h
  obtain ⟨s, hs, f, hf, rfl⟩ := C10.mem_manifestContribs.mp hc
  exact C10.mem_pathsOf.mpr ⟨s, hs, f, hf, rfl⟩

theorem parseSpec_blocks {txt : Bytes} {M : C10.Manifest} (hvalid : C10.parseSpec txt = some M) :
    ∀ s ∈ M, ∀ b ∈ s.blocks, specLocator b.text = some b := by
  intro s hs
  obtain ⟨lines, _, hl⟩ := C10.parseSpec_lines txt M hvalid
  obtain ⟨l, _, h⟩ := C10.mapOpt_mem _ lines M hl s hs
  obtain ⟨_, _, _, _, _, _, hloc, _⟩ := C10.specLine_tokens l s h
  exact hloc

/-- `size` = the block size the locator token carries -/
def segOf (size : Bytes → Nat) (sg : C10.Seg) : Seg := Seg.stored sg.loc (size sg.loc) sg.off sg.len

structure Represents (size : Bytes → Nat) (tr : C10.FsTree) (t : Tree9) : Prop where
  files : ∀ d ∈ t, ∀ f ∈ d.files, ∃ e ∈ tr.files, e.1 = d.path ++ [f.1] ∧ f.2.segs = e.2.map (segOf size)
  all : ∀ e ∈ tr.files, ∃ d ∈ t, ∃ f ∈ d.files, e.1 = d.path ++ [f.1]

/-- a missing block reads as no bytes on both sides -/
theorem absSegs_segOf (st : Store) (size : Bytes → Nat) : ∀ (segs : List C10.Seg),
    C08.absSegs st (segs.map (segOf size)) = C10.segBytes (blkOf st) segs
  | [] => rfl
  | sg :: rest => by
    rw [List.map_cons, C08.absSegs_cons, C10.segBytes_cons, absSegs_segOf st size rest]
    simp only [segOf, Seg.bytes, blkOf]
    cases st sg.loc <;> simp

theorem resolve_inside {M : C10.Manifest} {p : Bytes} : ∀ sg ∈ C10.resolve M p,
    ∃ s ∈ M, ∃ b ∈ s.blocks, sg.loc = b.text ∧ sg.off + sg.len ≤ b.size ∧ 0 < sg.len := by
  intro sg hsg
  unfold C10.resolve at hsg
  obtain ⟨s, hs, hsg⟩ := List.mem_flatMap.mp hsg
  unfold C10.resolveStream at hsg
  obtain ⟨f, hf, hsg⟩ := List.mem_flatMap.mp hsg
  split at hsg
  · obtain ⟨b, hb, h1, h2, h3⟩ := C10.resolveTok_inside s.blocks 0 f.pos f.len sg hsg
    exact ⟨s, hs, b, hb, h1, h2, h3⟩
  · cases hsg

theorem nameOK_of_keyOk {k : List Bytes} (hk : C10.KeyOk k) : ∀ c ∈ k, NameOK c := fun c hc =>
  have h := C10.componentsOk_mem hk.2.1 hc
  ⟨h.1, h.2.1, h.2.2, hk.2.2 c hc⟩

section
variable {M : C10.Manifest} {tr : C10.FsTree} {size : Bytes → Nat} {t : Tree9}

theorem Represents.file (hrep : Represents size tr t) (hinv : C10.FsInv (C10.manifestContribs M) tr) {d : Dir9} (hd : d ∈ t)
    {f : Bytes × FileNode} (hf : f ∈ d.files) :
    C10.KeyOk (d.path ++ [f.1]) ∧ C10.pathOf (prefixOf d.path) f.1 ∈ C10.pathsOf M ∧
    f.2.segs = (C10.resolve M (C10.pathOf (prefixOf d.path) f.1)).map (segOf size) := by
  obtain ⟨e, he, hkey, hsegs⟩ := hrep.files d hd f hf
  obtain ⟨hko, hin, heq⟩ := hinv.files e he
  have hp := pathOfKey_of_key hkey
  exact ⟨hkey ▸ hko, hp ▸ contribs_paths hin, by rw [hsegs, heq, C10.contribOf_manifest, hp]⟩

theorem Represents.seg_wf {st : Store} (hrep : Represents size tr t) (hinv : C10.FsInv (C10.manifestContribs M) tr)
    (hlocs : ∀ s ∈ M, ∀ b ∈ s.blocks, specLocator b.text = some b)
    (hblocks : ∀ s ∈ M, ∀ b ∈ s.blocks, ∃ x, st b.text = some x ∧ x.length = b.size)
    (hsize : ∀ s ∈ M, ∀ b ∈ s.blocks, size b.text = b.size) : ∀ d ∈ t, ∀ f ∈ d.files, ∀ s ∈ f.2.segs,
    s.isMem = false ∧ SegWF max hash st s ∧
    ∀ loc sz off len, s = Seg.stored loc sz off len → specLocator loc = some ⟨loc, sz⟩ := by
  intro d hd f hf s hs
  rw [(hrep.file hinv hd hf).2.2] at hs
  obtain ⟨sg, hsg, rfl⟩ := List.mem_map.mp hs
  obtain ⟨s0, hs0, b, hb, h1, h2, h3⟩ := resolve_inside sg hsg
  obtain ⟨x, hx, hxl⟩ := hblocks s0 hs0 b hb
  have hsz : size sg.loc = b.size := by rw [h1]; exact hsize s0 hs0 b hb
  refine ⟨rfl, ⟨h3, by rw [hsz]; exact h2, x, by rw [h1]; exact hx, by rw [hsz]; exact hxl⟩, fun loc sz off len heq => ?_⟩
  cases heq
  rw [hsz, h1]
  exact hlocs s0 hs0 b hb

theorem Represents.covers (hrep : Represents size tr t) (hinv : C10.FsInv (C10.manifestContribs M) tr) :
    ∀ p ∈ C10.pathsOf M, ∃ d ∈ t, ∃ f ∈ d.files, p = C10.pathOf (prefixOf d.path) f.1 := by
  intro p hp
  obtain ⟨s, hs, ft, hft, rfl⟩ := C10.mem_pathsOf.mp hp
  obtain ⟨e, he, hpe⟩ := hinv.has _ (C10.mem_manifestContribs.mpr ⟨s, hs, ft, hft, rfl⟩)
  obtain ⟨d, hd, f, hf, hkey⟩ := hrep.all e he
  exact ⟨d, hd, f, hf, by rw [pathOf_prefixOf, ← hkey]; exact hpe.symm⟩

theorem Represents.abs {st : Store} (hrep : Represents size tr t) (hinv : C10.FsInv (C10.manifestContribs M) tr)
    (hblocks : ∀ s ∈ M, ∀ b ∈ s.blocks, ∃ x, st b.text = some x ∧ x.length = b.size) {d : Dir9} (hd : d ∈ t)
    {f : Bytes × FileNode} (hf : f ∈ d.files) :
    C08.abs st f.2 = C10.fileContent (blkOf st) M (C10.pathOf (prefixOf d.path) f.1) := by
  unfold C08.abs
  rw [(hrep.file hinv hd hf).2.2, absSegs_segOf]
  refine C10.resolve_bytes (blkOf st) M _ fun s hs b hb => ?_
  obtain ⟨x, hx, hl⟩ := hblocks s hs b hb
  simp [blkOf, hx, hl]

end

end ArvVerif.C09
