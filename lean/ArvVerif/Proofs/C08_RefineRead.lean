/-
C08: one `filehandle.Read` against the plain model (`handleRead_ref`), and
read-until-n (`Op.readn`, `step_readn`): the concrete loop of short reads delivers exactly what the plain model's
single `pread` delivers (`readLoop_conc`).
-/
import ArvVerif.Proofs.C08_AbsFS
import ArvVerif.Proofs.C08_Read
namespace ArvVerif.C08

variable {max : Nat} {hash : Bytes → Loc}

theorem readLoop_done {F P W : Type} {impl : FileImpl F P W} {fuel : Nat} {s : FS F P W} {h want : Nat} {acc : Bytes}
    (hge : want ≤ acc.length) : readLoop impl fuel s h want acc = (s, acc, Err.ok) := by
  cases fuel with
  | zero => rfl
  | succ fuel => rw [readLoop, if_pos hge]

theorem handleRead_file {s : CFS} (hinv : Inv max hash s) {h f : Nat} {hd : Handle Ptr} {nf : String × FileNode}
    (hg : getHandle s h = some hd) (hnode : hd.node = Node.file f) (hrd : hd.rd = true)
    (hf : s.files[f]? = some nf) (n : Nat) :
    ∃ r, ReadOK s.world nf.2 hd.ptr n r ∧
      handleRead (concImpl hash max) s h hd n = (setHandle s h { hd with ptr := r.ptr }, r.data, ioErr r.err) ∧
      Inv max hash (setHandle s h { hd with ptr := r.ptr }) := by
  obtain ⟨hwf, _⟩ := hinv.files nf (List.mem_of_getElem? hf)
  obtain ⟨r, hr1, hr2⟩ := readAt_spec hwf (hinv.handle_ptr hg hnode hf) n
  refine ⟨r, hr2, ?_, hinv.setHandle h _ (fun f' hf' => ?_)⟩
  · unfold handleRead
    simp only [hrd, hnode, Bool.not_true, Bool.false_eq_true, if_false, hf, concImpl, hr1]
    rfl
  · cases hnode.symm.trans hf'
    exact ⟨nf, hf, hr2.ptr_ok⟩

theorem handleRead_spec {s : CFS} {h f : Nat} {hd : Handle Ptr} {nf : String × FileNode} (hnode : hd.node = Node.file f)
    (hrd : hd.rd = true) (hf : s.files[f]? = some nf) (n : Nat) :
    handleRead specImpl (absFS s) h (absH hd) n =
      (setHandle (absFS s) h { absH hd with ptr := hd.ptr.off + (specRead (abs s.world nf.2) hd.ptr.off n).length },
       specRead (abs s.world nf.2) hd.ptr.off n,
       if hd.ptr.off ≥ (abs s.world nf.2).length ∨
           (hd.ptr.off + (specRead (abs s.world nf.2) hd.ptr.off n).length = (abs s.world nf.2).length ∧
            (specRead (abs s.world nf.2) hd.ptr.off n).length < n)
       then Err.eof else Err.ok) := by
  simp only [handleRead, absH, hnode, hrd, Bool.not_true, Bool.false_eq_true, if_false, absFS_files, absFiles_get, hf,
    Option.map_some]
  rfl

theorem handleRead_other {s : CFS} (hinv : Inv max hash s) (h : Nat) (hd : Handle Ptr) (n : Nat) :
    (∃ f nf, hd.node = Node.file f ∧ hd.rd = true ∧ s.files[f]? = some nf) ∨
    ∃ s' e, e ≠ Err.ok ∧ handleRead (concImpl hash max) s h hd n = (s', [], e) ∧
      handleRead specImpl (absFS s) h (absH hd) n = (absFS s', [], e) ∧ Inv max hash s' := by
  obtain ⟨node, ptr, app, rd, wr⟩ := hd
  cases rd with
  | false => exact Or.inr ⟨s, Err.wronly, nofun, rfl, rfl, hinv⟩
  | true =>
    cases node with
    | dir d =>
      exact Or.inr ⟨_, Err.invalop, nofun, rfl, by rw [setHandle_abs]; rfl, hinv.setHandle h _ nofun⟩
    | file f =>
      cases hf : s.files[f]? with
      | some nf => exact Or.inl ⟨f, nf, rfl, rfl, hf⟩
      | none =>
        exact Or.inr ⟨s, Err.panic, nofun, by simp [handleRead, hf], by simp [handleRead, absH, hf, absFiles_get], hinv⟩

/-- One `filehandle.Read(n)` of the code is one `Read(k)` of the plain model for some `k ≤ n` (the
number of bytes delivered, or `n` itself when the call fails): same data, corresponding states. -/
theorem handleRead_ref {s : CFS} (hinv : Inv max hash s) {h : Nat} {hd : Handle Ptr} (hg : getHandle s h = some hd)
    (n : Nat) :
    ∃ k e', k ≤ n ∧
      handleRead specImpl (absFS s) h (absH hd) k =
        (absFS (handleRead (concImpl hash max) s h hd n).1, (handleRead (concImpl hash max) s h hd n).2.1, e') ∧
      Inv max hash (handleRead (concImpl hash max) s h hd n).1 ∧
      (handleRead (concImpl hash max) s h hd n).2.1.length ≤ k := by
  rcases handleRead_other hinv h hd n with ⟨f, nf, hnode, hrd, hf⟩ | ⟨s', e, _, hc, hs, hi⟩
  · obtain ⟨r, hr, hc, hi⟩ := handleRead_file hinv hg hnode hrd hf n
    rw [hc]
    refine ⟨r.data.length, ?e', hr.len_le, ?eq, hi, Nat.le_refl _⟩
    case eq => rw [handleRead_spec hnode hrd hf, setHandle_abs, ← hr.data_eq, ← hr.off_eq]; rfl
  · rw [hc]
    exact ⟨n, e, Nat.le_refl _, hs, hi, Nat.zero_le _⟩

/-- Fuel `want - acc.length + 1` suffices: every `ok` read delivers a byte. -/
theorem readLoop_conc :
    ∀ (fuel : Nat) {s1 : CFS} (acc : Bytes) {hd : Handle Ptr} {h : Nat} (want : Nat) {f : Nat} {nf : String × FileNode},
      Inv max hash s1 → getHandle s1 h = some hd → hd.node = Node.file f → hd.rd = true →
      s1.files[f]? = some nf → acc.length < want → want - acc.length + 1 ≤ fuel →
      ∃ s', readLoop (concImpl hash max) fuel s1 h want acc =
          (s', acc ++ specRead (abs s1.world nf.2) hd.ptr.off (want - acc.length),
           if (acc ++ specRead (abs s1.world nf.2) hd.ptr.off (want - acc.length)).length < want then Err.eof else Err.ok) ∧
        Inv max hash s' ∧
        absFS s' = setHandle (absFS s1) h
          { absH hd with ptr := hd.ptr.off + (specRead (abs s1.world nf.2) hd.ptr.off (want - acc.length)).length } := by
  intro fuel
  induction fuel with
  | zero => intro s1 acc hd h want f nf _ _ _ _ _ _ hfuel; omega
  | succ fuel ih =>
    intro s1 acc hd h want f nf hinv1 hg hnode hrd hf hlt hfuel
    obtain ⟨hwf, _⟩ := hinv1.files nf (List.mem_of_getElem? hf)
    obtain ⟨r, hr2, hhr, hinv2⟩ := handleRead_file hinv1 hg hnode hrd hf (want - acc.length)
    generalize hA : abs s1.world nf.2 = A
    have hAlen : A.length = nf.2.size := hA ▸ hwf.abs_length
    have hdata : r.data = specRead A hd.ptr.off r.data.length := hA ▸ hr2.data_eq
    dsimp only
    have hoffeq := hr2.off_eq
    have hlen := hr2.len_le
    -- the state and the answer when the loop stops after this call
    have stop : specRead A hd.ptr.off (want - acc.length) = r.data →
        absFS (setHandle s1 h { hd with ptr := r.ptr }) = setHandle (absFS s1) h
          { absH hd with
            ptr := hd.ptr.off + (specRead A hd.ptr.off (want - acc.length)).length } := by
      intro hT
      rw [setHandle_abs, hT]
      congr 1
      simp only [absH, hoffeq]
    unfold readLoop
    rw [if_neg (by omega)]
    simp only [hg, hhr]
    cases herr : r.err with
    | io => exact absurd herr hr2.not_io
    | ok =>
      have hprog := hr2.progress herr (by omega)
      simp only [ioErr, beq_self_eq_true, if_true]
      by_cases hdone : acc.length + r.data.length < want
      ·
        obtain ⟨s', hl, hi, ha⟩ := ih (acc ++ r.data) want hinv2 (getHandle_setHandle _ _ _) hnode hrd hf
          (by rw [List.length_append]; exact hdone) (by rw [List.length_append]; omega)
        have hw : (setHandle s1 h { hd with ptr := r.ptr }).world = s1.world := rfl
        rw [hw, hA] at hl ha
        dsimp only at hl ha
        have hsplit : r.data ++ specRead A r.ptr.off (want - (acc ++ r.data).length)
            = specRead A hd.ptr.off (want - acc.length) := by
          conv => lhs; arg 1; rw [hdata]
          rw [hoffeq, specRead_split, List.length_append]
          congr 1; omega
        refine ⟨s', ?_, hi, ?_⟩
        · rw [hl, List.append_assoc, hsplit]
        · rw [ha, setHandle_abs, setHandle_setHandle]
          congr 1
          simp only [absH]
          congr 1
          rw [← hsplit, hoffeq]; simp only [List.length_append]; omega
      ·
        have hT : specRead A hd.ptr.off (want - acc.length) = r.data := by
          rw [show want - acc.length = r.data.length by omega]; exact hdata.symm
        rw [readLoop_done (by rw [List.length_append]; omega), hT]
        exact ⟨_, by rw [if_neg (by rw [List.length_append]; omega)], hinv2, hT ▸ stop hT⟩
    | eof =>
      have hne : (Err.eof == Err.ok) = false := by decide
      simp only [ioErr, hne, Bool.false_eq_true, if_false]
      have hcase := hr2.eof_iff.mp herr
      have hdl := congrArg List.length hdata
      rw [specRead_length] at hdl
      have hT := specRead_at_end hdata (by omega) hlen
      rw [hT]
      exact ⟨_, by rw [if_pos (by rw [List.length_append]; omega)], hinv2, hT ▸ stop hT⟩

theorem readLoop_first {F P W : Type} (impl : FileImpl F P W) (fuel : Nat) {s : FS F P W} {h n : Nat} {hd : Handle P}
    (hn : n ≠ 0) (hg : getHandle s h = some hd) :
    readLoop impl (fuel + 1) s h n [] =
      match handleRead impl s h hd n with
      | (s', d, e) => if e == Err.ok then readLoop impl fuel s' h n d else (s', d, e) := by
  conv => lhs; unfold readLoop
  rw [if_neg (by simp; omega)]
  simp only [hg, List.length_nil, Nat.sub_zero, List.nil_append]

theorem step_readn {s : CFS} (hinv : Inv max hash s) (h n : Nat) : StepRef max hash s (Op.readn h n) := by
  unfold StepRef step
  simp only [getHandle_abs]
  cases hg : getHandle s h with
  | none => exact Ref3.same hinv _
  | some hd =>
    simp only [Option.map_some]
    by_cases hn : n = 0
    · subst hn
      rw [readLoop_done (Nat.zero_le _), readLoop_done (Nat.zero_le _)]
      exact Ref3.same hinv _
    · have hgs : getHandle (absFS s) h = some (absH hd) := by rw [getHandle_abs, hg]; rfl
      have c0 := readLoop_first (concImpl hash max) (n + 1) hn hg
      have s0 := readLoop_first specImpl (n + 1) hn hgs
      rcases handleRead_other hinv h hd n with ⟨f, nf, hnode, hrd, hf⟩ | ⟨s', e, he, hc, hs, hi⟩
      · obtain ⟨s', hl, hi, ha⟩ := readLoop_conc (n + 2) [] n hinv hg hnode hrd hf (by simp; omega) (by simp)
        simp only [List.length_nil, Nat.sub_zero, List.nil_append] at hl ha
        rw [hl, s0, handleRead_spec hnode hrd hf]
        generalize abs s.world nf.2 = A at ha ⊢
        have hTl := specRead_length A hd.ptr.off n
        dsimp only
        by_cases heof : hd.ptr.off ≥ A.length ∨
            (hd.ptr.off + (specRead A hd.ptr.off n).length = A.length ∧ (specRead A hd.ptr.off n).length < n)
        · rw [if_pos heof]
          have hne : (Err.eof == Err.ok) = false := by decide
          simp only [hne, Bool.false_eq_true, if_false]
          rw [if_pos (by omega)]
          exact ⟨rfl, ha, hi⟩
        · rw [if_neg heof]
          simp only [beq_self_eq_true, if_true]
          rw [readLoop_done (by omega), if_neg (by omega)]
          exact ⟨rfl, ha, hi⟩
      · rw [c0, s0, hc, hs]
        simp only [beq_eq_false_iff_ne.mpr he, Bool.false_eq_true, if_false]
        exact ⟨rfl, rfl, hi⟩

end ArvVerif.C08
