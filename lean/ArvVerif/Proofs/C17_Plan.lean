/-
C17 — the plan of a successful scan is the specification: its files (with the bytes of their host
sources) and its directories are exactly what `Shows` derives (`scan_planned`, `scan_dirs`), its
manifest items exactly those extracted at the `Site`s (`scan_frags`) — soundness and completeness
of the scan put together.
-/
import ArvVerif.Proofs.C17_Sound
import ArvVerif.Proofs.C17_Complete
import ArvVerif.Proofs.C17_ScanShape
import ArvVerif.Proofs.C17_Tree
namespace ArvVerif.C17

def FileSpec (h : Host) (cfg : Cfg) (x : Path) (c : Bytes) : Prop :=
  (∃ s, Shows h cfg x s ∧ nodeAt h cfg s = some (.file c)) ∨ (c = [] ∧ FileJust h cfg (x, none))

variable (h : Host) (cfg : Cfg) (hwf : HostWF h) (wf : CfgWF h cfg)
  (hs : supported cfg = true) (hx : InOut cfg cfg.ctrOut) (hdirect : Direct h cfg) (fuel : Nat) (plan : Plan)
  (hscan : scan h cfg fuel = .ok plan)
include hwf wf hs hx hdirect hscan

theorem scan_planned (x : Path) (c : Bytes) : planned h plan.files x = some c ↔ FileSpec h cfg x c := by
  have hsh := scan_shape h cfg hwf hs wf.real fuel plan hscan
  constructor
  · intro hp
    obtain ⟨⟨d, src⟩, hf, rfl, hf2⟩ := planned_some h plan.files x c hp
    have hfj := (scan_sound_both hwf wf hs hdirect hscan).1.files _ hf
    cases src with
    | some p =>
      obtain ⟨s, c2, hshow, rfl, hgp⟩ := hfj
      simp only [srcContent, hgp] at hf2
      exact Or.inl ⟨s, hshow, hf2 ▸ hgp⟩
    | none => exact Or.inr ⟨hf2.symm, hfj⟩
  · rintro (⟨s, hshow, hnode⟩ | ⟨rfl, d, s, rfl, hne, hshow, hnode, hempty⟩)
    · rw [planned_of_mem h plan.files hsh.nodupFiles _ ((scan_plans hwf wf hdirect hx hscan hshow).1 c hnode)]
      simp only [srcContent, show h.get (hostPath cfg s) = _ from hnode]
    · rw [planned_of_mem h plan.files hsh.nodupFiles _ (((scan_plans hwf wf hdirect hx hscan hshow).2 hnode hne).2 hempty)]
      rfl

theorem scan_dirs (x : Path) : x ∈ plan.dirs ↔ x ≠ [] ∧ ∃ s, Shows h cfg x s ∧ nodeAt h cfg s = some .dir :=
  ⟨(scan_sound_both hwf wf hs hdirect hscan).1.dirs x,
   fun ⟨hne, s, hshow, hnode⟩ => ((scan_plans hwf wf hdirect hx hscan hshow).2 hnode hne).1⟩

theorem scan_frags (f : Frag) : f ∈ plan.frags ↔ ∃ D y, Site h cfg D y ∧ f ∈ fragOf cfg D y := by
  constructor
  · exact fragJust_site h cfg plan (scan_sound_both hwf wf hs hdirect hscan).2 f
  · rintro ⟨D, y, hj | ⟨d, x, hj, hns, hb⟩, hf⟩
    · exact (scan_collects hwf wf hdirect hx hscan hs hj).1 f hf
    · exact (scan_collects hwf wf hdirect hx hscan hs hj).2 hns f (mem_belowFrags.mpr ⟨D, y, hb, hf⟩)

end ArvVerif.C17
