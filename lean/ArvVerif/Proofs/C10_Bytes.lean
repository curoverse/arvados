/-
C10 — the reference interpreter against the document's own wording: the bytes of `resolveTok`'s
pieces are the requested range of the logical concatenation of the stream's blocks.
-/
import ArvVerif.Proofs.C10_Resolve
namespace ArvVerif.C10

theorem segBytes_cons (blk : Bytes → Bytes) (s : Seg) (rest : List Seg) :
    segBytes blk (s :: rest) = ((blk s.loc).drop s.off).take s.len ++ segBytes blk rest := by
  simp [segBytes]

theorem segBytes_append (blk : Bytes → Bytes) (a b : List Seg) :
    segBytes blk (a ++ b) = segBytes blk a ++ segBytes blk b := by
  simp [segBytes]

theorem segBytes_flatMap {α : Type} (blk : Bytes → Bytes) (l : List α) (f : α → List Seg) :
    segBytes blk (l.flatMap f) = l.flatMap fun x => segBytes blk (f x) :=
  List.flatMap_assoc

theorem flatMap_congr_mem {α β : Type} {l : List α} {f g : α → List β} (h : ∀ x ∈ l, f x = g x) :
    l.flatMap f = l.flatMap g := by
  rw [List.flatMap_def, List.flatMap_def, List.map_congr_left h]

theorem streamBytes_cons (blk : Bytes → Bytes) (b : Loc) (rest : List Loc) :
    streamBytes blk (b :: rest) = blk b.text ++ streamBytes blk rest := by
  simp [streamBytes]

theorem streamBytes_length (blk : Bytes → Bytes) : ∀ bs : List Loc, (∀ b ∈ bs, (blk b.text).length = b.size) →
    (streamBytes blk bs).length = streamLen bs
  | [], _ => rfl
  | b :: rest, h => by
    rw [streamBytes_cons, List.length_append, h b (by simp),
      streamBytes_length blk rest (fun x hx => h x (List.mem_cons_of_mem _ hx)), streamLen_cons]

theorem take_drop_append (A B : Bytes) (a e : Nat) :
    ((A ++ B).take e).drop a = (A.take e).drop a ++ (B.take (e - A.length)).drop (a - A.length) := by
  rw [List.take_append, List.drop_append, List.length_take]
  by_cases h : A.length ≤ e
  · rw [Nat.min_eq_right h]
  · have h0 : e - A.length = 0 := by omega
    simp [h0]

theorem piece_bytes (blk : Bytes → Bytes) (b : Loc) (base pos len : Nat) (hB : (blk b.text).length = b.size) :
    segBytes blk (piece b base pos len) = ((blk b.text).take (pos + len - base)).drop (pos - base) := by
  unfold piece
  split
  · have e : max pos base - base = pos - base := by omega
    rw [segBytes_cons, segBytes, List.flatMap_nil, List.append_nil, List.drop_take]
    dsimp only
    rw [e, List.take_eq_take_iff, List.length_drop, hB]
    omega
  · have : segBytes blk [] = [] := rfl
    rw [this, eq_comm, List.drop_eq_nil_iff, List.length_take, hB]
    omega

/-- of the range `pos … pos+len`, the part at or after `base`, the stream offset of the first block
considered; written as `take` then `drop`, both relative to `base`, so that passing to the next block
subtracts its size from both -/
theorem resolveTok_bytes (blk : Bytes → Bytes) : ∀ (bs : List Loc) (base pos len : Nat),
    (∀ b ∈ bs, (blk b.text).length = b.size) →
    segBytes blk (resolveTok bs base pos len) = ((streamBytes blk bs).take (pos + len - base)).drop (pos - base)
  | [], base, pos, len, _ => by simp [resolveTok, segBytes, streamBytes]
  | b :: rest, base, pos, len, h => by
    obtain ⟨hB, hrest⟩ := List.forall_mem_cons.mp h
    rw [resolveTok_cons, segBytes_append, piece_bytes blk b base pos len hB,
      resolveTok_bytes blk rest (base + b.size) pos len hrest,
      streamBytes_cons, take_drop_append, hB, Nat.sub_add_eq, Nat.sub_add_eq]

theorem resolveTok_bytes_zero (blk : Bytes → Bytes) (bs : List Loc) (pos len : Nat)
    (h : ∀ b ∈ bs, (blk b.text).length = b.size) :
    segBytes blk (resolveTok bs 0 pos len) = ((streamBytes blk bs).drop pos).take len := by
  rw [resolveTok_bytes blk bs 0 pos len h, List.drop_take, Nat.sub_zero, Nat.sub_zero, Nat.add_sub_cancel_left]

theorem resolve_bytes (blk : Bytes → Bytes) (M : Manifest) (p : Bytes)
    (h : ∀ s ∈ M, ∀ b ∈ s.blocks, (blk b.text).length = b.size) :
    segBytes blk (resolve M p) = fileContent blk M p := by
  unfold resolve fileContent resolveStream
  rw [segBytes_flatMap]
  refine flatMap_congr_mem fun s hs => ?_
  rw [segBytes_flatMap]
  refine flatMap_congr_mem fun f _ => ?_
  split
  · exact resolveTok_bytes_zero blk s.blocks f.pos f.len (h s hs)
  · rfl

end ArvVerif.C10
