/-
C09 helper lemmas: what holds of the tree `loadManifest` builds from ANY accepted text, by `fsLoad_gen`: it is
well-formed (`FsWf`) and the directory of every file is listed (`KeyParent`). Directories are listed after their
parents, so every ancestor of every file is listed as well (`Cover`, `fsLoad_cover`).
-/
import ArvVerif.Proofs.C09_LoadRun
import ArvVerif.Proofs.C09_TextTokens
namespace ArvVerif.C09

open ArvVerif.C10 (bSpace bNL bSlash bColon bDot splitOn joinWith FsTree FsLine walkParents createFileAndParents
  appendSegs fsToken fsTokens fsLine fsLines Created createFile_cases)

/-- every directory is listed after its parent (the root is not listed) -/
inductive ParentFirst : List (List Bytes) → Prop
  | nil : ParentFirst []
  | snoc (ds : List (List Bytes)) (d : List Bytes) : ParentFirst ds → (d.dropLast = [] ∨ d.dropLast ∈ ds) →
      ParentFirst (ds ++ [d])

structure FsWf (t : FsTree) : Prop where
  keysNodup : (keysOf t).Nodup
  dirsNodup : t.dirs.Nodup
  disjoint : ∀ k ∈ keysOf t, k ∉ t.dirs
  dirComps : ∀ d ∈ t.dirs, d ≠ [] ∧ ∀ c ∈ d, NameOK c
  keyComps : ∀ k ∈ keysOf t, k ≠ [] ∧ ∀ c ∈ k, NameOK c
  parentFirst : ParentFirst t.dirs

theorem ParentFirst.parent {ds : List (List Bytes)} (h : ParentFirst ds) : ∀ d ∈ ds, d.dropLast = [] ∨ d.dropLast ∈ ds := by
  induction h with
  | nil => intro d hd; cases hd
  | snoc ds d _ hd ih =>
    exact mem_append_singleton (fun x hx => (ih x hx).imp_right (List.mem_append_left _))
      (hd.imp_right (List.mem_append_left _))

theorem ParentFirst.prefixes {ds : List (List Bytes)} (h : ParentFirst ds) (q : List Bytes) :
    ∀ pre, pre ≠ [] → pre ++ q ∈ ds → pre ∈ ds := by
  induction q with
  | nil => intro pre _ hd; simpa using hd
  | cons x q ih =>
    intro pre hne hd
    have := h.parent _ (ih (pre ++ [x]) (by simp) (by simpa using hd))
    rw [List.dropLast_concat] at this
    exact this.resolve_left hne

/-- the directory a file lies in is listed, unless it is the root -/
def KeyParent (t : FsTree) : Prop := ∀ k ∈ keysOf t, k.dropLast = [] ∨ k.dropLast ∈ t.dirs

/-- every ancestor directory of every file is listed -/
def Cover (t : FsTree) : Prop := ∀ k ∈ keysOf t, ∀ pre, pre ≠ [] → pre <+: k.dropLast → pre ∈ t.dirs

theorem FsWf.cover {t : FsTree} (hw : FsWf t) (hp : KeyParent t) : Cover t := by
  rintro k hk pre hne ⟨q, hq⟩
  rcases hp k hk with h0 | hd
  · rw [h0] at hq; exact absurd (List.append_eq_nil_iff.mp hq).1 hne
  · exact hw.parentFirst.prefixes q pre hne (hq ▸ hd)

theorem FsWf.addDir {t : FsTree} (hw : FsWf t) {cur : List Bytes} {n : Bytes} (hd : cur ++ [n] ∉ t.dirs)
    (hk : cur ++ [n] ∉ keysOf t) (hc : ∀ c ∈ cur ++ [n], NameOK c) (hp : cur = [] ∨ cur ∈ t.dirs) :
    FsWf { t with dirs := t.dirs ++ [cur ++ [n]] } :=
  ⟨hw.keysNodup, nodup_concat hw.dirsNodup hd,
   fun k hk' hm => (List.mem_append.mp hm).elim (hw.disjoint k hk') fun e => hk (List.mem_singleton.mp e ▸ hk'),
   mem_append_singleton hw.dirComps ⟨by simp, hc⟩, hw.keyComps,
   ParentFirst.snoc _ _ hw.parentFirst (by rw [List.dropLast_concat]; exact hp)⟩

theorem FsWf.addFile {t : FsTree} (hw : FsWf t) {k : List Bytes} (hk : k ∉ keysOf t) (hd : k ∉ t.dirs)
    (hc : k ≠ [] ∧ ∀ c ∈ k, NameOK c) : FsWf { t with files := t.files ++ [(k, [])] } := by
  refine ⟨?_, hw.dirsNodup, ?_, hw.dirComps, ?_, hw.parentFirst⟩
  · rw [keysOf_addFile]; exact nodup_concat hw.keysNodup hk
  · rw [keysOf_addFile]; exact mem_append_singleton hw.disjoint hd
  · rw [keysOf_addFile]; exact mem_append_singleton hw.keyComps hc

/-- the walk ends in the root or in a listed directory, as it started -/
theorem walkParents_wf (cs cur : List Bytes) (t t' : FsTree) (r : List Bytes)
    (h : walkParents cs cur t = some (r, t')) (hns : ∀ c ∈ cs, bSlash ∉ c) (hw : FsWf t) (hc : cur = [] ∨ cur ∈ t.dirs)
    (hcur : ∀ c ∈ cur, NameOK c) : FsWf t' ∧ (∀ c ∈ r, NameOK c) ∧ (r = [] ∨ r ∈ t'.dirs) := by
  fun_induction walkParents cs cur t with
  | case1 => cases h; exact ⟨hw, hcur, hc⟩
  | case2 _ _ _ _ _ ih => exact ih h (List.forall_mem_cons.mp hns).2 hw hc hcur
  | case3 => cases h
  | case4 _ cur _ hne _ ih =>
    exact ih h (List.forall_mem_cons.mp hns).2 hw (hw.parentFirst.parent cur (hc.resolve_left hne))
      (fun c hc' => hcur c ((List.dropLast_sublist cur).subset hc'))
  | case5 => cases h
  | case6 n _ cur t h1 h2 child _ hd ih =>
    exact ih h (List.forall_mem_cons.mp hns).2 hw (Or.inr (List.contains_iff_mem.mp hd))
      (mem_append_singleton hcur ⟨fun e => h1 (Or.inl e), fun e => h1 (Or.inr e), h2, hns n (by simp)⟩)
  | case7 n _ cur t h1 h2 child hf hd ih =>
    have hchild : ∀ c ∈ cur ++ [n], NameOK c :=
      mem_append_singleton hcur ⟨fun e => h1 (Or.inl e), fun e => h1 (Or.inr e), h2, hns n (by simp)⟩
    exact ih h (List.forall_mem_cons.mp hns).2
      (hw.addDir (fun hm => hd (List.contains_iff_mem.mpr hm)) (fun hm => hf (mem_keysOf.mp hm)) hchild hc)
      (Or.inr (List.mem_append_right _ List.mem_cons_self)) hchild

theorem createFile_wf (path : Bytes) (t : FsTree) (res : Created) (t' : FsTree)
    (h : createFileAndParents path t = (res, t')) (hw : FsWf t ∧ KeyParent t) : FsWf t' ∧ KeyParent t' := by
  rcases createFile_cases h with ⟨_, rfl⟩ | ⟨cur, ta, _, hwk, rfl, hcase⟩
  · exact hw
  · obtain ⟨hwa, hcur, hcd⟩ := walkParents_wf _ _ t ta cur hwk
      (fun c hc => C10.splitOn_no_sep bSlash path c ((List.dropLast_sublist _).subset hc)) hw.1
      (Or.inl rfl) (fun c hc => by cases hc)
    -- the walk keeps the files and only adds directories
    have hpa : KeyParent ta := fun k hk =>
      (hw.2 k (by unfold keysOf at hk ⊢; rwa [C10.walkParents_files hwk] at hk)).imp_right (C10.walkParents_mono _ _ t ta cur hwk _)
    rcases hcase with ⟨_, rfl⟩ | ⟨_, hb1, hb2, hnotdir, ⟨_, rfl⟩ | ⟨hnf, rfl⟩⟩
    · exact ⟨hwa, hpa⟩
    · exact ⟨hwa, hpa⟩
    · refine ⟨hwa.addFile (fun hm => by rw [mem_keysOf, hnf] at hm; cases hm) hnotdir
        ⟨by simp, mem_append_singleton hcur ⟨fun e => hb2 (Or.inl e), hb1, fun e => hb2 (Or.inr e),
          C10.splitOn_no_sep bSlash path _ (getLastD_mem _ _ (C10.splitOn_ne_nil bSlash path))⟩⟩, ?_⟩
      unfold KeyParent
      rw [keysOf_addFile]
      exact mem_append_singleton hpa (by rw [List.dropLast_concat]; exact hcd)

theorem appendSegs_wf (t : FsTree) (p : List Bytes) (segs : List C10.Seg) (hw : FsWf t ∧ KeyParent t) :
    FsWf (appendSegs t p segs) ∧ KeyParent (appendSegs t p segs) :=
  ⟨⟨by rw [appendSegs_keys]; exact hw.1.keysNodup, hw.1.dirsNodup,
    fun k hk => hw.1.disjoint k (by rw [appendSegs_keys] at hk; exact hk), hw.1.dirComps,
    fun k hk => hw.1.keyComps k (by rw [appendSegs_keys] at hk; exact hk), hw.1.parentFirst⟩,
   fun k hk => hw.2 k (by rw [appendSegs_keys] at hk; exact hk)⟩

theorem fsLoad_inv (txt : Bytes) (tr : FsTree) (h : C10.fsLoad txt = some tr) : FsWf tr ∧ KeyParent tr :=
  fsLoad_gen (fun t => FsWf t ∧ KeyParent t) createFile_wf appendSegs_wf
    ⟨⟨List.nodup_nil, List.nodup_nil, fun k hk => (by cases hk), fun d hd => (by cases hd), fun k hk => (by cases hk),
     ParentFirst.nil⟩, fun k hk => (by cases hk)⟩ txt tr h

theorem fsLoad_wf (txt : Bytes) (tr : FsTree) (h : C10.fsLoad txt = some tr) : FsWf tr := (fsLoad_inv txt tr h).1

theorem fsLoad_cover (txt : Bytes) (tr : FsTree) (h : C10.fsLoad txt = some tr) : Cover tr :=
  (fsLoad_inv txt tr h).1.cover (fsLoad_inv txt tr h).2

end ArvVerif.C09
