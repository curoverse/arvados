/-
C07: hex digits and hex numbers. `xdigitChars` makes a fact about every hex digit a finite check;
`hexNat?` reads back what `natHex` writes; `%08x` of an expiry in [0, 2³²) is 8 digits that
`parseHexTimestamp` reads back; `FormatInt(·, 16)` is injective, so the TTL text determines the
whole seconds.
-/
import ArvVerif.Model.C07
namespace ArvVerif.C07

theorem isXDigit_of_isLowerHex {c : Char} (h : isLowerHex c = true) : isXDigit c = true := by
  simp [isXDigit, h]

theorem all_isXDigit_of_all_isLowerHex {s : Str} (h : s.all isLowerHex = true) :
    s.all isXDigit = true := by
  rw [List.all_eq_true] at h ⊢
  exact fun c hc => isXDigit_of_isLowerHex (h c hc)

theorem isLowerHex_digitChar : ∀ k, k < 16 → isLowerHex (Nat.digitChar k) = true := by decide

theorem hexVal_digitChar : ∀ k, k < 16 → hexVal? (Nat.digitChar k) = some k := by decide

def xdigitChars : Str :=
  ['0', '1', '2', '3', '4', '5', '6', '7', '8', '9', 'a', 'b', 'c', 'd', 'e', 'f',
    'A', 'B', 'C', 'D', 'E', 'F']

/-- With this, a fact about every hex digit is a check of 22 characters:
`(by decide : ∀ c ∈ xdigitChars, P c) c (mem_xdigitChars h)`. -/
theorem mem_xdigitChars {c : Char} (hc : isXDigit c = true) : c ∈ xdigitChars := by
  have hle : c.toNat ≤ 102 := by
    simp only [isXDigit, isLowerHex, isDigit, Bool.or_eq_true, Bool.and_eq_true,
      decide_eq_true_eq] at hc
    rcases hc with (hc | hc) | hc <;>
      exact Nat.le_trans (UInt32.le_iff_toNat_le.mp (Char.le_def.mp hc.2)) (by decide)
  have := (by decide +kernel :
    ∀ n, n ≤ 102 → isXDigit (Char.ofNat n) = true → Char.ofNat n ∈ xdigitChars) c.toNat hle
  rw [Char.ofNat_toNat] at this
  exact this hc

theorem isHintChar_of_isXDigit {c : Char} (h : isXDigit c = true) : isHintChar c = true :=
  (by decide +kernel : ∀ c ∈ xdigitChars, isHintChar c = true) c (mem_xdigitChars h)

theorem all_isHintChar_of_all_isLowerHex {s : Str} (h : s.all isLowerHex = true) :
    s.all isHintChar = true :=
  List.all_eq_true.mpr fun c hc =>
    isHintChar_of_isXDigit (isXDigit_of_isLowerHex (List.all_eq_true.mp h c hc))

theorem hexVal?_of_isXDigit {c : Char} (h : isXDigit c = true) : ∃ d, hexVal? c = some d ∧ d < 16 :=
  (by decide +kernel : ∀ c ∈ xdigitChars, ∃ d, hexVal? c = some d ∧ d < 16) c (mem_xdigitChars h)

theorem natHex_eq_if (n : Nat) :
    natHex n = if n < 16 then [Nat.digitChar n] else natHex (n / 16) ++ [Nat.digitChar (n % 16)] :=
  Nat.toDigits_eq_if (by decide)

theorem natHex_lowerHex (n : Nat) : (natHex n).all isLowerHex = true := by
  induction n using Nat.strongRecOn with
  | _ n ih =>
    rw [natHex_eq_if]
    split
    · simp [isLowerHex_digitChar n ‹_›]
    · simp [ih (n / 16) (by omega), isLowerHex_digitChar _ (Nat.mod_lt n (by decide : 0 < 16))]

theorem natHex_length_le_iff (n k : Nat) (hk : 0 < k) : (natHex n).length ≤ k ↔ n < 16 ^ k :=
  Nat.length_toDigits_le_iff (by decide) hk

theorem hexNat?_append (a b : Str) (acc : Nat) :
    hexNat? (a ++ b) acc = (hexNat? a acc).bind (hexNat? b) := by
  induction a generalizing acc with
  | nil => simp [hexNat?]
  | cons c cs ih =>
    simp only [List.cons_append, hexNat?]
    cases hexVal? c <;> simp [ih]

theorem hexNat?_natHex (n : Nat) : hexNat? (natHex n) 0 = some n := by
  induction n using Nat.strongRecOn with
  | _ n ih =>
    rw [natHex_eq_if]
    split
    · simp [hexNat?, hexVal_digitChar n ‹_›]
    · rw [hexNat?_append, ih (n / 16) (by omega)]
      simp [hexNat?, hexVal_digitChar _ (Nat.mod_lt n (by decide : 0 < 16))]
      omega

theorem hexNat?_zeros (k : Nat) (s : Str) : hexNat? (List.replicate k '0' ++ s) 0 = hexNat? s 0 := by
  induction k with
  | zero => simp
  | succ k ih =>
    simp only [List.replicate_succ, List.cons_append, hexNat?]
    have : hexVal? '0' = some 0 := by decide
    simp [this, ih]

theorem natHex_injective {a b : Nat} (h : natHex a = natHex b) : a = b := by
  have := hexNat?_natHex a
  rw [h, hexNat?_natHex] at this
  exact (Option.some.inj this).symm

theorem hexNat?_xdigits (s : Str) (acc : Nat) (h : s.all isXDigit = true) :
    ∃ v, hexNat? s acc = some v ∧ v < (acc + 1) * 16 ^ s.length := by
  induction s generalizing acc with
  | nil => exact ⟨acc, rfl, by simp⟩
  | cons c cs ih =>
    rw [List.all_cons, Bool.and_eq_true] at h
    obtain ⟨d, hd, hd16⟩ := hexVal?_of_isXDigit h.1
    obtain ⟨v, e, hvlt⟩ := ih (acc * 16 + d) h.2
    refine ⟨v, by simp [hexNat?, hd, e], ?_⟩
    calc v < (acc * 16 + d + 1) * 16 ^ cs.length := hvlt
      _ ≤ ((acc + 1) * 16) * 16 ^ cs.length := Nat.mul_le_mul_right _ (by omega)
      _ = (acc + 1) * 16 ^ (cs.length + 1) := by rw [Nat.pow_succ, Nat.mul_assoc, Nat.mul_comm 16]

theorem splitSign_of_isXDigit {c : Char} (cs : Str) (hc : isXDigit c = true) :
    splitSign (c :: cs) = (false, c :: cs) := by
  have := (by decide +kernel : ∀ c ∈ xdigitChars, c ≠ '+' ∧ c ≠ '-') c (mem_xdigitChars hc)
  unfold splitSign
  split <;> simp_all

theorem parseHexTimestamp_xdigits {e : Str} (hl : e.length = 8) (hx : e.all isXDigit = true) :
    ∃ v : Nat, v < 2 ^ 32 ∧ hexNat? e 0 = some v ∧ parseHexTimestamp e = some (v : Int) := by
  obtain ⟨v, hv, hlt⟩ := hexNat?_xdigits e 0 hx
  rw [hl] at hlt
  have hlt' : v < 2 ^ 32 := by simpa using hlt
  refine ⟨v, hlt', hv, ?_⟩
  cases e with
  | nil => simp at hl
  | cons c cs =>
    have : v < 2 ^ 63 := Nat.lt_of_lt_of_le hlt' (by decide)
    simp [parseHexTimestamp, splitSign_of_isXDigit cs (Bool.and_eq_true_iff.mp hx).1, hv, this]

theorem fmt08x_nonneg {v : Int} (h0 : 0 ≤ v) (hlt : v < 2 ^ 32) :
    (fmt08x v).length = 8 ∧ (fmt08x v).all isLowerHex = true ∧
      hexNat? (fmt08x v) 0 = some v.toNat := by
  have hn : v.toNat < 16 ^ 8 := by
    have : (v.toNat : Int) = v := Int.toNat_of_nonneg h0
    have : (v.toNat : Int) < 2 ^ 32 := by omega
    have h16 : (16 : Nat) ^ 8 = 2 ^ 32 := by decide
    omega
  have hlen := (natHex_length_le_iff v.toNat 8 (by decide)).mpr hn
  simp only [fmt08x, h0, if_true, padLeft]
  refine ⟨by simp; omega, ?_, by rw [hexNat?_zeros, hexNat?_natHex]⟩
  have h0 : isLowerHex '0' = true := by decide
  simp [natHex_lowerHex, h0]

theorem natHex_length_le_7 (v : Nat) : (natHex v).length ≤ 7 ↔ v < 2 ^ 28 :=
  natHex_length_le_iff v 7 (by decide)

/-- Go's zero-padded `%08x` and Ruby's `to_s(16)` agree from 2^28 on -/
theorem fmt08x_eq_natHex {v : Nat} (h : 2 ^ 28 ≤ v) : fmt08x (v : Int) = natHex v := by
  have h7 := mt (natHex_length_le_7 v).mp (by omega)
  have : 8 - (natHex v).length = 0 := by omega
  simp [fmt08x, padLeft, this]

theorem intHex_injective {v w : Int} (h : intHex v = intHex w) : v = w := by
  have hneg : ∀ n m : Nat, natHex n ≠ '-' :: natHex m := by
    intro n m e
    have := natHex_lowerHex n
    rw [e] at this
    exact absurd this (by simp [show isLowerHex '-' = false by decide])
  unfold intHex at h
  split at h <;> split at h
  · have := natHex_injective h; omega
  · exact absurd h (hneg _ _)
  · exact absurd h.symm (hneg _ _)
  · simp only [List.cons.injEq, true_and] at h
    have := natHex_injective h; omega

theorem ttlHex_eq_iff {a b : Int} : ttlHex a = ttlHex b ↔ ttlSeconds a = ttlSeconds b :=
  ⟨fun h => intHex_injective h, fun h => by unfold ttlHex; rw [h]⟩

theorem ttlHex_of_nat {ttlSecs frac : Nat} (hfrac : frac < 1000000000) :
    ttlHex ((ttlSecs : Int) * 1000000000 + frac) = natHex ttlSecs := by
  have : ttlSeconds ((ttlSecs : Int) * 1000000000 + frac) = (ttlSecs : Int) := by
    unfold ttlSeconds
    rw [Int.tdiv_eq_ediv_of_nonneg (by omega)]
    omega
  simp [ttlHex, this, intHex]

end ArvVerif.C07
