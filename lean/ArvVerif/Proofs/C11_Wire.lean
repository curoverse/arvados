import ArvVerif.Model.C11
namespace ArvVerif.C11

theorem putHR_call {hash : List Char} {n : Int} {p : PutCall} (h : putHR hash n = .call p) :
    p = { hash := hash, expectedLength := n, hasBody := decide (n > 0) } ∧ n ≤ blockSize := by
  unfold putHR at h
  split at h
  · cases h
  · rename_i hc
    cases h
    exact ⟨rfl, by unfold blockSize at hc ⊢; omega⟩

theorem bufferEnd_eof {md5hex : List Nat → List Char} {hash : List Char} {st : Stream}
    (h : bufferEnd md5hex hash st = .eof) : st.fin = .eof ∧ md5hex st.data = hash := by
  unfold bufferEnd at h
  split at h
  · cases h
  · rename_i hf
    split at h
    · exact ⟨hf, ‹_›⟩
    · cases h

theorem delivered_wireOf {p : PutCall} {bs b : List Nat} {e : BodyEnd}
    (h : (wireOf p (bs, e)).delivered = some b) :
    (p.hasBody = false ∧ b = []) ∨
    (p.hasBody = true ∧ b = bs ∧ e = .eof ∧ (bs.length : Int) = p.expectedLength) := by
  unfold wireOf Wire.delivered at h
  cases hb : p.hasBody <;> simp only [hb, Bool.false_eq_true, if_true, if_false] at h
  · exact Or.inl ⟨rfl, (Option.some.inj h).symm⟩
  · cases e <;> simp only [reduceCtorEq] at h
    split at h
    · exact Or.inr ⟨rfl, (Option.some.inj h).symm, rfl, ‹_›⟩
    · cases h

end ArvVerif.C11
