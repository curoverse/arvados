/-
C06(a) proofs: the paging invariant of `EachCollection` (Model/C06.lean).

`Inv P db s`: every collection of `P` (the uuids present throughout the scan) that has not been
passed to the callback lies strictly after the cursor `s.last` in (modified_at, uuid) order,
strengthened per paging mode.  The environment may do anything that keeps `P` present and never
moves a `P`-collection's modified_at backwards.
-/
import ArvVerif.Model.C06
namespace ArvVerif.C06

theorem klt_trans {a b c : Key} : klt a b → klt b c → klt a c := by
  unfold klt; omega

/-- What the API server guarantees about a page: a sorted prefix of the filtered table. -/
structure PageOf (db : List Coll) (f : Filt) (limit : Nat) (pg : List Coll) : Prop where
  sub : ∀ c ∈ pg, c ∈ db ∧ f.ok c
  sorted : pg.Pairwise (fun a b => klt a.key b.key)
  rest : ∀ c ∈ db, f.ok c → c ∉ pg → pg ≠ [] ∧ ∀ p ∈ pg, klt p.key c.key

/-- Environment between two requests: persistent collections stay, timestamps only move forward. -/
structure Env (P : List Nat) (db db' : List Coll) : Prop where
  stay : ∀ u ∈ P, ∃ c' ∈ db', c'.uuid = u
  mono : ∀ c' ∈ db', c'.uuid ∈ P → ∃ c ∈ db, c.uuid = c'.uuid ∧ c.time ≤ c'.time

def ahead (last : Option Key) (c : Coll) : Prop :=
  match last with
  | none => True
  | some k => klt k c.key

/- `mode`: what the filter in force says about cursor and flags. Only the `>` clause speaks of the table:
its "unseen rows are later than `t`" is what the empty `=` page established (`step_cont`), and it is the
one clause `inv_env` has to re-prove. It also keeps the cursor at time `t`, so that a row matching `> t`
is ahead of the cursor (`skip_ahead`). -/
structure Inv (P : List Nat) (db : List Coll) (s : St) : Prop where
  unseen : ∀ c ∈ db, c.uuid ∈ P → c.uuid ∉ s.seen → ahead s.last c
  lastSeen : ∀ t u, s.last = some (t, u) → u ∈ s.seen
  mode : match s.filt with
    | .all => s.last = none ∧ s.exact = false
    | .ge t u => s.last = some (t, u) ∧ s.ftime = t ∧ s.exact = false
    | .eq t u => s.last = some (t, u) ∧ s.ftime = t ∧ s.exact = true
    | .gt t => s.ftime = t ∧ s.exact = false ∧ (∀ c ∈ db, c.uuid ∈ P → c.uuid ∉ s.seen → t < c.time) ∧
      (∃ u, s.last = some (t, u))

theorem inv_init (P : List Nat) (db : List Coll) : Inv P db init :=
  ⟨by intro c _ _ _; simp [init, ahead], by intro t u h; simp [init] at h, by simp [init]⟩

theorem inv_env {P db db' s} (h : Inv P db s) (e : Env P db db') : Inv P db' s := by
  refine ⟨?_, h.lastSeen, ?_⟩
  · intro c' hc' hP hns
    obtain ⟨c, hc, hu, ht⟩ := e.mono c' hc' hP
    have := h.unseen c hc (hu ▸ hP) (hu ▸ hns)
    revert this
    unfold ahead
    cases s.last with
    | none => simp
    | some k => simp only [Coll.key, klt]; intro hk; rw [hu] at hk; omega
  · have hm := h.mode
    revert hm
    cases s.filt with
    | gt t =>
      refine fun hm => ⟨hm.1, hm.2.1, fun c' hc' hP hns => ?_, hm.2.2.2⟩
      obtain ⟨c, hc, hu, ht⟩ := e.mono c' hc' hP
      have := hm.2.2.1 c hc (hu ▸ hP) (hu ▸ hns)
      omega
    | _ => exact id

theorem processItem_skip {s : St} {c : Coll} (h : skip s.last c = true) : processItem s c = s := by
  simp [processItem, h]

theorem processItem_call {s : St} {c : Coll} (h : ¬ skip s.last c = true) : processItem s c =
    { s with seen := c.uuid :: s.seen, last := some c.key, log := .cb c.uuid :: s.log } := by
  simp [processItem, h]

theorem skip_false_of_ahead {last : Option Key} {c : Coll} (h : ahead last c) : skip last c = false := by
  unfold skip
  cases last with
  | none => rfl
  | some k =>
    obtain ⟨t, u⟩ := k
    simp only [ahead, klt, Coll.key] at h
    simp only [decide_eq_false_iff_not, not_and, Nat.not_le]
    intro ht; omega

theorem ahead_trans {last : Option Key} {a b : Coll} (h1 : ahead last a) (h2 : klt a.key b.key) : ahead last b := by
  cases last with
  | none => trivial
  | some k => exact klt_trans h1 h2

/-- Processing a sorted list of rows each of which is skipped or ahead of the cursor. Completeness and the
measure turn on the last clause. -/
theorem fold_props (l : List Coll) (hs : l.Pairwise (fun a b => klt a.key b.key)) (s : St)
    (H : ∀ p ∈ l, skip s.last p = false → ahead s.last p) :
    let s' := l.foldl processItem s
    (s'.filt = s.filt ∧ s'.ftime = s.ftime ∧ s'.exact = s.exact) ∧
    (∀ u ∈ s.seen, u ∈ s'.seen) ∧
    ((∀ t u, s.last = some (t, u) → u ∈ s.seen) → (∀ t u, s'.last = some (t, u) → u ∈ s'.seen)) ∧
    (∀ p ∈ l, ahead s.last p → p.uuid ∈ s'.seen) ∧
    (((∀ p ∈ l, skip s.last p = true) ∧ s'.last = s.last) ∨ ∃ p ∈ l, s'.last = some p.key ∧ ahead s.last p) := by
  induction l generalizing s with
  | nil => simp
  | cons h tl ih =>
    obtain ⟨hh, hs'⟩ := List.pairwise_cons.mp hs
    simp only [List.foldl_cons]
    by_cases hsk : skip s.last h = true
    · rw [processItem_skip hsk]
      obtain ⟨f1, f2, f3, f4, f5⟩ := ih hs' s fun p hp => H p (List.mem_cons_of_mem _ hp)
      refine ⟨f1, f2, f3, fun p hp hap => ?_, ?_⟩
      · rcases List.mem_cons.mp hp with rfl | hp
        · rw [skip_false_of_ahead hap] at hsk; cases hsk
        · exact f4 p hp hap
      · rcases f5 with ⟨h1, h2⟩ | ⟨p, hp, h1, h2⟩
        · exact .inl ⟨List.forall_mem_cons.2 ⟨hsk, h1⟩, h2⟩
        · exact .inr ⟨p, List.mem_cons_of_mem _ hp, h1, h2⟩
    · have hah := H h List.mem_cons_self (by simpa using hsk)
      have e := processItem_call hsk
      obtain ⟨f1, f2, f3, f4, f5⟩ := ih hs' (processItem s h) fun p hp _ => by rw [e]; exact hh p hp
      rw [e] at f1 f2 f3 f4 f5 ⊢
      refine ⟨f1, fun u hu => f2 u (List.mem_cons_of_mem _ hu),
        fun _ => f3 fun t u hl => by cases hl; exact List.mem_cons_self, fun p hp _ => ?_, .inr ?_⟩
      · rcases List.mem_cons.mp hp with rfl | hp
        · exact f2 _ List.mem_cons_self
        · exact f4 p hp (hh p hp)
      · rcases f5 with ⟨-, h2⟩ | ⟨p, hp, h1, h2⟩
        · exact ⟨h, List.mem_cons_self, h2, hah⟩
        · exact ⟨p, List.mem_cons_of_mem _ hp, h1, ahead_trans hah h2⟩

theorem eq_of_exact {P db s} (h : Inv P db s) :
    s.exact = true → ∃ t u, s.filt = .eq t u ∧ s.last = some (t, u) ∧ s.ftime = t := by
  have hm := h.mode
  revert hm
  cases hf : s.filt <;> simp only <;> intro hm he
  · simp [hm.2] at he
  · simp [hm.2.2] at he
  · exact ⟨_, _, rfl, hm.1, hm.2.1⟩
  · simp [hm.2.1] at he

theorem ok_or_later {P db s} (h : Inv P db s) {c : Coll} (hc : c ∈ db) (hP : c.uuid ∈ P)
    (hns : c.uuid ∉ s.seen) :
    s.filt.ok c ∨ (s.exact = true ∧ ∀ p, s.filt.ok p → klt p.key c.key) := by
  have ha := h.unseen c hc hP hns
  have hm := h.mode
  revert hm ha
  cases s.filt with
  | all => exact fun _ _ => .inl trivial
  | ge t u =>
    intro ha hm
    rw [hm.1] at ha
    simp only [ahead, klt, Coll.key] at ha
    exact .inl ⟨by omega, fun hu => hns (hu ▸ h.lastSeen t u hm.1)⟩
  | eq t u =>
    intro ha hm
    rw [hm.1] at ha
    simp only [ahead, klt, Coll.key] at ha
    by_cases htc : c.time = t
    · exact .inl ⟨htc, by omega⟩
    · refine .inr ⟨hm.2.2, fun p hp => ?_⟩
      simp only [Filt.ok] at hp
      simp only [klt, Coll.key]
      omega
  | gt t => exact fun _ hm => .inl (hm.2.2.1 c hc hP hns)

theorem skip_ahead {P db s} (h : Inv P db s) {p : Coll} (hok : s.filt.ok p) :
    (skip s.last p = false → ahead s.last p) ∧ ((∀ t u, s.filt ≠ .ge t u) → skip s.last p = false) := by
  have hm := h.mode
  revert hm hok
  cases s.filt with
  | all => intro _ hm; rw [hm.1]; simp [ahead, skip]
  | ge t u =>
    intro hok hm
    rw [hm.1]
    simp only [Filt.ok, skip, ahead, klt, Coll.key, decide_eq_false_iff_not] at hok ⊢
    exact ⟨by omega, fun hne => absurd rfl (hne t u)⟩
  | eq t u =>
    intro hok hm
    rw [hm.1]
    simp only [Filt.ok, skip, ahead, klt, Coll.key, decide_eq_false_iff_not] at hok ⊢
    omega
  | gt t =>
    intro hok hm
    obtain ⟨u, hu⟩ := hm.2.2.2
    rw [hu]
    simp only [Filt.ok, skip, ahead, klt, Coll.key, decide_eq_false_iff_not] at hok ⊢
    omega

/-- One page under the invariant: the first two conjuncts are the first two fields of `Inv` again, the
other two come from `fold_props` as they are. -/
theorem after_page {P db s limit pg} (h : Inv P db s) (hp : PageOf db s.filt limit pg) :
    let s1 := processPage s pg
    (∀ c ∈ db, c.uuid ∈ P → c.uuid ∉ s1.seen → ahead s1.last c) ∧
    (∀ t u, s1.last = some (t, u) → u ∈ s1.seen) ∧
    (s1.filt = s.filt ∧ s1.ftime = s.ftime ∧ s1.exact = s.exact) ∧
    (((∀ p ∈ pg, skip s.last p = true) ∧ s1.last = s.last) ∨ ∃ p ∈ pg, s1.last = some p.key ∧ ahead s.last p) := by
  obtain ⟨f1, f2, f3, f4, f5⟩ := fold_props pg hp.sorted s fun p hpp => (skip_ahead h (hp.sub p hpp).2).1
  refine ⟨fun c hc hP hns1 => ?_, f3 h.lastSeen, f1, f5⟩
  have hns : c.uuid ∉ s.seen := fun hin => hns1 (f2 _ hin)
  have ha := h.unseen c hc hP hns
  by_cases hcp : c ∈ pg
  · exact absurd (f4 c hcp ha) hns1
  · have hlater : ∀ p ∈ pg, klt p.key c.key := by
      rcases ok_or_later h hc hP hns with hok | ⟨_, hl⟩
      · exact (hp.rest c hc hok hcp).2
      · intro p hpp; exact hl p (hp.sub p hpp).2
    show ahead (pg.foldl processItem s).last c
    rcases f5 with ⟨-, h4⟩ | ⟨p, hpp, h4, -⟩
    · exact h4 ▸ ha
    · exact h4 ▸ hlater p hpp

theorem next_advance {cbFail s pg r} (hn : next cbFail s pg = r) (hr : ∀ s', r ≠ .cbErr s') :
    advance (processPage s pg) pg.isEmpty = r ∧ ∀ n, cbFail = some n → (processPage s pg).seen.length ≤ n := by
  unfold next at hn
  split at hn
  · simp only at hn
    split at hn
    · exact absurd hn.symm (hr _)
    · exact ⟨hn, fun n hn' => Option.some.inj hn' ▸ Nat.le_of_not_lt ‹_›⟩
  · exact ⟨hn, nofun⟩

theorem advance_done {s1 s' : St} {e : Bool} (h : advance s1 e = .done s') :
    e = true ∧ s1.exact = false ∧ s' = s1 := by
  unfold advance at h
  repeat' split at h
  all_goals first | cases h | skip
  simp_all

theorem advance_cont {s1 s' : St} {e : Bool} (h : advance s1 e = .cont s') :
    ∃ lt lu, s1.last = some (lt, lu) ∧ (e = true → s1.exact = true) ∧
    ((e = false ∧ lt = s1.ftime ∧ s' = { s1 with exact := true, filt := .eq s1.ftime lu }) ∨
     (¬(e = false ∧ lt = s1.ftime) ∧ s1.exact = true ∧ s' = { s1 with exact := false, filt := .gt s1.ftime }) ∨
     (¬(e = false ∧ lt = s1.ftime) ∧ s1.exact = false ∧ s' = { s1 with ftime := lt, filt := .ge lt lu })) := by
  unfold advance at h
  repeat' split at h
  all_goals first | cases h | skip
  all_goals (refine ⟨_, _, ‹_ = some _›, ?_⟩; simp_all)

theorem step_cont {P db s limit pg s' cbFail} (h : Inv P db s) (hp : PageOf db s.filt limit pg)
    (hn : next cbFail s pg = .cont s') : Inv P db s' := by
  obtain ⟨a1, a2, a3, a4⟩ := after_page h hp
  obtain ⟨lt, lu, hl, -, ⟨-, hlt, rfl⟩ | ⟨hc, hex, rfl⟩ | ⟨-, hex, rfl⟩⟩ :=
    advance_cont (next_advance hn nofun).1
  · exact ⟨a1, a2, hlt ▸ hl, rfl, rfl⟩
  · obtain ⟨t, u, hf, hlast, hft⟩ := eq_of_exact h (a3.2.2 ▸ hex)
    -- the page must have been empty: a row of it would have time `t`, the filter time
    have hpg : pg = [] := by
      apply Classical.byContradiction
      intro hne
      refine hc ⟨List.isEmpty_eq_false_iff.2 hne, ?_⟩
      rw [a3.2.1, hft]
      rcases a4 with ⟨-, h4⟩ | ⟨p, hpp, h4, -⟩
      · rw [h4, hlast] at hl
        exact (Prod.mk.inj (Option.some.inj hl)).1.symm
      · rw [h4] at hl
        have := (hp.sub p hpp).2
        rw [hf] at this
        exact (Prod.mk.inj (Option.some.inj hl)).1.symm.trans this.1
    subst hpg
    refine ⟨a1, a2, rfl, rfl, ?_, u, hft ▸ hlast⟩
    intro c hc hP hns
    have ha := h.unseen c hc hP hns
    -- the empty page says that `c` does not match the `=` filter
    have hnok : ¬ s.filt.ok c := fun hok => (hp.rest c hc hok (by simp)).1 rfl
    simp only [hlast, hf, ahead, klt, Coll.key, Filt.ok] at ha hnok
    show s.ftime < c.time
    omega
  · exact ⟨a1, a2, hl, rfl, hex⟩

theorem step_done {P db s limit pg s' cbFail} (h : Inv P db s) (hp : PageOf db s.filt limit pg)
    (hpers : ∀ u ∈ P, ∃ c ∈ db, c.uuid = u)
    (hn : next cbFail s pg = .done s') : ∀ u ∈ P, u ∈ s'.seen := by
  obtain ⟨he, hex, rfl⟩ := advance_done (next_advance hn nofun).1
  obtain rfl := List.isEmpty_iff.1 he
  intro u hu
  obtain ⟨c, hc, rfl⟩ := hpers u hu
  apply Classical.byContradiction
  intro hns
  rcases ok_or_later h hc hu hns with hok | ⟨he', _⟩
  · exact (hp.rest c hc hok (by simp)).1 rfl
  · exact Bool.false_ne_true (hex.symm.trans he')

theorem inv_pushLog {P db s} (h : Inv P db s) (e : Ev) : Inv P db (pushLog s e) :=
  ⟨h.unseen, h.lastSeen, h.mode⟩

/-- Reachable from a fresh scan, with any `Env` activity between requests, any `limit` per request
and any callback-failure script. -/
inductive Reach (P : List Nat) : List Coll → St → Prop
  | start (db) : (∀ u ∈ P, ∃ c ∈ db, c.uuid = u) → Reach P db init
  | env {db db' s} : Reach P db s → Env P db db' → Reach P db' s
  | log {db s} (e : Ev) : Reach P db s → Reach P db (pushLog s e)
  | page {db s limit pg s' cbFail} : Reach P db s → PageOf db s.filt limit pg →
      next cbFail s pg = .cont s' → Reach P db s'

theorem reach_inv {P db s} (r : Reach P db s) :
    Inv P db s ∧ (∀ u ∈ P, ∃ c ∈ db, c.uuid = u) := by
  induction r with
  | start db h => exact ⟨inv_init P db, h⟩
  | env _ e ih => exact ⟨inv_env ih.1 e, e.stay⟩
  | log e _ ih => exact ⟨inv_pushLog ih.1 e, ih.2⟩
  | page _ hp hn ih => exact ⟨step_cont ih.1 hp hn, ih.2⟩

/-- If the scan ends normally, every collection that existed throughout the scan was handed to the
callback at least once, for any server whose answers satisfy `PageOf`. -/
theorem paging_complete {P db s limit pg s' cbFail} (r : Reach P db s)
    (hp : PageOf db s.filt limit pg) (hn : next cbFail s pg = .done s') :
    ∀ u ∈ P, u ∈ s'.seen :=
  step_done (reach_inv r).1 hp (reach_inv r).2 hn

end ArvVerif.C06
