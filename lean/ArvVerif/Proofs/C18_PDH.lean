/-
C18: the portable data hash of a manifest survives `rewriteManifest` when every block token carries
a size (`pdh_rewrite` under `SizedLocs`). `PortableDataHash` cuts such a token down to hash, `+` and
the digits of the size; the rewrite copies exactly that prefix, and keeps the character after it,
which is what stops the digits (`Sized`, `stripTok_sized`).
-/
import ArvVerif.Proofs.C18_Rewrite
namespace ArvVerif.C18

theorem sizedLen_of_shape {hx : Str} (rest : Str) (h1 : hx.length = 32) (h2 : hx.all isLowerHex = true) :
    sizedLen (hx ++ '+' :: rest) =
      if (rest.takeWhile isDigit).length = 0 then none else some (33 + (rest.takeWhile isDigit).length) := by
  have hd : (hx ++ '+' :: rest).drop 33 = rest := by
    rw [List.append_cons, List.drop_left' (by simp [h1])]
  simp only [sizedLen, locPrefix_of_shape rest h1 h2, if_true, hd]

structure Sized (hx ds r : Str) : Prop where
  len : hx.length = 32
  hex : hx.all isLowerHex = true
  ne : ds ≠ []
  dig : ∀ c ∈ ds, isDigit c = true
  stop : ∀ c, r.head? = some c → isDigit c = false

theorem sized_shape {t : Str} (hs : sizedLen t ≠ none) :
    ∃ hx ds r, t = hx ++ '+' :: (ds ++ r) ∧ Sized hx ds r := by
  have hl : locPrefix t = true := Decidable.by_contra fun hl => hs (by simp [sizedLen, hl])
  obtain ⟨hx, rest, rfl, h1, h2⟩ := locPrefix_shape hl
  rw [sizedLen_of_shape rest h1 h2] at hs
  refine ⟨hx, rest.takeWhile isDigit, rest.dropWhile isDigit, by rw [List.takeWhile_append_dropWhile],
    h1, h2, ?_, fun c hc => List.all_eq_true.mp List.all_takeWhile c hc, ?_⟩
  · intro e; simp [e] at hs
  · intro c hc
    simpa [hc] using List.head?_dropWhile_not isDigit rest

theorem stripTok_sized {hx ds r : Str} (h : Sized hx ds r) :
    stripTok (hx ++ '+' :: (ds ++ r)) = hx ++ '+' :: ds := by
  have htw : (ds ++ r).takeWhile isDigit = ds := by
    rw [List.takeWhile_append_of_pos h.dig]
    cases r with
    | nil => simp
    | cons c r => simp [h.stop c rfl]
  have hl : ds.length ≠ 0 := fun e => h.ne (List.length_eq_zero_iff.mp e)
  simp only [stripTok, sizedLen_of_shape _ h.len h.hex, htw, if_neg hl]
  rw [← List.cons_append, ← List.append_assoc, List.take_left' (by simp [h.len]; omega)]

theorem stripTok_rewriteTok (id : Str) {t : Str} (hs : sizedLen t ≠ none) :
    stripTok (rewriteTok id t) = stripTok t := by
  obtain ⟨hx, ds, r, rfl, h⟩ := sized_shape hs
  -- hash, `+` and size contain neither a newline nor `A`, and end in a digit: they are copied
  have hp : ∀ c ∈ hx ++ '+' :: ds, c ≠ '\n' ∧ c ≠ 'A' := by
    rw [List.forall_mem_append, List.forall_mem_cons]
    exact ⟨fun c hc => isLowerHex_plain (List.all_eq_true.mp h.hex c hc), by decide,
      fun c hc => isLowerHex_plain (by simp [isLowerHex, h.dig c hc])⟩
  have hlast : (hx ++ '+' :: ds).getLast? ≠ some '+' := by
    obtain ⟨d, hd⟩ := Option.isSome_iff_exists.mp (List.getLast?_isSome.mpr h.ne)
    have := h.dig d (List.mem_of_getLast? hd)
    simp only [List.getLast?_append, List.getLast?_cons, hd]
    rintro ⟨rfl⟩; revert this; decide
  have hrw : rewriteTok id (hx ++ '+' :: (ds ++ r))
      = hx ++ '+' :: (ds ++ (replaceSig id (linePart r) ++ restPart r)) := by
    have hnl : '\n' ∉ hx ++ '+' :: ds := fun hm => (hp _ hm).1 rfl
    rw [rewriteTok, if_pos (locPrefix_of_shape _ h.len h.hex), ← List.cons_append, ← List.append_assoc,
      linePart_append _ hnl, restPart_append _ hnl, replaceSig_append id _ (fun c hc => (hp c hc).2) hlast]
    simp
  have hstop : (replaceSig id (linePart r) ++ restPart r).head? = r.head? := by
    rw [List.head?_append, replaceSig_head, ← List.head?_append, linePart_append_restPart]
  rw [hrw, stripTok_sized h, stripTok_sized { h with stop := hstop ▸ h.stop }]

/-- every block token (after the first token) carries a size. A token `<hash>+A…` without one is
rewritten by `rewriteManifest` but hashed verbatim by `PortableDataHash`, so without this the rewrite
changes the hash. -/
def SizedLocs (mt : Str) : Prop :=
  ∀ t ∈ (splitOn ' ' mt).tail, locPrefix t = true → sizedLen t ≠ none

section
variable {mt id : Str} (hid : ' ' ∉ id) (h : SizedLocs mt)
include hid h

theorem pdhText_rewrite : pdhText (rewriteManifest mt id) = pdhText mt := by
  unfold pdhText
  rw [rewriteManifest_tokens mt hid, mapTail_mapTail]
  refine congrArg _ (mapTail_eq_mapTail_iff.mpr fun t ht => ?_)
  by_cases hl : locPrefix t = true
  · exact stripTok_rewriteTok id (h t ht hl)
  · simp [rewriteTok, hl]

theorem pdh_rewrite (md5 : Str → Str) : pdh md5 (rewriteManifest mt id) = pdh md5 mt := by
  unfold pdh; rw [pdhText_rewrite hid h]

end

end ArvVerif.C18
