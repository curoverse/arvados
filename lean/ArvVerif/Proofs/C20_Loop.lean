/-
The per-cluster loop: what it does with one answer (`verdict`), its runs without fuel (`Loop`),
and that they are the graph of the model's loop with any fuel `≥ |todo|` (`loop_run`, `Loop.eq`): the
fuel is enough because every page the loop goes on after shortens `todo` (`verdict_more_lt`). The
loop as Go writes it, with its `batch` variable, is the same function (`loopGo_eq`).
-/
import ArvVerif.Model.C20
namespace ArvVerif.C20

theorem mem_remaining {todo : List Uuid} {items : List Obj} {u : Uuid} :
    u ∈ remaining todo items ↔ u ∈ todo ∧ u ∉ pageUuids items := by
  simp [remaining, List.mem_filter]

/-- a non-empty page of wanted uuids makes todo shorter: the progress test of the code -/
theorem remaining_length_lt {todo : List Uuid} {items : List Obj} (hi : items ≠ [])
    (hsub : ∀ u ∈ pageUuids items, u ∈ todo) : (remaining todo items).length < todo.length := by
  obtain ⟨x, xs, rfl⟩ := List.exists_cons_of_ne_nil hi
  exact List.length_filter_lt_length_iff_exists.mpr
    ⟨x.uuid, hsub _ List.mem_cons_self, by simp [pageUuids]⟩

theorem accepts_iff {todo us : List Uuid} :
    accepts todo us = true ↔ us.Nodup ∧ ∀ u ∈ us, u ∈ todo := by
  induction us generalizing todo with
  | nil => simp [accepts]
  | cons a us ih =>
    simp only [accepts, Bool.and_eq_true, decide_eq_true_eq, ih, List.nodup_cons, List.mem_cons,
      forall_eq_or_imp, List.mem_filter]
    constructor
    · rintro ⟨ha, hnd, hall⟩
      exact ⟨⟨fun hmem => (hall a hmem).2 rfl, hnd⟩, ha, fun u hu => (hall u hu).1⟩
    · rintro ⟨⟨hna, hnd⟩, ha, hall⟩
      exact ⟨ha, hnd, fun u hu => ⟨hall u hu, fun he => hna (he ▸ hu)⟩⟩

@[simp] theorem push_pages (req : Opts) (resp : Resp) (items : List Obj) (r : CRes) :
    (r.push req resp items).pages = items :: r.pages := rfl
@[simp] theorem push_log (req : Opts) (resp : Resp) (items : List Obj) (r : CRes) :
    (r.push req resp items).log = (req, resp) :: r.log := rfl
@[simp] theorem push_stop (req : Opts) (resp : Resp) (items : List Obj) (r : CRes) :
    (r.push req resp items).stop = r.stop := rfl

@[simp] theorem status_done : Stop.status? .done = none := rfl
@[simp] theorem status_failed (s : Nat) : Stop.status? (.failed s) = some s := rfl
@[simp] theorem status_starved : Stop.status? .starved = some 0 := rfl

theorem status_eq_none_iff (st : Stop) : st.status? = none ↔ st = .done := by
  cases st <;> simp

theorem status_eq_some_iff (st : Stop) (e : Nat) :
    st.status? = some e ↔ st = .failed e ∨ st = .starved ∧ e = 0 := by
  cases st <;> simp [eq_comm]

def respItems : Resp → List Obj
  | .page items => items
  | .error _ => []

/-- What the loop does with the answer to the batch `todo` (list.go:251-280): it stops, handing
`pages` to the merge callback and reporting `st`, or it goes on after the page `items`. -/
inductive Verdict where
  | stop (pages : List (List Obj)) (st : Stop)
  | more (items : List Obj)

def verdict (todo : List Uuid) : Resp → Verdict
  | .error _ => .stop [] (.failed 502)
  | .page items =>
    if items = [] then .stop [[]] .done
    else if accepts todo (pageUuids items) = false then .stop [items] (.failed 502)
    else if (remaining todo items).length = todo.length then .stop [items] (.failed 502)
    else .more items

/-- The no-progress test of the code cannot fire after the per-uuid test. -/
theorem verdict_page (todo : List Uuid) (items : List Obj) :
    verdict todo (.page items) =
      if items = [] then .stop [[]] .done
      else if (pageUuids items).Nodup ∧ ∀ u ∈ pageUuids items, u ∈ todo then .more items
      else .stop [items] (.failed 502) := by
  simp only [verdict]
  split
  · rfl
  · rename_i hi
    by_cases ha : (pageUuids items).Nodup ∧ ∀ u ∈ pageUuids items, u ∈ todo
    · have hlt := remaining_length_lt hi ha.2
      rw [if_neg (by rw [accepts_iff.mpr ha]; simp), if_neg (by omega), if_pos ha]
    · rw [if_pos (by rw [Bool.eq_false_iff, Ne, accepts_iff]; exact ha), if_neg ha]

variable {B : Backend} {ropts : Opts} {fuel : Nat} {todo : List Uuid} {idx : Nat} {resp : Resp} {items : List Obj}

theorem verdict_more (h : verdict todo resp = .more items) :
    resp = .page items ∧ items ≠ [] ∧ (pageUuids items).Nodup ∧ ∀ u ∈ pageUuids items, u ∈ todo := by
  cases resp with
  | error s => cases h
  | page its =>
    rw [verdict_page] at h
    split at h
    · cases h
    · split at h
      · rename_i hi ha
        cases h
        exact ⟨rfl, hi, ha⟩
      · cases h

theorem verdict_more_lt (h : verdict todo resp = .more items) : (remaining todo items).length < todo.length :=
  remaining_length_lt (verdict_more h).2.1 (verdict_more h).2.2.2

theorem verdict_stop {pg : List (List Obj)} {st : Stop} (h : verdict todo resp = .stop pg st) :
    pg.flatten = respItems resp ∧ (st = .failed 502 ∨ st = .done ∧ resp = .page []) := by
  cases resp with
  | error s => cases h; exact ⟨rfl, Or.inl rfl⟩
  | page items =>
    rw [verdict_page] at h
    split at h
    · rename_i hi
      cases h; subst hi; exact ⟨rfl, Or.inr ⟨rfl, rfl⟩⟩
    · split at h
      · cases h
      · cases h; exact ⟨List.append_nil _, Or.inl rfl⟩

theorem loop_step (hne : todo ≠ []) :
    clusterLoop B ropts (fuel + 1) todo idx =
      match verdict todo (B (batchReq ropts todo) idx) with
      | .stop pg st => ⟨pg, [(batchReq ropts todo, B (batchReq ropts todo) idx)], st⟩
      | .more items => (clusterLoop B ropts fuel (remaining todo items) (idx + 1)).push
          (batchReq ropts todo) (B (batchReq ropts todo) idx) items := by
  rw [clusterLoop]
  simp only [hne, if_false]
  cases B (batchReq ropts todo) idx with
  | error s => rfl
  | page items =>
    simp only [verdict]
    split
    · rename_i hi; subst hi; rfl
    · split
      · rfl
      · split <;> rfl

/-- The runs of the loop, without fuel: entered with `todo` at call index `idx` it ends with `r`. -/
inductive Loop (B : Backend) (ropts : Opts) : List Uuid → Nat → CRes → Prop where
  | nil (idx : Nat) : Loop B ropts [] idx ⟨[], [], .done⟩
  | stop {todo idx pg st} : todo ≠ [] → verdict todo (B (batchReq ropts todo) idx) = .stop pg st →
      Loop B ropts todo idx ⟨pg, [(batchReq ropts todo, B (batchReq ropts todo) idx)], st⟩
  | more {todo idx items r} : todo ≠ [] → verdict todo (B (batchReq ropts todo) idx) = .more items →
      Loop B ropts (remaining todo items) (idx + 1) r →
      Loop B ropts todo idx (r.push (batchReq ropts todo) (B (batchReq ropts todo) idx) items)

theorem loop_run (hf : todo.length ≤ fuel) : Loop B ropts todo idx (clusterLoop B ropts fuel todo idx) := by
  induction fuel generalizing todo idx with
  | zero =>
    obtain rfl := List.length_eq_zero_iff.mp (Nat.le_zero.mp hf)
    exact .nil idx
  | succ fuel ih =>
    by_cases hne : todo = []
    · subst hne; exact .nil idx
    · rw [loop_step hne]
      cases hv : verdict todo (B (batchReq ropts todo) idx) with
      | stop pg st => exact .stop hne hv
      | more items => exact .more hne hv (ih (by have := verdict_more_lt hv; omega))

/-- Every run is the value of the model's loop, whatever fuel `≥ |todo|` it is given: with `loop_run`,
`Loop B ropts todo idx` is the graph of `clusterLoop B ropts fuel todo idx`. -/
theorem Loop.eq {r : CRes} (h : Loop B ropts todo idx r) (hf : todo.length ≤ fuel) :
    clusterLoop B ropts fuel todo idx = r := by
  induction h generalizing fuel with
  | nil idx => cases fuel <;> rfl
  | stop hne hv =>
    obtain ⟨n, rfl⟩ : ∃ n, fuel = n + 1 := ⟨fuel - 1, by have := List.length_pos_iff.mpr hne; omega⟩
    rw [loop_step hne, hv]
  | more hne hv _ ih =>
    obtain ⟨n, rfl⟩ : ∃ n, fuel = n + 1 := ⟨fuel - 1, by have := List.length_pos_iff.mpr hne; omega⟩
    have := verdict_more_lt hv
    rw [loop_step hne, hv]
    simp only
    rw [ih (by omega)]

theorem loop_fuel_indep (B : Backend) (ropts : Opts) (fuel : Nat) (todo : List Uuid) (idx : Nat)
    (hf : todo.length ≤ fuel) :
    clusterLoop B ropts fuel todo idx = clusterLoop B ropts todo.length todo idx :=
  (loop_run (Nat.le_refl _)).eq hf

/-- The two constructors of `Loop` for a non-empty `todo`, read as one equation about the loop at the
model's own fuel `|todo|`, the rest of the run again at its own fuel: the form in which `runCluster`,
`runClusterCut` and `LInv` meet the loop. -/
theorem loop_unfold (hne : todo ≠ []) :
    clusterLoop B ropts todo.length todo idx =
      match verdict todo (B (batchReq ropts todo) idx) with
      | .stop pg st => ⟨pg, [(batchReq ropts todo, B (batchReq ropts todo) idx)], st⟩
      | .more items =>
        (clusterLoop B ropts (remaining todo items).length (remaining todo items) (idx + 1)).push
          (batchReq ropts todo) (B (batchReq ropts todo) idx) items := by
  cases hv : verdict todo (B (batchReq ropts todo) idx) with
  | stop pg st => exact (Loop.stop hne hv).eq (Nat.le_refl _)
  | more items => exact (Loop.more hne hv (loop_run (Nat.le_refl _))).eq (Nat.le_refl _)

/-- The two cases of `h` are all that ever occurs: after a page with progress `todo` is strictly
shorter than the batch just sent (so the batch is rebuilt). -/
theorem loopGo_eq_gen (B : Backend) (ropts : Opts) (fuel : Nat) (batch todo : List Uuid) (idx : Nat)
    (h : batch = todo ∨ batch.length > todo.length) :
    clusterLoopGo B ropts fuel batch todo idx = clusterLoop B ropts fuel todo idx := by
  induction fuel generalizing batch todo idx with
  | zero => rfl
  | succ fuel ih =>
    have hb : (if batch.length > todo.length then todo else batch) = todo := by
      rcases h with rfl | h
      · simp
      · simp [h]
    -- with the same batch the two bodies differ in the recursive call only
    rw [clusterLoopGo, clusterLoop]
    simp only [hb]
    split
    · rfl
    · split
      · rfl
      · rename_i items _
        split
        · rfl
        · split
          · rfl
          · split
            · rfl
            · rename_i hp
              have := List.length_filter_le (fun u => decide (u ∉ pageUuids items)) todo
              rw [ih _ _ _ (Or.inr (by unfold remaining at hp ⊢; omega))]

theorem loopGo_eq (B : Backend) (ropts : Opts) (fuel : Nat) (todo : List Uuid) (idx : Nat) :
    clusterLoopGo B ropts fuel todo todo idx = clusterLoop B ropts fuel todo idx :=
  loopGo_eq_gen B ropts fuel todo todo idx (Or.inl rfl)

end ArvVerif.C20
