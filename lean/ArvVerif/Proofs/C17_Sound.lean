/-
C17 — soundness of the scan. `Run.sound`: under `Direct`, everything a successful call adds to the
plan (directories, regular files, `.keep` placeholders, manifest text) is justified by `Shows` and
`Jumps`; one induction on `Run` with a precondition per call (`CallJust`). With `shows_noSecret`: no
planned file is read from (or from below) the host file of a secret mount.
-/
import ArvVerif.Proofs.C17_Collect
namespace ArvVerif.C17

theorem Just.addFrags {h : Host} {cfg : Cfg} {st : Plan} (j : Just h cfg st) (fs : List Frag) :
    Just h cfg (st.addFrags fs) := ⟨j.files, j.dirs⟩

theorem Just.addDir {h : Host} {cfg : Cfg} {st : Plan} (j : Just h cfg st) (d : Path)
    (hd : d ≠ [] → DirJust h cfg d) : Just h cfg (st.addDir d) := by
  unfold Plan.addDir; split
  · exact j
  · exact ⟨j.files, List.forall_mem_append.mpr ⟨j.dirs, by simpa using hd ‹_›⟩⟩

theorem Just.addKeep {h : Host} {cfg : Cfg} {st : Plan} (j : Just h cfg st) (d : Path)
    (hd : d ≠ [] → FileJust h cfg (d ++ [".keep"], none)) : Just h cfg (st.addKeep d) := by
  unfold Plan.addKeep; split
  · exact j
  · exact ⟨List.forall_mem_append.mpr ⟨j.files, by simpa using hd ‹_›⟩, j.dirs⟩

theorem Just.addFile {h : Host} {cfg : Cfg} {st : Plan} (j : Just h cfg st) (d p : Path)
    (hd : FileJust h cfg (d, some p)) : Just h cfg (st.addFile d p) :=
  ⟨List.forall_mem_append.mpr ⟨j.files, by simpa using hd⟩, j.dirs⟩

theorem FragJust.addDir {h : Host} {cfg : Cfg} {st : Plan} (j : FragJust h cfg st) (d : Path) :
    FragJust h cfg (st.addDir d) := by
  unfold Plan.addDir; split <;> exact j

theorem FragJust.addKeep {h : Host} {cfg : Cfg} {st : Plan} (j : FragJust h cfg st) (d : Path) :
    FragJust h cfg (st.addKeep d) := by
  unfold Plan.addKeep; split <;> exact j

theorem FragJust.addFile {h : Host} {cfg : Cfg} {st : Plan} (j : FragJust h cfg st) (d p : Path) :
    FragJust h cfg (st.addFile d p) := j

/-- what the caller of each call guarantees: the call is made where the specification has a position;
the loops over the mounts below are dealt with by `Run.frags_eq` -/
def CallJust (h : Host) (cfg : Cfg) : Call → Prop
  | .mount dest src _ below => below = true ∧ Jumps h cfg dest src
  | .below .. => False
  | .host dest src _ inc => Shows h cfg dest src ∧ (inc = true → Jumps h cfg dest src ∧ notSecret cfg src)
  | .children dest src _ names =>
    Shows h cfg dest src ∧ nodeAt h cfg src = some .dir ∧ ∀ c ∈ names, ∃ n, nodeAt h cfg (src ++ [c]) = some n

theorem Run.sound {h : Host} {cfg : Cfg} (hwf : HostWF h) (wf : CfgWF h cfg)
    (hs : supported cfg = true) (hdirect : Direct h cfg)
    {c : Call} {st st' : Plan} (hr : Run h cfg c st st') :
    CallJust h cfg c → Just h cfg st ∧ FragJust h cfg st → Just h cfg st' ∧ FragJust h cfg st' := by
  -- the loop over the mounts below a jump position appends `belowFrags`; elsewhere it is not entered
  have hbelow : ∀ {dest src n} {b : Bool} {st a : Plan},
      Run h cfg (.below dest src n (if b then cfg.mounts else [])) st a → ¬ ProperPrefix src cfg.ctrOut →
      (b = true → Jumps h cfg dest src ∧ notSecret cfg src) → Just h cfg st ∧ FragJust h cfg st →
      Just h cfg a ∧ FragJust h cfg a := by
    intro dest src n b st a hr hpp hb hj
    cases hr.frags_eq (.below fun _ => hpp)
    refine ⟨hj.1.addFrags _, fun f hf => ?_⟩
    rcases List.mem_append.mp hf with hf | hf
    · exact hj.2 f hf
    · cases b with
      | false => cases hf
      | true => exact ⟨dest, src, (hb rfl).1, Or.inr ⟨(hb rfl).2, hf⟩⟩
  have hpp : ∀ {d s}, Shows h cfg d s → ¬ ProperPrefix s cfg.ctrOut :=
    fun hsh => not_properPrefix_of_prefix _ _ (shows_pre h cfg _ _ hsh)
  induction hr with
  | secret | childrenNil => exact fun _ hj => hj
  | belowNil | belowSkip | belowTake => exact fun hcj => hcj.elim
  | exclude hsec hsm _ hr =>
    exact fun hcj hj => hbelow hr (not_above_of_srcMount hs hsm) (fun _ => ⟨hcj.2, hsec⟩) hj
  | tmp hsec hsm hex hk _ ih =>
    exact fun hcj hj => ih ⟨hcj.2.shows ⟨hsec, _, hsm, hk, hex⟩, fun _ => ⟨hcj.2, hsec⟩⟩ hj
  | @coll dest src _ _ _ _ _ _ _ hsec hsm hex hk hwr hc hr =>
    intro hcj hj
    refine hbelow hr (not_above_of_srcMount hs hsm) (fun _ => ⟨hcj.2, hsec⟩) ⟨hj.1.addFrags _, fun f hf => ?_⟩
    -- the appended text is `fragOf cfg dest src`
    rw [← fragOf_coll hsec hsm hex hk hwr hc] at hf
    exact (List.mem_append.mp hf).elim (hj.2 f) fun hf => ⟨dest, src, hcj.2, Or.inl hf⟩
  | link hpl hst _ _ _ ih =>
    intro ⟨hsh, hinc⟩ hj
    exact ih ⟨rfl, .link hsh (shows_found hwf wf hdirect hsh hst).2⟩ (hbelow hpl (hpp hsh) hinc hj)
  | @emptyDir dest src _ _ _ _ _ hpl hst hnil =>
    intro ⟨hsh, hinc⟩ hj
    obtain ⟨hp, hnode⟩ := shows_found hwf wf hdirect hsh hst
    obtain ⟨hja, hfa⟩ := hbelow hpl (hpp hsh) hinc hj
    exact ⟨(hja.addDir dest fun hne => ⟨hne, src, hsh, hnode⟩).addKeep dest
      fun hne => ⟨dest, src, rfl, hne, hsh, hnode, by rw [← hp]; exact hnil⟩, (hfa.addDir dest).addKeep dest⟩
  | @dir dest src _ _ _ _ _ p hpl hst _ _ _ ih =>
    intro ⟨hsh, hinc⟩ hj
    obtain ⟨hp, hnode⟩ := shows_found hwf wf hdirect hsh hst
    obtain ⟨hja, hfa⟩ := hbelow hpl (hpp hsh) hinc hj
    refine ih ⟨hsh, hnode, fun c hc => ?_⟩ ⟨hja.addDir dest fun hne => ⟨hne, src, hsh, hnode⟩, hfa.addDir dest⟩
    obtain ⟨_, nd, hnd⟩ := children_spec h hwf p c hc
    exact ⟨nd, by rw [nodeAt_child h c (shows_pre h cfg _ _ hsh), ← hp]; exact hnd⟩
  | @file dest src _ _ _ _ _ content hpl hst =>
    intro ⟨hsh, hinc⟩ hj
    obtain ⟨hp, hnode⟩ := shows_found hwf wf hdirect hsh hst
    obtain ⟨hja, hfa⟩ := hbelow hpl (hpp hsh) hinc hj
    exact ⟨hja.addFile _ _ ⟨src, content, hsh, hp, by rw [hp]; exact hnode⟩, hfa.addFile _ _⟩
  | childSkip _ _ ih =>
    exact fun ⟨hsh, hdir, hall⟩ hj => ih ⟨hsh, hdir, (List.forall_mem_cons.mp hall).2⟩ hj
  | childTake hsec hskip _ _ ih1 ih2 =>
    intro ⟨hsh, hdir, hall⟩ hj
    obtain ⟨hex, hall'⟩ := List.forall_mem_cons.mp hall
    exact ih2 ⟨hsh, hdir, hall'⟩ (ih1 ⟨.child hsh hdir hex hsec hskip, by simp⟩ hj)

theorem scan_sound_both {h : Host} {cfg : Cfg} (hwf : HostWF h) (wf : CfgWF h cfg)
    (hs : supported cfg = true) (hdirect : Direct h cfg)
    {fuel : Nat} {plan : Plan} (hscan : scan h cfg fuel = .ok plan) : Just h cfg plan ∧ FragJust h cfg plan :=
  (Run.of_walk hscan).sound hwf wf hs hdirect
    ⟨rfl, .root⟩
    ⟨⟨by simp, by simp⟩, fun f hf => by simp at hf⟩

theorem scan_sound (h : Host) (cfg : Cfg) (hwf : HostWF h) (wf : CfgWF h cfg)
    (hout : h.get cfg.hostOut = some .dir) (hs : supported cfg = true) (hdirect : Direct h cfg)
    (fuel : Nat) (plan : Plan) (hscan : scan h cfg fuel = .ok plan) : Just h cfg plan :=
  (scan_sound_both hwf wf hs hdirect hscan).1

/-- **mounted content, soundness**: every item of manifest text a successful scan collects is the
extract of a read-only collection at a jump position, or of one mounted beneath it -/
theorem scan_frags_sound (h : Host) (cfg : Cfg) (hwf : HostWF h) (wf : CfgWF h cfg)
    (hout : h.get cfg.hostOut = some .dir) (hs : supported cfg = true) (hdirect : Direct h cfg)
    (fuel : Nat) (plan : Plan) (hscan : scan h cfg fuel = .ok plan) : FragJust h cfg plan :=
  (scan_sound_both hwf wf hs hdirect hscan).2

def SecretHost (cfg : Cfg) (p : Path) : Prop :=
  ∃ x ∈ cfg.secrets, cfg.ctrOut.isPrefixOf x = true ∧ (hostPath cfg x).isPrefixOf p = true

theorem scan_no_secret (h : Host) (cfg : Cfg) (hwf : HostWF h) (wf : CfgWF h cfg)
    (hs : supported cfg = true) (hdirect : Direct h cfg)
    (fuel : Nat) (plan : Plan) (hscan : scan h cfg fuel = .ok plan) :
    ∀ f ∈ plan.files, ∀ p, f.2 = some p → ¬ SecretHost cfg p := by
  rintro ⟨d, _⟩ hf p rfl
  obtain ⟨s, c, hsh, rfl, _⟩ := (scan_sound_both hwf wf hs hdirect hscan).1.files _ hf
  intro ⟨x, hx, hxpre, hxp⟩
  have hns := shows_noSecret h cfg wf _ s hsh x hx
  have := hostPath_prefix cfg x s hxpre (shows_pre h cfg _ s hsh) hxp
  rw [hns] at this; cases this

end ArvVerif.C17
