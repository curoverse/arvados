/-
The request under a cancellation schedule (`runCancel`): a cluster the cancellation does not reach
runs as in `run`, one it reaches fails with 502; the errors that can be returned are those of the
clusters that failed by themselves (`ownErrs`).
-/
import ArvVerif.Proofs.C20_Run
namespace ArvVerif.C20

variable (cfg : Cfg) (o : Opts) (gs : List (ClusterId × List Uuid)) (cut : ClusterId → Option Nat)

def cutResults : List (ClusterId × CRes) :=
  gs.map (fun g => (g.1, runClusterCut cfg o g.1 g.2 (cut g.1)))

/-- the errors of the clusters that failed before the cancellation reached them -/
def ownErrs : List Nat :=
  (gs.filter (fun g => !affected cfg o cut g)).filterMap (fun g => (runCluster cfg o g.1 g.2).stop.status?)

/-- A cancellation schedule is possible only if it has a cause: when some cluster is reached by the
cancellation while still running, some other cluster failed by itself (`cancel()` is called only on
receipt of an error, list.go:290-295). -/
def ValidCut (cfg : Cfg) (o : Opts) (gs : List (ClusterId × List Uuid)) (cut : ClusterId → Option Nat) : Prop :=
  (∃ g ∈ gs, affected cfg o cut g = true) →
    ∃ g ∈ gs, affected cfg o cut g = false ∧ (runCluster cfg o g.1 g.2).stop ≠ .done

variable {cfg o gs cut}

theorem runClusterCut_spec {g : ClusterId × List Uuid} :
    (affected cfg o cut g = false → runClusterCut cfg o g.1 g.2 (cut g.1) = runCluster cfg o g.1 g.2) ∧
    (affected cfg o cut g = true → (runClusterCut cfg o g.1 g.2 (cut g.1)).stop = .failed 502) := by
  unfold affected runClusterCut runCluster
  cases cut g.1 with
  | none => exact ⟨fun _ => by cases backendFor cfg g.1 <;> rfl, nofun⟩
  | some k =>
    cases backendFor cfg g.1 with
    | none => exact ⟨fun _ => rfl, fun h => by simp at h⟩
    | some B =>
      simp only [decide_eq_false_iff_not, decide_eq_true_eq]
      exact ⟨fun h => ((loop_run (Nat.le_refl _)).cut k (by omega)).eq (Nat.le_refl _),
        fun h => (loop_run (Nat.le_refl _)).cut_fails k (Nat.zero_le _) (by omega)⟩

theorem runCancel_of_split (ext : Bool) (h : plan cfg.localId cfg.maxItems o = .split gs) :
    runCancel cfg o cut ext =
      if (cutResults cfg o gs cut).filterMap (fun r => r.2.stop.status?) = [] then
        ⟨.ok (mergePages ((cutResults cfg o gs cut).flatMap (fun r => r.2.pages))),
          (cutResults cfg o gs cut).map (fun r => (r.1, r.2.log))⟩
      else
        ⟨.err (ownErrs cfg o gs cut ++
            if ext then (gs.filter (fun g => affected cfg o cut g)).map (fun _ => 502) else []),
          (cutResults cfg o gs cut).map (fun r => (r.1, r.2.log))⟩ := by
  unfold runCancel; rw [h]; rfl

theorem cut_errs_nil_iff :
    (cutResults cfg o gs cut).filterMap (fun r => r.2.stop.status?) = [] ↔
      ∀ g ∈ gs, (runClusterCut cfg o g.1 g.2 (cut g.1)).stop = .done := by
  simp [cutResults, List.filterMap_eq_nil_iff, status_eq_none_iff]

theorem runCancel_unaffected (ext : Bool) (hplan : plan cfg.localId cfg.maxItems o = .split gs)
    (h : ∀ g ∈ gs, affected cfg o cut g = false) : runCancel cfg o cut ext = run cfg o := by
  have h0 : cutResults cfg o gs cut = splitResults cfg o gs :=
    List.map_congr_left fun g hg => by rw [runClusterCut_spec.1 (h g hg)]
  have h1 : gs.filter (fun g => !affected cfg o cut g) = gs :=
    List.filter_eq_self.mpr fun g hg => by simp [h g hg]
  have h2 : gs.filter (fun g => affected cfg o cut g) = [] :=
    List.filter_eq_nil_iff.mpr fun g hg => by simp [h g hg]
  rw [runCancel_of_split ext hplan, h0, run_of_split hplan,
    ownErrs, h1, h2]
  simp [splitResults, List.filterMap_map, Function.comp_def]

theorem runCancel_err (ext : Bool) (hplan : plan cfg.localId cfg.maxItems o = .split gs)
    {g : ClusterId × List Uuid} (hg : g ∈ gs) (h : (runClusterCut cfg o g.1 g.2 (cut g.1)).stop ≠ .done) :
    (runCancel cfg o cut ext).out = .err (ownErrs cfg o gs cut ++
      if ext then (gs.filter (fun g => affected cfg o cut g)).map (fun _ => 502) else []) := by
  rw [runCancel_of_split ext hplan, if_neg fun hnil => h (cut_errs_nil_iff.mp hnil g hg)]

theorem runCancel_affected (ext : Bool) (hplan : plan cfg.localId cfg.maxItems o = .split gs)
    (h : ∃ g ∈ gs, affected cfg o cut g = true) :
    (runCancel cfg o cut ext).out = .err (ownErrs cfg o gs cut ++
      if ext then (gs.filter (fun g => affected cfg o cut g)).map (fun _ => 502) else []) := by
  obtain ⟨g, hg, ha⟩ := h
  exact runCancel_err ext hplan hg (by rw [runClusterCut_spec.2 ha]; nofun)

theorem mem_ownErrs {s : Nat} : s ∈ ownErrs cfg o gs cut ↔
    ∃ g ∈ gs, affected cfg o cut g = false ∧ (runCluster cfg o g.1 g.2).stop = .failed s := by
  simp [ownErrs, List.mem_filterMap, runCluster_status, and_assoc]

theorem runCancel_err_of_own (ext : Bool) (hplan : plan cfg.localId cfg.maxItems o = .split gs) {s : Nat}
    (hs : s ∈ ownErrs cfg o gs cut) : ∃ ss, (runCancel cfg o cut ext).out = .err ss ∧ s ∈ ss := by
  obtain ⟨g, hg, hna, hst⟩ := mem_ownErrs.mp hs
  exact ⟨_, runCancel_err ext hplan hg (by rw [runClusterCut_spec.1 hna, hst]; nofun),
    List.mem_append_left _ hs⟩

end ArvVerif.C20
