/-
C17 — determinism of the specification per output path. What `Shows` derives for one output path
`d` is a single chain of links: an entry point (the output directory for the root, `s0/c` for the
entry `c` of the one directory `s0` shown at the parent path) followed by link steps. Consequences:
at most one non-link node is shown at `d` (`shows_terminal_unique`), every proper prefix of a shown
path shows a directory (`shows_prefix_dir`), and if the chain at `d` ends in a link that is not
followed, nothing but links is shown at `d` (`shows_all_links`).
-/
import ArvVerif.Proofs.C17_Shows
namespace ArvVerif.C17

/-- `b` is reached from `a` by following links the way `Shows.link` does -/
inductive Reach (h : Host) (cfg : Cfg) : Path → Path → Prop
  | refl (s : Path) : Reach h cfg s s
  | step {a b : Path} {ab : Bool} {t : Path} : Reach h cfg a b → nodeAt h cfg b = some (.link ab t) →
      InOut cfg (linkTarget b ab t) → Reach h cfg a (linkTarget b ab t)

theorem Reach.trans {h : Host} {cfg : Cfg} {a b c : Path} (h1 : Reach h cfg a b) (h2 : Reach h cfg b c) :
    Reach h cfg a c := by
  induction h2 with
  | refl => exact h1
  | step _ hn hi ih => exact Reach.step ih hn hi

theorem Reach.head {h : Host} {cfg : Cfg} {b s : Path} (hr : Reach h cfg b s) :
    b = s ∨ ∃ ab t, nodeAt h cfg b = some (.link ab t) ∧ InOut cfg (linkTarget b ab t) ∧
      Reach h cfg (linkTarget b ab t) s := by
  induction hr with
  | refl => exact Or.inl rfl
  | step _ hn hi ih =>
    right
    rcases ih with rfl | ⟨ab', t', hn', hi', hr''⟩
    · exact ⟨_, _, hn, hi, Reach.refl _⟩
    · exact ⟨ab', t', hn', hi', Reach.step hr'' hn hi⟩

theorem Reach.linear {h : Host} {cfg : Cfg} {e s1 s2 : Path} (h1 : Reach h cfg e s1) (h2 : Reach h cfg e s2) :
    Reach h cfg s1 s2 ∨ Reach h cfg s2 s1 := by
  induction h1 with
  | refl => exact Or.inl h2
  | step _ hn hi ih =>
    rcases ih with hb | hb
    · rcases hb.head with rfl | ⟨ab', t', hn', _, hr'⟩
      · exact Or.inr (Reach.step (Reach.refl _) hn hi)
      · cases hn.symm.trans hn'
        exact Or.inl hr'
    · exact Or.inr (Reach.step hb hn hi)

theorem Reach.stuck {h : Host} {cfg : Cfg} {b s : Path} (hr : Reach h cfg b s)
    (hb : ∀ ab t, nodeAt h cfg b = some (.link ab t) → ¬ InOut cfg (linkTarget b ab t)) : s = b := by
  rcases hr.head with rfl | ⟨ab, t, hn, hi, _⟩
  · rfl
  · exact absurd hi (hb ab t hn)

def IsEntry (h : Host) (cfg : Cfg) (d e : Path) : Prop :=
  (d = [] ∧ e = cfg.ctrOut) ∨
  ∃ (d' s0 : Path) (c : Name), d = d' ++ [c] ∧ Shows h cfg d' s0 ∧ nodeAt h cfg s0 = some .dir ∧ e = s0 ++ [c] ∧
    (∃ n, nodeAt h cfg (s0 ++ [c]) = some n) ∧ (s0 ++ [c]) ∉ cfg.secrets ∧ skipMount cfg (s0 ++ [c]) = false

theorem shows_entry {h : Host} {cfg : Cfg} {d s : Path} (hs : Shows h cfg d s) :
    ∃ e, IsEntry h cfg d e ∧ Reach h cfg e s := by
  induction hs with
  | root => exact ⟨cfg.ctrOut, Or.inl ⟨rfl, rfl⟩, Reach.refl _⟩
  | child hsh hdir hex hsec hskip =>
    exact ⟨_, Or.inr ⟨_, _, _, rfl, hsh, hdir, rfl, hex, hsec, hskip⟩, Reach.refl _⟩
  | link _ hnode hin ih =>
    obtain ⟨e, he, hr⟩ := ih
    exact ⟨e, he, Reach.step hr hnode hin⟩

theorem shows_of_entry (h : Host) (cfg : Cfg) (d e s : Path) (he : IsEntry h cfg d e) (hr : Reach h cfg e s) :
    Shows h cfg d s := by
  induction hr with
  | refl =>
    rcases he with ⟨rfl, rfl⟩ | ⟨d', s0, c, rfl, hsh, hdir, rfl, hex, hsec, hskip⟩
    · exact Shows.root
    · exact Shows.child hsh hdir hex hsec hskip
  | step _ hn hi ih => exact Shows.link ih hn hi

def NonLink (h : Host) (cfg : Cfg) (s : Path) : Prop := ∀ ab t, nodeAt h cfg s ≠ some (.link ab t)

theorem nonLink_of_dir {h : Host} {cfg : Cfg} {s : Path} (hd : nodeAt h cfg s = some .dir) : NonLink h cfg s :=
  fun _ _ hn => nomatch hd.symm.trans hn

theorem nonLink_of_file {h : Host} {cfg : Cfg} {s : Path} {c : Bytes} (hd : nodeAt h cfg s = some (.file c)) :
    NonLink h cfg s := fun _ _ hn => nomatch hd.symm.trans hn

theorem Reach.eq_of_nonLink {h : Host} {cfg : Cfg} {a b : Path} (hr : Reach h cfg a b ∨ Reach h cfg b a)
    (ha : NonLink h cfg a) (hb : NonLink h cfg b) : a = b := by
  rcases hr with hr | hr
  · exact (hr.stuck fun ab t hn => absurd hn (ha ab t)).symm
  · exact hr.stuck fun ab t hn => absurd hn (hb ab t)

theorem shows_snoc {h : Host} {cfg : Cfg} {d : Path} {c : Name} {s : Path} (hs : Shows h cfg (d ++ [c]) s) :
    ∃ s0, Shows h cfg d s0 ∧ nodeAt h cfg s0 = some .dir ∧ (∃ n, nodeAt h cfg (s0 ++ [c]) = some n) ∧
      skipMount cfg (s0 ++ [c]) = false ∧ Reach h cfg (s0 ++ [c]) s := by
  obtain ⟨e, he, hr⟩ := shows_entry hs
  rcases he with ⟨hd, _⟩ | ⟨d', s0, c', hd', hsh, hdir, rfl, hex, _, hskip⟩
  · simp at hd
  · obtain ⟨rfl, hc⟩ := List.append_inj' hd' rfl
    cases hc
    exact ⟨s0, hsh, hdir, hex, hskip, hr⟩

theorem shows_linear {h : Host} {cfg : Cfg} : ∀ (d : Path) {s1 s2 : Path}, Shows h cfg d s1 → Shows h cfg d s2 →
    Reach h cfg s1 s2 ∨ Reach h cfg s2 s1 := by
  intro d
  induction d using snoc_induction with
  | nil =>
    intro s1 s2 h1 h2
    obtain ⟨e1, he1, r1⟩ := shows_entry h1
    obtain ⟨e2, he2, r2⟩ := shows_entry h2
    rcases he1 with ⟨_, rfl⟩ | ⟨_, _, _, hd, _⟩
    · rcases he2 with ⟨_, rfl⟩ | ⟨_, _, _, hd, _⟩
      · exact r1.linear r2
      · simp at hd
    · simp at hd
  | snoc d c ih =>
    intro s1 s2 h1 h2
    obtain ⟨a, ha, hda, _, _, r1⟩ := shows_snoc h1
    obtain ⟨b, hb, hdb, _, _, r2⟩ := shows_snoc h2
    -- the same directory is shown at the parent path, so both chains start at its entry `c`
    cases Reach.eq_of_nonLink (ih ha hb) (nonLink_of_dir hda) (nonLink_of_dir hdb)
    exact r1.linear r2

theorem shows_terminal_unique (h : Host) (cfg : Cfg) (d s1 s2 : Path) (hs1 : Shows h cfg d s1)
    (hs2 : Shows h cfg d s2) (hn1 : NonLink h cfg s1) (hn2 : NonLink h cfg s2) : s1 = s2 :=
  Reach.eq_of_nonLink (shows_linear d hs1 hs2) hn1 hn2

theorem shows_parent_dir {h : Host} {cfg : Cfg} {d : Path} : ∀ (r : Path) {s : Path}, r ≠ [] →
    Shows h cfg (d ++ r) s → ∃ s0, Shows h cfg d s0 ∧ nodeAt h cfg s0 = some .dir := by
  intro r
  induction r using snoc_induction with
  | nil => exact fun hr => absurd rfl hr
  | snoc r c ih =>
    intro s _ hs
    rw [← List.append_assoc] at hs
    obtain ⟨s0, hsh, hdir, _⟩ := shows_snoc hs
    by_cases hr : r = []
    · subst hr; exact ⟨s0, by simpa using hsh, hdir⟩
    · exact ih hr hsh

theorem shows_prefix_dir (h : Host) (cfg : Cfg) (d : Path) : ∀ (k : Nat) (r : Path) (s : Path), r.length = k → r ≠ [] →
    Shows h cfg (d ++ r) s → ∃ s0, Shows h cfg d s0 ∧ nodeAt h cfg s0 = some .dir :=
  fun _ r _ _ => shows_parent_dir r

theorem shows_prefix {h : Host} {cfg : Cfg} {d r s : Path} (hs : Shows h cfg (d ++ r) s) : ∃ s1, Shows h cfg d s1 := by
  by_cases hr : r = []
  · subst hr; exact ⟨s, by simpa using hs⟩
  · obtain ⟨s0, hs0, _⟩ := shows_parent_dir r hr hs
    exact ⟨s0, hs0⟩

theorem shows_all_links (h : Host) (cfg : Cfg) (d s0 : Path) (ab : Bool) (t : Path) (hs0 : Shows h cfg d s0)
    (hn0 : nodeAt h cfg s0 = some (.link ab t)) (hno : ¬ InOut cfg (linkTarget s0 ab t))
    (s : Path) (hs : Shows h cfg d s) : ∃ ab' t', nodeAt h cfg s = some (.link ab' t') := by
  rcases shows_linear d hs0 hs with hr | hr
  · cases hr.stuck fun ab' t' hn => by cases hn0.symm.trans hn; exact hno
    exact ⟨ab, t, hn0⟩
  · rcases hr.head with rfl | ⟨ab', t', hn', _, _⟩
    · exact ⟨ab, t, hn0⟩
    · exact ⟨ab', t', hn'⟩

end ArvVerif.C17
