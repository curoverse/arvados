/-
C03: the BlockCache transition system (Model/C03_Conc.lean) stores and returns only outcomes that a
fetch for that key can produce (the invariant `Inv`); what a lookup does with an entry holding an error
and with a pending one; a run that serves a stored outcome to a second reader.
-/
import ArvVerif.Model.C03_Conc
namespace ArvVerif.C03

/-- `cacheDone` and `results` are what the property theorems use; `cachePending` and `waitKey` (a
pending entry and a waiting reader hold a fetch started for their own key) carry them through `fetchDone`. -/
structure Inv (out : Key → Entry → Prop) (s : CS) : Prop where
  cacheDone : ∀ k e, s.cache k = some (.done e) → out k e
  cachePending : ∀ k f, s.cache k = some (.pending f) → f.1 = k
  waitKey : ∀ w ∈ s.waiting, w.2.2.1 = w.2.1
  results : ∀ x ∈ s.results, out x.2.1 x.2.2

theorem Inv.setKey {out : Key → Entry → Prop} {s : CS} (h : Inv out s) (k : Key) (v : CE)
    (hv : match v with | .done e => out k e | .pending f => f.1 = k) :
    (∀ k' e, setKey s.cache k (some v) k' = some (.done e) → out k' e) ∧
    (∀ k' f, setKey s.cache k (some v) k' = some (.pending f) → f.1 = k') := by
  unfold C03.setKey
  constructor <;> intro k' x hx <;> split at hx
  · cases hx; subst k'; exact hv
  · exact h.cacheDone k' x hx
  · cases hx; subst k'; exact hv
  · exact h.cachePending k' x hx

theorem inv_startFetch (out : Key → Entry → Prop) (s : CS) (r : Nat) (k : Key) (h : Inv out s) :
    Inv out (startFetch s r k) :=
  have hc := h.setKey k (.pending (k, s.nextFid)) rfl
  ⟨hc.1, hc.2, List.forall_mem_cons.mpr ⟨rfl, h.waitKey⟩, h.results⟩

theorem inv_apply (out : Key → Entry → Prop) (s : CS) (a : Act) (h : Inv out s) (hv : a.Valid out) :
    Inv out (apply s a) := by
  cases a with
  | lookup r k =>
    simp only [apply]
    split
    · exact inv_startFetch out s r k h
    · rename_i f hc
      exact ⟨h.cacheDone, h.cachePending, List.forall_mem_cons.mpr ⟨h.cachePending k f hc, h.waitKey⟩, h.results⟩
    · rename_i e hc
      split
      · exact ⟨h.cacheDone, h.cachePending, h.waitKey, List.forall_mem_cons.mpr ⟨h.cacheDone k e hc, h.results⟩⟩
      · exact inv_startFetch out s r k h
  | fetchDone f e =>
    simp only [apply]
    split
    · refine ⟨?_, ?_, fun w hw => h.waitKey w (List.mem_filter.mp hw).1,
        List.forall_mem_append.mpr ⟨List.forall_mem_map.mpr fun w hw => ?_, h.results⟩⟩
      · dsimp only; split
        · exact (h.setKey f.1 (.done e) hv).1
        · exact h.cacheDone
      · dsimp only; split
        · exact (h.setKey f.1 (.done e) hv).2
        · exact h.cachePending
      · -- a reader woken by this fetch waited for it under the key the fetch was started for
        obtain ⟨hw, hwf⟩ := List.mem_filter.mp hw
        rw [decide_eq_true_eq] at hwf
        have hk := h.waitKey w hw
        rw [hwf] at hk
        exact hk ▸ hv
    · exact h
  | sweep keep =>
    refine ⟨fun k e he => ?_, fun k f hf => ?_, h.waitKey, h.results⟩
    · dsimp only [apply] at he; split at he
      · exact h.cacheDone k e he
      · cases he
    · dsimp only [apply] at hf; split at hf
      · exact h.cachePending k f hf
      · cases hf

theorem inv_reach (out : Key → Entry → Prop) (s : CS) (h : Reach out s) : Inv out s := by
  induction h with
  | init => exact ⟨nofun, nofun, nofun, nofun⟩
  | step s a _ hv ih => exact inv_apply out s a ih hv

theorem lookup_err_refetches (s : CS) (r : Nat) (k : Key) (e : Entry) (err : Err)
    (hc : s.cache k = some (.done e)) (he : e.err = some err) :
    (apply s (.lookup r k)).cache k = some (.pending (k, s.nextFid)) ∧
    (apply s (.lookup r k)).results = s.results ∧
    (k, s.nextFid) ∈ (apply s (.lookup r k)).inflight ∧
    (r, k, (k, s.nextFid)) ∈ (apply s (.lookup r k)).waiting := by
  simp [apply, hc, he, startFetch, setKey]

theorem lookup_pending_joins (s : CS) (r : Nat) (k : Key) (f : FetchId)
    (hc : s.cache k = some (.pending f)) :
    (apply s (.lookup r k)).results = s.results ∧ (r, k, f) ∈ (apply s (.lookup r k)).waiting := by
  simp [apply, hc]

theorem served_after_fetch (out : Key → Entry → Prop) (k : Key) (e : Entry) (ho : out k e)
    (he : e.err = none) : ∃ s, Reach out s ∧ (1, k, e) ∈ s.results :=
  ⟨apply (apply (apply CS.init (.lookup 0 k)) (.fetchDone (k, 0) e)) (.lookup 1 k),
   .step _ _ (.step _ _ (.step _ _ .init trivial) ho) trivial,
   by simp [apply, startFetch, setKey, CS.init, he]⟩

end ArvVerif.C03
