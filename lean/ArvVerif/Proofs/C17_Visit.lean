/-
C17 — the calls a successful scan has made (`Made`) and the positions it has looked at (`Visit`):
every entry that is reachable from a visited directory through real directories (and is not hidden
by a secret mount or a mount point) has been visited (`Visit.reach`).
-/
import ArvVerif.Proofs.C17_Walk
namespace ArvVerif.C17

variable {h : Host} {cfg : Cfg}

def Made (h : Host) (cfg : Cfg) (pl : Plan) (c : Call) : Prop :=
  ∃ st st', Run h cfg c st st' ∧ st'.le pl

theorem Run.made {c : Call} {st st' : Plan} (hr : Run h cfg c st st') : Made h cfg st' c :=
  ⟨_, _, hr, Plan.le_refl _⟩

theorem Run.child {dest src : Path} {n : Nat} {names : List Name} {st st' : Plan}
    (hr : Run h cfg (.children dest src n names) st st') {c : Name} (hc : c ∈ names)
    (hsec : (src ++ [c]) ∉ cfg.secrets) (hskip : skipMount cfg (src ++ [c]) = false) :
    Made h cfg st' (.host (dest ++ [c]) (src ++ [c]) n false) := by
  induction names generalizing st with
  | nil => cases hc
  | cons x xs ih =>
    cases hr with
    | childSkip hx hr' =>
      rcases List.mem_cons.mp hc with rfl | hm
      · rcases hx with hx | hx
        · exact absurd hx hsec
        · rw [hskip] at hx; cases hx
      · exact ih hr' hm
    | childTake _ _ ha hr' =>
      rcases List.mem_cons.mp hc with rfl | hm
      · exact ⟨_, _, ha, hr'.mono⟩
      · exact ih hr' hm

theorem Run.host_step {dest src p : Path} {n : Nat} {inc : Bool} {st st' : Plan} {c : Name} {node : Node}
    (hw : Run h cfg (.host dest src n inc) st st')
    (hd : namei h [] (hostPath cfg src) 0 = .found p .dir) (hg : h.get (p ++ [c]) = some node)
    (hsec : (src ++ [c]) ∉ cfg.secrets) (hskip : skipMount cfg (src ++ [c]) = false) :
    Made h cfg st' (.host (dest ++ [c]) (src ++ [c]) n false) := by
  have hch : c ∈ h.children p := children_of_mem h p c node (mem_of_get h _ _ (by simp) hg)
  cases hw with
  | link _ hst | file _ hst => rw [hd] at hst; cases hst
  | emptyDir _ hst hnil => rw [hd] at hst; cases hst; rw [hnil] at hch; cases hch
  | dir _ hst _ hr => rw [hd] at hst; cases hst; exact hr.child ((mem_sortNames c _).mpr hch) hsec hskip

theorem host_step (h : Host) (cfg : Cfg) (wf : HostWF h) (dest src p : Path) (n fuel : Nat) (inc : Bool)
    (st st' : Plan) (c : Name) (node : Node)
    (hw : walk h cfg fuel (.host dest src n inc) st = .ok st')
    (hd : namei h [] (hostPath cfg src) 0 = .found p .dir)
    (hg : h.get (p ++ [c]) = some node)
    (hsec : (src ++ [c]) ∉ cfg.secrets) (hskip : skipMount cfg (src ++ [c]) = false) :
    ∃ fuel' st1 st2, walk h cfg fuel' (.host (dest ++ [c]) (src ++ [c]) n false) st1 = .ok st2 ∧
      st2.le st' := by
  obtain ⟨s1, s2, hr, hle⟩ := (Run.of_walk hw).host_step hd hg hsec hskip
  obtain ⟨F, hF⟩ := hr.to_walk
  exact ⟨F, s1, s2, hF F (Nat.le_refl _), hle⟩

theorem Run.mount_inOut {x dest : Path} {n : Nat} {b : Bool} {st st' : Plan} (hx : InOut cfg x) :
    Run h cfg (.mount dest x n b) st st' ↔ Run h cfg (.host dest x n b) st st' := by
  obtain ⟨hsec, m, hsm, hk, he⟩ := hx
  refine ⟨fun hr => ?_, Run.tmp hsec hsm he hk⟩
  cases hr with
  | secret hs => rw [hsec] at hs; cases hs
  | tmp _ _ _ _ hr => exact hr
  | exclude _ hsm' he' => rw [hsm] at hsm'; cases hsm'; rw [he] at he'; cases he'
  | coll _ hsm' _ hk' => rw [hsm] at hsm'; cases hsm'; simp [hk] at hk'

theorem Made.host_of_mount {pl : Plan} {x d : Path} {n : Nat} {b : Bool} (hm : Made h cfg pl (.mount d x n b))
    (hx : InOut cfg x) : Made h cfg pl (.host d x n b) :=
  let ⟨_, _, hr, hle⟩ := hm
  ⟨_, _, (Run.mount_inOut hx).mp hr, hle⟩

theorem scan_run {fuel : Nat} {plan : Plan} (hx : InOut cfg cfg.ctrOut) (hs : scan h cfg fuel = .ok plan) :
    Run h cfg (.host [] cfg.ctrOut (limitFollowSymlinks + 1) true) {} plan :=
  (Run.mount_inOut hx).mp (Run.of_walk hs)

theorem Run.of_link {dest src p : Path} {n : Nat} {inc : Bool} {st st' : Plan} {abs : Bool} {t : Path}
    (hr : Run h cfg (.host dest src n inc) st st')
    (hd : namei h [] (hostPath cfg src) 0 = .found p (.link abs t)) :
    n ≠ 0 ∧ ∃ a, Run h cfg (.mount dest (linkTarget src abs t) (n - 1) true) a st' := by
  cases hr with
  | link _ hst hn hm => rw [hd] at hst; cases hst; exact ⟨hn, _, hm⟩
  | emptyDir _ hst | dir _ hst | file _ hst => rw [hd] at hst; cases hst

/-- `rel` leads from the resolved directory `p` (container path `src`) through real directories
that are neither secret mounts nor mount points to an entry `node` -/
structure Visible (h : Host) (cfg : Cfg) (src p rel : Path) (node : Node) : Prop where
  dirs : ∀ k, 0 < k → k < rel.length → h.get (p ++ rel.take k) = some .dir
  vis : ∀ k, 0 < k → k ≤ rel.length →
    (src ++ rel.take k) ∉ cfg.secrets ∧ skipMount cfg (src ++ rel.take k) = false
  node : h.get (p ++ rel) = some node

/-- `Visible` as finitely many conditions, for concrete trees -/
theorem Visible.of_range {h : Host} {cfg : Cfg} {src p rel : Path} {node : Node}
    (hd : ∀ k ∈ List.range rel.length, 0 < k → h.get (p ++ rel.take k) = some .dir)
    (hv : ∀ k ∈ List.range (rel.length + 1), 0 < k →
      (src ++ rel.take k) ∉ cfg.secrets ∧ skipMount cfg (src ++ rel.take k) = false)
    (hn : h.get (p ++ rel) = some node) : Visible h cfg src p rel node :=
  ⟨fun k h0 hk => hd k (List.mem_range.mpr hk) h0, fun k h0 hk => hv k (List.mem_range.mpr (by omega)) h0, hn⟩

theorem Visible.tail {src p : Path} {c : Name} {rest : Path} {node : Node}
    (hv : Visible h cfg src p (c :: rest) node) : Visible h cfg (src ++ [c]) (p ++ [c]) rest node := by
  refine ⟨fun k hk0 hk => ?_, fun k hk0 hk => ?_, by simpa using hv.node⟩
  · simpa using hv.dirs (k + 1) (by omega) (by simp; omega)
  · simpa using hv.vis (k + 1) (by omega) (by simp; omega)

/-- the scan has called `walkHostFS` for the container path `s` at the output path `d` with budget
`n`, and `lstat` found `node` at the physical path `p` -/
structure Visit (h : Host) (cfg : Cfg) (pl : Plan) (n : Nat) (d s p : Path) (node : Node) : Prop where
  pre : cfg.ctrOut.isPrefixOf s = true
  call : ∃ inc, Made h cfg pl (.host d s n inc)
  stat : namei h [] (hostPath cfg s) 0 = .found p node

theorem Visit.root (hx : InOut cfg cfg.ctrOut) (hreal : OutDirReal h cfg) {fuel : Nat} {plan : Plan}
    (hs : scan h cfg fuel = .ok plan) :
    Visit h cfg plan (limitFollowSymlinks + 1) [] cfg.ctrOut cfg.hostOut .dir :=
  ⟨isPrefixOf_self _, ⟨true, (scan_run hx hs).made⟩, by rw [hostPath_out]; exact hreal⟩

theorem Visit.child (wf : HostWF h) {pl : Plan} {n : Nat} {d s p : Path} {c : Name} {nd : Node}
    (hv : Visit h cfg pl n d s p .dir) (hg : h.get (p ++ [c]) = some nd)
    (hsec : (s ++ [c]) ∉ cfg.secrets) (hskip : skipMount cfg (s ++ [c]) = false) :
    Visit h cfg pl n (d ++ [c]) (s ++ [c]) (p ++ [c]) nd := by
  obtain ⟨hpre, ⟨inc, st, st', hr, hle⟩, hst⟩ := hv
  obtain ⟨s1, s2, hc, hle2⟩ := hr.host_step hst hg hsec hskip
  exact ⟨isPrefixOf_append_right _ _ _ hpre, ⟨false, s1, s2, hc, Plan.le_trans hle2 hle⟩,
    namei_child hpre hst (wf.clean _ (mem_of_get h _ _ (by simp) hg) c (by simp)) hg⟩

theorem Visit.jump {pl : Plan} {n : Nat} {d s p : Path} {a : Bool} {t : Path}
    (hv : Visit h cfg pl n d s p (.link a t)) :
    n ≠ 0 ∧ Made h cfg pl (.mount d (linkTarget s a t) (n - 1) true) :=
  let ⟨_, ⟨_, _, st', hr, hle⟩, hst⟩ := hv
  let ⟨hn, b, hm⟩ := hr.of_link hst
  ⟨hn, b, st', hm, hle⟩

theorem Visit.reach (wf : HostWF h) {pl : Plan} {n : Nat} : ∀ (rel : Path) {d s p : Path} {node : Node},
    Visit h cfg pl n d s p .dir → Visible h cfg s p rel node → rel ≠ [] →
    Visit h cfg pl n (d ++ rel) (s ++ rel) (p ++ rel) node := by
  intro rel
  induction rel with
  | nil => intro _ _ _ _ _ _ hne; exact absurd rfl hne
  | cons c rest ih =>
    intro d s p node hv hvis _
    have h1 := hvis.vis 1 (by omega) (by simp)
    simp only [List.take_succ_cons, List.take_zero] at h1
    cases rest with
    | nil => exact hv.child wf hvis.node h1.1 h1.2
    | cons c' rest' =>
      have hdir := hvis.dirs 1 (by omega) (by simp)
      simpa using ih (hv.child wf (by simpa using hdir) h1.1 h1.2) hvis.tail (by simp)

end ArvVerif.C17
