/-
C07: `verifySignature` in terms of the grammar. On a match the verdict is `verdictOf` of the
signature text, the MAC text and the expiry; `verify_eq_iff` is that statement for every string.
-/
import ArvVerif.Proofs.C07_Match
import ArvVerif.Proofs.C07_Hex
namespace ArvVerif.C07
variable (mac : Str → Str → List UInt8)

/-- `VerifySignature` after match and timestamp parse, in the code's order: expiry, then MAC. -/
def verdictOf (sig expected : Str) (t : Nat) (nowNs : Int) : Verdict :=
  if (t : Int) * 1000000000 < nowNs then .expired
  else if sig ≠ expected then .invalid else .ok

section
variable {sig x : Str} {t : Nat} {nowNs : Int}

theorem verdictOf_eq_ok :
    verdictOf sig x t nowNs = .ok ↔ nowNs ≤ (t : Int) * 1000000000 ∧ sig = x := by
  grind [verdictOf]

theorem verdictOf_eq_expired :
    verdictOf sig x t nowNs = .expired ↔ (t : Int) * 1000000000 < nowNs := by
  grind [verdictOf]

theorem verdictOf_eq_invalid :
    verdictOf sig x t nowNs = .invalid ↔ nowNs ≤ (t : Int) * 1000000000 ∧ sig ≠ x := by
  grind [verdictOf]

theorem verdictOf_ne_missing : verdictOf sig x t nowNs ≠ .missing := by
  grind [verdictOf]

end

/-- A function, so that `verify_of_matchSigned` is an equation without `∃ t`; on the 8 hex digits
of a match it is the parsed value (`expiryOf_spec`), the default is never met. The property
theorems say `hexNat? e 0 = some t`; `verify_eq_iff` is the bridge. -/
def expiryOf (e : Str) : Nat := (hexNat? e 0).getD 0

section
variable {s hash sig e tok key : Str} {ttlNs nowNs : Int}

theorem expiryOf_spec (hs : IsSignedLocator s hash sig e) :
    expiryOf e < 2 ^ 32 ∧ hexNat? e 0 = some (expiryOf e) ∧
      parseHexTimestamp e = some (expiryOf e : Int) := by
  obtain ⟨t, h⟩ := parseHexTimestamp_xdigits hs.expiry.1 hs.expiry.2
  have : expiryOf e = t := by rw [expiryOf, h.2.1]; rfl
  rwa [this]

theorem verify_of_matchSigned (h : matchSigned s = some (hash, sig, e)) :
    verifySignature mac s tok ttlNs key nowNs =
      verdictOf sig (makePermSignature mac hash tok e (ttlHex ttlNs) key) (expiryOf e) nowNs := by
  simp only [verifySignature, h, (expiryOf_spec (isSignedLocator_of_matchSigned h)).2.2, verdictOf,
    expiredAt, decide_eq_true_eq]

theorem verify_of_isSignedLocator (h : IsSignedLocator s hash sig e) :
    verifySignature mac s tok ttlNs key nowNs =
      verdictOf sig (makePermSignature mac hash tok e (ttlHex ttlNs) key) (expiryOf e) nowNs :=
  verify_of_matchSigned mac (matchSigned_of_isSignedLocator h)

theorem verify_of_no_match (h : matchSigned s = none) :
    verifySignature mac s tok ttlNs key nowNs = .missing := by
  simp [verifySignature, h]

end

theorem verify_eq_missing_iff (s tok key : Str) (ttlNs nowNs : Int) :
    verifySignature mac s tok ttlNs key nowNs = .missing ↔
      ¬ ∃ hash sig e, IsSignedLocator s hash sig e := by
  cases hm : matchSigned s with
  | none =>
    simp only [verify_of_no_match mac hm, true_iff]
    rintro ⟨hash, sig, e, h⟩
    rw [matchSigned_of_isSignedLocator h] at hm
    cases hm
  | some p =>
    simp only [verify_of_matchSigned mac hm, verdictOf_ne_missing, false_iff]
    exact fun h => h ⟨_, _, _, isSignedLocator_of_matchSigned hm⟩

/-- a string has one parse at most, so "for some parse" and "for the parse" are the same -/
theorem verify_eq_iff (s tok key : Str) (ttlNs nowNs : Int) {v : Verdict} (hv : v ≠ .missing) :
    verifySignature mac s tok ttlNs key nowNs = v ↔
      ∃ hash sig e, ∃ t : Nat, IsSignedLocator s hash sig e ∧ hexNat? e 0 = some t ∧
        verdictOf sig (makePermSignature mac hash tok e (ttlHex ttlNs) key) t nowNs = v := by
  constructor
  · intro h
    cases hm : matchSigned s with
    | none => exact absurd ((verify_of_no_match mac hm).symm.trans h).symm hv
    | some p =>
      have hs := isSignedLocator_of_matchSigned hm
      exact ⟨_, _, _, _, hs, (expiryOf_spec hs).2.1, (verify_of_matchSigned mac hm).symm.trans h⟩
  · rintro ⟨hash, sig, e, t, hs, ht, h⟩
    have : expiryOf e = t := by simp [expiryOf, ht]
    rw [verify_of_isSignedLocator mac hs, this, h]

theorem verify_assemble {hash sig e sig' e' : Str} {size hs1 hs2 : List Str}
    (p : Parts hash sig e size hs1 hs2) (sl : sig'.length = 40) (el : e'.length = 8)
    {tok key : Str} {ttlNs nowNs : Int} :
    verifySignature mac (assemble hash sig' e' size hs1 hs2) tok ttlNs key nowNs =
      if sig'.all isXDigit = true ∧ e'.all isXDigit = true then
        verdictOf sig' (makePermSignature mac hash tok e' (ttlHex ttlNs) key) (expiryOf e') nowNs
      else .missing := by
  have hm := matchSigned_sigText p (sig' ++ '@' :: e') (by simp [sl, el])
  rw [← sigField, parseSigField_sigField sl el] at hm
  split
  · rename_i h
    rw [if_pos h] at hm
    exact verify_of_matchSigned mac hm
  · rename_i h
    rw [if_neg h] at hm
    exact verify_of_no_match mac hm

-- `List.set` against `all` and `≠`, for applying `verify_assemble` to one replaced character
theorem all_set_of_all {p : Char → Bool} {l : Str} {i : Nat} {c : Char} (hl : l.all p = true)
    (hi : i < l.length) : (l.set i c).all p = p c := by
  rw [List.set_eq_take_append_cons_drop, if_pos hi, List.all_append, List.all_cons]
  have h1 : (l.take i).all p = true :=
    List.all_eq_true.mpr fun x hx => List.all_eq_true.mp hl x (List.mem_of_mem_take hx)
  have h2 : (l.drop (i + 1)).all p = true :=
    List.all_eq_true.mpr fun x hx => List.all_eq_true.mp hl x (List.mem_of_mem_drop hx)
  simp [h1, h2]

theorem set_ne_self {l : Str} {i : Nat} {c : Char} (hi : i < l.length) (hc : c ≠ l[i]) :
    l.set i c ≠ l := by
  intro e
  have : (l.set i c)[i]'(by simpa using hi) = c := by simp
  simp [e] at this
  exact hc this.symm

end ArvVerif.C07
