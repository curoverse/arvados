/-
C06(c') proofs, over every interleaving of GetCurrentState's goroutines (every reachable state of
the small-step system). Each goroutine's program is annotated: `WInv`, `PInv`, `SInv` give, per
program counter, what holds of the goroutine's own flags and of the part of the shared state it
relies on (`errs` non-empty, `collQ` closed; for the processor also: nothing dropped yet, queue
empty at its exit). A counter outside the program carries `False`. Every statement establishes the
annotation of its successor, and the annotations are stable under what the steps of the other
goroutines can do to the shared state (`Eff`, `PQ`, `SQ`).
-/
import ArvVerif.Model.C06_GCS
namespace ArvVerif.C06.GCS

def WInv (sh : Sh) (l : Loc) : Prop :=
  match l.pc with
  | 0 => sh.errs.isSome = true ∨ (l.flag = false ∧ l.added = true)
  | 1 | 2 | 3 | 8 | 10 | 11 | 12 => l.flag = false
  | 4 => True
  | 5 => l.flag = true
  | 6 | 7 => l.flag = true ∧ sh.errs.isSome = true
  | 9 => l.flag = false ∧ sh.errs.isSome = true
  | 13 | 14 => l.flag = false ∧ l.added = true
  | _ => False

def PInv (sh : Sh) (l : Loc) : Prop :=
  match l.pc with
  | 0 => sh.closed = true ∧ (l.flag = true → sh.errs.isSome = true) ∧
      (sh.errs.isSome = true ∨ (sh.q = 0 ∧ sh.dropped = 0))
  | 1 | 2 | 3 | 9 => l.flag = false ∧ (sh.errs.isSome = true ∨ sh.dropped = 0)
  | 4 => l.flag = true ∨ sh.errs.isSome = true ∨ sh.dropped = 0
  | 5 => l.flag = true ∨ sh.errs.isSome = true
  | 6 => sh.errs.isSome = true
  | 7 | 8 => sh.errs.isSome = true ∧ sh.closed = true
  | _ => False

def SInv (sh : Sh) (l : Loc) : Prop :=
  match l.pc with
  | 0 => sh.closed = true ∧ (l.flag = true → sh.errs.isSome = true)
  | 1 | 2 | 3 | 4 | 6 | 7 => l.flag = false ∧ sh.closed = false
  | 5 => l.flag = false ∧ sh.closed = false ∧ sh.errs.isSome = true
  | 8 => sh.closed = false
  | 9 => sh.closed = true
  | 10 => sh.closed = true ∧ l.flag = true
  | 11 => sh.closed = true ∧ l.flag = true ∧ sh.errs.isSome = true
  | _ => False

theorem trySend_isSome (sh : Sh) (e : Bool) : (trySend sh e).errs.isSome = true := by
  unfold trySend; split <;> simp_all

theorem trySend_mono (sh : Sh) (e : Bool) (h : sh.errs.isSome = true) : (trySend sh e).errs = sh.errs := by
  unfold trySend; split <;> simp_all

/-- What one local step does to `errs` and to the goroutine's own flag (used for the goroutines that do not move). -/
structure Eff (sh sh' : Sh) (l l' : Loc) : Prop where
  mono : sh.errs.isSome = true → sh'.errs.isSome = true
  noNil : sh.errs ≠ some false → sh'.errs ≠ some false
  real : sh'.errs = some true → sh.errs = some true ∨ l'.flag = true
  keep : l.flag = true → l'.flag = true

theorem Eff.of_eq {sh sh' : Sh} {l l' : Loc} (he : sh'.errs = sh.errs) (hk : l.flag = true → l'.flag = true) :
    Eff sh sh' l l' :=
  ⟨fun h => he ▸ h, fun h => he ▸ h, fun h => .inl (he ▸ h), hk⟩

/-- the non-blocking send of `b`: a nil (`b = false`) is offered only when `errs` is full -/
theorem Eff.trySend {sh : Sh} {l l' : Loc} {b : Bool} (hb : b = false → sh.errs.isSome = true)
    (hf : b = true → l'.flag = true) (hk : l.flag = true → l'.flag = true) : Eff sh (trySend sh b) l l' := by
  unfold GCS.trySend
  cases h : sh.errs with
  | some x => exact .of_eq (by rw [h]) hk
  | none =>
    cases b with
    | false => simp [h] at hb
    | true => exact ⟨fun _ => rfl, fun _ => by simp, fun _ => .inr (hf rfl), hk⟩

theorem trySend_frame (sh : Sh) (e : Bool) :
    (trySend sh e).q = sh.q ∧ (trySend sh e).cap = sh.cap ∧ (trySend sh e).closed = sh.closed ∧
    (trySend sh e).delivered = sh.delivered ∧ (trySend sh e).added = sh.added ∧
    (trySend sh e).dropped = sh.dropped := by
  unfold trySend; split <;> simp

/-- A statement that writes at most `cancelled` (`c := sh.cancelled`: it leaves the shared state as it is)
and keeps the flag. -/
theorem Eff.skip {sh : Sh} {c : Bool} {pc pc' : Nat} {f a a' : Bool} :
    Eff sh { sh with cancelled := c } ⟨pc, f, a⟩ ⟨pc', f, a'⟩ := .of_eq rfl id

theorem wStep_ok {sh : Sh} {l : Loc} (hi : WInv sh l) :
    ∀ x ∈ wStep sh l, WInv x.1 x.2 ∧ Eff sh x.1 l x.2 ∧ x.1.q = sh.q ∧ x.1.cap = sh.cap ∧
      x.1.closed = sh.closed ∧ x.1.delivered = sh.delivered ∧ x.1.added = sh.added ∧ x.1.dropped = sh.dropped := by
  obtain ⟨pc, f, a⟩ := l
  simp only [wStep]
  split
  all_goals (try split)
  all_goals simp only [List.forall_mem_cons, List.not_mem_nil, false_imp_iff, implies_true, and_true,
    trySend_frame]
  · exact ⟨hi, .skip⟩  -- 1
  · exact ⟨hi, .skip⟩  -- 2
  · exact ⟨⟨trivial, .of_eq rfl (fun h => hi ▸ h)⟩, trivial, .of_eq rfl (fun _ => rfl)⟩  -- 3
  · exact ⟨‹f = true›, .skip⟩  -- 4, err ≠ nil
  · exact ⟨eq_false_of_ne_true ‹_›, .skip⟩  -- 4, err = nil
  · exact ⟨⟨hi, trySend_isSome _ _⟩, .trySend nofun (fun _ => hi) id⟩  -- 5
  · exact ⟨hi, .skip⟩  -- 6
  · exact ⟨.inl hi.2, .skip⟩  -- 7
  · exact ⟨⟨hi, ‹_›⟩, .skip⟩  -- 8, errs non-empty
  · exact ⟨hi, .skip⟩  -- 8, errs empty
  · exact ⟨.inl hi.2, .skip⟩  -- 9
  · exact ⟨hi, .skip⟩  -- 10
  · exact ⟨hi, .skip⟩  -- 11
  · exact ⟨⟨hi, rfl⟩, .skip⟩  -- 12
  · exact ⟨⟨hi.1, .skip⟩, hi, .skip⟩  -- 13
  · exact ⟨.inr hi, .skip⟩  -- 14

/-- collections the processor holds: the one received and not yet passed to `addCollection` -/
def held (p : Loc) : Nat := if p.pc = 3 then 1 else 0

/-- a processor step only takes from `collQ`, and every collection it takes is held, added or dropped -/
def PQ (sh sh' : Sh) (l l' : Loc) : Prop :=
  sh'.closed = sh.closed ∧ sh'.cap = sh.cap ∧ sh'.q ≤ sh.q ∧ sh'.delivered = sh.delivered ∧
  sh'.added + sh'.q + held l' + sh'.dropped = sh.added + sh.q + held l + sh.dropped

theorem pRecv_ok {sh : Sh} {pc : Nat} {f a : Bool} (hpc : pc ≠ 3)
    (hi : f = false ∧ (sh.errs.isSome = true ∨ sh.dropped = 0)) :
    ∀ x ∈ pRecv sh ⟨pc, f, a⟩, PInv x.1 x.2 ∧ Eff sh x.1 ⟨pc, f, a⟩ x.2 ∧ PQ sh x.1 ⟨pc, f, a⟩ x.2 := by
  simp only [pRecv]
  split
  all_goals (try split)
  all_goals simp only [PQ, held, hpc, List.forall_mem_cons, List.not_mem_nil, false_imp_iff, implies_true, and_true,
    Nat.sub_le, Nat.le_refl, true_and, Nat.reduceEqDiff, if_true, if_false]
  · exact ⟨hi, .of_eq rfl id, by omega⟩
  · exact ⟨⟨‹_›, fun h => absurd (hi.1 ▸ h) Bool.false_ne_true,
      hi.2.imp id fun d => ⟨Nat.eq_zero_of_not_pos ‹_›, d⟩⟩, .skip⟩

theorem pStep_ok {sh : Sh} {l : Loc} (hi : PInv sh l) :
    ∀ x ∈ pStep sh l, PInv x.1 x.2 ∧ Eff sh x.1 l x.2 ∧ PQ sh x.1 l x.2 := by
  obtain ⟨pc, f, a⟩ := l
  simp only [pStep]
  split
  case h_2 => exact pRecv_ok (by decide) hi
  case h_9 => exact pRecv_ok (by decide) hi
  all_goals (try split)
  all_goals (try split)
  all_goals simp only [PQ, held, List.forall_mem_cons, List.not_mem_nil, false_imp_iff, implies_true, and_true,
    Nat.sub_le, Nat.le_refl, true_and, Nat.reduceEqDiff, if_true, if_false, trySend_frame]
  · exact ⟨hi, .skip⟩  -- 1
  · exact ⟨⟨.inr hi.2, .of_eq rfl (fun h => hi.1 ▸ h), by omega⟩, .inl rfl, .of_eq rfl (fun _ => rfl),  -- 3
      by omega⟩
  · exact ⟨Bool.or_eq_true_iff.1 ‹_›, .skip⟩  -- 4, error or errs non-empty
  · have hf := (Bool.or_eq_false_iff.1 (eq_false_of_ne_true ‹_›)).1  -- 4, neither
    exact ⟨⟨hf, hi.resolve_left (hf ▸ Bool.false_ne_true)⟩, .skip⟩
  · exact ⟨trySend_isSome _ _, .trySend (fun h => hi.resolve_left (h ▸ Bool.false_ne_true)) id id⟩  -- 5
  · exact ⟨hi, .of_eq rfl id, by omega⟩  -- 6, drain one
  · exact ⟨⟨hi, ‹_›⟩, .skip⟩  -- 6, closed and empty
  · exact ⟨hi, .skip⟩  -- 7
  · exact ⟨⟨hi.2, fun _ => hi.1, .inl hi.1⟩, .skip⟩  -- 8

/-- what a scanner step does to `collQ` and the counters; it never sends on a closed queue -/
def SQ (sh sh' : Sh) : Prop :=
  sh'.cap = sh.cap ∧ sh'.added = sh.added ∧ sh'.dropped = sh.dropped ∧
  sh'.delivered + sh.q = sh.delivered + sh'.q ∧ (sh.q ≤ sh.cap → sh'.q ≤ sh'.cap) ∧
  (sh.closed = true → sh'.closed = true ∧ sh'.q = sh.q)

theorem sInside_ok {sh : Sh} {pc : Nat} {f a : Bool} (hi : f = false ∧ sh.closed = false) :
    ∀ x ∈ sInside sh ⟨pc, f, a⟩, SInv x.1 x.2 ∧ Eff sh x.1 ⟨pc, f, a⟩ x.2 ∧ SQ sh x.1 := by
  simp only [sInside, SQ, List.forall_mem_cons, List.not_mem_nil, false_imp_iff, implies_true, and_true, imp_self]
  exact ⟨⟨hi, .skip⟩, ⟨hi, .skip⟩, ⟨hi.2, .of_eq rfl (fun h => hi.1 ▸ h)⟩, hi.2, .of_eq rfl (fun _ => rfl)⟩

theorem sStep_ok {sh : Sh} {l : Loc} (hi : SInv sh l) :
    ∀ x ∈ sStep sh l, SInv x.1 x.2 ∧ Eff sh x.1 l x.2 ∧ SQ sh x.1 := by
  obtain ⟨pc, f, a⟩ := l
  simp only [sStep]
  split
  all_goals (try split)
  all_goals try simp only [SQ, List.forall_mem_cons, List.not_mem_nil, false_imp_iff, implies_true, and_true,
    true_and, imp_self, trySend_frame]
  · exact ⟨hi, .skip⟩  -- 1
  · exact sInside_ok hi  -- 2
  · exact ⟨hi, .of_eq rfl id, by omega, fun _ => ‹_›, fun h => absurd (hi.2.symm.trans h) Bool.false_ne_true⟩  -- 3
  · exact ⟨⟨hi.1, hi.2, ‹_›⟩, .skip⟩  -- 4, errs non-empty
  · exact ⟨hi, .skip⟩  -- 4, errs empty
  · exact ⟨hi.2.1, .of_eq rfl (fun _ => rfl)⟩  -- 5
  · exact sInside_ok hi  -- 6
  · exact sInside_ok hi  -- 7
  · exact ⟨rfl, .of_eq rfl id⟩  -- 8
  · exact ⟨⟨hi, ‹_›⟩, .skip⟩  -- 9, err ≠ nil
  · exact ⟨⟨hi, fun h => absurd h ‹_›⟩, .skip⟩  -- 9, err = nil
  · exact ⟨⟨(trySend_frame _ _).2.2.1.trans hi.1, hi.2, trySend_isSome _ _⟩, .trySend nofun (fun _ => hi.2) id⟩  -- 10
  · exact ⟨⟨hi.1, fun _ => hi.2.2⟩, .skip⟩  -- 11

/-! The annotations mention the shared state only through "`errs` is non-empty" and "`collQ` is
closed", so they survive the other goroutines' steps: the first only ever becomes true, the second is
changed by the scanner alone. -/

theorem WInv.mono {sh sh' : Sh} {l : Loc} (h : WInv sh l) (m : sh.errs.isSome = true → sh'.errs.isSome = true) :
    WInv sh' l := by
  unfold WInv at h ⊢
  split at h
  · exact h.imp m id
  all_goals first | exact h | exact ⟨h.1, m h.2⟩

theorem PInv.mono {sh sh' : Sh} {l : Loc} (h : PInv sh l) (m : sh.errs.isSome = true → sh'.errs.isSome = true)
    (hd : sh'.dropped = sh.dropped) (c : sh.closed = true → sh'.closed = true ∧ sh'.q = sh.q) : PInv sh' l := by
  unfold PInv at h ⊢
  rw [hd]
  split at h
  · exact ⟨(c h.1).1, fun x => m (h.2.1 x), h.2.2.imp m fun ⟨a, b⟩ => ⟨(c h.1).2.trans a, b⟩⟩
  all_goals first | exact h | exact ⟨h.1, h.2.imp m id⟩ | exact h.imp id (.imp m id) | exact h.imp id m | exact m h |
    exact ⟨m h.1, (c h.2).1⟩

theorem SInv.mono {sh sh' : Sh} {l : Loc} (h : SInv sh l) (m : sh.errs.isSome = true → sh'.errs.isSome = true)
    (c : sh'.closed = sh.closed) : SInv sh' l := by
  unfold SInv at h ⊢
  rw [c]
  split at h
  · exact ⟨h.1, fun x => m (h.2 x)⟩
  all_goals first | exact h | exact ⟨h.1, h.2.1, m h.2.2⟩

structure Inv (cap : Nat) (g : G) : Prop where
  noNil : g.sh.errs ≠ some false
  ws : ∀ l ∈ g.ws, WInv g.sh l
  p : PInv g.sh g.p
  s : SInv g.sh g.s
  real : g.sh.errs = some true → Failed g
  cap : g.sh.cap = cap
  qle : g.sh.q ≤ g.sh.cap
  count : g.sh.delivered = g.sh.added + g.sh.q + held g.p + g.sh.dropped

theorem inv_init (n cap : Nat) : Inv cap (init n cap) :=
  ⟨nofun, fun _ hl => (List.eq_of_mem_replicate hl) ▸ rfl, ⟨rfl, .inr rfl⟩, ⟨rfl, rfl⟩, nofun, rfl, Nat.zero_le _, rfl⟩

theorem step_inv {cap : Nat} {g g' : G} (hi : Inv cap g) (hs : Step g g') : Inv cap g' := by
  have hcount := hi.count
  cases hs with
  | worker pre post l sh' l' hws hm =>
    have hl : l ∈ g.ws := by rw [hws]; simp
    obtain ⟨hw', e, e1, e2, hc, e3, e4, e5⟩ := wStep_ok (hi.ws l hl) _ hm
    refine ⟨e.noNil hi.noNil, ?_, hi.p.mono e.mono e5 fun c => ⟨hc.trans c, e1⟩, hi.s.mono e.mono hc, ?_, e2.trans hi.cap,
      Nat.le_trans (Nat.le_of_eq e1) (Nat.le_trans hi.qle (Nat.le_of_eq e2.symm)), ?_⟩
    · have hw := hi.ws
      simp only [hws, List.forall_mem_append, List.forall_mem_cons] at hw ⊢
      exact ⟨fun x hx => (hw.1 x hx).mono e.mono, hw', fun x hx => (hw.2.2 x hx).mono e.mono⟩
    · intro ht
      rcases e.real ht with h0 | h0
      · refine (hi.real h0).imp (fun ⟨x, hx, hf⟩ => ?_) id
        simp only [hws, List.mem_append, List.mem_cons] at hx ⊢
        rcases hx with hx | rfl | hx
        · exact ⟨x, .inl hx, hf⟩
        · exact ⟨l', .inr (.inl rfl), e.keep hf⟩
        · exact ⟨x, .inr (.inr hx), hf⟩
      · exact .inl ⟨l', by simp, h0⟩
    · simp only at e1 e3 e4 e5 ⊢
      omega
  | proc sh' l' hm =>
    obtain ⟨hp', e, hc, e1, e2, e3, e4⟩ := pStep_ok hi.p _ hm
    exact ⟨e.noNil hi.noNil, fun x hx => (hi.ws x hx).mono e.mono, hp', hi.s.mono e.mono hc, fun ht =>
      (e.real ht).elim (fun h0 => (hi.real h0).imp id (.imp e.keep id)) fun h0 => .inr (.inl h0),
      e1.trans hi.cap, Nat.le_trans e2 (Nat.le_trans hi.qle (Nat.le_of_eq e1.symm)), by
        simp only at e3 e4 ⊢
        omega⟩
  | scan sh' l' hm =>
    obtain ⟨hs', e, e1, e3, e4, e5, e2, e6⟩ := sStep_ok hi.s _ hm
    exact ⟨e.noNil hi.noNil, fun x hx => (hi.ws x hx).mono e.mono,
      hi.p.mono e.mono e4 e6, hs', fun ht =>
      (e.real ht).elim (fun h0 => (hi.real h0).imp id (.imp id e.keep)) fun h0 => .inr (.inr h0),
      e1.trans hi.cap, e2 hi.qle, by
        simp only at e3 e4 e5 ⊢
        omega⟩

theorem reach_inv {n cap : Nat} {g : G} (r : Reach n cap g) : Inv cap g := by
  induction r with
  | start => exact inv_init n cap
  | step _ hs ih => exact step_inv ih hs

theorem WInv.exit {sh : Sh} {l : Loc} (h : WInv sh l) (h0 : l.pc = 0) :
    sh.errs.isSome = true ∨ (l.flag = false ∧ l.added = true) := by
  unfold WInv at h; rw [h0] at h; exact h

theorem PInv.exit {sh : Sh} {l : Loc} (h : PInv sh l) (h0 : l.pc = 0) :
    sh.closed = true ∧ (l.flag = true → sh.errs.isSome = true) ∧
      (sh.errs.isSome = true ∨ (sh.q = 0 ∧ sh.dropped = 0)) := by
  unfold PInv at h; rw [h0] at h; exact h

theorem SInv.exit {sh : Sh} {l : Loc} (h : SInv sh l) (h0 : l.pc = 0) :
    sh.closed = true ∧ (l.flag = true → sh.errs.isSome = true) := by
  unfold SInv at h; rw [h0] at h; exact h

theorem SInv.closed_pc {sh : Sh} {l : Loc} (h : SInv sh l) (hc : sh.closed = true) :
    l.pc = 9 ∨ l.pc = 10 ∨ l.pc = 11 ∨ l.pc = 0 := by
  unfold SInv at h
  split at h <;> simp_all

/-- a collection is dropped only after an error was reported, or by the `addCollection` failure that
is about to be reported -/
theorem PInv.drop {sh : Sh} {l : Loc} (h : PInv sh l) (hd : 0 < sh.dropped) :
    sh.errs.isSome = true ∨ (l.flag = true ∧ (l.pc = 4 ∨ l.pc = 5)) := by
  have hd' : sh.dropped ≠ 0 := Nat.ne_of_gt hd
  unfold PInv at h
  split at h <;> simp_all [or_comm]

theorem result_iff_failed {n cap : Nat} {g : G} (r : Reach n cap g) (ht : Terminal g) :
    (resultIsError g = true ↔ Failed g) ∧ g.sh.errs ≠ some false := by
  have hi := reach_inv r
  refine ⟨⟨fun h => hi.real (by simpa [resultIsError] using h), fun hf => ?_⟩, hi.noNil⟩
  have hsome : g.sh.errs.isSome = true := by
    rcases hf with ⟨l, hl, hfl⟩ | hfl | hfl
    · exact ((hi.ws l hl).exit (ht.1 l hl)).resolve_right (fun h => by simp [hfl] at h)
    · exact (hi.p.exit ht.2.1).2.1 hfl
    · exact (hi.s.exit ht.2.2).2 hfl
  have hn := hi.noNil
  rcases he : g.sh.errs with _ | _ | _ <;> simp_all [resultIsError]

theorem nil_result_workers_added {n cap : Nat} {g : G} (r : Reach n cap g) (ht : Terminal g)
    (hnil : g.sh.errs = none) : ∀ l ∈ g.ws, l.flag = false ∧ l.added = true := fun l hl =>
  (((reach_inv r).ws l hl).exit (ht.1 l hl)).resolve_left (by simp [hnil])

theorem nil_result_all_added {n cap : Nat} {g : G} (r : Reach n cap g) (ht : Terminal g)
    (hnil : g.sh.errs = none) :
    g.sh.added = g.sh.delivered ∧ g.sh.dropped = 0 ∧ g.sh.q = 0 ∧ g.sh.closed = true := by
  have hi := reach_inv r
  obtain ⟨hcl, -, hx⟩ := hi.p.exit ht.2.1
  obtain ⟨hq0, hd⟩ := hx.resolve_left (by simp [hnil])
  have hc := hi.count
  simp only [held, ht.2.1, Nat.reduceEqDiff, if_false] at hc
  exact ⟨by omega, hd, hq0, hcl⟩

structure QInv (sh : Sh) (p s : Loc) : Prop where
  count : sh.delivered = sh.added + sh.q + held p + sh.dropped
  drop : 0 < sh.dropped → sh.errs.isSome = true ∨ (p.flag = true ∧ (p.pc = 4 ∨ p.pc = 5))
  exit : p.pc = 0 → sh.errs.isSome = true ∨ (sh.closed = true ∧ sh.q = 0)
  closed : sh.closed = true → s.pc = 9 ∨ s.pc = 10 ∨ s.pc = 11 ∨ s.pc = 0

/-- What the annotations and `Inv` say about the collection pipeline, gathered in one structure; the results
above read `Inv` directly. -/
theorem reach_qinv {n cap : Nat} {g : G} (r : Reach n cap g) : QInv g.sh g.p g.s :=
  have hi := reach_inv r
  ⟨hi.count, hi.p.drop, fun hp => (hi.p.exit hp).2.2.imp id fun ⟨q0, _⟩ => ⟨(hi.p.exit hp).1, q0⟩,
    hi.s.closed_pc⟩

end ArvVerif.C06.GCS
