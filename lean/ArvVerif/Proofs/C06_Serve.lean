/-
C06(a) proofs: the executable list endpoint `serve` (filter, insertion sort by (modified_at, uuid), take
`limit`) returns a page in the sense of `PageOf`, provided uuids are unique and `limit ≥ 1`.
-/
import ArvVerif.Proofs.C06_Paging
namespace ArvVerif.C06

theorem pageOf_take (db l : List Coll) (f : Filt) (limit : Nat) (hl : 0 < limit)
    (hmem : ∀ c, c ∈ l ↔ (c ∈ db ∧ f.ok c))
    (hsorted : l.Pairwise (fun a b => klt a.key b.key)) :
    PageOf db f limit (l.take limit) := by
  refine ⟨?_, ?_, ?_⟩
  · intro c hc; exact (hmem c).1 (List.mem_of_mem_take hc)
  · exact hsorted.sublist (List.take_sublist _ _)
  · intro c hc hok hnot
    have hcl : c ∈ l := (hmem c).2 ⟨hc, hok⟩
    refine ⟨fun hnil => (List.take_eq_nil_iff.1 hnil).elim (by omega) fun h => by simp [h] at hcl, fun p hp => ?_⟩
    rw [← List.take_append_drop limit l] at hcl hsorted
    exact (List.pairwise_append.mp hsorted).2.2 p hp c ((List.mem_append.1 hcl).resolve_left hnot)

theorem kleB_trans (a b c : Coll) : kleB a b = true → kleB b c = true → kleB a c = true := by
  unfold kleB; simp only [decide_eq_true_eq]; omega

theorem kleB_total (a b : Coll) : (kleB a b || kleB b a) = true := by
  unfold kleB; simp only [Bool.or_eq_true, decide_eq_true_eq]; omega

theorem insertBy_perm (le : Coll → Coll → Bool) (a : Coll) (l) : (insertBy le a l).Perm (a :: l) := by
  induction l with
  | nil => exact List.Perm.refl _
  | cons b t ih =>
    unfold insertBy
    split
    · exact List.Perm.refl _
    · exact (List.Perm.cons b ih).trans (List.Perm.swap a b t)

theorem isort_perm (le : Coll → Coll → Bool) (l) : (isort le l).Perm l := by
  induction l with
  | nil => exact List.Perm.refl _
  | cons a t ih => exact (insertBy_perm le a _).trans (List.Perm.cons a ih)

theorem insertBy_sorted (a : Coll) (l : List Coll) : l.Pairwise (fun x y => kleB x y = true) →
    (insertBy kleB a l).Pairwise (fun x y => kleB x y = true) := by
  fun_induction insertBy kleB a l
  case case1 => simp
  case case2 b t hab =>
    refine fun h => List.pairwise_cons.2 ⟨fun y hy => ?_, h⟩
    rcases List.mem_cons.1 hy with rfl | hy
    · exact hab
    · exact kleB_trans _ _ _ hab ((List.pairwise_cons.1 h).1 y hy)
  case case3 b t hab ih =>
    intro h
    obtain ⟨hb, ht⟩ := List.pairwise_cons.1 h
    refine List.pairwise_cons.2 ⟨fun y hy => ?_, ih ht⟩
    rcases List.mem_cons.1 ((insertBy_perm kleB a t).mem_iff.1 hy) with rfl | hy
    · exact (Bool.or_eq_true_iff.1 (kleB_total y b)).resolve_left hab
    · exact hb y hy

theorem isort_sorted (l) : (isort kleB l).Pairwise (fun x y => kleB x y = true) := by
  induction l with
  | nil => simp [isort]
  | cons a t ih => exact insertBy_sorted a _ ih

theorem serve_pageOf (db : List Coll) (f : Filt) (limit : Nat) (hl : 0 < limit)
    (hnd : (db.map Coll.uuid).Nodup) : PageOf db f limit (serve db f limit) := by
  unfold serve
  apply pageOf_take db _ f limit hl
  · intro c
    rw [(isort_perm _ _).mem_iff, List.mem_filter]
    simp
  · have hn : ((isort kleB (db.filter (fun c => decide (f.ok c)))).map Coll.uuid).Nodup :=
      ((isort_perm _ _).map _).nodup_iff.mpr (hnd.sublist (List.filter_sublist.map _))
    refine ((isort_sorted _).and (List.pairwise_map.mp hn)).imp fun ⟨h1, h2⟩ => ?_
    simp only [kleB, decide_eq_true_eq] at h1
    simp only [klt, Coll.key]
    omega

end ArvVerif.C06
