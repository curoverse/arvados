/-
What `GetBlock` and `handleGET` compute, as one case distinction each: the first servable copy in mount
order, else 404 or 500 (`getLoop_spec`, `handleGet_spec`). The request environment can only turn that answer
into a 503 (`getLoopEnv_cases`, `handleGetEnv_cases`).
-/
import ArvVerif.Model.C01
namespace ArvVerif.C01
set_option linter.unusedSectionVars false

section
variable {δ β : Type} [DecidableEq δ] [DecidableEq β]

section
variable (hash : β → δ) (size : β → Nat) (vols : List (Vol δ β)) (h : δ)

/-- `f` is `volRead` for `handleGet_spec` and `id` for the loop over arbitrary reads (`C01_get_sound_any_reads`). -/
theorem getLoop_spec {α : Type} (f : α → ReadResult β) (xs : List α) (e : GetErr) :
    (∃ pre x post b, xs = pre ++ x :: post ∧ f x = .data b ∧ hash b = h ∧
      (∀ u ∈ pre, ∀ c, f u = .data c → hash c ≠ h) ∧ getLoop hash h (xs.map f) e = .ok b) ∨
    ((∀ u ∈ xs, ∀ c, f u ≠ .data c) ∧ getLoop hash h (xs.map f) e = .err e) ∨
    ((∀ u ∈ xs, ∀ c, f u = .data c → hash c ≠ h) ∧ (∃ u ∈ xs, ∃ c, f u = .data c) ∧
      getLoop hash h (xs.map f) e = .err .diskHash) := by
  induction xs generalizing e with
  | nil => exact .inr (.inl ⟨nofun, rfl⟩)
  | cons x rest ih =>
    rw [List.map_cons]
    cases hx : f x with
    | data c =>
      by_cases hc : hash c = h
      · exact .inl ⟨[], x, rest, c, rfl, hx, hc, nofun, if_pos hc⟩
      · -- a mismatch sets `errorToCaller` and the loop goes on
        have step : getLoop hash h (.data c :: rest.map f) e = getLoop hash h (rest.map f) .diskHash := if_neg hc
        have hx' : ∀ c', f x = .data c' → hash c' ≠ h := fun c' hc' => ReadResult.data.inj (hx ▸ hc') ▸ hc
        rw [step]
        rcases ih .diskHash with ⟨pre, y, post, b, he, hy, hb, hpre, hg⟩ | ⟨hno, hg⟩ | ⟨hno, _, hg⟩
        · exact .inl ⟨x :: pre, y, post, b, congrArg _ he, hy, hb, List.forall_mem_cons.mpr ⟨hx', hpre⟩, hg⟩
        · exact .inr (.inr ⟨List.forall_mem_cons.mpr ⟨hx', fun u hu c' hc' => absurd hc' (hno u hu c')⟩,
            ⟨x, List.mem_cons_self, c, hx⟩, hg⟩)
        · exact .inr (.inr ⟨List.forall_mem_cons.mpr ⟨hx', hno⟩, ⟨x, List.mem_cons_self, c, hx⟩, hg⟩)
    | _ =>
      have hx' : ∀ c, f x ≠ .data c := fun c hc => nomatch hx.symm.trans hc
      rcases ih e with ⟨pre, y, post, b, he, hy, hb, hpre, hg⟩ | ⟨hno, hg⟩ | ⟨hno, hex, hg⟩
      · exact .inl ⟨x :: pre, y, post, b, congrArg _ he, hy, hb,
          List.forall_mem_cons.mpr ⟨fun c hc => absurd hc (hx' c), hpre⟩, hg⟩
      · exact .inr (.inl ⟨List.forall_mem_cons.mpr ⟨hx', hno⟩, hg⟩)
      · exact .inr (.inr ⟨List.forall_mem_cons.mpr ⟨fun c hc => absurd hc (hx' c), hno⟩, hex.imp fun _ => And.imp_left (List.mem_cons_of_mem x), hg⟩)

theorem volRead_data (v : Vol δ β) (b : β) :
    volRead size v h = .data b ↔ v.files h = some b ∧ size b ≤ blockSize := by
  unfold volRead
  cases v.files h with
  | none => simp
  | some c =>
    by_cases hs : size c > blockSize
    · simp only [hs, if_true, Option.some.injEq, reduceCtorEq, false_iff]
      rintro ⟨rfl, h2⟩; omega
    · simp only [hs, if_false, ReadResult.data.injEq, Option.some.injEq]
      exact ⟨fun hc => hc ▸ ⟨rfl, Nat.le_of_not_gt hs⟩, And.left⟩

theorem handleGet_spec :
    (∃ pre v post b, vols = pre ++ v :: post ∧ v.files h = some b ∧ hash b = h ∧ size b ≤ blockSize ∧
        (∀ u ∈ pre, ∀ c, u.files h = some c → size c ≤ blockSize → hash c ≠ h) ∧
        handleGet hash size vols h = { status := 200, contentLength := some (size b), body := some b }) ∨
    ((∀ u ∈ vols, ∀ c, u.files h = some c → ¬ size c ≤ blockSize) ∧
        handleGet hash size vols h = { status := 404, contentLength := none, body := none }) ∨
    ((∀ u ∈ vols, ∀ c, u.files h = some c → size c ≤ blockSize → hash c ≠ h) ∧
        (∃ u ∈ vols, ∃ c, u.files h = some c ∧ size c ≤ blockSize) ∧
        handleGet hash size vols h = { status := 500, contentLength := none, body := none }) := by
  have hs := getLoop_spec hash h (fun v => volRead size v h) vols .notFound
  simp only [volRead_data, and_imp, ne_eq, not_and] at hs
  unfold handleGet getBlock allReadable
  rcases hs with ⟨pre, v, post, b, he, ⟨hv, hsz⟩, hb, hpre, hg⟩ | ⟨hno, hg⟩ | ⟨hno, hex, hg⟩
  · exact .inl ⟨pre, v, post, b, he, hv, hb, hsz, hpre, by rw [hg]⟩
  · exact .inr (.inl ⟨hno, by rw [hg]; rfl⟩)
  · exact .inr (.inr ⟨hno, hex, by rw [hg]; rfl⟩)

theorem handleGet_error {r : GetResp β} (hr : handleGet hash size vols h = r) (hne : r.status ≠ 200) :
    r.body = none ∧ r.contentLength = none ∧ (r.status = 404 ∨ r.status = 500) := by
  subst hr
  rcases handleGet_spec hash size vols h with ⟨_, _, _, _, _, _, _, _, _, hg⟩ | ⟨_, hg⟩ | ⟨_, _, hg⟩
  · exact absurd (hg ▸ rfl) hne
  · rw [hg]; exact ⟨rfl, rfl, .inl rfl⟩
  · rw [hg]; exact ⟨rfl, rfl, .inr rfl⟩

end

def GetResult.toE : GetResult β → GetResultE β
  | .ok b => .ok b
  | .err e => .err e

/-- The `ctx.Done()` checks can only turn `GetBlock`'s answer into ErrClientDisconnect. -/
theorem getLoopEnv_cases (hash : β → δ) (h : δ) (rs : List (ReadResult β)) (e : GetErr) (gone : Option Nat) :
    getLoopEnv hash h rs e gone = (getLoop hash h rs e).toE ∨
      (gone ≠ none ∧ getLoopEnv hash h rs e gone = .disconnected) := by
  induction rs generalizing e gone with
  | nil => exact .inl rfl
  | cons r rest ih =>
    unfold getLoopEnv
    by_cases hg : gone = some 0
    · exact .inr ⟨hg ▸ nofun, if_pos hg⟩
    · rw [if_neg hg]
      have next : ∀ e', getLoopEnv hash h rest e' (gone.map (· - 1)) = (getLoop hash h rest e').toE ∨
          (gone ≠ none ∧ getLoopEnv hash h rest e' (gone.map (· - 1)) = .disconnected) :=
        fun e' => (ih e' _).imp_right (.imp_left fun hm hn => hm (congrArg (Option.map _) hn))
      cases r with
      | data c =>
        by_cases hc : hash c = h
        · exact .inl (by simp [getLoop, hc, GetResult.toE])
        · simpa [getLoop, hc] using next .diskHash
      | _ => exact next e

theorem handleGetEnv_cases (hash : β → δ) (size : β → Nat) (env : GetEnv) (vols : List (Vol δ β)) (h : δ) :
    handleGetEnv hash size env vols h = handleGet hash size vols h ∨
      ((env.bufOk = false ∨ env.goneAfter ≠ none) ∧
        handleGetEnv hash size env vols h = { status := 503, contentLength := none, body := none }) := by
  unfold handleGetEnv
  cases hb : env.bufOk with
  | false => exact .inr ⟨.inl rfl, rfl⟩
  | true =>
    rcases getLoopEnv_cases hash h ((allReadable vols).map fun v => volRead size v h) .notFound env.goneAfter with
      hl | ⟨hg, hl⟩
    · refine .inl ?_
      simp only [hl, handleGet, getBlock]
      cases getLoop hash h ((allReadable vols).map fun v => volRead size v h) .notFound <;> rfl
    · exact .inr ⟨.inr hg, by simp [hl]⟩

end

end ArvVerif.C01
