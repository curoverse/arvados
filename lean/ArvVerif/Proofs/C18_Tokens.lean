/-
C18: the theory of tokens. The model's `splitOn` and `joinWith` are the library's `List.splitOn` and
`intercalate` for a one-character separator, and most facts come from there. `sep_induction` (a text
is separator-free, or a separator-free piece, the separator and a text) is how the modules that
import this one argue about a split text. `mapTail f` maps every token but the first; a tokenwise map
that keeps tokens separator-free commutes with splitting (`splitOn_joinWith_mapTail`).
-/
import ArvVerif.Model.C18
import ArvVerif.Proofs.Lib_Split
namespace ArvVerif.C18

section split
variable {sep : Char}

theorem splitOn_eq (s : Str) : splitOn sep s = s.splitOn sep := by
  induction s with
  | nil => rfl
  | cons c cs ih =>
    rw [splitOn, ih, List.splitOn_cons_eq_if_modifyHead]
    cases h : cs.splitOn sep <;> simp_all

theorem joinWith_eq (ts : List Str) : joinWith sep ts = [sep].intercalate ts := by
  fun_induction joinWith sep ts <;> simp_all [List.intercalate_cons_of_ne_nil]

theorem splitOn_cons_sep (cs : Str) : splitOn sep (sep :: cs) = [] :: splitOn sep cs := by
  simp [splitOn]

theorem splitOn_append_of_not_mem {p b b0 : Str} {bs : List Str} (hp : sep ∉ p)
    (hb : splitOn sep b = b0 :: bs) : splitOn sep (p ++ b) = (p ++ b0) :: bs := by
  induction p with
  | nil => exact hb
  | cons x p ih =>
    rw [List.mem_cons, not_or] at hp
    simp [splitOn, Ne.symm hp.1, ih hp.2]

theorem splitOn_of_not_mem {a : Str} (h : sep ∉ a) : splitOn sep a = [a] := by
  rw [splitOn_eq, List.splitOn_eq_singleton h]

theorem splitOn_append_sep {a b : Str} (h : sep ∉ a) :
    splitOn sep (a ++ sep :: b) = a :: splitOn sep b := by
  rw [splitOn_eq, splitOn_eq, List.splitOn_append_cons_self_of_not_mem h]

theorem sep_induction (sep : Char) {P : Str → Prop} (base : ∀ a, sep ∉ a → P a)
    (step : ∀ a b, sep ∉ a → P b → P (a ++ sep :: b)) (s : Str) : P s := by
  have key : ∀ s p, sep ∉ p → P (p ++ s) := by
    intro s
    induction s with
    | nil => intro p hp; rw [List.append_nil]; exact base p hp
    | cons c s ih =>
      intro p hp
      by_cases hc : c = sep
      · subst hc; exact step p s hp (ih [] (by simp))
      · have := ih (p ++ [c]) (by simp [hp, Ne.symm hc])
        rwa [List.append_assoc] at this
  exact key s [] (by simp)

theorem splitOn_ne_nil (s : Str) : splitOn sep s ≠ [] :=
  splitOn_eq s ▸ List.splitOn_ne_nil _ _

theorem joinWith_cons_cons (t u : Str) (ts : List Str) :
    joinWith sep (t :: u :: ts) = t ++ sep :: joinWith sep (u :: ts) := rfl

theorem joinWith_cons {t : Str} {ts : List Str} (h : ts ≠ []) :
    joinWith sep (t :: ts) = t ++ sep :: joinWith sep ts := by
  cases ts with
  | nil => exact absurd rfl h
  | cons u us => rfl

theorem joinWith_append_head (a t : Str) (ts : List Str) :
    joinWith sep ((a ++ t) :: ts) = a ++ joinWith sep (t :: ts) := by
  cases ts <;> simp [joinWith]

theorem joinWith_append_singleton (init : List Str) (u v : Str) (ys : List Str) (c : Char) :
    joinWith sep (init ++ (u ++ c :: v) :: ys) = joinWith sep (init ++ [u]) ++ c :: joinWith sep (v :: ys) := by
  induction init with
  | nil => simpa [joinWith] using joinWith_append_head (sep := sep) (u ++ [c]) v ys
  | cons i0 is ih =>
    rw [List.cons_append, List.cons_append, joinWith_cons (by simp), joinWith_cons (by simp),
      ih, List.append_assoc]
    rfl

theorem joinWith_splitOn (s : Str) : joinWith sep (splitOn sep s) = s := by
  rw [joinWith_eq, splitOn_eq, List.intercalate_splitOn]

theorem not_mem_of_mem_splitOn (s : Str) : ∀ t ∈ splitOn sep s, sep ∉ t :=
  splitOn_eq s ▸ Lib.not_mem_of_mem_splitOn s

theorem splitOn_joinWith {ts : List Str} (hne : ts ≠ []) (h : ∀ t ∈ ts, sep ∉ t) :
    splitOn sep (joinWith sep ts) = ts := by
  rw [joinWith_eq, splitOn_eq, List.splitOn_intercalate _ h hne]

theorem not_mem_joinWith {c : Char} {ts : List Str} (hc : c ≠ sep) (h : ∀ t ∈ ts, c ∉ t) :
    c ∉ joinWith sep ts :=
  joinWith_eq ts ▸ Lib.not_mem_intercalate hc h

theorem not_mem_token {c : Char} {s : Str} (hc : c ∉ s) : ∀ t ∈ splitOn sep s, c ∉ t := by
  induction s using sep_induction sep with
  | base a h => simpa [splitOn_of_not_mem h] using hc
  | step a b h ih =>
    rw [List.mem_append, List.mem_cons, not_or, not_or] at hc
    rw [splitOn_append_sep h, List.forall_mem_cons]
    exact ⟨hc.1, ih hc.2.2⟩

end split

/-- splitting `a ++ c :: b` on `sep ≠ c`: the last token of `a` and the first token of `b` fuse -/
theorem splitOn_append_cons (sep c : Char) (hc : c ≠ sep) (b : Str) (b0 : Str) (bs : List Str)
    (hb : splitOn sep b = b0 :: bs) (a : Str) :
    ∃ init last, splitOn sep a = init ++ [last] ∧
      splitOn sep (a ++ c :: b) = init ++ (last ++ c :: b0) :: bs := by
  induction a using sep_induction sep with
  | base a h =>
    refine ⟨[], a, splitOn_of_not_mem h, ?_⟩
    have := splitOn_append_of_not_mem (p := a ++ [c]) (by simp [h, Ne.symm hc]) hb
    simpa using this
  | step a1 a2 h ih =>
    obtain ⟨init, last, h1, h2⟩ := ih
    refine ⟨a1 :: init, last, by rw [splitOn_append_sep h, h1]; rfl, ?_⟩
    rw [List.append_assoc, List.cons_append, splitOn_append_sep h, h2]
    rfl

section mapTail
variable {α : Type} {f g : α → α} {l : List α}

theorem mapTail_ne_nil (h : l ≠ []) : mapTail f l ≠ [] := by
  cases l <;> simp_all [mapTail]

theorem mapTail_length : (mapTail f l).length = l.length := by
  cases l <;> simp [mapTail]

theorem mapTail_getElem? (i : Nat) : (mapTail f l)[i]? = if i = 0 then l[i]? else l[i]?.map f := by
  cases l <;> cases i <;> simp [mapTail]

theorem head?_mapTail : (mapTail f l).head? = l.head? := by
  cases l <;> rfl

theorem forall_mem_mapTail {Q : α → Prop} (h : ∀ x ∈ l, Q x) (hf : ∀ x, Q x → Q (f x)) :
    ∀ x ∈ mapTail f l, Q x := by
  cases l <;> simp_all [mapTail]

theorem mapTail_eq_mapTail_iff : mapTail f l = mapTail g l ↔ ∀ x ∈ l.tail, f x = g x := by
  cases l <;> simp [mapTail]

theorem mapTail_eq_self (h : ∀ x ∈ l.tail, f x = x) : mapTail f l = l := by
  cases l with
  | nil => rfl
  | cons a as => exact congrArg (a :: ·) ((List.map_congr_left h).trans (List.map_id' as))

theorem mapTail_append {l₁ : List α} (l₂ : List α) (h : l₁ ≠ []) :
    mapTail f (l₁ ++ l₂) = mapTail f l₁ ++ l₂.map f := by
  cases l₁ with
  | nil => exact absurd rfl h
  | cons a as => simp [mapTail]

theorem mapTail_mapTail : mapTail g (mapTail f l) = mapTail (g ∘ f) l := by
  cases l <;> simp [mapTail]

end mapTail

theorem splitOn_joinWith_mapTail {sep : Char} {f : Str → Str} (hf : ∀ t, sep ∉ t → sep ∉ f t) (s : Str) :
    splitOn sep (joinWith sep (mapTail f (splitOn sep s))) = mapTail f (splitOn sep s) :=
  splitOn_joinWith (mapTail_ne_nil (splitOn_ne_nil _))
    (forall_mem_mapTail (not_mem_of_mem_splitOn s) hf)

end ArvVerif.C18
