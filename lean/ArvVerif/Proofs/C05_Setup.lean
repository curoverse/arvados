/-
C05 helper lemmas: cleanupMounts and setupLookupTables.
-/
import ArvVerif.Model.C05
namespace ArvVerif.C05

theorem fixRepl_eq (m : RawMount) : fixRepl m = { m with repl := if m.repl ≤ 0 then 1 else m.repl } := by
  unfold fixRepl; split <;> rfl

theorem fixRepl_repl_pos (m : RawMount) : 1 ≤ (fixRepl m).repl := by
  rw [fixRepl_eq]; dsimp only; split <;> omega

theorem fixRepl_repl_of_pos (m : RawMount) (h : 0 < m.repl) : (fixRepl m).repl = m.repl := by
  rw [fixRepl_eq]; exact if_neg (by omega)

def keepMount (svcs : List RawService) (m : RawMount) : Bool := !(m.ro && (rwDevs svcs).contains m.dev)

theorem mem_cleanup_mount {svcs : List RawService} {s : RawService} {m : RawMount}
    (h : s ∈ cleanupMounts svcs) (hm : m ∈ s.mounts) :
    ∃ s0 ∈ svcs, ∃ m0 ∈ s0.mounts, s.id = s0.id ∧ s.ro = s0.ro ∧ m = fixRepl m0 ∧ keepMount svcs m0 = true := by
  unfold cleanupMounts at h
  obtain ⟨s0, hs0, rfl⟩ := List.mem_map.1 h
  obtain ⟨m0, hm0, rfl⟩ := List.mem_map.1 hm
  exact ⟨s0, hs0, m0, (List.mem_filter.1 hm0).1, rfl, rfl, rfl, (List.mem_filter.1 hm0).2⟩

theorem mem_rwDevs {svcs : List RawService} {s0 : RawService} {m0 : RawMount} (hs : s0 ∈ svcs) (hm : m0 ∈ s0.mounts)
    (hro : m0.ro = false) (hdev : m0.dev ≠ 0) : (rwDevs svcs).contains m0.dev = true := by
  rw [List.contains_iff_mem]
  unfold rwDevs
  refine List.mem_map.2 ⟨m0, List.mem_filter.2 ⟨?_, ?_⟩, rfl⟩
  · unfold allRawMounts; exact List.mem_flatMap.2 ⟨s0, hs, hm⟩
  · simp [hro, hdev]

variable (svcs : List RawService)

theorem cleanup_no_ro_duplicate :
    ∀ s ∈ cleanupMounts svcs, ∀ m ∈ s.mounts, m.ro = true → m.dev ≠ 0 →
      ∀ s' ∈ cleanupMounts svcs, ∀ m' ∈ s'.mounts, m'.dev = m.dev → m'.ro = true := by
  intro s hs m hm hro hdev s' hs' m' hm' hd
  obtain ⟨s0, _, m0, _, _, _, rfl, hk⟩ := mem_cleanup_mount hs hm
  obtain ⟨s0', hs0', m0', hm0', _, _, rfl, _⟩ := mem_cleanup_mount hs' hm'
  simp only [fixRepl_eq] at hro hdev hd ⊢
  cases hro' : m0'.ro with
  | true => rfl
  | false =>
    have hc := mem_rwDevs hs0' hm0' hro' (by rw [hd]; exact hdev)
    unfold keepMount at hk
    rw [hro, ← hd, hc] at hk
    cases hk

theorem cleanup_keeps (s0 : RawService) (hs0 : s0 ∈ svcs) (m0 : RawMount)
    (hm0 : m0 ∈ s0.mounts) (h : m0.ro = false ∨ (rwDevs svcs).contains m0.dev = false) :
    ∃ s ∈ cleanupMounts svcs, s.id = s0.id ∧ s.ro = s0.ro ∧ fixRepl m0 ∈ s.mounts := by
  refine ⟨_, List.mem_map.2 ⟨s0, hs0, rfl⟩, rfl, rfl, ?_⟩
  refine List.mem_map.2 ⟨m0, List.mem_filter.2 ⟨hm0, ?_⟩, rfl⟩
  rcases h with h | h <;> rw [h] <;> simp

theorem cleanup_repl_pos : ∀ s ∈ cleanupMounts svcs, ∀ m ∈ s.mounts, 1 ≤ m.repl := by
  intro s hs m hm
  obtain ⟨_, _, m0, _, _, _, rfl, _⟩ := mem_cleanup_mount hs hm
  exact fixRepl_repl_pos m0

theorem mem_effMounts {dflt : Class} {svcs : List RawService} {m : Mount} :
    m ∈ effMounts dflt svcs ↔ ∃ s ∈ svcs, ∃ rm ∈ s.mounts, m = effMount dflt s rm := by
  unfold effMounts
  simp only [List.mem_flatMap, List.mem_map]
  constructor <;> rintro ⟨s, hs, rm, hrm, rfl⟩ <;> exact ⟨s, hs, rm, hrm, rfl⟩

theorem insertSorted_perm {α : Type} (le : α → α → Bool) (a : α) (l : List α) : (insertSorted le a l).Perm (a :: l) := by
  induction l with
  | nil => exact List.Perm.refl _
  | cons b l ih =>
    unfold insertSorted
    split
    · exact List.Perm.refl _
    · exact ((List.Perm.cons b ih).trans (List.Perm.swap a b l))

theorem isort_perm {α : Type} (le : α → α → Bool) (l : List α) : (isort le l).Perm l := by
  induction l with
  | nil => exact List.Perm.refl _
  | cons a l ih =>
    unfold isort
    exact (insertSorted_perm le a _).trans (List.Perm.cons a ih)

theorem insertSorted_sorted_nat (a : Nat) (l : List Nat) (h : l.Pairwise (· ≤ ·)) :
    (insertSorted (fun a b => decide (a ≤ b)) a l).Pairwise (· ≤ ·) := by
  induction l with
  | nil => simp [insertSorted]
  | cons b l ih =>
    obtain ⟨hb, hl⟩ := List.pairwise_cons.1 h
    unfold insertSorted
    split
    · have hab : a ≤ b := of_decide_eq_true ‹_›
      exact List.pairwise_cons.2 ⟨List.forall_mem_cons.2 ⟨hab, fun x hx => Nat.le_trans hab (hb x hx)⟩, h⟩
    · have hab : ¬ a ≤ b := of_decide_eq_false (Bool.eq_false_iff.2 ‹_›)
      refine List.pairwise_cons.2 ⟨fun x hx => ?_, ih hl⟩
      rcases List.mem_cons.1 ((insertSorted_perm _ a l).mem_iff.1 hx) with rfl | hx'
      · omega
      · exact hb x hx'

theorem isort_sorted_nat (l : List Nat) : (isort (fun a b => decide (a ≤ b)) l).Pairwise (· ≤ ·) := by
  induction l with
  | nil => simp [isort]
  | cons a l ih => unfold isort; exact insertSorted_sorted_nat a _ ih

theorem mem_dedupNat (x : Nat) (l : List Nat) : x ∈ dedupNat l ↔ x ∈ l := by
  induction l with
  | nil => simp [dedupNat]
  | cons a l ih =>
    unfold dedupNat
    split
    · rw [ih, List.mem_cons]
      exact ⟨Or.inr, fun h => h.elim (fun e => e ▸ List.contains_iff_mem.1 ‹_›) id⟩
    · simp [ih]

theorem dedupNat_nodup (l : List Nat) : (dedupNat l).Nodup := by
  induction l with
  | nil => simp [dedupNat]
  | cons a l ih =>
    unfold dedupNat
    split
    · exact ih
    · rename_i hc
      refine List.nodup_cons.2 ⟨?_, ih⟩
      rw [mem_dedupNat]
      intro h
      exact hc (List.contains_iff_mem.2 h)

/-- `bal.classes`: "default" and every class key some mount lists; sorted; no duplicates. -/
theorem classesOf_spec (dflt : Class) (svcs : List RawService) :
    (∀ c, c ∈ classesOf dflt svcs ↔ c = dflt ∨ ∃ m ∈ allRawMounts svcs, c ∈ m.classes) ∧
    (classesOf dflt svcs).Pairwise (· ≤ ·) ∧ (classesOf dflt svcs).Nodup := by
  refine ⟨?_, isort_sorted_nat _, ?_⟩
  · intro c
    unfold classesOf
    rw [(isort_perm _ _).mem_iff, mem_dedupNat]
    simp only [List.mem_cons, List.mem_flatMap]
  · unfold classesOf
    exact (isort_perm _ _).nodup_iff.2 (dedupNat_nodup _)

end ArvVerif.C05
