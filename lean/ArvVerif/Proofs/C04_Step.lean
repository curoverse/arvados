/-
C04 sequential layer: what the operations of `Model/C04.lean` do. A request maps one function over the volumes, and
on each volume that function has one of six effects on the block map and the trash list (`VolStep`, `step_map`) — so
an invariant of the server is proved per volume, by one case analysis over the six (`volStep_keeps` in
`Proofs/C04_Hist.lean`, `volStep_good` in `Proofs/C04_HistGood.lean`, `volStep_keepsEntry` in `Proofs/C04_Trash.lean`)
in which the model's operations do not appear.
-/
import ArvVerif.Model.C04
namespace ArvVerif.C04

theorem setBlock_same (v : Vol) (h : Hash) (x : Option File) : (v.setBlock h x).blocks h = x := by
  simp [Vol.setBlock]

theorem setBlock_other (v : Vol) {h h' : Hash} (x : Option File) (hne : h' ≠ h) :
    (v.setBlock h x).blocks h' = v.blocks h' := by
  simp [Vol.setBlock, hne]

theorem trashBlock_cases (c : Cfg) (now : Time) (v : Vol) (h : Hash) :
    (Vol.trashBlock c now v h).2 = v ∨
    ∃ f, v.ro = false ∧ c.blobTrash = true ∧ v.blocks h = some f ∧ ¬ (now < f.mtime + c.ttl) ∧
      (Vol.trashBlock c now v h).2 =
        { v.setBlock h none with
          trash := if c.life = 0 then v.trash
                   else trashInsert v.trash { hash := h, deadline := deadlineOf c now, file := f } } := by
  unfold Vol.trashBlock
  split
  · exact .inl rfl
  · rename_i hro
    simp only [Bool.or_eq_true, Bool.not_eq_true', not_or, Bool.not_eq_true, Bool.not_eq_false] at hro
    split
    · exact .inl rfl
    · rename_i f hf
      split
      · exact .inl rfl
      · rename_i hy
        simp only [young, decide_eq_true_eq] at hy
        exact .inr ⟨f, hro.1, hro.2, hf, hy, by split <;> rfl⟩

theorem trashBlock_blocks (c : Cfg) (now : Time) (v : Vol) (h h' : Hash) :
    ((Vol.trashBlock c now v h).2.blocks h' = v.blocks h') ∨
    (h' = h ∧ v.ro = false ∧ c.blobTrash = true ∧ (Vol.trashBlock c now v h).2.blocks h = none ∧
      ∃ f, v.blocks h = some f ∧ ¬ (now < f.mtime + c.ttl)) := by
  rcases trashBlock_cases c now v h with he | ⟨f, hro, hbt, hf, hold, he⟩ <;> rw [he]
  · exact .inl rfl
  · by_cases hh : h' = h
    · subst hh
      exact .inr ⟨rfl, hro, hbt, setBlock_same v h' none, f, hf, hold⟩
    · exact .inl (setBlock_other v none hh)

theorem touch_cases (v : Vol) (h : Hash) (now : Time) :
    (v.touch h now).getD v = v ∨
    ∃ f, v.blocks h = some f ∧ (v.touch h now).getD v = v.setBlock h (some { f with mtime := now }) := by
  unfold Vol.touch
  split
  · exact .inl rfl
  · split
    · exact .inl rfl
    · rename_i f hf
      exact .inr ⟨f, hf, rfl⟩

theorem untrashVol_cases (h : Hash) (now : Time) (v : Vol) :
    untrashVol h now v = v ∨
    ∃ e, v.ro = false ∧ minEntry h v.trash = some e ∧
      untrashVol h now v =
        { v.setBlock h (some { e.file with mtime := now }) with
          trash := v.trash.filter fun x => !(x.hash = h ∧ x.deadline = e.deadline) } := by
  unfold untrashVol
  split
  · exact .inl rfl
  · rename_i hro
    unfold Vol.untrash
    split
    · exact .inl rfl
    · rename_i e he
      exact .inr ⟨e, by simpa using hro, he, rfl⟩

theorem emptyTrash_blocks (c : Cfg) (now : Time) (v : Vol) : (v.emptyTrash c now).blocks = v.blocks := by
  unfold Vol.emptyTrash
  split <;> rfl

theorem sweepVol_frame (c : Cfg) (now : Time) (v : Vol) :
    sweepVol c now v = { v with trash := (sweepVol c now v).trash } := by
  unfold sweepVol Vol.emptyTrash
  split
  · rfl
  · split <;> rfl

theorem sweepVol_blocks (c : Cfg) (now : Time) (v : Vol) : (sweepVol c now v).blocks = v.blocks := by
  rw [sweepVol_frame]

theorem sweepVol_trash (c : Cfg) (now : Time) (v : Vol) (e : TrashEnt) :
    e ∈ (sweepVol c now v).trash ↔ e ∈ v.trash ∧ (v.ro = true ∨ c.conc < 1 ∨ now / c.res < e.deadline) := by
  unfold sweepVol Vol.emptyTrash
  by_cases hro : v.ro = true
  · simp [hro]
  · by_cases hc : c.conc < 1
    · simp [hro, hc]
    · simp [hro, hc]

theorem minEntry_mem {h : Hash} {es : List TrashEnt} {m : TrashEnt} (hm : minEntry h es = some m) : m ∈ es := by
  induction es generalizing m with
  | nil => simp [minEntry] at hm
  | cons x xs ih =>
    unfold minEntry at hm
    split at hm
    · split at hm
      · rename_i m' hm'
        split at hm
        · cases hm; exact List.mem_cons_of_mem _ (ih hm')
        · cases hm; exact List.mem_cons_self
      · cases hm; exact List.mem_cons_self
    · exact List.mem_cons_of_mem _ (ih hm)

theorem minEntry_some {h : Hash} {es : List TrashEnt} (hh : ∃ e ∈ es, e.hash = h) : ∃ m, minEntry h es = some m := by
  induction es with
  | nil => obtain ⟨e, he, _⟩ := hh; cases he
  | cons x xs ih =>
    unfold minEntry
    split
    · split
      · split <;> exact ⟨_, rfl⟩
      · exact ⟨_, rfl⟩
    · rename_i hx
      obtain ⟨e, he, heh⟩ := hh
      cases he with
      | head => exact absurd heh hx
      | tail _ he' => exact ih ⟨e, he', heh⟩

theorem mem_writables {vs : List Vol} {v : Vol} (h : v ∈ writables vs) : v ∈ vs ∧ v.ro = false := by
  simp only [writables, List.mem_filter, Bool.not_eq_true'] at h
  exact h

theorem compareAndTouch_some {now : Time} {h : Hash} {ws : List Vol} {id : Nat}
    (hc : compareAndTouch now h ws = some id) :
    ∃ v ∈ ws, v.id = id ∧ ∃ f, v.blocks h = some f ∧ f.good = true := by
  induction ws with
  | nil => simp [compareAndTouch] at hc
  | cons w ws ih =>
    have tl hc' := (ih hc').imp fun _ => And.imp_left (List.mem_cons_of_mem w)
    unfold compareAndTouch at hc
    split at hc
    · rename_i f hf
      split at hc
      · rename_i hg
        exact ⟨w, List.mem_cons_self, Option.some.inj hc, f, hf, hg⟩
      · exact tl hc
    · exact tl hc

theorem firstHolding_some {h : Hash} {ws : List Vol} {id : Nat} (hc : firstHolding h ws = some id) :
    ∃ v ∈ ws, v.id = id ∧ ∃ f, v.blocks h = some f := by
  induction ws with
  | nil => simp [firstHolding] at hc
  | cons w ws ih =>
    unfold firstHolding at hc
    split at hc
    · rename_i hs
      simp only [Option.some.injEq] at hc
      obtain ⟨f, hf⟩ := Option.isSome_iff_exists.mp hs
      exact ⟨w, List.mem_cons_self, hc, f, hf⟩
    · obtain ⟨v, hv, hx⟩ := ih hc
      exact ⟨v, List.mem_cons_of_mem _ hv, hx⟩

theorem pickTarget_mem {ws : List Vol} {w w' : Vol} (hw : w ∈ ws) (h : pickTarget ws w = some w') : w' ∈ ws := by
  unfold pickTarget at h
  split at h
  · exact List.mem_of_find?_eq_some h
  · cases h; exact hw

theorem getStatus_200 {h : Hash} : ∀ (vs : List Vol) (acc : Nat),
    (∃ v ∈ vs, ∃ f, v.blocks h = some f ∧ f.good = true) → getStatus h vs acc = 200 := by
  intro vs
  induction vs with
  | nil => intro _ ⟨v, hv, _⟩; cases hv
  | cons w ws ih =>
    intro acc ⟨v, hv, f, hf, hg⟩
    -- unless `w` holds the intact copy, it is further down the list
    have tl (hw : w.blocks h ≠ some f) (acc' : Nat) : getStatus h ws acc' = 200 := by
      cases hv with
      | head => exact absurd hf hw
      | tail _ hv' => exact ih _ ⟨v, hv', f, hf, hg⟩
    unfold getStatus
    split
    · rename_i fw hw
      split
      · rfl
      · exact tl (fun e => by rw [hw] at e; cases e; contradiction) _
    · rename_i hw
      exact tl (fun e => by rw [hw] at e; cases e) _

theorem get_200 (c : Cfg) (s : St) {h : Hash} (hh : ∃ v ∈ s.vols, ∃ f, v.blocks h = some f ∧ f.good = true) :
    (step c s (.get h)).2 = .code 200 := by
  simp only [step]
  rw [getStatus_200 _ _ hh]

theorem step_now_ge (c : Cfg) (s : St) (op : Op) : s.now ≤ (step c s op).1.now := by
  cases op <;> simp only [step] <;> (repeat' split) <;> simp

theorem run_now_ge (c : Cfg) : ∀ (ops : List Op) (s : St), s.now ≤ (run c s ops).1.now
  | [], _ => Nat.le_refl _
  | op :: ops, s => Nat.le_trans (step_now_ge c s op) (run_now_ge c ops _)

/-- What a request can do to one volume: nothing, or one of the five effects of `Vol.touch`, `Vol.write`,
`Vol.trashBlock`, `untrashVol`, `sweepVol` when they act (`touch_cases` … `sweepVol_trash`), each with what is known of
the file or trash entry involved. Only `untrash` records the request it comes from (`volStep_keeps` and
`volStep_keepsEntry` need it); which request removes which block, and when, is `tiVol_acts` / `delVol_acts` in
`Proofs/C04_Trash.lean`, not this. -/
inductive VolStep (c : Cfg) (s : St) (op : Op) (v : Vol) : Vol → Prop
  | same : VolStep c s op v v
  | touch (h : Hash) (f : File) (hf : v.blocks h = some f) :
      VolStep c s op v (v.setBlock h (some { f with mtime := s.now }))
  | write (h : Hash) : VolStep c s op v (v.setBlock h (some { good := true, mtime := s.now }))
  | trash (h : Hash) (f : File) (hf : v.blocks h = some f) (hold : ¬ (s.now < f.mtime + c.ttl)) :
      VolStep c s op v { v.setBlock h none with
        trash := if c.life = 0 then v.trash
                 else trashInsert v.trash { hash := h, deadline := deadlineOf c s.now, file := f } }
  | untrash (h : Hash) (hop : op = .untrash h) (e : TrashEnt) (hro : v.ro = false) (he : minEntry h v.trash = some e) :
      VolStep c s op v { v.setBlock h (some { e.file with mtime := s.now + c.spread * v.id }) with
        trash := v.trash.filter fun x => !(x.hash = h ∧ x.deadline = e.deadline) }
  | sweep (tr : List TrashEnt)
      (htr : ∀ e, e ∈ tr ↔ e ∈ v.trash ∧ (v.ro = true ∨ c.conc < 1 ∨ s.now / c.res < e.deadline)) :
      VolStep c s op v { v with trash := tr }

theorem volStep_frame {c : Cfg} {s : St} {op : Op} {v v' : Vol} (hs : VolStep c s op v v') :
    v'.id = v.id ∧ v'.ro = v.ro := by
  cases hs <;> exact ⟨rfl, rfl⟩

theorem volStep_touch (c : Cfg) (s : St) (op : Op) (v : Vol) (h : Hash) :
    VolStep c s op v ((v.touch h s.now).getD v) := by
  rcases touch_cases v h s.now with he | ⟨f, hf, he⟩ <;> rw [he]
  · exact .same
  · exact .touch h f hf

theorem volStep_trashBlock (c : Cfg) (s : St) (op : Op) (v : Vol) (h : Hash) :
    VolStep c s op v (Vol.trashBlock c s.now v h).2 := by
  rcases trashBlock_cases c s.now v h with he | ⟨f, -, -, hf, hold, he⟩ <;> rw [he]
  · exact .same
  · exact .trash h f hf hold

theorem volStep_untrashVol (c : Cfg) (s : St) (v : Vol) (h : Hash) :
    VolStep c s (.untrash h) v (untrashVol h (s.now + c.spread * v.id) v) := by
  rcases untrashVol_cases h (s.now + c.spread * v.id) v with he | ⟨e, hro, hm, he⟩ <;> rw [he]
  · exact .same
  · exact .untrash h rfl e hro hm

theorem volStep_sweepVol (c : Cfg) (s : St) (op : Op) (v : Vol) : VolStep c s op v (sweepVol c s.now v) := by
  rw [sweepVol_frame]
  exact .sweep _ (sweepVol_trash c s.now v)

theorem step_map (c : Cfg) (s : St) (op : Op) :
    ∃ F : Vol → Vol, (step c s op).1.vols = s.vols.map F ∧ ∀ v, VolStep c s op v (F v) := by
  have same : ∃ F : Vol → Vol, s.vols = s.vols.map F ∧ ∀ v, VolStep c s op v (F v) :=
    ⟨id, (List.map_id _).symm, fun _ => .same⟩
  cases op with
  | put h goodBody =>
    simp only [step]
    split
    · exact same
    · split
      · exact same
      · split
        · exact ⟨_, rfl, fun v => by split; exact volStep_touch ..; exact .same⟩
        · split
          · split
            · exact ⟨_, rfl, fun v => by split; exact .write h; exact .same⟩
            · exact same
          · exact same
  | touch h =>
    simp only [step]
    split
    · exact ⟨_, rfl, fun v => by split; exact volStep_touch ..; exact .same⟩
    · exact same
  | delete h =>
    simp only [step]
    split
    · exact same
    · split
      · exact same
      · exact ⟨_, rfl, fun v => by unfold delVol; split; exact .same; exact volStep_trashBlock ..⟩
  | trashItem h req mount =>
    simp only [step]
    split
    · exact same
    · refine ⟨_, rfl, fun v => ?_⟩
      unfold tiVol
      split
      · split
        · split
          · exact volStep_trashBlock ..
          · exact .same
        · exact .same
      · exact .same
  | untrash h =>
    simp only [step]
    split
    · exact same
    · split
      · exact same
      · exact ⟨_, rfl, fun _ => volStep_untrashVol ..⟩
  | emptyTrash => exact ⟨_, rfl, fun _ => volStep_sweepVol ..⟩
  | get _ | tick _ | unauth _ => exact same

end ArvVerif.C04
