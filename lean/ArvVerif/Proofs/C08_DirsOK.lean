/-
C08 treeness: parent chains in the directory table. `up dirs k n` is the n-th ancestor of directory `k`; `DirsOK` says
every chain reaches the root within `dirs.length` steps. Pigeonhole (`up_within`), completeness of the fuel-bounded
`ancestors`, and `DirsOK` when a slot of the table (an old one: Rename; a new one: adding a directory) is given a parent
that is not one of its descendants.
-/
import ArvVerif.Model.C08_FS
namespace ArvVerif.C08

def up (dirs : List (String × Nat)) : Nat → Nat → Nat
  | k, 0 => k
  | k, n + 1 => up dirs (parentOf dirs k) n

structure DirsOK (dirs : List (String × Nat)) : Prop where
  nonempty : 0 < dirs.length
  root : parentOf dirs 0 = 0
  closed : ∀ k, k < dirs.length → parentOf dirs k < dirs.length
  reach : ∀ k, k < dirs.length → up dirs k dirs.length = 0

theorem up_add (dirs : List (String × Nat)) : ∀ (a b k : Nat), up dirs k (a + b) = up dirs (up dirs k a) b := by
  intro a
  induction a with
  | zero => intro b k; simp [up]
  | succ a ih => intro b k; rw [Nat.succ_add]; simp only [up]; exact ih b _

theorem up_fix {dirs : List (String × Nat)} {d : Nat} (h : parentOf dirs d = d) : ∀ n, up dirs d n = d := by
  intro n
  induction n with
  | zero => rfl
  | succ n ih => simp only [up, h]; exact ih

theorem up_lt {dirs : List (String × Nat)} (hc : ∀ k, k < dirs.length → parentOf dirs k < dirs.length) :
    ∀ n k, k < dirs.length → up dirs k n < dirs.length := by
  intro n
  induction n with
  | zero => intro k h; exact h
  | succ n ih => intro k h; simp only [up]; exact ih _ (hc k h)

/-- before the chain first reaches the root it does not repeat: a repeat would reach the root earlier -/
theorem up_ne_of_lt {dirs : List (String × Nat)} {k m : Nat} (hm : up dirs k m = 0)
    (hmin : ∀ t, t < m → up dirs k t ≠ 0) {a b : Nat} (hab : a < b) (hb : b < m) : up dirs k a ≠ up dirs k b := by
  intro e
  refine hmin (a + (m - b)) (by omega) ?_
  rw [up_add, e, ← up_add, show b + (m - b) = m by omega, hm]

/-- **Pigeonhole on parent chains**: in a table whose parents are valid ids and whose root is its own
parent, a chain that reaches the root at all reaches it within `dirs.length` steps. -/
theorem up_within {dirs : List (String × Nat)} (hroot : parentOf dirs 0 = 0)
    (hc : ∀ k, k < dirs.length → parentOf dirs k < dirs.length) {k : Nat} (hk : k < dirs.length)
    (h : ∃ n, up dirs k n = 0) : up dirs k dirs.length = 0 := by
  obtain ⟨m, hm⟩ := h
  -- it is enough to look at the first arrival at the root
  induction m using Nat.strongRecOn with | _ m ih => ?_
  by_cases hex : ∃ t, t < m ∧ up dirs k t = 0
  · obtain ⟨t, ht, h0⟩ := hex
    exact ih t ht h0
  have hmin : ∀ t, t < m → up dirs k t ≠ 0 := fun t ht h0 => hex ⟨t, ht, h0⟩
  have hnd : ((List.range m).map (up dirs k)).Nodup := List.pairwise_map.mpr
    (List.pairwise_lt_range.imp_of_mem fun _ hb hab => up_ne_of_lt hm hmin hab (List.mem_range.mp hb))
  have hle := hnd.length_le_of_subset (l₂ := List.range dirs.length) (fun x hx => by
    obtain ⟨i, _, rfl⟩ := List.mem_map.mp hx
    exact List.mem_range.mpr (up_lt hc i k hk))
  rw [List.length_map, List.length_range, List.length_range] at hle
  have : dirs.length = m + (dirs.length - m) := by omega
  rw [this, up_add, hm]
  exact up_fix hroot _

/-- **Completeness of the fuel-bounded `ancestors`** (the `needLock` walk of Rename): when the chain
from `d` reaches the root within `fuel` steps, the list holds exactly the ancestors-or-self of `d`. -/
theorem mem_ancestors {dirs : List (String × Nat)} (hroot : parentOf dirs 0 = 0) {fuel d k : Nat}
    (h : up dirs d fuel = 0) : k ∈ ancestors dirs fuel d ↔ ∃ i, up dirs d i = k := by
  have hself : ∀ d, parentOf dirs d = d → (k ∈ [d] ↔ ∃ i, up dirs d i = k) := by
    intro d hp
    rw [List.mem_singleton]
    exact ⟨fun hk => ⟨0, hk.symm⟩, fun ⟨i, hi⟩ => by rw [← hi, up_fix hp]⟩
  induction fuel generalizing d with
  | zero =>
    cases (h : d = 0)
    exact hself 0 hroot
  | succ fuel ih =>
    unfold ancestors
    by_cases hp : (parentOf dirs d == d) = true
    · rw [if_pos hp]
      exact hself d (by simpa using hp)
    · rw [if_neg hp]
      simp only [List.mem_cons]
      refine (or_congr Iff.rfl (ih h)).trans ⟨?_, ?_⟩
      · rintro (hk | ⟨i, hi⟩)
        · exact ⟨0, hk.symm⟩
        · exact ⟨i + 1, hi⟩
      · rintro ⟨i, hi⟩
        cases i with
        | zero => exact Or.inl hi.symm
        | succ i => exact Or.inr ⟨i, hi⟩

theorem parentOf_lt {dirs : List (String × Nat)} {k : Nat} {nm : String} {p : Nat}
    (h : dirs[k]? = some (nm, p)) : parentOf dirs k = p := by
  simp [parentOf, h]

theorem parentOf_append (dirs : List (String × Nat)) (nm : String) (d j : Nat) :
    parentOf (dirs ++ [(nm, d)]) j = if j = dirs.length then d else parentOf dirs j := by
  unfold parentOf
  rcases Nat.lt_trichotomy j dirs.length with hlt | rfl | hgt
  · rw [List.getElem?_append_left hlt, if_neg (by omega)]
  · simp
  · rw [if_neg (by omega), List.getElem?_eq_none (by simp; omega), List.getElem?_eq_none (by omega)]

theorem parentOf_set {dirs : List (String × Nat)} {k : Nat} (nm : String) (nd : Nat) (hk : k < dirs.length) (j : Nat) :
    parentOf (dirs.set k (nm, nd)) j = if j = k then nd else parentOf dirs j := by
  simp only [parentOf, List.getElem?_set]
  by_cases hj : j = k
  · subst hj; simp [hk]
  · rw [if_neg (fun h => hj h.symm), if_neg hj]

/-- giving slot `k` the parent `nd`, where `k` is not an ancestor-or-self of `nd`: `dirs'` is any table whose
slots are those of `dirs` and possibly `k` (a new directory), with the parents of `dirs` except at `k` -/
theorem DirsOK.reparent {dirs dirs' : List (String × Nat)} (h : DirsOK dirs) {k nd : Nat}
    (hlen : dirs.length ≤ dirs'.length) (hslot : ∀ j, j < dirs'.length → j < dirs.length ∨ j = k)
    (hpar : ∀ j, parentOf dirs' j = if j = k then nd else parentOf dirs j)
    (hnd : nd < dirs.length) (hav : ∀ i, up dirs nd i ≠ k) : DirsOK dirs' := by
  have hk0 : k ≠ 0 := by
    intro hz
    exact hav dirs.length (by rw [h.reach nd hnd, hz])
  -- chains that avoid k are unchanged
  have hsame : ∀ i x, (∀ t, up dirs x t ≠ k) → up dirs' x i = up dirs x i := by
    intro i
    induction i with
    | zero => intro x _; rfl
    | succ i ih =>
      intro x hx
      have hxk : x ≠ k := hx 0
      simp only [up, hpar x, if_neg hxk]
      exact ih _ (fun t => hx (t + 1))
  have hndz : up dirs' nd dirs.length = 0 := by rw [hsame _ nd hav]; exact h.reach nd hnd
  have hkz : up dirs' k (dirs.length + 1) = 0 := by
    simp only [up, hpar k, if_pos]
    exact hndz
  -- every chain still reaches the root
  have hex : ∀ n x, up dirs x n = 0 → ∃ n', up dirs' x n' = 0 := by
    intro n
    induction n with
    | zero => intro x hx; exact ⟨0, hx⟩
    | succ n ih =>
      intro x hx
      by_cases hxk : x = k
      · exact ⟨_, hxk ▸ hkz⟩
      · obtain ⟨n', hn'⟩ := ih (parentOf dirs x) hx
        refine ⟨n' + 1, ?_⟩
        simp only [up, hpar x, if_neg hxk]
        exact hn'
  have hroot : parentOf dirs' 0 = 0 := by
    rw [hpar 0, if_neg (fun e => hk0 e.symm)]; exact h.root
  have hclosed : ∀ j, j < dirs'.length → parentOf dirs' j < dirs'.length := by
    intro j hj
    rw [hpar j]
    split
    · omega
    · next hjk => exact Nat.lt_of_lt_of_le (h.closed j ((hslot j hj).resolve_right hjk)) hlen
  refine ⟨Nat.lt_of_lt_of_le h.nonempty hlen, hroot, hclosed, fun j hj => up_within hroot hclosed hj ?_⟩
  rcases hslot j hj with hlt | rfl
  · exact hex dirs.length j (h.reach j hlt)
  · exact ⟨_, hkz⟩

theorem DirsOK.append {dirs : List (String × Nat)} (h : DirsOK dirs) (nm : String) {d : Nat} (hd : d < dirs.length) :
    DirsOK (dirs ++ [(nm, d)]) :=
  h.reparent (k := dirs.length) (by simp) (fun j hj => by simp at hj; omega) (parentOf_append dirs nm d) hd
    (fun i e => Nat.lt_irrefl _ (e ▸ up_lt h.closed i d hd))

theorem DirsOK.init : DirsOK [(".", 0)] :=
  ⟨Nat.one_pos, rfl, fun k hk => by cases Nat.lt_one_iff.mp hk; exact Nat.one_pos,
    fun k hk => by cases Nat.lt_one_iff.mp hk; rfl⟩

end ArvVerif.C08
