/-
C14 layer L2: every pool operation preserves `Pool.WF` (distinct worker ids = keys of the Go map
`wp.workers`), hence every reachable pool is well-formed.

The point: `put` replaces a worker by one stored under the same key, so the list of ids never
changes; only `updateWorker` adds an id, and only when `find` says it is not there; `sync` then
filters.
-/
import ArvVerif.Model.C14_PoolOps
namespace ArvVerif.C14
namespace Pool

/-- the keys of `wp.workers` -/
def ids (p : Pool) : List Nat := p.workers.map (·.id)

theorem WF_iff_ids (p : Pool) : p.WF ↔ p.ids.Nodup := by
  unfold WF ids List.Nodup
  rw [List.pairwise_map]

theorem ids_put (p : Pool) (w : Worker) : (p.put w).ids = p.ids := by
  unfold put ids
  rw [List.map_map]
  exact List.map_congr_left (by grind)

theorem ids_markExited (p : Pool) (us : List Uuid) (now : Nat) : (p.markExited us now).ids = p.ids := rfl

theorem find_none_not_mem {p : Pool} {i : Nat} (h : p.find i = none) : i ∉ p.ids := by
  unfold find at h
  unfold ids
  grind

theorem ids_updateWorker (p : Pool) (l : Listed) (now : Nat) :
    (p.updateWorker l now).ids = p.ids ∨
    ((p.updateWorker l now).ids = p.ids ++ [l.id] ∧ l.id ∉ p.ids) := by
  unfold updateWorker
  split
  · exact .inl (ids_put p _)
  next h => exact .inr ⟨by simp [ids], find_none_not_mem h⟩

theorem WF_put {p : Pool} (h : p.WF) (w : Worker) : (p.put w).WF := by
  grind [WF_iff_ids, ids_put]

theorem WF_updateWorker {p : Pool} (h : p.WF) (l : Listed) (now : Nat) : (p.updateWorker l now).WF := by
  have := ids_updateWorker p l now
  grind [WF_iff_ids, List.nodup_append]

theorem WF_sync {p : Pool} (h : p.WF) {th : Nat} {listed : List Listed} {retry : Nat → Bool} {now : Nat} :
    (p.sync th listed retry now).WF := by
  unfold sync
  refine List.Pairwise.filter _ (List.foldlRecOn (motive := WF) _ _ h fun q hq l _ => ?_)
  have h1 := WF_updateWorker hq l now
  grind [WF_put]

/-- Every operation other than the two that list instances `put`s at most one worker back and
otherwise changes `exited` only. -/
theorem WF_apply {p : Pool} (h : p.WF) (op : PoolOp) : (p.apply op).WF := by
  cases op with
  | sync th ls retry now => exact WF_sync h
  | listAndSync r retry th now =>
    cases r
    · exact WF_sync h
    · exact h
  | _ =>
    grind [apply, startContainer, startDone, closeRunner, probeApply, shutdownWorker,
      setIdleBehavior, WF_put, WF, markExited, forget]

theorem WF_of_reachable {p : Pool} (h : p.Reachable) : p.WF := by
  induction h with
  | init => exact List.Pairwise.nil
  | step op _ ih => exact WF_apply ih op

end Pool
end ArvVerif.C14
