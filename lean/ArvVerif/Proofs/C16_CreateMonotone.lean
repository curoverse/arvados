/-
C16 part B for pools whose Create failures are monotone within a pass (`CreateMonotone`,
Model/C16_RunQueue.lean): once Create has failed for a type whose unallocated workers are used up,
the state stays `NoWorker` for that type, so no StartContainer on it follows (`loop_createLatch`).
The model of the real pool (Model/C16_Pool.lean) is such a pool: at a frozen clock, a Create that failed
keeps failing for the rest of the pass.
-/
import ArvVerif.Proofs.C16_RunQueue
import ArvVerif.Model.C16_Pool
namespace ArvVerif.C16.RQ
variable {σ : Type}

/-- no worker can appear for type `t` any more in this pass: Create keeps failing and runQueue's
local count of unallocated workers of the type is exhausted -/
def NoWorker (Dead : σ → Prop) (t : Nat) (s : RQ σ) : Prop := Dead s.pool ∧ s.unalloc t ≤ 0

def NoStart (l : List Ev) : Prop := ∀ ev ∈ l, ∀ t u r, ev ≠ Ev.start t u r

theorem dec_le (f : Nat → Int) (t x : Nat) : dec f t x ≤ f x := by
  unfold dec; split <;> omega

theorem tryStart_unalloc (P : Pool σ) (e : Ent) (s : RQ σ) : (tryStart P e s).1.unalloc = s.unalloc := by
  fun_cases tryStart P e s <;> rfl

theorem tryStart_dead {P : Pool σ} {Dead : σ → Prop} (hm : CreateMonotone P Dead) (e : Ent) (s : RQ σ)
    (hd : Dead s.pool) : Dead (tryStart P e s).1.pool := by
  fun_cases tryStart P e s
  · exact hd
  · exact hm.keepK _ _ _ hd
  · exact hm.keepS _ _ _ (hm.keepK _ _ _ hd)
  · exact hm.keepS _ _ _ (hm.keepK _ _ _ hd)

theorem stepLocked_noWorker {P : Pool σ} {Dead : σ → Prop} (hm : CreateMonotone P Dead) (e : Ent) (s : RQ σ) :
    (∀ t, NoWorker Dead t s → NoWorker Dead t (stepLocked P e s).1 ∧
        ∀ ev ∈ (stepLocked P e s).2.1, ¬ IsStartOn t ev) ∧
    (∀ u t, Ev.create u t false ∈ (stepLocked P e s).2.1 →
        NoWorker Dead t (stepLocked P e s).1 ∧ NoStart (stepLocked P e s).2.1) := by
  fun_cases stepLocked P e s
  · -- an unallocated worker of the entry's type is left, so that type is not `t`
    rename_i hu _
    refine ⟨fun t h => ⟨⟨tryStart_dead hm e _ h.1, ?_⟩, ?_⟩, fun u t hc => ?_⟩
    · rw [tryStart_unalloc]; exact Int.le_trans (dec_le _ _ _) h.2
    · rintro ev hev ⟨u, r, rfl⟩
      obtain ⟨rfl, -⟩ : t = e.ty ∧ u = e.uuid := by simpa using tryStart_evs P e _ _ hev
      exact absurd h.2 (by omega)
    · simpa using tryStart_evs P e _ _ hc
  · rename_i q hq
    exact ⟨fun t h => ⟨⟨hm.keepQ _ h.1, h.2⟩, by simp [IsStartOn]⟩, by simp⟩
  · -- Create cannot succeed in a Dead state
    rename_i q hq c hc _
    refine ⟨fun t h => ?_, fun u t hc' => ?_⟩
    · rw [hm.fail e.ty _ (hm.keepQ _ h.1)] at hc; cases hc
    · rcases List.mem_cons.mp hc' with h | h
      · cases h
      · simpa using tryStart_evs P e _ _ h
  · rename_i hu q hq c hc
    refine ⟨fun t h => ⟨⟨hm.keepC _ _ (hm.keepQ _ h.1), h.2⟩, by simp [IsStartOn]⟩, fun u t hc' => ?_⟩
    simp only [List.mem_singleton, Ev.create.injEq] at hc'
    obtain ⟨_, rfl, _⟩ := hc'
    exact ⟨⟨hm.enter _ _ (by simpa using hc), by simpa using hu⟩, by simp [NoStart]⟩

theorem stepQueued_noWorker {P : Pool σ} {Dead : σ → Prop} (hm : CreateMonotone P Dead) (e : Ent) (s : RQ σ)
    (t : Nat) (h : NoWorker Dead t s) : NoWorker Dead t (stepQueued P e s).1 := by
  have hq : Dead (if s.unalloc e.ty < 1 then P.atQuota s.pool else (false, s.pool)).2 := by
    split
    · exact hm.keepQ _ h.1
    · exact h.1
  fun_cases stepQueued P e s
  · exact ⟨hq, h.2⟩
  · exact ⟨hm.keepK _ _ _ hq, h.2⟩
  · exact ⟨hm.keepK _ _ _ hq, Int.le_trans (dec_le _ _ _) h.2⟩

theorem stepEnt_noWorker {P : Pool σ} {Dead : σ → Prop} (hm : CreateMonotone P Dead) (e : Ent) (s : RQ σ) :
    (∀ t, NoWorker Dead t s → NoWorker Dead t (stepEnt P e s).1 ∧
        ∀ ev ∈ (stepEnt P e s).2.1, ¬ IsStartOn t ev) ∧
    (∀ u t, Ev.create u t false ∈ (stepEnt P e s).2.1 →
        NoWorker Dead t (stepEnt P e s).1 ∧ NoStart (stepEnt P e s).2.1) := by
  fun_cases stepEnt P e s
  · exact ⟨fun t h => ⟨h, by simp⟩, by simp⟩
  · -- the Queued branch calls neither Create nor StartContainer
    have hevs := (stepQueued_evs P e s).1
    refine ⟨fun t h => ⟨stepQueued_noWorker hm e s t h, ?_⟩, fun u t hc => ?_⟩
    · rintro ev hev ⟨u, r, rfl⟩
      simpa using hevs _ hev
    · simpa using hevs _ hc
  · exact stepLocked_noWorker hm e s
  · exact ⟨fun t h => ⟨h, by simp⟩, by simp⟩

theorem loop_noWorker {P : Pool σ} {Dead : σ → Prop} (hm : CreateMonotone P Dead) (es : List Ent)
    (s : RQ σ) (t : Nat) (h : NoWorker Dead t s) :
    ∀ ev ∈ (loop P es s).2.1, ¬ IsStartOn t ev :=
  loop_invariant (fun e s => (stepEnt_noWorker hm e s).1 t) es s h

theorem loop_createLatch {P : Pool σ} {Dead : σ → Prop} (hm : CreateMonotone P Dead) (es : List Ent)
    (s : RQ σ) (t : Nat) :
    (loop P es s).2.1.Pairwise (fun a b => (∃ u, a = Ev.create u t false) → ¬ IsStartOn t b) := by
  refine loop_never_after (fun e s => (stepEnt_noWorker hm e s).1 t) (fun e s => ⟨?_, ?_⟩) es s
  · refine List.pairwise_of_forall_mem_list ?_
    rintro a ha b hb ⟨u, rfl⟩ ⟨u', r, rfl⟩
    exact ((stepEnt_noWorker hm e s).2 u t ha).2 _ hb t u' r rfl
  · rintro a ha ⟨u, rfl⟩
    exact ((stepEnt_noWorker hm e s).2 u t ha).1

theorem loop_createFail {P : Pool σ} {Dead : σ → Prop} (hm : CreateMonotone P Dead) (es : List Ent)
    (s : RQ σ) (pre post : List Ev) (t u ub : Nat) (r : Bool)
    (h : (loop P es s).2.1 = pre ++ Ev.start t ub r :: post)
    (hc : Ev.create u t false ∈ pre) : False := by
  have hp := loop_createLatch hm es s t
  rw [h] at hp
  exact (List.pairwise_append.mp hp).2.2 _ hc _ List.mem_cons_self ⟨u, rfl⟩ ⟨ub, r, rfl⟩

theorem realPool_create_fails_iff (t : Nat) (p : RPool) :
    (realPool.create t p).1 = false ↔ createBlocked p := by
  unfold realPool createBlocked
  dsimp only
  repeat' split
  all_goals simp [*]

theorem realPool_create_keeps_blocked (t : Nat) (p : RPool) (h : createBlocked p) :
    createBlocked (realPool.create t p).2 := by
  unfold createBlocked RPool.throttled at h ⊢
  unfold realPool RPool.throttled
  dsimp only
  repeat' split
  · exact h     -- before `atQuotaUntil`: the state is unchanged
  · simp_all    -- throttled: the error is kept, `thrUntil` has not passed
  · simp        -- create-ops limit: an error is set with `thrUntil` in the future
  · simp_all    -- not blocked

end ArvVerif.C16.RQ
