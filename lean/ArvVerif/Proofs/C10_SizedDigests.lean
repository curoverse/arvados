/-
C10 — `Collection.SizedDigests`: on every text inside the grammar it returns, in manifest order,
the hash+size part of every block locator.
-/
import ArvVerif.Model.C10_Fs
import ArvVerif.Proofs.C10_Grammar
namespace ArvVerif.C10

def specSizedDigests (M : Manifest) : List Bytes := M.flatMap fun s => s.blocks.map fun b => stripLoc b.text

theorem sizedDigestsLine_spec : ∀ (blocks : List Loc) (ftoks : List Bytes),
    (∀ b ∈ blocks, specLocator b.text = some b) → (∀ t r, ftoks = t :: r → isGoLocator t = false) →
    sizedDigestsLine (blocks.map (·.text) ++ ftoks) = blocks.map fun b => stripLoc b.text
  | [], [], _, _ => rfl
  | [], t :: r, _, h2 => by
    have hn : goLocatorDigits t = none := by simpa [isGoLocator] using h2 t r rfl
    simp [sizedDigestsLine, hn]
  | b :: bs, ftoks, h1, h2 => by
    obtain ⟨ds, hd, _⟩ := specLocator_eq_some.mp (h1 b (by simp))
    have hgo := goLocatorDigits_of_lower hd
    simp only [List.map_cons, List.cons_append, sizedDigestsLine, hgo]
    rw [sizedDigestsLine_spec bs ftoks (fun x hx => h1 x (List.mem_cons_of_mem _ hx)) h2, stripLoc, hd]

/-- `≠ some 13`: the CR stripping does not change the line -/
theorem sizedDigests_line (line : Bytes) (s : Stream) (h : specLine line = some s) :
    line.getLast? ≠ some 13 ∧
    ∃ nm a b rest, splitOn bSpace line = nm :: a :: b :: rest ∧
      sizedDigestsLine (a :: b :: rest) = s.blocks.map fun x => stripLoc x.text := by
  obtain ⟨nm, ftoks, hs, htok, _, _, hr2, hfiles, hbne, hftne, _⟩ := specLine_tokens line s h
  constructor
  · -- the last byte of the line is the last byte of its last token, which is not empty and holds no control code
    have hlast := htok _ (List.getLast_mem (List.cons_ne_nil nm _))
    simp only [tokenBytesOk, Bool.and_eq_true, ne_eq, decide_eq_true_eq] at hlast
    rw [← joinWith_splitOn bSpace line, hs, joinWith_getLast bSpace _ _ (List.getLast?_eq_some_getLast _) hlast.1]
    exact fun hl => not_mem_of_all hlast.2 (by decide) (List.mem_of_getLast? hl)
  · -- at least one locator and one file token
    obtain ⟨b0, bs0, hb⟩ := List.exists_cons_of_ne_nil hbne
    obtain ⟨t0, ts0, rfl⟩ := List.exists_cons_of_ne_nil hftne
    obtain ⟨f0, _, hf0, _, _⟩ := mapOpt_cons_some specFileTok t0 ts0 s.files hfiles
    obtain ⟨a, b, r, hab⟩ : ∃ a b r, s.blocks.map (·.text) ++ t0 :: ts0 = a :: b :: r := by
      rw [hb]
      cases bs0 <;> exact ⟨_, _, _, rfl⟩
    refine ⟨nm, a, b, r, by rw [hs, hab], ?_⟩
    rw [← hab]
    exact sizedDigestsLine_spec _ _ hr2 fun _ _ he => by cases he; exact fileTok_not_goLocator t0 f0 hf0

theorem sizedDigests_fold : ∀ (lines : List Bytes) (M : Manifest) (acc : List Bytes),
    mapOpt specLine lines = some M →
    (lines.map fun l => if l.getLast? = some 13 then l.dropLast else l).foldl (fun acc line =>
      match acc with
      | none => none
      | some sds =>
        match splitOn bSpace line with
        | _ :: a :: b :: rest => some (sds ++ sizedDigestsLine (a :: b :: rest))
        | _ => none) (some acc) = some (acc ++ specSizedDigests M)
  | [], M, acc, h => by simp [mapOpt] at h; subst h; simp [specSizedDigests]
  | l :: ls, M, acc, h => by
    obtain ⟨s, ss, h1, h2, rfl⟩ := mapOpt_cons_some specLine l ls M h
    obtain ⟨hcr, nm, a, b, rest, hsplit, hsd⟩ := sizedDigests_line l s h1
    simp only [List.map_cons, List.foldl_cons, if_neg hcr, hsplit, hsd]
    rw [sizedDigests_fold ls ss _ h2]
    simp [specSizedDigests, List.append_assoc]

theorem sizedDigests_valid (txt : Bytes) (M : Manifest) (h : parseSpec txt = some M) :
    sizedDigests txt = some (specSizedDigests M) := by
  obtain ⟨lines, hsplit, hl⟩ := parseSpec_lines txt M h
  unfold sizedDigests scanLines
  simp only [hsplit, List.getLast?_concat, List.dropLast_concat, if_true]
  have := sizedDigests_fold lines M [] hl
  rwa [List.nil_append] at this

end ArvVerif.C10
