/-
C08: the first half of a loop iteration of filenode.Write, `restructure`. Whatever the writer's pointer (`WPos`) is at —
a mem segment, the inside or the start of a stored one, EOF — afterwards there is a mem segment with room for the data
at the write offset, and the content is unchanged outside it (`RestrOK`). Every case but the writable one goes through
`RestrOK.grown`.
-/
import ArvVerif.Proofs.C08_Seek
import ArvVerif.Proofs.C08_SegOps
namespace ArvVerif.C08

variable {max : Nat} {hash : Bytes → Loc} {st : Store}

/-- The writer's pointer inside the loop: stamp current, coordinates in `seek` normal form. -/
def WPos (fn : FileNode) (ptr : Ptr) : Prop :=
  ptr.repacked = fn.repacked ∧ Pos fn.segs ptr.off ptr.segIdx ptr.segOff

theorem WPos.ptrOK {fn : FileNode} {p : Ptr} (hwf : WF max hash st fn) (h : WPos fn p) : PtrOK fn p :=
  ⟨Int.le_of_eq h.1, fun _ => by rw [hwf.size_eq]; exact h.2.located⟩

theorem WPos.off_le_abs {fn : FileNode} {ptr : Ptr} (hwf : WF max hash st fn) (hpos : WPos fn ptr) :
    ptr.off ≤ (abs st fn).length := by
  rw [hwf.abs_length, hwf.size_eq]; exact hpos.2.off_le

/-- Contract of `restructure`: afterwards `segs[idx]` is a mem segment with room for `cando` at
`off`; the content is unchanged outside the `cando.length` bytes at the write offset (or the file
ended exactly at the write offset and was extended). -/
structure RestrOK (max : Nat) (hash : Bytes → Loc) (st : Store) (fn : FileNode) (ptr : Ptr) (p : Bytes)
    (r : Restr) : Prop where
  k_pos : 0 < r.cando.length
  pfx : r.cando = p.take r.cando.length
  wf : ∀ s ∈ r.segs, SegWF max hash st s
  size : r.size = sumLen r.segs
  nobump : r.bump = false → r.segs = fn.segs ∧ r.size = fn.size
  shape : ∃ pre buf fl post M, r.segs = pre ++ Seg.mem buf fl :: post ∧ r.idx = pre.length ∧
     r.off + r.cando.length ≤ buf.length ∧
     abs st fn = (absSegs st pre ++ buf.take r.off) ++ M ++ (buf.drop (r.off + r.cando.length) ++ absSegs st post) ∧
     (M.length = r.cando.length ∨ (M = [] ∧ buf.drop (r.off + r.cando.length) ++ absSegs st post = [])) ∧
     (absSegs st pre).length + r.off = ptr.off

theorem pfx_base (p : Bytes) (n : Nat) : p.take n = p.take (p.take n).length := by
  simp [List.length_take, List.take_eq_take_iff]

theorem pfx_take {p c : Bytes} (h : c = p.take c.length) (n : Nat) : c.take n = p.take (c.take n).length := by
  conv => lhs; rw [h]
  rw [List.take_take, List.length_take]

theorem prevApp_some {segs : List Seg} {cur : Nat} {pb : Bytes} {pfl : Flush}
    (h : prevApp max segs cur = some (pb, pfl)) :
    1 ≤ cur ∧ segs[cur - 1]? = some (Seg.mem pb pfl) ∧ pb.length < max := by
  unfold prevApp at h
  split at h
  · cases h
  · split at h
    · next buf fl hg =>
      split at h
      · next hlt => cases h; exact ⟨by omega, hg, hlt⟩
      · cases h
    · cases h

theorem restr_writable {fn : FileNode} {ptr : Ptr} {p : Bytes} {buf : Bytes} {fl : Flush}
    (hmax : 1 ≤ max) (hp : p ≠ []) (hwf : WF max hash st fn)
    (hs : fn.segs[ptr.segIdx]? = some (Seg.mem buf fl)) (hso : ptr.segOff < buf.length)
    (hsum : sumLen (fn.segs.take ptr.segIdx) + ptr.segOff = ptr.off) :
    RestrOK max hash st fn ptr p
      ⟨fn.segs, fn.size, ptr.segIdx, ptr.segOff, (p.take max).take (buf.length - ptr.segOff), false⟩ := by
  have hplen : 0 < p.length := List.length_pos_iff.mpr hp
  generalize hc : (p.take max).take (buf.length - ptr.segOff) = c
  have hclen : 0 < c.length ∧ c.length ≤ buf.length - ptr.segOff := by
    rw [← hc, List.length_take, List.length_take]; omega
  refine ⟨hclen.1, by rw [← hc]; exact pfx_take (pfx_base p max) _, hwf.segs, hwf.size_eq, fun _ => ⟨rfl, rfl⟩,
    fn.segs.take ptr.segIdx, buf, fl, fn.segs.drop (ptr.segIdx + 1), (buf.drop ptr.segOff).take c.length,
    segs_split hs, ?_, ?_, ?_, Or.inl ?_, ?_⟩
  · exact (length_take_of_get hs).symm
  · show ptr.segOff + c.length ≤ buf.length; omega
  · show abs st fn = _
    unfold abs
    rw [absSegs_split hs]
    simp only [Seg.bytes_mem, List.append_assoc]
    congr 1
    conv => lhs; rw [split3 buf ptr.segOff c.length]
    simp only [List.append_assoc]
  · simp only [List.length_take, List.length_drop]; omega
  · show (absSegs st (fn.segs.take ptr.segIdx)).length + ptr.segOff = ptr.off
    rw [(hwf.split hs).2.2.2.2]; exact hsum

/-- `restructure` made room by growing a mem segment `pb` (empty when the segment is new) by
`c.length` zero bytes between `pre` and `post`; `M` is the part of the old content that gives way. -/
theorem RestrOK.grown {fn : FileNode} {ptr : Ptr} {p c : Bytes} {segs : List Seg} {size idx : Nat}
    (pre : List Seg) (pb : Bytes) (pfl : Flush) (post : List Seg) (M : Bytes)
    (hsegs : segs = pre ++ memTruncate pb pfl (pb.length + c.length) :: post) (hidx : idx = pre.length)
    (hc0 : 0 < c.length) (hcp : c = p.take c.length) (hmx : pb.length + c.length ≤ max)
    (hpre : ∀ s ∈ pre, SegWF max hash st s) (hpost : ∀ s ∈ post, SegWF max hash st s)
    (hsize : size = sumLen pre + (pb.length + c.length) + sumLen post)
    (habs : abs st fn = absSegs st pre ++ pb ++ M ++ absSegs st post)
    (hM : M.length = c.length ∨ (M = [] ∧ post = []))
    (hoff : sumLen pre + pb.length = ptr.off) :
    RestrOK max hash st fn ptr p ⟨segs, size, idx, pb.length, c, true⟩ := by
  subst hsegs hidx
  refine ⟨hc0, hcp, ?_, ?_, nofun, ?_⟩
  · simp only [List.forall_mem_append, List.forall_mem_cons]
    exact ⟨hpre, memTruncate_wf_grow (by omega) hmx, hpost⟩
  · show size = _
    simp only [sumLen_append, sumLen_cons, memTruncate_len]; omega
  · refine ⟨pre, pb ++ zeros c.length, _, post, M, by rw [memTruncate_grow], rfl, ?_, ?_, ?_, ?_⟩ <;> dsimp only
    · simp
    · rw [habs, List.take_left' rfl, List.drop_of_length_le (by simp)]; simp
    · rw [List.drop_of_length_le (by simp)]
      rcases hM with h | ⟨h1, rfl⟩
      · exact Or.inl h
      · exact Or.inr ⟨h1, rfl⟩
    · rw [absSegs_length hpre]; exact hoff

theorem restr_split {fn : FileNode} {ptr : Ptr} {p : Bytes} {loc : Loc} {size off l : Nat}
    (hmax : 1 ≤ max) (hp : p ≠ []) (hwf : WF max hash st fn)
    (hs : fn.segs[ptr.segIdx]? = some (Seg.stored loc size off l)) (hso0 : 0 < ptr.segOff) (hso : ptr.segOff < l)
    (hsum : sumLen (fn.segs.take ptr.segIdx) + ptr.segOff = ptr.off) :
    ∃ r, restrSplit fn ptr.segIdx ptr.segOff (Seg.stored loc size off l) (p.take max) = some r ∧
      RestrOK max hash st fn ptr p r := by
  have hplen : 0 < p.length := List.length_pos_iff.mpr hp
  generalize hc : p.take max = c
  have hc0 : 0 < c.length ∧ c.length ≤ max := by rw [← hc, List.length_take]; omega
  have hcp : c = p.take c.length := by rw [← hc]; exact pfx_base p max
  obtain ⟨hwpre, hswf, hwpost, hsz, _⟩ := hwf.split hs
  have hblen : ((Seg.stored loc size off l).bytes st).length = l := hswf.bytes_length
  have hle := Nat.le_of_lt hso
  rw [Seg.len_stored] at hsz
  -- everything before the pointer: the segments before `cur` and the left piece of `cur`
  generalize hpre : fn.segs.take ptr.segIdx ++ [(Seg.stored loc size off l).slice 0 (some ptr.segOff)] = pre
  have hprewf : ∀ x ∈ pre, SegWF max hash st x := by
    simp only [← hpre, List.forall_mem_append, List.forall_mem_singleton]
    exact ⟨hwpre, stored_slice_wf hswf hso0 hle⟩
  have hprelen : ptr.segIdx + 1 = pre.length := by rw [← hpre, List.length_append, length_take_of_get hs]; rfl
  have hpresum : sumLen pre = ptr.off := by
    rw [← hpre, sumLen_append, sumLen_cons, sumLen_nil, stored_slice_len hle]; exact hsum
  have habs : ∀ k, abs st fn = absSegs st pre ++ [] ++ (((Seg.stored loc size off l).bytes st).drop ptr.segOff).take k
      ++ (((Seg.stored loc size off l).bytes st).drop (ptr.segOff + k) ++ absSegs st (fn.segs.drop (ptr.segIdx + 1))) := by
    intro k
    unfold abs
    rw [absSegs_split hs, ← hpre]
    simp only [absSegs_append, absSegs_cons, absSegs_nil, stored_slice_bytes hswf hle, List.append_nil,
      List.append_assoc]
    congr 1
    conv => lhs; rw [split3 ((Seg.stored loc size off l).bytes st) ptr.segOff k]
    simp only [List.append_assoc]
  unfold restrSplit
  rw [if_neg (by rw [Seg.len_stored]; omega), Seg.len_stored]
  by_cases hmx : l - ptr.segOff ≤ c.length
  · -- two pieces: the rest of the stored segment is overwritten
    rw [if_pos hmx]
    have hclen : (c.take (l - ptr.segOff)).length = l - ptr.segOff := by rw [List.length_take]; omega
    refine ⟨_, rfl, RestrOK.grown pre [] Flush.none (fn.segs.drop (ptr.segIdx + 1))
      ((((Seg.stored loc size off l).bytes st).drop ptr.segOff).take (l - ptr.segOff)) (by rw [← hpre]; simp) hprelen
      (by omega) (pfx_take hcp _) (by rw [List.length_nil]; omega) hprewf hwpost (by rw [List.length_nil]; omega)
      ?_ (Or.inl (by rw [List.length_take, List.length_drop, hblen, hclen]; omega)) hpresum⟩
    rw [habs (l - ptr.segOff), List.drop_of_length_le (i := ptr.segOff + (l - ptr.segOff)) (by omega)]; rfl
  ·
    rw [if_neg hmx]
    refine ⟨_, rfl, RestrOK.grown pre [] Flush.none
      ((Seg.stored loc size off l).slice (ptr.segOff + c.length) none :: fn.segs.drop (ptr.segIdx + 1))
      ((((Seg.stored loc size off l).bytes st).drop ptr.segOff).take c.length) (by rw [← hpre]; simp) hprelen hc0.1
      hcp (by rw [List.length_nil]; omega) hprewf
      (List.forall_mem_cons.mpr ⟨stored_tail_wf hswf (by omega), hwpost⟩)
      (by rw [List.length_nil, sumLen_cons, stored_tail_len]; omega)
      ?_ (Or.inl (by rw [List.length_take, List.length_drop, hblen]; omega)) hpresum⟩
    rw [habs c.length, absSegs_cons, stored_tail_bytes hswf]

/-- Contract of `curFate` at EOF or at the start of a stored segment: it yields a non-empty prefix
`c'` of the data, the new size and the segments `T` that follow the written one; `M` is the old
content that `c'` replaces. -/
theorem curFate_spec {fn : FileNode} {idx : Nat} {p c : Bytes} (hwf : WF max hash st fn)
    (hc0 : 0 < c.length) (hcp : c = p.take c.length)
    (hcase : (idx = fn.segs.length ∧ fn.segs[idx]? = none) ∨
             (∃ loc size off l, fn.segs[idx]? = some (Seg.stored loc size off l))) :
    ∃ c' T, curFate fn idx fn.segs[idx]? c = (c', sumLen (fn.segs.take idx) + c'.length + sumLen T, T) ∧
      0 < c'.length ∧ c' = p.take c'.length ∧ c'.length ≤ c.length ∧ (∀ s ∈ T, SegWF max hash st s) ∧
      ∃ M, absSegs st (fn.segs.drop idx) = M ++ absSegs st T ∧ (M.length = c'.length ∨ (M = [] ∧ T = [])) := by
  rcases hcase with ⟨hlen, hnone⟩ | ⟨loc, size, off, l, hs⟩
  · refine ⟨c, [], ?_, hc0, hcp, Nat.le_refl _, nofun, [], ?_, Or.inr ⟨rfl, rfl⟩⟩
    · rw [hnone, hlen, List.take_length, ← hwf.size_eq]; rfl
    · rw [hlen, List.drop_length]; rfl
  · obtain ⟨_, hswf, hpostwf, hsz, _⟩ := hwf.split hs
    have hblen : ((Seg.stored loc size off l).bytes st).length = l := hswf.bytes_length
    have hl0 : 0 < l := hswf.1
    rw [Seg.len_stored] at hsz
    rw [hs, drop_of_get hs, absSegs_cons]
    unfold curFate
    simp only []
    by_cases hle : (Seg.stored loc size off l).len ≤ c.length
    · have hle' : l ≤ c.length := hle
      have hcl : (c.take l).length = l := by rw [List.length_take]; omega
      rw [if_pos hle]
      refine ⟨c.take l, _, ?_, by omega, pfx_take hcp _, by omega, hpostwf, _, rfl, Or.inl (by rw [hcl, hblen])⟩
      rw [hcl, ← hsz]; rfl
    · have hle' : ¬ l ≤ c.length := hle
      rw [if_neg hle]
      refine ⟨c, (Seg.stored loc size off l).slice c.length none :: fn.segs.drop (idx + 1), ?_, hc0, hcp,
        Nat.le_refl _, List.forall_mem_cons.mpr ⟨stored_tail_wf hswf (by omega), hpostwf⟩,
        ((Seg.stored loc size off l).bytes st).take c.length, ?_,
        Or.inl (by rw [List.length_take, hblen]; omega)⟩
      · rw [hsz, sumLen_cons, stored_tail_len]
        congr 2; omega
      · rw [absSegs_cons, stored_tail_bytes hswf, ← List.append_assoc, List.take_append_drop]

theorem restr_shift {fn : FileNode} {ptr : Ptr} {p : Bytes}
    (hmax : 1 ≤ max) (hp : p ≠ []) (hwf : WF max hash st fn)
    (hcase : (ptr.segIdx = fn.segs.length ∧ fn.segs[ptr.segIdx]? = none) ∨
             (∃ loc size off l, fn.segs[ptr.segIdx]? = some (Seg.stored loc size off l)))
    (hsum : sumLen (fn.segs.take ptr.segIdx) = ptr.off) :
    RestrOK max hash st fn ptr p (restrShift max fn ptr.segIdx fn.segs[ptr.segIdx]? (p.take max)) := by
  have hplen : 0 < p.length := List.length_pos_iff.mpr hp
  have habs0 : abs st fn = absSegs st (fn.segs.take ptr.segIdx) ++ absSegs st (fn.segs.drop ptr.segIdx) := by
    unfold abs; rw [← absSegs_append, List.take_append_drop]
  have hidx : ptr.segIdx ≤ fn.segs.length := by
    rcases hcase with ⟨h, _⟩ | ⟨_, _, _, _, hs⟩
    · omega
    · exact Nat.le_of_lt (List.getElem?_eq_some_iff.mp hs).1
  have hprewf : ∀ n, ∀ x ∈ fn.segs.take n, SegWF max hash st x := fun n x hx => hwf.segs x (List.mem_of_mem_take hx)
  unfold restrShift
  cases hpa : prevApp max fn.segs ptr.segIdx with
  | some pr =>
    -- the previous mem segment has room: it grows by as much of the data as fits
    obtain ⟨pb, pfl⟩ := pr
    obtain ⟨hge, hprev, hpblt⟩ := prevApp_some hpa
    simp only []
    generalize hc : (p.take max).take (max - pb.length) = c
    have hclen : 0 < c.length ∧ pb.length + c.length ≤ max := by
      rw [← hc, List.length_take, List.length_take]; omega
    obtain ⟨c', T, hf, f1, f2, f3, f4, M, f6, f7⟩ :=
      curFate_spec (p := p) hwf hclen.1 (by rw [← hc]; exact pfx_take (pfx_base p max) _) hcase
    have htake : fn.segs.take ptr.segIdx = fn.segs.take (ptr.segIdx - 1) ++ [Seg.mem pb pfl] := by
      have := take_succ_of_get hprev
      rwa [Nat.sub_add_cancel hge] at this
    rw [htake] at hsum habs0 hf
    simp only [sumLen_append, sumLen_cons, sumLen_nil, Seg.len_mem, absSegs_append, absSegs_cons, absSegs_nil,
      Seg.bytes_mem, List.append_nil] at hsum habs0 hf
    simp only [hf]
    exact RestrOK.grown _ pb pfl T M (by simp) (by rw [List.length_take]; omega) f1 f2 (by omega)
      (hprewf _) f4 (by omega) (by rw [habs0, f6]; simp only [List.append_assoc]) f7 hsum
  | none =>
    -- a fresh mem segment is inserted in front of the pointer
    generalize hc : p.take max = c
    have hclen : 0 < c.length ∧ c.length ≤ max := by rw [← hc, List.length_take]; omega
    obtain ⟨c', T, hf, f1, f2, f3, f4, M, f6, f7⟩ :=
      curFate_spec (p := p) hwf hclen.1 (by rw [← hc]; exact pfx_base p max) hcase
    simp only [hf]
    exact RestrOK.grown _ [] Flush.none T M (by simp) (by rw [List.length_take]; omega) f1 f2
      (by rw [List.length_nil]; omega) (hprewf _) f4 (by rw [List.length_nil]; omega)
      (by rw [habs0, f6]; simp only [List.append_nil, List.append_assoc]) f7 hsum

theorem restructure_spec {fn : FileNode} {ptr : Ptr} {p : Bytes}
    (hmax : 1 ≤ max) (hp : p ≠ []) (hwf : WF max hash st fn) (hpos : WPos fn ptr) :
    ∃ r, restructure max fn ptr p = some r ∧ RestrOK max hash st fn ptr p r := by
  unfold restructure
  simp only []
  rcases hpos.2 with ⟨hidx, hso, hoff⟩ | ⟨s, hs, hso, hsum⟩
  ·
    have hnone : fn.segs[ptr.segIdx]? = none := by rw [hidx]; simp
    have hr := restr_shift (p := p) hmax hp hwf (Or.inl ⟨hidx, hnone⟩)
      (by rw [hidx, List.take_length]; exact hoff.symm)
    rw [hnone] at hr ⊢
    simp only []
    rw [if_neg (by omega), if_neg (by omega)]
    exact ⟨_, rfl, hr⟩
  · have hidxlt := (List.getElem?_eq_some_iff.mp hs).1
    rw [if_neg (by omega)]
    cases s with
    | mem buf fl =>
      have hso' : ptr.segOff < buf.length := hso
      simp only [hs]
      rw [if_neg (by omega)]
      exact ⟨_, rfl, restr_writable hmax hp hwf hs hso' hsum⟩
    | stored loc size off l =>
      by_cases h0 : ptr.segOff > 0
      · simp only [hs]
        rw [if_pos h0]
        exact restr_split hmax hp hwf hs h0 hso hsum
      · have hr := restr_shift (p := p) hmax hp hwf (Or.inr ⟨loc, size, off, l, hs⟩) (by omega)
        rw [hs] at hr ⊢
        simp only []
        rw [if_neg h0]
        exact ⟨_, rfl, hr⟩

end ArvVerif.C08
