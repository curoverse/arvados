/-
C10 — the Go manifest package on *arbitrary* text: what `parseManifestStream` can produce
(`pkgParseStream_shape`), and that after fixes b1a09e4 / c203269 it is enough for `segment()`: a token that
passed the canonical-path test lives in a stream without trailing slash, and the one exempt token (the
zero-length `.` directory marker) is looked up under a path no token of its stream has (C10_Paths), so every
stream parsed without error is `StreamOk` and `segment()` applies every manifest completely — no hypothesis
on names.
-/
import ArvVerif.Proofs.C10_PkgSegment
import ArvVerif.Proofs.C10_Paths
namespace ArvVerif.C10

theorem pkgBlocks_sizes (toks : List Bytes) : ∀ bs, pkgBlocks toks = some bs → ∀ b ∈ bs, b.size < two63 := by
  fun_induction pkgBlocks toks with
  | case1 => rintro _ ⟨⟩; exact fun _ h => nomatch h
  | case2 t rest ds hd n hlt ih =>
    intro bs h
    obtain ⟨bs', hr, rfl⟩ := Option.map_eq_some_iff.mp h
    exact List.forall_mem_cons.mpr ⟨hlt, ih bs' hr⟩
  | _ => exact fun _ h => nomatch h

/-- the tokens the file-token loop lets through (on an error it returns none) -/
theorem pkgFileToks_inside (sname : Bytes) (total : Nat) (toks : List Bytes) :
    ∀ f ∈ (pkgFileToks sname total toks).1, f.pos + f.len ≤ total ∧
      (¬ IsMarker f → fixStreamName (pathOf sname f.name) = pathOf sname f.name) := by
  fun_induction pkgFileToks sname total toks with
  | case5 t rest f hf h1 h2 fs e hrec ih =>
    rw [hrec] at ih
    exact List.forall_mem_cons.mpr ⟨⟨by omega, fun hm => Classical.byContradiction fun h' => h2 ⟨hm, h'⟩⟩, ih⟩
  | _ => exact fun _ h => nomatch h

theorem pkgParseStream_shape (line : Bytes) (h : (pkgParseStream line).err = false) :
    ∃ s : Stream, pkgParseStream line = toPStream s ∧ PkgFit s ∧
      (s.name = [bDot] ∨ [bDot, bSlash].isPrefixOf s.name = true) ∧
      ∀ f ∈ s.files, ¬ IsMarker f → fixStreamName (pathOf s.name f.name) = pathOf s.name f.name := by
  revert h
  fun_cases pkgParseStream line with
  | case7 nm toks _ name hn btoks ftoks _ blocks hpb hov offs _ files e hft =>
    rintro ⟨⟩
    have hin := pkgFileToks_inside name ((offsetsFrom 0 blocks).getLastD 0) ftoks
    rw [hft, offsetsFrom_eq_plain blocks 0 (by omega), plainOffsets_last, Nat.zero_add] at hin
    exact ⟨⟨name, blocks, files⟩, rfl,
      ⟨pkgBlocks_sizes _ _ hpb, Nat.lt_of_not_ge hov, fun f hf => (hin f hf).1⟩,
      Classical.or_iff_not_imp_left.mpr fun h1 => Classical.byContradiction fun hb => hn ⟨h1, hb⟩,
      fun f hf => (hin f hf).2⟩
  | _ => intro h; cases h

theorem pstream_ok (line : Bytes) (h : (pkgParseStream line).err = false) :
    pkgParseStream line = toPStream (ofPStream (pkgParseStream line)) ∧ StreamOk (ofPStream (pkgParseStream line)) := by
  obtain ⟨s, hs, hfit, hshape, h2⟩ := pkgParseStream_shape line h
  rw [hs]
  exact ⟨rfl, hfit, fun f _ hc => clean_no_trailing_slash s.name f.name hshape hc,
    fun f hf hne => ⟨Classical.byContradiction fun hm => hne (h2 f hf hm),
      fun name => marker_target_ne s.name name hshape⟩⟩

theorem pkgStreams_ok (txt : Bytes) : ∀ ps ∈ pkgStreams txt, ps.err = false →
    ps = toPStream (ofPStream ps) ∧ StreamOk (ofPStream ps) := by
  intro ps hps he
  unfold pkgStreams at hps
  obtain ⟨line, _, rfl⟩ := List.mem_map.mp hps
  exact pstream_ok line he

/-- a text whose every non-empty line parses without error: `segment()` succeeds and gives every path its `resolve`
over the parsed streams. Texts inside the grammar and the texts `Extract` prints are such texts. -/
theorem pkgSegment_of_streams {txt : Bytes} {Ss : List Stream} (h : pkgStreams txt = Ss.map toPStream) :
    ∃ m, pkgSegment txt = .ok m ∧ ∀ a b : Bytes, segLookup m (splitPath (pathOf a b)) = resolve Ss (pathOf a b) := by
  have hM : (pkgStreams txt).map ofPStream = Ss := by rw [h, List.map_map]; exact List.map_id Ss
  rcases segmentStreams_complete (pkgStreams txt) [] (pkgStreams_ok txt) with ⟨_, ps, hps, he⟩ | ⟨m, h1, _, h3⟩
  · rw [h] at hps
    obtain ⟨s, _, rfl⟩ := List.mem_map.mp hps
    cases he
  · exact ⟨m, h1, fun a b => by simpa [segLookup, hM] using h3 a b⟩

/-- stream and file names in the canonical form `fixStreamName` leaves alone. Since fixes b1a09e4 and
c203269 the parser enforces as much of this as `segment()` needs (`pstream_ok` above), so
`C10_pkg_total` does not assume it. -/
def CleanNames (ps : PStream) : Prop :=
  ps.name.getLast? ≠ some bSlash ∧
    ∀ f ∈ ps.files, fixStreamName (pathOf ps.name f.name) = pathOf ps.name f.name

theorem segmentStreams_total : ∀ (L : List PStream) (m : SegMap),
    (∀ ps ∈ L, ps.err = false → ps = toPStream (ofPStream ps) ∧ PkgWf (ofPStream ps)) →
    (segmentStreams firstBlock L m = .err ∧ ∃ ps ∈ L, ps.err = true) ∨
    (∃ m', segmentStreams firstBlock L m = .ok m' ∧ (∀ ps ∈ L, ps.err = false) ∧
      ∀ a b : Bytes, segLookup m' (splitPath (pathOf a b)) =
        segLookup m (splitPath (pathOf a b)) ++ resolve (L.map ofPStream) (pathOf a b)) :=
  fun L m h => segmentStreams_complete L m fun ps hps he => ⟨(h ps hps he).1, (h ps hps he).2.streamOk⟩

end ArvVerif.C10
