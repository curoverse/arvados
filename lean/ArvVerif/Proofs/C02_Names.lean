/-
C02 helper lemmas: names. A temp name passes none of the name filters and has no owner; a block
name and every name `<block name>.trash.…` has the owner one expects. Hence which paths can never be
the same path.
-/
import ArvVerif.Model.C02
namespace ArvVerif.C02

variable {h : Name}

theorem isHex_t : isHex 't' = false := by decide

theorem tmpName_head (h sfx : Name) : tmpName h sfx = 't' :: ('m' :: 'p' :: (h ++ sfx)) := by
  simp [tmpName, tmpPrefix]

theorem tmp_not_blockName (h sfx : Name) : isBlockName (tmpName h sfx) = false := by
  simp [tmpName_head, isBlockName, List.all_cons, isHex_t]

theorem tmp_not_trashLike (h sfx : Name) : isTrashLike (tmpName h sfx) = false := by
  simp [tmpName_head, isTrashLike, isBlockName, List.take, List.all_cons, isHex_t]

theorem tmp_not_trashName (h sfx : Name) : isTrashName (tmpName h sfx) = false := by
  simp [isTrashName, tmp_not_trashLike]

theorem blockName_length (hb : isBlockName h = true) : h.length = 32 := by
  simp [isBlockName] at hb; exact hb.1

theorem owner_block (hb : isBlockName h = true) : owner h = some h := by
  simp [owner, hb]

theorem owner_tmp (h sfx : Name) : owner (tmpName h sfx) = none := by
  simp [owner, tmp_not_blockName, tmp_not_trashLike]

theorem trashPrefixed_not_blockName (hb : isBlockName h = true) (rest : Name) :
    isBlockName (h ++ trashInfix ++ rest) = false := by
  simp [isBlockName, trashInfix, blockName_length hb]

theorem owner_trashPrefixed (hb : isBlockName h = true) (rest : Name) :
    owner (h ++ trashInfix ++ rest) = some h := by
  have hl := blockName_length hb
  have h2 : (h ++ trashInfix ++ rest).take 32 = h := by
    rw [List.append_assoc, List.take_append_of_le_length (by omega), List.take_of_length_le (by omega)]
  have h3 : ((h ++ trashInfix ++ rest).drop 32).take 7 = trashInfix := by
    rw [List.append_assoc, List.drop_append_of_le_length (by omega), List.drop_of_length_le (by omega)]
    simp [trashInfix]
  unfold owner isTrashLike
  rw [trashPrefixed_not_blockName hb, h2, h3, hb]
  simp

theorem owner_trashName (hb : isBlockName h = true) (d : Nat) :
    owner (trashName h d) = some h := owner_trashPrefixed hb _

theorem trashName_not_blockName {n : Name} (h : isTrashName n = true) : isBlockName n = false := by
  cases hb : isBlockName n with
  | false => rfl
  | true => simp [isTrashName, isTrashLike, List.drop_of_length_le, blockName_length hb] at h

theorem owner_of_trashName {n : Name} (h : isTrashName n = true) : owner n ≠ none := by
  have hl : isTrashLike n = true := by
    simp only [isTrashName, Bool.and_eq_true] at h
    exact h.1.1
  simp [owner, hl, trashName_not_blockName h]

theorem tmpPath_ne_blockPath (h sfx : Name) : tmpPath h sfx ≠ blockPath h := by
  intro he
  have : (tmpName h sfx).length = h.length := by
    have := congrArg (fun p => p.name.length) he
    simpa [tmpPath, blockPath] using this
  simp [tmpName, tmpPrefix] at this
  omega

theorem tmpPath_inj {h s1 s2 : Name} (hs : s1 ≠ s2) : tmpPath h s1 ≠ tmpPath h s2 := by
  intro he
  have : tmpName h s1 = tmpName h s2 := by
    have := congrArg Path.name he
    simpa [tmpPath] using this
  simp [tmpName] at this
  exact hs this

theorem ne_unowned {q a : Path} (hq : owner q.name = none) (ha : owner a.name ≠ none) : a ≠ q :=
  fun he => ha (he ▸ hq)

theorem owner_blockPath (hb : isBlockName h = true) : owner (blockPath h).name ≠ none := by
  simp [blockPath, owner_block hb]

theorem blockPath_ne {h h' : Name} (hne : h' ≠ h) : blockPath h' ≠ blockPath h :=
  fun he => hne (congrArg Path.name he)

theorem ne_blockPath {a : Path} (ha : isBlockName a.name = false) (hb : isBlockName h = true) :
    a ≠ blockPath h := by
  rintro rfl
  rw [blockPath, hb] at ha
  cases ha

theorem tmpPath_ne_blockPath_of_blockName (h' sfx : Name) (hb : isBlockName h = true) :
    tmpPath h' sfx ≠ blockPath h :=
  (ne_unowned (q := tmpPath h' sfx) (owner_tmp h' sfx) (owner_blockPath hb)).symm

end ArvVerif.C02
