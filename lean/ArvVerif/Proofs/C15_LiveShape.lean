/-
C15 liveness system: what a step can do to the lists of containers and instances. `StepShape` lists the
six shapes, `step_shape` walks the constructors of `Step` once; that satisfiable types stay satisfiable
(`typesOK_step`) and that "every container is final" is stable under every step, faults and restarts
included (`allFinal_step`), are read off the shapes. Nothing here depends on the variant.
-/
import ArvVerif.Model.C15_Live
import ArvVerif.Proofs.Lib_List
namespace ArvVerif.C15
open ArvVerif.C14 (Uuid IType)

/-- "satisfiable instance type" -/
def TypesOK (s : LState) : Prop := (∀ c ∈ s.ctrs, c.ty ∈ s.types) ∧ (∀ i ∈ s.insts, i.ty ∈ s.types)

theorem restartCtr_ty (c : Ctr) : (restartCtr c).ty = c.ty := by
  unfold restartCtr; split <;> rfl

theorem restartInst_ty (i : Inst) : (restartInst i).ty = i.ty := by
  unfold restartInst; split <;> rfl

theorem restartInst_job (i : Inst) : (restartInst i).ph.job = i.ph.job := by
  unfold restartInst
  cases hp : i.ph <;> simp [IPh.job, hp]

theorem restartCtr_fin (c : Ctr) (h : c.ph = .fin) : (restartCtr c).ph = .fin := by
  unfold restartCtr; rw [h]; exact h

theorem released_ty (ty : IType) (j : Option Job) : ∀ c ∈ released ty j, c.ty = ty := by
  intro c hc
  unfold released at hc
  split at hc
  · cases hc
  · split at hc <;> simp at hc <;> (try (subst hc; rfl))

theorem forall_mid {α : Type} {p : α → Prop} {pre post : List α} {x : α} (y : α)
    (h : ∀ z ∈ pre ++ x :: post, p z) (hy : p y) : ∀ z ∈ pre ++ y :: post, p z :=
  Lib.forall_mem_middle.mpr ⟨hy, (Lib.forall_mem_middle.mp h).2⟩

/-- all jobs of the instance are lingering processes of final containers -/
def Inst.quiet (i : Inst) : Prop := ∀ j, i.ph.job = some j → j.ph = .done

theorem quiet_of_job_none (i : Inst) (h : i.ph.job = none) : i.quiet := by
  intro j hj; rw [h] at hj; cases hj

theorem quiet_congr {i i' : Inst} (h : i'.ph.job = i.ph.job) (hq : i.quiet) : i'.quiet :=
  fun j hj => hq j (h ▸ hj)

theorem quiet_setJob_absurd (i : Inst) (j : Job) (hq : i.quiet) (hj : i.ph.job = some j) (hne : j.ph ≠ .done) : False :=
  hne (hq j hj)

theorem released_nil (ty : IType) (j : Option Job) (h : ∀ j', j = some j' → j'.ph = .done) : released ty j = [] := by
  cases j with
  | none => rfl
  | some j => simp [released, h j rfl]

/-- The shapes a step can have, as far as types and finality go: `StepShape s cs is` says how the
containers `cs` and instances `is` after the step come from `s`. -/
inductive StepShape (s : LState) : List Ctr → List Inst → Prop where
  | same : StepShape s s.ctrs s.insts
  | ctr {pre post : List Ctr} {c : Ctr} (h1 : s.ctrs = pre ++ c :: post) (hne : c.ph ≠ .fin) (c' : Ctr)
      (hty : c'.ty = c.ty) : StepShape s (pre ++ c' :: post) s.insts
  | start {pre post : List Ctr} {c : Ctr} {ipre ipost : List Inst} {i : Inst} (h1 : s.ctrs = pre ++ c :: post)
      (hne : c.ph ≠ .fin) (h4 : s.insts = ipre ++ i :: ipost) (i' : Inst) (hty : i'.ty = i.ty) :
      StepShape s (pre ++ post) (ipre ++ i' :: ipost)
  | inst {ipre ipost : List Inst} {i : Inst} (h1 : s.insts = ipre ++ i :: ipost) (i' : Inst) (extra : List Ctr)
      (hty : i'.ty = i.ty) (hex : ∀ c ∈ extra, c.ty = i.ty) (hq : i.quiet → i'.quiet ∧ ∀ c ∈ extra, c.ph = .fin) :
      StepShape s (s.ctrs ++ extra) (ipre ++ i' :: ipost)
  | create (ty : IType) (hty : ty ∈ s.types) : StepShape s s.ctrs (s.insts ++ [⟨ty, .ok, .creating⟩])
  | restart : StepShape s (s.ctrs.map restartCtr) (s.insts.map restartInst)

theorem StepShape.inst' {s : LState} {ipre ipost : List Inst} {i : Inst} (h1 : s.insts = ipre ++ i :: ipost) (i' : Inst)
    (hty : i'.ty = i.ty) (hq : i.quiet → i'.quiet) : StepShape s s.ctrs (ipre ++ i' :: ipost) :=
  List.append_nil s.ctrs ▸ .inst h1 i' [] hty nofun (fun h => ⟨hq h, nofun⟩)

theorem not_quiet {i : Inst} {j : Job} (hj : i.ph.job = some j) (hne : j.ph ≠ .done) {P : Prop} (hq : i.quiet) : P :=
  (quiet_setJob_absurd i j hq hj hne).elim

theorem step_shape {s t : LState} {a : Act} (h : Step s a t) : t.types = s.types ∧ StepShape s t.ctrs t.insts := by
  refine ⟨by cases h <;> rfl, ?_⟩
  cases h with
  | recoveryDone | quotaExpire | idle | hiccup => exact .same
  | restart => exact .restart
  | create t _ _ h3 => exact .create t h3
  | lock pre post c h1 h2 | lockQ pre post c h1 h2 | unlockQ pre post c h1 h2 | requeue pre post c h1 h2
  | cancel pre post c h1 h2 | staleResolve pre post c _ h1 h2 => exact .ctr h1 (by rw [h2]; decide) _ rfl
  | start pre post c ipre ipost i h1 h2 _ h4 => exact .start h1 (by rw [h2]; decide) h4 _ rfl
  | boot ipre ipost i h1 | idleTimeout ipre ipost i h1 | drainShutdown ipre ipost i h1 | quotaShutdown ipre ipost i h1
  | createDone ipre ipost i h1 | jobGone ipre ipost i _ _ h1 | createFail ipre ipost i _ _ h1 =>
    exact .inst' h1 _ rfl (fun _ => quiet_of_job_none _ rfl)
  | probeUnknown ipre ipost i j h1 h2 | destroyRetry ipre ipost i j h1 h2 | destroyFail ipre ipost i j _ h1 h2 =>
    exact .inst' h1 _ rfl (quiet_congr (by rw [h2]; rfl))
  | breakInst ipre ipost i _ h1 | drainInst ipre ipost i _ h1 => exact .inst' h1 _ rfl (quiet_congr rfl)
  | brokenTimeout ipre ipost i j h1 h2 =>
    refine .inst' h1 _ rfl (quiet_congr ?_)
    rcases h2 with ⟨h2, rfl⟩ | h2 | h2 <;> rw [h2] <;> rfl
  -- the guards of the remaining steps but the last ask for an unfinished job on the instance
  | exec ipre ipost i j h1 h2 _ h4 =>
    exact .inst' h1 _ rfl (not_quiet (j := j) (by rcases h2 with h2 | h2 <;> rw [h2] <;> rfl) (by rw [h4]; decide))
  | apiRun ipre ipost i j h1 h2 h4 | crashR ipre ipost i j _ h1 h2 h4 =>
    exact .inst' h1 _ rfl (not_quiet h2 (by rw [h4]; decide))
  | crashL ipre ipost i j _ h1 h2 h4 =>
    exact .inst' h1 _ rfl (not_quiet h2 (by rcases h4 with h4 | h4 <;> rw [h4] <;> decide))
  | complete ipre ipost i j h1 h2 h4 =>
    exact .inst h1 _ _ rfl (fun c hc => List.mem_singleton.mp hc ▸ rfl) (not_quiet h2 (by rw [h4]; decide))
  | noticeDead ipre ipost i j h1 h2 _ h4 =>
    exact .inst h1 _ _ rfl (fun c hc => List.mem_singleton.mp hc ▸ rfl)
      (not_quiet (j := j) (by rw [h2]; rfl) (by rcases h4 with h4 | h4 <;> rw [h4] <;> decide))
  | destroyOk ipre ipost i j h1 h2 =>
    refine .inst h1 _ _ rfl (released_ty i.ty j) (fun hq => ⟨quiet_of_job_none _ rfl, ?_⟩)
    rw [released_nil i.ty j (fun j' e => hq j' (by rw [h2, e]; rfl))]
    exact nofun

theorem typesOK_types {s t : LState} {a : Act} (h : Step s a t) : t.types = s.types := (step_shape h).1

theorem typesOK_step {s t : LState} {a : Act} (h : Step s a t) (hT : TypesOK s) : TypesOK t := by
  obtain ⟨ht, e⟩ := step_shape h
  obtain ⟨hc, hi⟩ := hT
  unfold TypesOK
  rw [ht]
  -- the indices of `StepShape` have to be variables before `cases` can match them with each shape
  generalize t.ctrs = cs, t.insts = is at e
  cases e with
  | same => exact ⟨hc, hi⟩
  | @ctr pre post c h1 _ c' hty =>
    rw [h1] at hc
    exact ⟨forall_mid c' hc (hty ▸ (Lib.forall_mem_middle.mp hc).1), hi⟩
  | @start pre post c ipre ipost i h1 _ h4 i' hty =>
    rw [h1] at hc
    rw [h4] at hi
    exact ⟨fun z hz => hc z (((List.Sublist.refl pre).append (List.sublist_cons_self c post)).subset hz),
      forall_mid i' hi (hty ▸ (Lib.forall_mem_middle.mp hi).1)⟩
  | @inst ipre ipost i h1 i' extra hty hex _ =>
    rw [h1] at hi
    have hity := (Lib.forall_mem_middle.mp hi).1
    exact ⟨fun z hz => (List.mem_append.mp hz).elim (hc z) (fun hz => hex z hz ▸ hity),
      forall_mid i' hi (hty ▸ hity)⟩
  | create ty hty =>
    exact ⟨hc, fun z hz => (List.mem_append.mp hz).elim (hi z) (fun hz => List.mem_singleton.mp hz ▸ hty)⟩
  | restart =>
    exact ⟨List.forall_mem_map.mpr fun c hm => restartCtr_ty c ▸ hc c hm,
      List.forall_mem_map.mpr fun i hm => restartInst_ty i ▸ hi i hm⟩

theorem allFinal_step {s t : LState} {a : Act} (h : Step s a t) (hA : AllFinal s) : AllFinal t := by
  obtain ⟨hc, hi⟩ := hA
  have hi : ∀ i ∈ s.insts, i.quiet := hi
  show (∀ c ∈ t.ctrs, c.ph = .fin) ∧ ∀ i ∈ t.insts, i.quiet
  have e := (step_shape h).2
  generalize t.ctrs = cs, t.insts = is at e
  cases e with
  | same => exact ⟨hc, hi⟩
  | @ctr pre post c h1 hne | @start pre post c _ _ _ h1 hne =>
    rw [h1] at hc
    exact absurd (Lib.forall_mem_middle.mp hc).1 hne
  | @inst ipre ipost i h1 i' extra _ _ hq =>
    rw [h1] at hi
    obtain ⟨hq', hex⟩ := hq (Lib.forall_mem_middle.mp hi).1
    exact ⟨fun z hz => (List.mem_append.mp hz).elim (hc z) (hex z), forall_mid i' hi hq'⟩
  | create ty =>
    exact ⟨hc, fun z hz => (List.mem_append.mp hz).elim (hi z)
      (fun hz => List.mem_singleton.mp hz ▸ quiet_of_job_none _ rfl)⟩
  | restart =>
    exact ⟨List.forall_mem_map.mpr fun c hm => restartCtr_fin c (hc c hm),
      List.forall_mem_map.mpr fun i hm => quiet_congr (restartInst_job i) (hi i hm)⟩

end ArvVerif.C15
