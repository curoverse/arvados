/-
C05: the physical reading of a class guarantee `Guar c d [] F` on the final slot list, given that
views of one device agree on class and replication (`KeyConsistent`).
-/
import ArvVerif.Proofs.C05_Guarantee
namespace ArvVerif.C05

section
variable {env : Env} {reps : List Replica} {r : Result} {F : List Slot}

/-- The central accounting step, on any final slot list `F` of the layout: a class guarantee in terms
of the `want` flags the switch reads gives the physical statement. -/
theorem trash_safe_of_kept {c : Class} {d : Nat} {mounts : List Mount}
    (hkc : KeyConsistent c mounts) (hr : r.changes = F.map fun s => (s, change env reps s))
    (hmem : ∀ s ∈ F, s.mnt ∈ mounts) (hg : Guar c d [] F) :
    min d (physRepl c r.heldBefore) ≤ physRepl c r.heldAfter := by
  have hnt : ∀ s ∈ F, Kept [] s → (change env reps s).isTrash = false := by
    intro s hs hk
    cases hc : change env reps s with
    | trash t =>
      obtain ⟨hr, hw, _⟩ := change_trash hc
      rw [(hk t hr).resolve_right List.not_mem_nil] at hw; cases hw
    | _ => rfl
  have hkc' : KeyConsistent c r.heldAfter := (hkc.heldOf hmem).sub fun m hm => ((mem_heldAfter hr m).1 hm).1
  rcases hg with ⟨Cm, hnd, hsum, hC⟩ | hall
  · -- the counted devices survive
    refine Nat.le_trans (Nat.min_le_left ..) (Nat.le_trans hsum (physRepl_ge c _ hkc' Cm (fun m hm => ?_) hnd))
    obtain ⟨a1, ⟨s, hs, e1, e2⟩, a3⟩ := hC m hm
    refine ⟨(mem_heldAfter hr m).2 ⟨mem_heldOf.2 ⟨s, hs, e1, e2⟩, fun s' hs' ht hk => ?_⟩, a1⟩
    rw [hnt s' hs' (a3 s' hs' hk.symm)] at ht; cases ht
  · -- nothing is trashed at all
    rw [physRepl_congr c r.heldAfter r.heldBefore hkc' fun m => ?_]
    · exact Nat.min_le_right ..
    · rw [mem_heldAfter hr, heldBefore_eq hr]
      exact ⟨And.left, fun h => ⟨h, fun s hs ht => by rw [hnt s hs (hall s hs)] at ht; cases ht⟩⟩

end

/-- The other physical reading of a class guarantee: a family on pairwise different devices that
hold the block, with replication ≥ `d`, cannot exist when the block is physically under-replicated,
so then every replica is kept. -/
theorem kept_of_underrep {c : Class} {d : Nat} {mounts : List Mount} {U : List Int} {F : List Slot}
    (hkc : KeyConsistent c mounts) (hmem : ∀ s ∈ F, s.mnt ∈ mounts) (hg : Guar c d U F)
    (hu : physRepl c (heldOf F) < d) : ∀ s ∈ F, Kept U s := by
  refine hg.resolve_left fun ⟨Cm, hnd, hsum, hC⟩ => ?_
  have := physRepl_ge c _ (hkc.heldOf hmem) Cm (fun m hm => ⟨mem_heldOf.2 (hC m hm).2.1, (hC m hm).1⟩) hnd
  omega

theorem trash_safe_of_guar (env : Env) (classes : List Class) (sorter : Class → List Slot → List Slot)
    (mounts : List Mount) (reps : List Replica)
    (hok : BalancePerm env classes sorter mounts reps) (hid : DistinctIds mounts) (hcons : DeviceConsistent mounts)
    (c : Class)
    (hg : Guar c (env.desired c) (balanceBlock env classes sorter mounts reps).final.utd
      (balanceBlock env classes sorter mounts reps).final.slots) :
    min (env.desired c) (physRepl c (balanceBlock env classes sorter mounts reps).heldBefore) ≤
      physRepl c (balanceBlock env classes sorter mounts reps).heldAfter :=
  trash_safe_of_kept (keyConsistent_of c hid hcons) rfl (fun s hs => (final_origin hok s hs).1) (guar_finalWant _ hg)

/-- with the under-replication flag set at the end, every replica is wanted -/
theorem trash_safe_of_underrep (env : Env) (classes : List Class) (sorter : Class → List Slot → List Slot)
    (mounts : List Mount) (reps : List Replica)
    (hok : BalancePerm env classes sorter mounts reps) (hid : DistinctIds mounts) (hcons : DeviceConsistent mounts)
    (c : Class) (hu : (balanceBlock env classes sorter mounts reps).final.underrep = true) :
    min (env.desired c) (physRepl c (balanceBlock env classes sorter mounts reps).heldBefore) ≤
      physRepl c (balanceBlock env classes sorter mounts reps).heldAfter :=
  trash_safe_of_kept (keyConsistent_of c hid hcons) rfl (fun s hs => (final_origin hok s hs).1)
    (Or.inr fun s hs t ht => Or.inl (want_of_underrep hu s hs t ht))

end ArvVerif.C05
