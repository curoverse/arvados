/-
C10 — the parent walk of `createFileAndParents` separated from the tree. Which directory `walkParents` ends in,
and whether it fails, depends on the files only; the directories only record where it went. `walkPath` computes
the end and the directories stepped into; `walkParents` is `walkPath` followed by `mkdir -p` of those (`addDir`,
`walkParents_eq`). So the files are untouched and directories are only added; over proper components with no file
in the way the walk steps into every non-empty prefix (`walkPath_ok`, `walkParents_spec`).
-/
import ArvVerif.Model.C10_Fs
import ArvVerif.Proofs.C10_Paths
namespace ArvVerif.C10

def addDir (ds : List (List Bytes)) (d : List Bytes) : List (List Bytes) := if ds.contains d then ds else ds ++ [d]

theorem mem_addDir {ds : List (List Bytes)} {v d : List Bytes} : d ∈ addDir ds v ↔ d ∈ ds ∨ d = v := by
  unfold addDir
  split
  · next hc => exact ⟨Or.inl, fun h => h.elim id fun e => e ▸ List.contains_iff_mem.mp hc⟩
  · simp

theorem mem_foldl_addDir : ∀ (vs ds : List (List Bytes)) (d : List Bytes), d ∈ vs.foldl addDir ds ↔ d ∈ ds ∨ d ∈ vs
  | [], ds, d => by simp
  | v :: vs, ds, d => by rw [List.foldl_cons, mem_foldl_addDir vs, mem_addDir, List.mem_cons, or_assoc]

def walkPath (files : List (List Bytes × List Seg)) : List Bytes → List Bytes → Option (List Bytes × List (List Bytes))
  | [], cur => some (cur, [])
  | n :: rest, cur =>
    if n = [] ∨ n = [bDot] then walkPath files rest cur
    else if n = [bDot, bDot] then
      if cur = [] then none else walkPath files rest cur.dropLast
    else if files.any (·.1 = cur ++ [n]) then none
    else (walkPath files rest (cur ++ [n])).map fun r => (r.1, (cur ++ [n]) :: r.2)

theorem walkParents_eq (cs cur : List Bytes) (t : FsTree) :
    walkParents cs cur t = (walkPath t.files cs cur).map fun r => (r.1, { t with dirs := r.2.foldl addDir t.dirs }) := by
  fun_induction walkParents cs cur t with
  | case5 _ _ _ _ h1 h2 _ hf => rw [walkPath, if_neg h1, if_neg h2, if_pos hf]; rfl
  | case6 n rest cur t h1 h2 child hf hd ih =>
    rw [ih, walkPath, if_neg h1, if_neg h2, if_neg hf, Option.map_map]
    simp only [Function.comp_def, List.foldl_cons, addDir]
    rw [if_pos hd]
  | case7 n rest cur t h1 h2 child hf hd ih =>
    rw [ih, walkPath, if_neg h1, if_neg h2, if_neg hf, Option.map_map]
    simp only [Function.comp_def, List.foldl_cons, addDir]
    rw [if_neg hd]
  | _ => simp [walkPath, *]

theorem walkParents_some {cs cur r : List Bytes} {t t' : FsTree} (h : walkParents cs cur t = some (r, t')) :
    ∃ vs, walkPath t.files cs cur = some (r, vs) ∧ t' = { t with dirs := vs.foldl addDir t.dirs } := by
  rw [walkParents_eq, Option.map_eq_some_iff] at h
  obtain ⟨⟨_, vs⟩, hw, he⟩ := h
  cases he
  exact ⟨vs, hw, rfl⟩

theorem walkParents_files {cs cur : List Bytes} {t t' : FsTree} {r : List Bytes} (h : walkParents cs cur t = some (r, t')) :
    t'.files = t.files := by
  obtain ⟨_, _, rfl⟩ := walkParents_some h
  rfl

theorem walkParents_mono (cs c : List Bytes) (a b : FsTree) (r : List Bytes) (h : walkParents cs c a = some (r, b)) :
    ∀ d ∈ a.dirs, d ∈ b.dirs := by
  obtain ⟨_, _, rfl⟩ := walkParents_some h
  exact fun d hd => (mem_foldl_addDir _ _ d).mpr (Or.inl hd)

theorem walkPath_ok (files : List (List Bytes × List Seg)) : ∀ (cs cur : List Bytes), componentsOk cs = true →
    (∀ pre, pre ≠ [] → pre <+: cs → files.any (·.1 = cur ++ pre) = false) →
    ∃ vs, walkPath files cs cur = some (cur ++ cs, vs) ∧ ∀ d, d ∈ vs ↔ ∃ pre, pre ≠ [] ∧ pre <+: cs ∧ d = cur ++ pre
  | [], cur, _, _ => ⟨[], by simp [walkPath], by simp +contextual⟩
  | n :: rest, cur, hok, hnf => by
    obtain ⟨hn, hrest⟩ := componentsOk_cons hok
    obtain ⟨vs, hw, hvs⟩ := walkPath_ok files rest (cur ++ [n]) hrest fun pre _ hp => by
      simpa using hnf (n :: pre) (by simp) (List.cons_prefix_cons.mpr ⟨rfl, hp⟩)
    refine ⟨(cur ++ [n]) :: vs, ?_, fun d => ?_⟩
    · rw [walkPath, if_neg (not_or.mpr ⟨hn.1, hn.2.1⟩), if_neg hn.2.2, if_neg (by rw [hnf [n] (by simp) ⟨rest, rfl⟩]; simp), hw]
      simp
    -- a non-empty prefix of `n :: rest` is `[n]`, or `n ::` a non-empty prefix of `rest`
    rw [List.mem_cons, hvs]
    constructor
    · rintro (rfl | ⟨pre, _, hp, rfl⟩)
      · exact ⟨[n], by simp, ⟨rest, rfl⟩, rfl⟩
      · exact ⟨n :: pre, by simp, List.cons_prefix_cons.mpr ⟨rfl, hp⟩, by simp⟩
    · rintro ⟨_ | ⟨a, q⟩, hne, hp, rfl⟩
      · exact absurd rfl hne
      · obtain ⟨rfl, hq⟩ := List.cons_prefix_cons.mp hp
        by_cases hq0 : q = []
        · exact Or.inl (by rw [hq0])
        · exact Or.inr ⟨q, hq0, hq, by simp⟩

theorem walkParents_spec (cs cur : List Bytes) (t : FsTree) (hok : componentsOk cs = true)
    (hnf : ∀ pre, pre ≠ [] → pre <+: cs → t.files.any (·.1 = cur ++ pre) = false) :
    ∃ t', walkParents cs cur t = some (cur ++ cs, t') ∧ t'.files = t.files ∧
      ∀ d, d ∈ t'.dirs ↔ d ∈ t.dirs ∨ ∃ pre, pre ≠ [] ∧ pre <+: cs ∧ d = cur ++ pre := by
  obtain ⟨vs, hw, hvs⟩ := walkPath_ok t.files cs cur hok hnf
  exact ⟨{ t with dirs := vs.foldl addDir t.dirs }, by rw [walkParents_eq, hw]; rfl, rfl, fun d => by rw [mem_foldl_addDir, hvs]⟩

end ArvVerif.C10
