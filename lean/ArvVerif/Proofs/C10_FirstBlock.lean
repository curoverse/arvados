/-
C10 — the binary searches `manifest.firstBlock` (Go) and `_ranges.first_block` (Python) are one loop
(`searchLoop`) over two representations of the block bounds. For that loop: the fuel of the model is
never exhausted, and for blocks laid out in order (zero-length blocks included) the fixed "move right"
test finds the block that holds the offset, or reports that none does.
-/
import ArvVerif.Model.C10_Py
namespace ArvVerif.C10

def InBlock (offs : List Nat) (start i : Nat) : Prop :=
  ∃ bs be, offs[i]? = some bs ∧ offs[i + 1]? = some be ∧ bs ≤ start ∧ start < be

def Contiguous : List PyRange → Prop
  | [] => True
  | [_] => True
  | r :: r' :: rest => r.start + r.size = r'.start ∧ Contiguous (r' :: rest)

def PyInBlock (rs : List PyRange) (start i : Nat) : Prop :=
  ∃ r, rs[i]? = some r ∧ r.start ≤ start ∧ start < r.start + r.size

/-- `blk i` = the bounds `(start, end)` of block `i`, `none` outside the array -/
def searchLoop (g : Nat → Nat → Nat → Bool) (blk : Nat → Option (Nat × Nat)) (start : Nat) : Nat → Nat → Nat → Nat → FB
  | 0, _, _, _ => .outOfFuel
  | fuel + 1, lo, hi, i =>
    match blk i with
    | some (bs, be) =>
      if bs ≤ start ∧ start < be then .found i
      else if lo = i then .notFound
      else if g bs be start then searchLoop g blk start fuel i hi ((hi + i) / 2)
      else searchLoop g blk start fuel lo i ((i + lo) / 2)
    | none => .indexPanic

def offsBlk (offs : List Nat) (i : Nat) : Option (Nat × Nat) :=
  match offs[i]?, offs[i + 1]? with
  | some bs, some be => some (bs, be)
  | _, _ => none

def pyBlk (rs : List PyRange) (i : Nat) : Option (Nat × Nat) := rs[i]?.map fun r => (r.start, r.start + r.size)

theorem fbLoop_eq (g : Nat → Nat → Nat → Bool) (offs : List Nat) (start : Nat) :
    ∀ fuel lo hi i, fbLoop g offs start fuel lo hi i = searchLoop g (offsBlk offs) start fuel lo hi i := by
  intro fuel
  induction fuel with
  | zero => intros; rfl
  | succ fuel ih =>
    intro lo hi i
    rw [fbLoop, searchLoop, offsBlk]
    cases offs[i]? <;> cases offs[i + 1]? <;> simp only [ih]

theorem pyFbLoop_eq (g : Nat → Nat → Nat → Bool) (rs : List PyRange) (start : Nat) :
    ∀ fuel lo hi i, pyFbLoop g rs start fuel lo hi i = searchLoop g (pyBlk rs) start fuel lo hi i := by
  intro fuel
  induction fuel with
  | zero => intros; rfl
  | succ fuel ih =>
    intro lo hi i
    rw [pyFbLoop, searchLoop, pyBlk]
    cases rs[i]? <;> simp only [ih, Option.map_some, Option.map_none]

/-- the loop exits: the interval `[lo, hi]` shrinks with every probe -/
theorem searchLoop_fuel (g : Nat → Nat → Nat → Bool) (blk : Nat → Option (Nat × Nat)) (start : Nat) :
    ∀ fuel lo hi, lo ≤ hi → hi - lo < fuel → searchLoop g blk start fuel lo hi ((hi + lo) / 2) ≠ .outOfFuel := by
  intro fuel
  induction fuel with
  | zero => intro lo hi h1 h2; omega
  | succ fuel ih =>
    intro lo hi hle hfuel
    unfold searchLoop
    split
    · split
      · simp
      · split
        · simp
        · split
          · exact ih _ _ (by omega) (by omega)
          · exact ih _ _ (by omega) (by omega)
    · simp

def Holds (blk : Nat → Option (Nat × Nat)) (start i : Nat) : Prop :=
  ∃ a b, blk i = some (a, b) ∧ a ≤ start ∧ start < b

/-- the blocks are laid out in order: no block ends before it starts, none starts before an earlier one ends
(zero-length blocks and gaps allowed). What sorted offsets and contiguous ranges both give, and all the search needs. -/
structure Ordered (blk : Nat → Option (Nat × Nat)) : Prop where
  le : ∀ {i a b}, blk i = some (a, b) → a ≤ b
  mono : ∀ {i j a b c d}, i < j → blk i = some (a, b) → blk j = some (c, d) → b ≤ c

theorem Ordered.le_of_lt {blk : Nat → Option (Nat × Nat)} (ho : Ordered blk) {i j a b c d : Nat}
    (hi : blk i = some (a, b)) (hj : blk j = some (c, d)) (h : a < d) : i ≤ j :=
  Nat.le_of_not_lt fun hlt => by have := ho.mono hlt hj hi; omega

theorem holds_unique {blk : Nat → Option (Nat × Nat)} (ho : Ordered blk) {start i j : Nat}
    (hi : Holds blk start i) (hj : Holds blk start j) : i = j := by
  obtain ⟨a, b, ha, h1, h2⟩ := hi
  obtain ⟨c, d, hc, h3, h4⟩ := hj
  exact Nat.le_antisymm (ho.le_of_lt ha hc (by omega)) (ho.le_of_lt hc ha (by omega))

/-- Loop invariant ⇒ result, for the fixed "move right" test: every block containing `start` lies in `[lo, hi)`. -/
theorem searchLoop_spec (blk : Nat → Option (Nat × Nat)) (start : Nat) (ho : Ordered blk) :
    ∀ fuel lo hi, lo < hi → (∀ i, i < hi → ∃ a b, blk i = some (a, b)) → hi - lo ≤ fuel →
      (∀ j, Holds blk start j → lo ≤ j ∧ j < hi) →
      (∃ i, searchLoop goRightNew blk start fuel lo hi ((hi + lo) / 2) = .found i ∧ Holds blk start i) ∨
      (searchLoop goRightNew blk start fuel lo hi ((hi + lo) / 2) = .notFound ∧ ∀ j, ¬ Holds blk start j) := by
  intro fuel
  induction fuel with
  | zero => intro lo hi h1 _ h3 _; omega
  | succ fuel ih =>
    intro lo hi hlt hdef hfuel hcand
    obtain ⟨a, b, hab⟩ := hdef ((hi + lo) / 2) (by omega)
    unfold searchLoop
    rw [hab]
    dsimp only
    by_cases hin : a ≤ start ∧ start < b
    · rw [if_pos hin]
      exact Or.inl ⟨_, rfl, a, b, hab, hin.1, hin.2⟩
    · rw [if_neg hin]
      have hnm : ∀ j, Holds blk start j → j ≠ (hi + lo) / 2 := by
        rintro _ ⟨c, d, hcd, h⟩ rfl
        rw [hab] at hcd
        cases hcd
        exact hin h
      by_cases hlo : lo = (hi + lo) / 2
      · rw [if_pos hlo]
        exact Or.inr ⟨rfl, fun j hj => by have := hcand j hj; have := hnm j hj; omega⟩
      · rw [if_neg hlo]
        have hle := ho.le hab
        by_cases hr : b ≤ start
        · rw [if_pos (by simp [goRightNew, hr])]
          refine ih ((hi + lo) / 2) hi (by omega) hdef (by omega) fun j hj => ⟨?_, (hcand j hj).2⟩
          obtain ⟨c, d, hcd, _, h2⟩ := hj
          exact ho.le_of_lt hab hcd (by omega)
        · rw [if_neg (by simp [goRightNew, hr])]
          refine ih lo ((hi + lo) / 2) (by omega) (fun i hi' => hdef i (by omega)) (by omega)
            fun j hj => ⟨(hcand j hj).1, ?_⟩
          have := hnm j hj
          obtain ⟨c, d, hcd, h1, _⟩ := hj
          have := ho.le_of_lt hcd hab (by omega)
          omega

theorem found_iff_of_spec {res : FB} {P : Nat → Prop} (huniq : ∀ {i j}, P i → P j → i = j)
    (h : (∃ i, res = .found i ∧ P i) ∨ (res = .notFound ∧ ∀ j, ¬ P j)) (i : Nat) : res = .found i ↔ P i := by
  rcases h with ⟨k, hk, hin⟩ | ⟨hn, hno⟩
  · rw [hk]
    exact ⟨fun h => by cases h; exact hin, fun h => by rw [huniq hin h]⟩
  · rw [hn]
    exact ⟨fun h => (nomatch h), fun h => absurd h (hno i)⟩

theorem pairwise_get {α : Type} {R : α → α → Prop} {l : List α} (h : l.Pairwise R) {i j : Nat} {a b : α}
    (hij : i < j) (ha : l[i]? = some a) (hb : l[j]? = some b) : R a b := by
  obtain ⟨hi, rfl⟩ := List.getElem?_eq_some_iff.mp ha
  obtain ⟨hj, rfl⟩ := List.getElem?_eq_some_iff.mp hb
  exact List.pairwise_iff_getElem.mp h i j hi hj hij

theorem pairwise_le_get {offs : List Nat} (hs : offs.Pairwise (· ≤ ·)) {j k : Nat} {a b : Nat}
    (hjk : j ≤ k) (ha : offs[j]? = some a) (hb : offs[k]? = some b) : a ≤ b := by
  rcases Nat.lt_or_eq_of_le hjk with h | rfl
  · exact pairwise_get hs h ha hb
  · rw [ha] at hb; cases hb; exact Nat.le_refl _

theorem offsBlk_eq_some {offs : List Nat} {i a b : Nat} :
    offsBlk offs i = some (a, b) ↔ offs[i]? = some a ∧ offs[i + 1]? = some b := by
  unfold offsBlk
  split <;> simp_all

theorem holds_offsBlk {offs : List Nat} {start i : Nat} : Holds (offsBlk offs) start i ↔ InBlock offs start i := by
  simp only [Holds, InBlock, offsBlk_eq_some, and_assoc]

theorem ordered_offsBlk {offs : List Nat} (hs : offs.Pairwise (· ≤ ·)) : Ordered (offsBlk offs) :=
  ⟨fun h => pairwise_le_get hs (Nat.le_succ _) (offsBlk_eq_some.mp h).1 (offsBlk_eq_some.mp h).2,
   fun hij h1 h2 => pairwise_le_get hs (Nat.succ_le_of_lt hij) (offsBlk_eq_some.mp h1).2 (offsBlk_eq_some.mp h2).1⟩

/-- `firstBlock` is the fixed code; zero-length blocks anywhere; `.notFound` is the Go `-1`. -/
theorem firstBlock_spec (offs : List Nat) (start : Nat) (hlen : 2 ≤ offs.length)
    (hs : offs.Pairwise (· ≤ ·)) :
    (∃ i, firstBlock offs start = .found i ∧ InBlock offs start i) ∨
    (firstBlock offs start = .notFound ∧ ∀ j, ¬ InBlock offs start j) := by
  unfold firstBlock firstBlockWith
  rw [if_neg (by omega), fbLoop_eq]
  have := searchLoop_spec (offsBlk offs) start (ordered_offsBlk hs) (offs.length + 1) 0 (offs.length - 1)
    (by omega)
    (fun i hi => ⟨_, _, offsBlk_eq_some.mpr
      ⟨List.getElem?_eq_getElem (by omega : i < offs.length), List.getElem?_eq_getElem (by omega : i + 1 < offs.length)⟩⟩)
    (by omega)
    (fun j hj => by
      obtain ⟨a, b, hab, _⟩ := hj
      have := (List.getElem?_eq_some_iff.mp (offsBlk_eq_some.mp hab).2).1
      omega)
  simpa [holds_offsBlk] using this

theorem firstBlock_found_iff (offs : List Nat) (start i : Nat) (hlen : 2 ≤ offs.length)
    (hs : offs.Pairwise (· ≤ ·)) : firstBlock offs start = .found i ↔ InBlock offs start i :=
  found_iff_of_spec (fun hi hj => holds_unique (ordered_offsBlk hs)
    (holds_offsBlk.mpr hi) (holds_offsBlk.mpr hj)) (firstBlock_spec offs start hlen hs) i

theorem pyBlk_eq_some {rs : List PyRange} {i a b : Nat} :
    pyBlk rs i = some (a, b) ↔ ∃ r, rs[i]? = some r ∧ r.start = a ∧ r.start + r.size = b := by
  unfold pyBlk
  cases rs[i]? <;> simp

theorem holds_pyBlk {rs : List PyRange} {start i : Nat} : Holds (pyBlk rs) start i ↔ PyInBlock rs start i := by
  unfold Holds PyInBlock pyBlk
  cases rs[i]? <;> simp [and_assoc]

theorem Contiguous.pairwise : ∀ {rs : List PyRange}, Contiguous rs → rs.Pairwise fun r r' => r.start + r.size ≤ r'.start
  | [], _ => .nil
  | [_], _ => List.pairwise_singleton _ _
  | a :: b :: tl, ⟨h1, h2⟩ => by
    have ih := Contiguous.pairwise h2
    refine List.pairwise_cons.mpr ⟨fun x hx => ?_, ih⟩
    rcases List.mem_cons.mp hx with rfl | hx
    · omega
    · have := (List.pairwise_cons.mp ih).1 x hx; omega

theorem ordered_pyBlk {rs : List PyRange} (hc : Contiguous rs) : Ordered (pyBlk rs) := by
  refine ⟨fun h => ?_, fun hij h1 h2 => ?_⟩
  · obtain ⟨r, _, rfl, rfl⟩ := pyBlk_eq_some.mp h
    omega
  · obtain ⟨r, hr, _, rfl⟩ := pyBlk_eq_some.mp h1
    obtain ⟨r', hr', rfl, _⟩ := pyBlk_eq_some.mp h2
    exact pairwise_get hc.pairwise hij hr hr'

/-- `pyFirstBlock` is the fixed code; zero-length ranges anywhere. -/
theorem pyFirstBlock_spec (rs : List PyRange) (start : Nat) (hne : rs ≠ []) (hc : Contiguous rs) :
    (∃ i, pyFirstBlock rs start = .found i ∧ PyInBlock rs start i) ∨
    (pyFirstBlock rs start = .notFound ∧ ∀ j, ¬ PyInBlock rs start j) := by
  unfold pyFirstBlock pyFirstBlockWith
  rw [pyFbLoop_eq]
  have := searchLoop_spec (pyBlk rs) start (ordered_pyBlk hc) (rs.length + 1) 0 rs.length
    (List.length_pos_iff.mpr hne)
    (fun i hi => ⟨_, _, pyBlk_eq_some.mpr ⟨rs[i], List.getElem?_eq_getElem hi, rfl, rfl⟩⟩)
    (by omega)
    (fun j hj => by
      obtain ⟨a, b, hab, _⟩ := hj
      obtain ⟨r, hr, _⟩ := pyBlk_eq_some.mp hab
      have := (List.getElem?_eq_some_iff.mp hr).1
      omega)
  simpa [holds_pyBlk] using this

theorem pyFirstBlock_found {rs : List PyRange} {start i : Nat} (hc : Contiguous rs) (h : PyInBlock rs start i) :
    pyFirstBlock rs start = .found i :=
  (found_iff_of_spec (fun hi hj => holds_unique (ordered_pyBlk hc)
    (holds_pyBlk.mpr hi) (holds_pyBlk.mpr hj))
    (pyFirstBlock_spec rs start (by rintro rfl; obtain ⟨_, h, _⟩ := h; cases h) hc) i).mpr h

theorem firstBlockWith_terminates (g : Nat → Nat → Nat → Bool) (offs : List Nat) (start : Nat) :
    firstBlockWith g offs start ≠ .outOfFuel := by
  unfold firstBlockWith
  split
  · simp
  · rw [fbLoop_eq]
    exact searchLoop_fuel g (offsBlk offs) start (offs.length + 1) 0 (offs.length - 1) (Nat.zero_le _) (by omega)

theorem pyFirstBlockWith_terminates (g : Nat → Nat → Nat → Bool) (rs : List PyRange) (start : Nat) :
    pyFirstBlockWith g rs start ≠ .outOfFuel := by
  unfold pyFirstBlockWith
  rw [pyFbLoop_eq]
  exact searchLoop_fuel g (pyBlk rs) start (rs.length + 1) 0 rs.length (Nat.zero_le _) (by omega)

end ArvVerif.C10
