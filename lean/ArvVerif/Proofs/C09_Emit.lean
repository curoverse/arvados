/-
C09 helper lemmas: the stream builder of `marshalManifest` (`emitSeg` / `emitFiles`):
re-using the last block when the next segment has the same locator and merging a file part into its
predecessor never change what the file tokens stand for. For every file of the directory, the bytes
the tokens of its name select from the concatenated blocks are exactly the file's content.
-/
import ArvVerif.Proofs.C08_Flush
import ArvVerif.Model.C09
import ArvVerif.Proofs.C10_Normalize
namespace ArvVerif.C09

open ArvVerif.C08 (Seg FileNode Ptr Flush Store Ref SegWF)

variable {max : Nat} {hash : Bytes → C08.Loc}

/-- block contents as the manifest semantics of C10 wants them: locator text ↦ bytes -/
def blkOf (st : Store) (loc : Bytes) : Bytes := (st loc).getD []

def streamOf (st : Store) (e : Emit) : Bytes := C10.streamBytes (blkOf st) e.blocksRev.reverse

def partBytes (S : Bytes) (p : Part) : Bytes := C10.slice S p.off p.len

/-- what the parts named `n` (given newest first) select from stream `S`, oldest first -/
def contentRev (S : Bytes) (n : Bytes) : List Part → Bytes
  | [] => []
  | p :: ps => contentRev S n ps ++ (if p.name = n then partBytes S p else [])

structure EInv (st : Store) (e : Emit) : Prop where
  len : e.len = C10.streamLen e.blocksRev.reverse
  blk : ∀ b ∈ e.blocksRev, ∃ x, st b.text = some x ∧ x.length = b.size
  parts : ∀ p ∈ e.partsRev, p.off + p.len ≤ e.len

theorem EInv.stream_length {st : Store} {e : Emit} (h : EInv st e) : (streamOf st e).length = e.len := by
  unfold streamOf
  rw [C10.streamBytes_length, h.len]
  intro b hb
  obtain ⟨x, hx, hl⟩ := h.blk b (List.mem_reverse.mp hb)
  simp [blkOf, hx, hl]

theorem contentRev_prefix (S X : Bytes) (n : Bytes) : ∀ (ps : List Part), (∀ p ∈ ps, p.off + p.len ≤ S.length) →
    contentRev (S ++ X) n ps = contentRev S n ps
  | [], _ => rfl
  | p :: ps, h => by
    unfold contentRev
    rw [contentRev_prefix S X n ps (fun q hq => h q (List.mem_cons_of_mem _ hq))]
    unfold partBytes
    rw [C10.slice_of_prefix S X p.off p.len (h p (by simp))]

theorem streamLen_reverse_cons (b : C10.Loc) (bs : List C10.Loc) :
    C10.streamLen (b :: bs).reverse = C10.streamLen bs.reverse + b.size := by
  simp [C10.streamLen]

theorem streamBytes_append (blk : Bytes → Bytes) (a b : List C10.Loc) :
    C10.streamBytes blk (a ++ b) = C10.streamBytes blk a ++ C10.streamBytes blk b := by
  simp [C10.streamBytes]

theorem emitBlocks_spec {st : Store} {e : Emit} {loc : Bytes} {size : Nat} {x : Bytes} (hinv : EInv st e)
    (hx : st loc = some x) (hxl : x.length = size) :
    (∃ S0, C10.streamBytes (blkOf st) (emitBlocks e loc size).reverse = S0 ++ x ∧ S0.length = emitBase e loc size) ∧
    (∃ X, C10.streamBytes (blkOf st) (emitBlocks e loc size).reverse = streamOf st e ++ X) ∧
    emitBase e loc size + size = C10.streamLen (emitBlocks e loc size).reverse ∧
    (∀ b ∈ emitBlocks e loc size, ∃ y, st b.text = some y ∧ y.length = b.size) ∧
    (∀ b ∈ emitBlocks e loc size, b ∈ e.blocksRev ∨ (b.text = loc ∧ b.size = size)) ∧
    e.len ≤ emitBase e loc size + size := by
  have hSlen := hinv.stream_length
  unfold emitBlocks emitBase
  by_cases hsame : sameLast e loc = true
  · rw [if_pos hsame, if_pos hsame]
    obtain ⟨b0, rest, hb, hloc⟩ : ∃ b0 rest, e.blocksRev = b0 :: rest ∧ b0.text = loc := by
      unfold sameLast at hsame
      cases hb : e.blocksRev with
      | nil => rw [hb] at hsame; cases hsame
      | cons b0 rest => exact ⟨b0, rest, rfl, by simpa [hb] using hsame⟩
    obtain ⟨y, hy, hyl⟩ := hinv.blk b0 (by rw [hb]; simp)
    have hxy : y = x := by rw [hloc, hx] at hy; cases hy; rfl
    have hsz : b0.size = size := by rw [← hyl, hxy, hxl]
    have h0 := hinv.len
    have hlen := hinv.len
    rw [hb, streamLen_reverse_cons, hsz] at hlen
    refine ⟨⟨C10.streamBytes (blkOf st) rest.reverse, ?_, ?_⟩, ⟨[], ?_⟩, by omega, hinv.blk, fun b hb' => Or.inl hb',
      by omega⟩
    · rw [hb, List.reverse_cons, streamBytes_append]
      simp [C10.streamBytes, blkOf, hloc, hx]
    · rw [C10.streamBytes_length]
      · omega
      · intro b hb'
        obtain ⟨z, hz, hzl⟩ := hinv.blk b (by rw [hb]; simp [List.mem_reverse.mp hb'])
        simp [blkOf, hz, hzl]
    · simp [streamOf]
  · rw [if_neg hsame, if_neg hsame]
    have happ : C10.streamBytes (blkOf st) (⟨loc, size⟩ :: e.blocksRev).reverse = streamOf st e ++ x := by
      rw [List.reverse_cons, streamBytes_append]
      simp [streamOf, C10.streamBytes, blkOf, hx]
    exact ⟨⟨streamOf st e, happ, hSlen⟩, ⟨x, happ⟩, by rw [streamLen_reverse_cons, hinv.len],
      List.forall_mem_cons.mpr ⟨⟨x, hx, hxl⟩, hinv.blk⟩,
      List.forall_mem_cons.mpr ⟨Or.inr ⟨rfl, rfl⟩, fun b hb' => Or.inl hb'⟩, by omega⟩

theorem addPart_cases (parts : List Part) (next : Part) :
    (∃ p ps, parts = p :: ps ∧ p.name = next.name ∧ p.off + p.len = next.off ∧
      addPart parts next = { p with len := p.len + next.len } :: ps) ∨ addPart parts next = next :: parts := by
  unfold addPart
  cases parts with
  | nil => exact Or.inr rfl
  | cons p ps =>
    simp only []
    split
    · next h =>
      simp only [Bool.and_eq_true, beq_iff_eq] at h
      exact Or.inl ⟨p, ps, rfl, h.1, h.2, rfl⟩
    · exact Or.inr rfl

theorem addPart_spec (S : Bytes) (parts : List Part) (next : Part) :
    (∀ n, contentRev S n (addPart parts next) =
      contentRev S n parts ++ (if next.name = n then partBytes S next else [])) ∧
    ∀ q ∈ addPart parts next, q ∈ parts ∨ (q.name = next.name ∧ q.off + q.len = next.off + next.len) := by
  rcases addPart_cases parts next with ⟨p, ps, rfl, hpn, hpo, heq⟩ | heq <;> rw [heq]
  · refine ⟨fun n => ?_, List.forall_mem_cons.mpr
      ⟨Or.inr ⟨hpn, by simp only []; omega⟩, fun q hq => Or.inl (List.mem_cons_of_mem _ hq)⟩⟩
    simp only [contentRev]
    by_cases hn : next.name = n
    · subst hn
      simp only [hpn, if_true]
      rw [List.append_assoc]
      congr 1
      unfold partBytes
      simp only []
      have := C10.slice_append_slice S p.off (p.off + p.len) next.len (by omega)
      rw [show p.off + p.len - p.off = p.len by omega, show p.off + p.len + next.len - p.off = p.len + next.len by omega] at this
      rw [← hpo]; exact this.symm
    · have hpn' : ¬ p.name = n := by rw [hpn]; exact hn
      simp [hpn', hn]
  · exact ⟨fun n => rfl, List.forall_mem_cons.mpr ⟨Or.inr ⟨rfl, rfl⟩, fun q hq => Or.inl hq⟩⟩

theorem addPart_grows (parts : List Part) (next : Part) :
    parts.map (·.name) ⊆ (addPart parts next).map (·.name) ∧ next.name ∈ (addPart parts next).map (·.name) := by
  rcases addPart_cases parts next with ⟨p, ps, rfl, hpn, _, heq⟩ | heq <;> rw [heq]
  · exact ⟨fun x hx => hx, by rw [← hpn]; exact List.mem_cons_self⟩
  · exact ⟨fun x hx => List.mem_cons_of_mem _ hx, List.mem_cons_self⟩

theorem emitSeg_grows {name : Bytes} {e e' : Emit} {s : Seg} (h : emitSeg name e s = some e') :
    e.partsRev.map (·.name) ⊆ e'.partsRev.map (·.name) ∧ name ∈ e'.partsRev.map (·.name) := by
  cases s with
  | mem => cases h
  | stored loc size off len => cases h; exact addPart_grows _ _

theorem emitSegs_grows {name : Bytes} {segs : List Seg} {e e' : Emit} (h : emitSegs name e segs = some e') :
    e.partsRev.map (·.name) ⊆ e'.partsRev.map (·.name) ∧ (segs ≠ [] → name ∈ e'.partsRev.map (·.name)) := by
  fun_induction emitSegs name e segs with
  | case1 => cases h; exact ⟨fun x hx => hx, fun hne => absurd rfl hne⟩
  | case2 => cases h
  | case3 e s rest e1 h1 ih =>
    obtain ⟨a1, a2⟩ := emitSeg_grows h1
    obtain ⟨b1, _⟩ := ih h
    exact ⟨fun x hx => b1 (a1 hx), fun _ => b1 a2⟩

theorem emitFile_grows {f : Bytes × FileNode} {e e' : Emit} (h : emitFile e f = some e') :
    e.partsRev.map (·.name) ⊆ e'.partsRev.map (·.name) ∧ f.1 ∈ e'.partsRev.map (·.name) := by
  unfold emitFile at h
  split at h
  · cases h; exact ⟨fun x hx => List.mem_cons_of_mem _ hx, List.mem_cons_self⟩
  · next hempty =>
    obtain ⟨a1, a2⟩ := emitSegs_grows h
    exact ⟨a1, a2 (fun hnil => hempty (by rw [hnil]; rfl))⟩

theorem emitFiles_grows {files : List (Bytes × FileNode)} {e e' : Emit} (h : emitFiles e files = some e') :
    e.partsRev.map (·.name) ⊆ e'.partsRev.map (·.name) ∧ ∀ f ∈ files, f.1 ∈ e'.partsRev.map (·.name) := by
  fun_induction emitFiles e files with
  | case1 => cases h; exact ⟨fun x hx => hx, fun f hf => by cases hf⟩
  | case2 => cases h
  | case3 e f rest e1 h1 ih =>
    obtain ⟨a1, a2⟩ := emitFile_grows h1
    obtain ⟨b1, b2⟩ := ih h
    exact ⟨fun x hx => b1 (a1 hx), List.forall_mem_cons.mpr ⟨b1 a2, b2⟩⟩

theorem emitSeg_spec {st : Store} {name : Bytes} {e e' : Emit} {s : Seg} (hinv : EInv st e)
    (hs : SegWF max hash st s) (hemit : emitSeg name e s = some e') :
    EInv st e' ∧
    (∀ n, contentRev (streamOf st e') n e'.partsRev =
      contentRev (streamOf st e) n e.partsRev ++ (if name = n then s.bytes st else [])) ∧
    (∀ b ∈ e'.blocksRev, b ∈ e.blocksRev ∨ ∃ off len, s = Seg.stored b.text b.size off len) ∧
    (∀ p ∈ e'.partsRev, p.name = name ∨ p ∈ e.partsRev) := by
  cases s with
  | mem buf fl => simp [emitSeg] at hemit
  | stored loc size off len =>
    obtain ⟨_, hroom, x, hx, hxl⟩ := hs
    have hSlen := hinv.stream_length
    obtain ⟨⟨S0, hS0, hS0len⟩, ⟨X, hX⟩, hlen', hblk', hnew, hlble⟩ := emitBlocks_spec hinv hx hxl
    simp only [emitSeg, Option.some.injEq] at hemit
    subst hemit
    obtain ⟨a1, a2⟩ := addPart_spec (C10.streamBytes (blkOf st) (emitBlocks e loc size).reverse) e.partsRev
      ⟨name, emitBase e loc size + off, len⟩
    have hrange : C10.slice (C10.streamBytes (blkOf st) (emitBlocks e loc size).reverse) (emitBase e loc size + off) len =
        (x.drop off).take len := by
      rw [hS0]
      unfold C10.slice
      rw [List.drop_append, List.drop_of_length_le (by omega), List.nil_append]
      congr 2; omega
    have hsbytes : (Seg.stored loc size off len).bytes st = (x.drop off).take len := C08.Seg.bytes_stored hx
    refine ⟨⟨hlen', hblk', fun q hq => ?_⟩, ?_, ?_, fun q hq => (a2 q hq).symm.imp_left (·.1)⟩
    · simp only []
      rcases a2 q hq with h | ⟨_, h⟩
      · have := hinv.parts q h; omega
      · simp only [] at h; omega
    · intro n
      simp only [streamOf]
      rw [a1 n]
      congr 1
      · rw [hX]
        exact contentRev_prefix _ _ n _ (fun p hp => by rw [hSlen]; exact hinv.parts p hp)
      · simp only [partBytes, hrange, hsbytes]
    · intro b hb'
      rcases hnew b hb' with h | ⟨h1, h2⟩
      · exact Or.inl h
      · exact Or.inr ⟨off, len, by rw [h1, h2]⟩

theorem emitSegs_spec {st : Store} {name : Bytes} {segs : List Seg} {e e' : Emit} (hinv : EInv st e)
    (hs : ∀ s ∈ segs, SegWF max hash st s) (h : emitSegs name e segs = some e') :
    EInv st e' ∧
    (∀ n, contentRev (streamOf st e') n e'.partsRev =
      contentRev (streamOf st e) n e.partsRev ++ (if name = n then C08.absSegs st segs else [])) ∧
    (∀ b ∈ e'.blocksRev, b ∈ e.blocksRev ∨ ∃ off len, Seg.stored b.text b.size off len ∈ segs) ∧
    (∀ p ∈ e'.partsRev, p.name = name ∨ p ∈ e.partsRev) := by
  fun_induction emitSegs name e segs with
  | case1 => cases h; exact ⟨hinv, fun n => by simp, fun b hb => Or.inl hb, fun p hp => Or.inr hp⟩
  | case2 => cases h
  | case3 e s rest e1 h1 ih =>
      obtain ⟨a1, a2, a3, a4⟩ := emitSeg_spec (max := max) (hash := hash) hinv (hs s (by simp)) h1
      obtain ⟨b1, b2, b3, b4⟩ := ih a1 (fun x hx => hs x (List.mem_cons_of_mem _ hx)) h
      refine ⟨b1, ?_, ?_, ?_⟩
      · intro n
        rw [b2 n, a2 n, List.append_assoc]
        congr 1
        by_cases hn : name = n <;> simp [hn]
      · intro b hb
        rcases b3 b hb with h' | ⟨o, l, h'⟩
        · rcases a3 b h' with h'' | ⟨o, l, h''⟩
          · exact Or.inl h''
          · exact Or.inr ⟨o, l, by rw [h'']; simp⟩
        · exact Or.inr ⟨o, l, by simp [h']⟩
      · exact fun p hp => (b4 p hp).elim Or.inl (a4 p)

theorem emitFile_spec {st : Store} {f : Bytes × FileNode} {e e' : Emit} (hinv : EInv st e)
    (hs : ∀ s ∈ f.2.segs, SegWF max hash st s) (h : emitFile e f = some e') :
    EInv st e' ∧
    (∀ n, contentRev (streamOf st e') n e'.partsRev =
      contentRev (streamOf st e) n e.partsRev ++ (if f.1 = n then C08.abs st f.2 else [])) ∧
    (∀ b ∈ e'.blocksRev, b ∈ e.blocksRev ∨ ∃ off len, Seg.stored b.text b.size off len ∈ f.2.segs) ∧
    (∀ p ∈ e'.partsRev, p.name = f.1 ∨ p ∈ e.partsRev) := by
  unfold emitFile at h
  by_cases hempty : f.2.segs.isEmpty = true
  · rw [if_pos hempty] at h
    simp only [Option.some.injEq] at h
    subst h
    have hnil : f.2.segs = [] := List.isEmpty_iff.mp hempty
    refine ⟨⟨hinv.len, hinv.blk, List.forall_mem_cons.mpr ⟨Nat.zero_le _, hinv.parts⟩⟩, fun n => ?_, fun b hb => Or.inl hb,
      List.forall_mem_cons.mpr ⟨Or.inl rfl, fun p hp => Or.inr hp⟩⟩
    simp only [streamOf, contentRev, partBytes, C10.slice, List.take_zero, C08.abs, hnil, C08.absSegs_nil]
  · rw [if_neg hempty] at h
    exact emitSegs_spec hinv hs h

theorem emitFiles_spec {st : Store} : ∀ (files : List (Bytes × FileNode)) (e e' : Emit), EInv st e →
    (∀ f ∈ files, ∀ s ∈ f.2.segs, SegWF max hash st s) → emitFiles e files = some e' →
    EInv st e' ∧
    (∀ n, contentRev (streamOf st e') n e'.partsRev =
      contentRev (streamOf st e) n e.partsRev ++ (files.flatMap fun f => if f.1 = n then C08.abs st f.2 else [])) ∧
    (∀ b ∈ e'.blocksRev, b ∈ e.blocksRev ∨ ∃ f ∈ files, ∃ off len, Seg.stored b.text b.size off len ∈ f.2.segs) ∧
    (∀ p ∈ e'.partsRev, (∃ f ∈ files, p.name = f.1) ∨ p ∈ e.partsRev) := by
  intro files e e' hinv hs h
  fun_induction emitFiles e files with
  | case1 => cases h; exact ⟨hinv, fun n => by simp, fun b hb => Or.inl hb, fun p hp => Or.inr hp⟩
  | case2 => cases h
  | case3 e f rest e1 h1 ih =>
      obtain ⟨a1, a2, a3, a4⟩ := emitFile_spec (max := max) (hash := hash) hinv (hs f (by simp)) h1
      obtain ⟨b1, b2, b3, b4⟩ := ih a1 (fun x hx => hs x (List.mem_cons_of_mem _ hx)) h
      refine ⟨b1, ?_, ?_, ?_⟩
      · intro n
        rw [b2 n, a2 n, List.append_assoc]
        simp only [List.flatMap_cons]
      · intro b hb
        rcases b3 b hb with h' | ⟨g, hg, o, l, h'⟩
        · rcases a3 b h' with h'' | ⟨o, l, h''⟩
          · exact Or.inl h''
          · exact Or.inr ⟨f, by simp, o, l, h''⟩
        · exact Or.inr ⟨g, by simp [hg], o, l, h'⟩
      · intro p hp
        rcases b4 p hp with ⟨g, hg, h'⟩ | h'
        · exact Or.inl ⟨g, by simp [hg], h'⟩
        · rcases a4 p h' with h'' | h''
          · exact Or.inl ⟨f, by simp, h''⟩
          · exact Or.inr h''

theorem emitSegs_some (name : Bytes) : ∀ (segs : List Seg) (e : Emit), (∀ s ∈ segs, s.isMem = false) →
    ∃ e', emitSegs name e segs = some e'
  | [], e, _ => ⟨e, rfl⟩
  | s :: rest, e, h => by
    unfold emitSegs
    cases s with
    | mem buf fl => have := h _ (List.mem_cons_self); simp [Seg.isMem] at this
    | stored loc size off len =>
      simp only [emitSeg]
      exact emitSegs_some name rest _ (fun x hx => h x (List.mem_cons_of_mem _ hx))

theorem emitFiles_some : ∀ (files : List (Bytes × FileNode)) (e : Emit), (∀ f ∈ files, ∀ s ∈ f.2.segs, s.isMem = false) →
    ∃ e', emitFiles e files = some e'
  | [], e, _ => ⟨e, rfl⟩
  | f :: rest, e, h => by
    unfold emitFiles
    obtain ⟨e1, h1⟩ : ∃ e1, emitFile e f = some e1 := by
      unfold emitFile
      split
      · exact ⟨_, rfl⟩
      · exact emitSegs_some f.1 f.2.segs e (h f (by simp))
    rw [h1]
    exact emitFiles_some rest e1 (fun x hx => h x (List.mem_cons_of_mem _ hx))

theorem treeText_some : ∀ (t : Tree9), (∀ d ∈ t, ∀ f ∈ d.files, ∀ s ∈ f.2.segs, s.isMem = false) →
    ∃ txt, treeText t = some txt
  | [], _ => ⟨[], rfl⟩
  | d :: rest, h => by
    obtain ⟨b, hb⟩ := treeText_some rest (fun x hx => h x (List.mem_cons_of_mem _ hx))
    obtain ⟨a, ha⟩ : ∃ a, dirText d = some a := by
      unfold dirText
      split
      · exact ⟨_, rfl⟩
      · obtain ⟨e, he⟩ := emitFiles_some d.files ⟨[], 0, []⟩ (h d (by simp))
        rw [he]; exact ⟨_, rfl⟩
    unfold treeText
    rw [ha, hb]
    exact ⟨_, rfl⟩

end ArvVerif.C09
