/-
C19, the federation token provider (`saltedTokenProvider`, lib/controller/federation/conn.go): a
success of the loop is a success of every iteration, position by position (`provAll_ok`, in the
terms of `Zip`), and what a successful iteration hands on is one of the six cases of `Forwarded`
(`provOne_ok`), none of which still needs salting.
-/
import ArvVerif.Proofs.C19_Salt
namespace ArvVerif.C19

/-- How one incoming token `t` relates to the token `o` the provider hands to the RPC layer. -/
inductive Forwarded (mac : Str → Str → List UInt8) (R : Str) (lookup : Str → Lookup) (t o : Str) : Prop
  /-- unsalted v2 token: the salted form, uuid kept, extra segments dropped -/
  | salted (u s : Str) (more : List Str) (hsp : splitSlash t = sV2 :: u :: s :: more)
      (hl : s.length ≠ saltLen) (ho : o = saltedForm mac u s R)
  /-- v2 token with a 40-character secret: forwarded as it is (whether or not it belongs to R) -/
  | already (u s : Str) (more : List Str) (hsp : splitSlash t = sV2 :: u :: s :: more)
      (hl : s.length = saltLen) (ho : o = t)
  /-- neither v2 nor legacy format: unchanged -/
  | nonArvados (hv : ∀ u s more, splitSlash t ≠ sV2 :: u :: s :: more) (hob : isObsolete t = false)
      (ho : o = t)
  /-- legacy token unknown to the local cluster: unchanged -/
  | legacyUnknown (hv : ∀ u s more, splitSlash t ≠ sV2 :: u :: s :: more) (hob : isObsolete t = true)
      (hlk : lookup t = .error 401) (ho : o = t)
  /-- legacy token that belongs to the remote itself: unchanged -/
  | legacyRemote (hv : ∀ u s more, splitSlash t ≠ sV2 :: u :: s :: more) (hob : isObsolete t = true)
      (u a : Str) (hlk : lookup t = .found u a) (hpre : R.isPrefixOf u = true) (ho : o = t)
  /-- legacy token resolved locally: the salted form of its v2 rendering -/
  | legacyLocal (hv : ∀ u s more, splitSlash t ≠ sV2 :: u :: s :: more) (hob : isObsolete t = true)
      (u a : Str) (hlk : lookup t = .found u a) (hpre : R.isPrefixOf u = false)
      (ho : saltToken mac (tokenV2 u a) R = .ok o)

variable {mac : Str → Str → List UInt8} {R t o : Str} {lookup : Str → Lookup}

theorem provOne_ok (h : provOne mac R lookup t = .ok o) : Forwarded mac R lookup t o := by
  unfold provOne at h
  generalize hres : saltToken mac t R = res at h
  cases saltToken_view hres with
  | salted u s more hsp hl => cases h; exact .salted u s more hsp hl rfl
  | own u s more hsp hl hp | foreign u s more hsp hl hp => cases h; exact .already u s more hsp hl rfl
  | format hv hob => cases h; exact .nonArvados hv hob rfl
  | obsolete hv hob =>
    dsimp only at h
    split at h
    · next st hlk =>
      split at h <;> cases h
      next hst => exact .legacyUnknown hv hob (hst ▸ hlk) rfl
    · next u a hlk =>
      split at h
      · next hpre => cases h; exact .legacyRemote hv hob u a hlk hpre rfl
      · next hpre =>
        split at h <;> cases h
        next s h2 => exact .legacyLocal hv hob u a hlk (Bool.eq_false_iff.mpr hpre) h2

inductive Zip {α β : Type} (P : α → β → Prop) : List α → List β → Prop
  | nil : Zip P [] []
  | cons {a b as bs} : P a b → Zip P as bs → Zip P (a :: as) (b :: bs)

section
variable {α β : Type} {P Q : α → β → Prop} {as : List α} {bs : List β}

theorem Zip.mono (h : Zip P as bs) (hpq : ∀ a b, P a b → Q a b) : Zip Q as bs := by
  induction h with
  | nil => exact .nil
  | cons hp _ ih => exact .cons (hpq _ _ hp) ih

theorem Zip.length_eq (h : Zip P as bs) : as.length = bs.length := by
  induction h with
  | nil => rfl
  | cons _ _ ih => simp [ih]

theorem Zip.get (h : Zip P as bs) :
    ∀ (i : Nat) (h1 : i < as.length) (h2 : i < bs.length), P as[i] bs[i] := by
  induction h with
  | nil => intro i h1; cases h1
  | cons hp _ ih =>
    intro i h1 h2
    cases i with
    | zero => exact hp
    | succ j => exact ih j (by simpa using h1) (by simpa using h2)

theorem Zip.mem (h : Zip P as bs) : (∀ a ∈ as, ∃ b ∈ bs, P a b) ∧ ∀ b ∈ bs, ∃ a ∈ as, P a b := by
  induction h with
  | nil => exact ⟨nofun, nofun⟩
  | cons hp _ ih =>
    simp only [List.mem_cons, forall_eq_or_imp, exists_eq_or_imp]
    exact ⟨⟨.inl hp, fun a ha => .inr (ih.1 a ha)⟩, .inl hp, fun b hb => .inr (ih.2 b hb)⟩

end

theorem provAll_ok {ts out : List Str} (h : provAll mac R lookup ts = .ok out) :
    Zip (fun t o => provOne mac R lookup t = .ok o) ts out := by
  fun_induction provAll mac R lookup ts generalizing out with
  | case1 => cases h; exact .nil
  | case2 | case3 => cases h
  | case4 t ts o h1 os h2 ih => cases h; exact .cons h1 (ih h2)

theorem Forwarded.not_mustSalt (hmac : ∀ k m, (mac k m).length = 20)
    (h : Forwarded mac R lookup t o) : ¬ MustSalt o := by
  cases h with
  | salted u s more hsp hl ho =>
    exact ho ▸ not_mustSalt_of_saltToken_ok (R := R) hmac (saltToken_salts hsp hl)
  | already u s more hsp hl ho => exact ho ▸ not_mustSalt_of_split hsp hl
  | nonArvados hv _ ho | legacyUnknown hv _ _ ho | legacyRemote hv _ _ _ _ _ ho =>
    exact ho ▸ not_mustSalt_of_not_v2 hv
  | legacyLocal _ _ u a _ _ ho => exact not_mustSalt_of_saltToken_ok hmac ho

end ArvVerif.C19
