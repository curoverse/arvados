/-
C05: the loop over the storage classes. No iteration changes the mount or the replica of a slot
(`core`): `CoreRel` says so with multiplicities, `Evolves` without them but adding that `want` is only
switched on. Of the under-replication flag only what the guarantee needs is here: once set it stays
set, and it starts set for a wanted class that no mount offers; the test on offered classes is in
C05_UnderrepFlag.lean.
-/
import ArvVerif.Proofs.C05_Switch
namespace ArvVerif.C05

theorem markWant_eq (w : List Nat) (s : Slot) :
    markWant w s = { s with want := s.want || w.contains s.mnt.id } := by
  unfold markWant
  cases w.contains s.mnt.id <;> simp

variable (env : Env) (sorter : Class → List Slot → List Slot)

theorem runClasses_inv (env : Env) (sorter : Class → List Slot → List Slot) (I : BState → Prop)
    (hstep : ∀ c b, env.desired c ≠ 0 → (sorter c b.slots).Perm b.slots → I b →
      I (classIter env c (sorter c b.slots) b)) :
    ∀ (cs : List Class) (b : BState), RunPerm env sorter cs b → I b → I (runClasses env sorter cs b) := by
  intro cs
  induction cs with
  | nil => intro b _ h; exact h
  | cons c cs ih =>
    intro b hok h
    unfold runClasses
    unfold RunPerm at hok
    by_cases hd : env.desired c = 0
    · simp only [hd, if_true] at hok ⊢; exact ih b hok h
    · simp only [hd, if_false] at hok ⊢
      exact ih _ hok.2 (hstep c b hd hok.1 h)

/-- `I` holds at the end when the iteration of an active class `c` of the loop establishes it from
`P`, every iteration keeps `P` (until then) and `I` (from then on) -/
theorem runClasses_of_mem (c : Class) (P I : BState → Prop)
    (hP : ∀ c' b, env.desired c' ≠ 0 → (sorter c' b.slots).Perm b.slots → P b →
      P (classIter env c' (sorter c' b.slots) b))
    (hc : ∀ b, (sorter c b.slots).Perm b.slots → P b → I (classIter env c (sorter c b.slots) b))
    (hI : ∀ c' b, env.desired c' ≠ 0 → (sorter c' b.slots).Perm b.slots → I b →
      I (classIter env c' (sorter c' b.slots) b)) :
    ∀ (cs : List Class) (b : BState), RunPerm env sorter cs b → c ∈ cs → env.desired c ≠ 0 → P b →
      I (runClasses env sorter cs b) := by
  intro cs
  induction cs with
  | nil => intro b _ hm; cases hm
  | cons c' cs ih =>
    intro b hok hm hd hp
    unfold runClasses
    unfold RunPerm at hok
    by_cases hd' : env.desired c' = 0
    · simp only [hd', if_true] at hok ⊢
      rcases List.mem_cons.1 hm with rfl | hm'
      · exact absurd hd' hd
      · exact ih b hok hm' hd hp
    · simp only [hd', if_false] at hok ⊢
      rcases List.mem_cons.1 hm with rfl | hm'
      · exact runClasses_inv env sorter I hI cs _ hok.2 (hc b hok.1 hp)
      · exact ih _ hok.2 hm' hd (hP c' b hd' hok.1 hp)

theorem runClasses_all_zero :
    ∀ (cs : List Class) (b : BState), (∀ c ∈ cs, env.desired c = 0) → runClasses env sorter cs b = b := by
  intro cs
  induction cs with
  | nil => intro b _; rfl
  | cons c cs ih =>
    intro b h
    unfold runClasses
    simp only [h c (List.mem_cons_self ..), if_true]
    exact ih b (fun c' hc' => h c' (List.mem_cons_of_mem _ hc'))

theorem classIter_underrep_mono (c : Class) (sorted : List Slot) {b : BState}
    (h : b.underrep = true) : (classIter env c sorted b).underrep = true := by
  simp [classIter, h]

theorem runClasses_underrep_mono :
    ∀ (cs : List Class) (b : BState), b.underrep = true → (runClasses env sorter cs b).underrep = true := by
  intro cs
  induction cs with
  | nil => intro b h; exact h
  | cons c cs ih =>
    intro b h
    unfold runClasses
    split
    · exact ih b h
    · exact ih _ (classIter_underrep_mono env c _ h)

theorem underrep_of_unoffered (env : Env) (classes : List Class) (sorter : Class → List Slot → List Slot)
    (mounts : List Mount) (reps : List Replica) (c : Class) (hc : c ∉ classes) (hd : env.desired c ≠ 0) :
    (balanceBlock env classes sorter mounts reps).final.underrep = true := by
  apply runClasses_underrep_mono
  show env.wantsSome (fun c => !classes.contains c) = true
  rw [wantsSome_iff]
  exact ⟨c, hd, by simpa using hc⟩

/-- mount and replica of a slot: never changed by balanceBlock -/
def core (s : Slot) : Mount × Option Int := (s.mnt, s.repl)

def CoreRel (l₁ l₂ : List Slot) : Prop := (l₁.map core).Perm (l₂.map core)

theorem CoreRel.refl (l : List Slot) : CoreRel l l := List.Perm.refl _
theorem CoreRel.trans {a b c : List Slot} (h₁ : CoreRel a b) (h₂ : CoreRel b c) : CoreRel a c := List.Perm.trans h₁ h₂
theorem CoreRel.symm {a b : List Slot} (h : CoreRel a b) : CoreRel b a := List.Perm.symm h

theorem coreRel_of_perm {l₁ l₂ : List Slot} (h : l₁.Perm l₂) : CoreRel l₁ l₂ := h.map core

theorem coreRel_map {f : Slot → Slot} {g : Slot → Bool} (hf : ∀ s, f s = { s with want := s.want || g s })
    (l : List Slot) : CoreRel (l.map f) l := by
  unfold CoreRel
  rw [List.map_map, show core ∘ f = core from funext fun s => by rw [Function.comp, hf]; rfl]

theorem coreRel_finalWant (b : BState) : CoreRel (finalWant b) b.slots := coreRel_map (finalSlot_eq b) _

theorem classIter_coreRel (c : Class) {sorted : List Slot} {b : BState}
    (h : sorted.Perm b.slots) : CoreRel (classIter env c sorted b).slots b.slots :=
  (coreRel_map (markWant_eq _) _).trans (coreRel_of_perm h)

theorem runClasses_coreRel (cs : List Class) (b : BState)
    (hok : RunPerm env sorter cs b) : CoreRel (runClasses env sorter cs b).slots b.slots :=
  runClasses_inv env sorter (fun b' => CoreRel b'.slots b.slots)
    (fun c _ _ hp h => (classIter_coreRel env c hp).trans h) cs b hok (CoreRel.refl _)

theorem coreRel_mnt_perm {l₁ l₂ : List Slot} (h : CoreRel l₁ l₂) : (l₁.map (·.mnt)).Perm (l₂.map (·.mnt)) := by
  have := h.map Prod.fst
  simpa [List.map_map, Function.comp_def, core] using this

/-- What the rest of the loop and the last step do to a slot list: the same mounts with the same
replicas in both directions (order and multiplicity aside), and `want` is only switched on. -/
structure Evolves (l l' : List Slot) : Prop where
  back : ∀ s' ∈ l', ∃ s ∈ l, s'.mnt = s.mnt ∧ s'.repl = s.repl ∧ (s.want = true → s'.want = true)
  fwd : ∀ s ∈ l, ∃ s' ∈ l', s'.mnt = s.mnt ∧ s'.repl = s.repl

theorem Evolves.refl (l : List Slot) : Evolves l l :=
  ⟨fun s hs => ⟨s, hs, rfl, rfl, fun h => h⟩, fun s hs => ⟨s, hs, rfl, rfl⟩⟩

theorem Evolves.trans {a b c : List Slot} (h₁ : Evolves a b) (h₂ : Evolves b c) : Evolves a c := by
  constructor
  · intro s'' hs''
    obtain ⟨s', hs', e1, e2, e3⟩ := h₂.back s'' hs''
    obtain ⟨s, hs, f1, f2, f3⟩ := h₁.back s' hs'
    exact ⟨s, hs, e1.trans f1, e2.trans f2, fun h => e3 (f3 h)⟩
  · intro s hs
    obtain ⟨s', hs', e1, e2⟩ := h₁.fwd s hs
    obtain ⟨s'', hs'', f1, f2⟩ := h₂.fwd s' hs'
    exact ⟨s'', hs'', f1.trans e1, f2.trans e2⟩

theorem evolves_perm_map {l S : List Slot} (h : S.Perm l) {f : Slot → Slot} {g : Slot → Bool}
    (hf : ∀ s, f s = { s with want := s.want || g s }) : Evolves l (S.map f) where
  back := by
    intro s' hs'
    obtain ⟨s, hs, rfl⟩ := List.mem_map.1 hs'
    rw [hf]
    exact ⟨s, h.mem_iff.1 hs, rfl, rfl, fun hw => by rw [hw]; rfl⟩
  fwd := fun s hs => ⟨f s, List.mem_map.2 ⟨s, h.mem_iff.2 hs, rfl⟩, by rw [hf], by rw [hf]⟩

theorem evolves_classIter (env : Env) (c : Class) {S : List Slot} {b : BState} (h : S.Perm b.slots) :
    Evolves b.slots (classIter env c S b).slots :=
  evolves_perm_map h (markWant_eq _)

theorem evolves_runClasses (env : Env) (sorter : Class → List Slot → List Slot) (cs : List Class) (b : BState)
    (hok : RunPerm env sorter cs b) : Evolves b.slots (runClasses env sorter cs b).slots :=
  runClasses_inv env sorter (fun b' => Evolves b.slots b'.slots)
    (fun c _ _ hp h => h.trans (evolves_classIter env c hp)) cs b hok (Evolves.refl _)

theorem evolves_finalWant (b : BState) : Evolves b.slots (finalWant b) :=
  evolves_perm_map (List.Perm.refl _) (finalSlot_eq b)

theorem final_origin {env : Env} {classes : List Class} {sorter : Class → List Slot → List Slot}
    {mounts : List Mount} {reps : List Replica} (hok : BalancePerm env classes sorter mounts reps) :
    ∀ s ∈ finalWant (balanceBlock env classes sorter mounts reps).final,
      s.mnt ∈ mounts ∧ s.repl = replicaOn reps s.mnt.id ∧ (s.repl.isSome = true → s.mnt.ro = true → s.want = true) := by
  intro s hs
  obtain ⟨s0, hs0, e1, e2, e3⟩ :=
    ((evolves_runClasses env sorter classes _ hok).trans (evolves_finalWant _)).back s hs
  obtain ⟨h1, h2, h3⟩ := mem_initSlots hs0
  rw [e1, e2]
  exact ⟨h1, h2, fun a b => e3 (by rw [h3, a, b]; rfl)⟩

end ArvVerif.C05
