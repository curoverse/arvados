/-
C06(b) proofs, the producer: keepstore's `handleIndex` emits the complete well-formed response when
every volume succeeded, and otherwise a proper prefix of one (which both readers reject); and the
exact line format of `IndexTo`, `<hash>+<size> <mtime>`
(`fmt.Fprint(w, name, "+", size, " ", mtime.UnixNano(), "\n")`), is a `GoodLine` for ALL sizes and
mtimes in int64 range: the field split finds the single blank and the mtime goes through the decimal
round trip.
-/
import ArvVerif.Proofs.C06_Index
import ArvVerif.Proofs.C06_Decimal
namespace ArvVerif.C06

theorem handleIndex_all_ok (vols : List VolOut) (h : ∀ v ∈ vols, v.ok = true) :
    handleIndex vols = vols.flatMap (·.written) ++ [10] := by
  induction vols with
  | nil => rfl
  | cons v rest ih =>
    obtain ⟨hv, hr⟩ := List.forall_mem_cons.1 h
    simp only [handleIndex, hv, if_true, ih hr, List.flatMap_cons, List.append_assoc]

theorem handleIndex_fail (vols : List VolOut) (h : ∃ v ∈ vols, v.ok = false) :
    ∃ (pre : List VolOut) (v : VolOut), v ∈ vols ∧ v.ok = false ∧ (∀ w ∈ pre, w ∈ vols ∧ w.ok = true) ∧
      handleIndex vols = pre.flatMap (·.written) ++ v.written := by
  induction vols with
  | nil => obtain ⟨v, hv, _⟩ := h; simp at hv
  | cons v rest ih =>
    by_cases hv : v.ok = true
    · obtain ⟨pre, w, hw, hwf, hpre, heq⟩ := ih (by simpa [hv] using h)
      refine ⟨v :: pre, w, List.mem_cons_of_mem _ hw, hwf, List.forall_mem_cons.2 ⟨⟨List.mem_cons_self, hv⟩,
        fun x hx => ⟨List.mem_cons_of_mem _ (hpre x hx).1, (hpre x hx).2⟩⟩, ?_⟩
      simp only [handleIndex, hv, if_true, heq, List.flatMap_cons, List.append_assoc]
    · refine ⟨[], v, by simp, by simpa using hv, by simp, ?_⟩
      simp [handleIndex, hv]

/-- One volume's `IndexTo`: complete lines, then (only when it fails) possibly part of a line. -/
structure VolRun where
  lines : List Line
  part : List Byte
  ok : Bool

def VolRun.out (v : VolRun) : VolOut := ⟨v.lines.flatMap (fun l => l ++ [10]) ++ v.part, v.ok⟩

/-- `IndexTo`'s contract (volume.go): only complete `locator+size mtime\n` lines; an incomplete
line can only be the last thing written before an error. -/
structure VolWF (v : VolRun) : Prop where
  lines : ∀ l ∈ v.lines, LineOK l
  partOk : v.ok = true → v.part = []
  partOf : ∃ full, LineOK full ∧ v.part <+: full

theorem handleIndex_out_ok {v : VolRun} (vs : List VolRun) (hwf : VolWF v) (hv : v.ok = true) :
    handleIndex ((v :: vs).map VolRun.out) =
      v.lines.flatMap (fun l => l ++ [10]) ++ handleIndex (vs.map VolRun.out) := by
  simp [handleIndex, VolRun.out, hv, hwf.partOk hv]

theorem handleIndex_out_fail {v : VolRun} (vs : List VolRun) (hv : ¬ v.ok = true) :
    handleIndex ((v :: vs).map VolRun.out) = v.lines.flatMap (fun l => l ++ [10]) ++ v.part := by
  simp [handleIndex, VolRun.out, hv]

theorem handleIndex_complete (vs : List VolRun) (hwf : ∀ v ∈ vs, VolWF v) (hok : ∀ v ∈ vs, v.ok = true) :
    handleIndex (vs.map VolRun.out) = render (vs.flatMap (·.lines)) := by
  induction vs with
  | nil => rfl
  | cons v rest ih =>
    obtain ⟨hv, hrest⟩ := List.forall_mem_cons.1 hwf
    obtain ⟨hvok, hokrest⟩ := List.forall_mem_cons.1 hok
    rw [handleIndex_out_ok rest hv hvok, ih hrest hokrest, List.flatMap_cons, render_append]

theorem handleIndex_truncated (vs : List VolRun) (hwf : ∀ v ∈ vs, VolWF v) (hf : ∃ v ∈ vs, v.ok = false) :
    ∃ ls t, (∀ l ∈ ls, LineOK l) ∧ t ≠ [] ∧ handleIndex (vs.map VolRun.out) ++ t = render ls := by
  induction vs with
  | nil => obtain ⟨v, hv, _⟩ := hf; simp at hv
  | cons v rest ih =>
    obtain ⟨hv, hrest⟩ := List.forall_mem_cons.1 hwf
    by_cases hvok : v.ok = true
    · obtain ⟨ls, t, hls, ht, heq⟩ := ih hrest (by simpa [hvok] using hf)
      exact ⟨v.lines ++ ls, t, List.forall_mem_append.2 ⟨hv.lines, hls⟩, ht, by
        rw [handleIndex_out_ok rest hv hvok, render_append, ← heq, List.append_assoc]⟩
    · -- missing: the rest of the line that was being written, its `\n`, and the final `\n`
      obtain ⟨full, hfull, r, rfl⟩ := hv.partOf
      exact ⟨v.lines ++ [v.part ++ r], r ++ [10, 10], List.forall_mem_append.2 ⟨hv.lines, by simpa using hfull⟩,
        by simp, by rw [handleIndex_out_fail rest hvok, render_append, render_cons, render_nil]; simp⟩

theorem splitSP_append (a rest : List Byte) (ha : 32 ∉ a) (cur : Line) :
    splitSP (a ++ rest) cur = splitSP rest (a.reverse ++ cur) := by
  induction a generalizing cur with
  | nil => rfl
  | cons x a ih =>
    obtain ⟨hx, ha'⟩ : x ≠ 32 ∧ 32 ∉ a := by simpa [eq_comm] using ha
    simp only [List.cons_append, splitSP, if_neg hx, ih ha', List.reverse_cons, List.append_assoc,
      List.nil_append]

theorem splitSP_one (a b : List Byte) (ha : 32 ∉ a) (hb : 32 ∉ b) : splitSP (a ++ 32 :: b) [] = [a, b] := by
  have := splitSP_append b [] hb []
  simp only [List.append_nil] at this
  simp [splitSP_append a _ ha, splitSP, this]

def isHex (b : Nat) : Prop := (48 ≤ b ∧ b ≤ 57) ∨ (97 ≤ b ∧ b ≤ 102)

/-- the line keepstore's `IndexTo` writes for a block: `<hash>+<size> <mtime>` (without the `\n`) -/
def producerLine (hash : List Nat) (size mtime : Nat) : Line :=
  hash ++ 43 :: decimal size ++ 32 :: decimal mtime

/-- The line the producer writes is a `GoodLine`; the hash bound 64 keeps it below the scanner's
token limit, and the mtime comes back through the legacy-seconds fix `fixMtime`. -/
theorem producerLine_good (hash : List Nat) (size mtime : Nat)
    (hhex : ∀ b : Nat, b ∈ hash → isHex b) (hlen : hash.length ≤ 64) (hs : size < 2 ^ 63) (hm : mtime < 2 ^ 63) :
    GoodLine (producerLine hash size mtime) ⟨hash ++ 43 :: decimal size, fixMtime (mtime : Int)⟩ := by
  have hhex' : ∀ b : Nat, b ∈ hash → 48 ≤ b := fun b hb => by have := hhex b hb; unfold isHex at this; omega
  have hds := decimal_digits size
  have hdm := decimal_digits mtime
  -- hex digits, `+`, decimal digits: no byte below the space, and the space only between the fields
  have ha : ∀ b : Nat, b ∈ hash ++ 43 :: decimal size → 32 < b := by
    intro b hb
    simp only [List.mem_append, List.mem_cons] at hb
    rcases hb with hb | rfl | hb
    · have := hhex' b hb; omega
    · omega
    · have := hds b hb; omega
  have hge : ∀ b : Nat, b ∈ producerLine hash size mtime → 32 ≤ b := by
    intro b hb
    rcases List.mem_append.1 hb with hb | hb
    · exact Nat.le_of_lt (ha b hb)
    · rcases List.mem_cons.1 hb with rfl | hb
      · omega
      · have := hdm b hb; omega
  have hl1 : (decimal size).length ≤ 19 := decimal_length_le size (by omega)
  have hl2 : (decimal mtime).length ≤ 19 := decimal_length_le mtime (by omega)
  refine ⟨⟨by simp [producerLine], fun h => by have := hge 10 h; omega,
    fun h => by have := hge 13 (List.mem_of_mem_head? h); omega⟩,
    fun h => by have := hge 13 (List.mem_of_getLast? h); omega, ?_, ?_⟩
  · simp only [producerLine, List.length_append, List.length_cons, maxTok]
    omega
  · have hsplit := splitSP_one (hash ++ 43 :: decimal size) (decimal mtime)
      (fun h => by have := ha 32 h; omega) fun h => by have := hdm 32 h; omega
    simp only [List.append_assoc, List.cons_append] at hsplit
    simp [parseLine, producerLine, hsplit, parseInt64_decimal mtime hm]

theorem producer_allGood (bs : List (List Nat × Nat × Nat))
    (h : ∀ b ∈ bs, b.1 ≠ [] ∧ (∀ x : Nat, x ∈ b.1 → isHex x) ∧ b.1.length ≤ 64 ∧ b.2.1 < 2 ^ 63 ∧ b.2.2 < 2 ^ 63) :
    AllGood (bs.map (fun b => producerLine b.1 b.2.1 b.2.2))
      (bs.map (fun b => ⟨b.1 ++ 43 :: decimal b.2.1, fixMtime (b.2.2 : Int)⟩)) := by
  induction bs with
  | nil => exact .nil
  | cons b bs ih =>
    obtain ⟨-, h2, h3, h4, h5⟩ := h b (by simp)
    exact .cons (producerLine_good b.1 b.2.1 b.2.2 h2 h3 h4 h5) (ih (fun x hx => h x (by simp [hx])))

end ArvVerif.C06
