/-
C09 helper lemmas: texts of the C09 grammar (streams of the published grammar mixed with empty-directory
markers) through `loadManifest`. A marker line is one operation on the tree (`fsLine_marker_op`): it makes the
directory and its missing ancestors, adds no file and changes no file (`applyOp_marker`). So the loader runs
`ops9 L`, the streams' contributions with the marker operations in between, and the marker operations commute
out (`runOps_mixed`): the result is what C10 says of the streams alone, plus the marker directories and their
ancestors (`fsLoad_mixed`).
-/
import ArvVerif.Proofs.C09_Sim
import ArvVerif.Proofs.C09_Represents
import ArvVerif.Proofs.C09_TextRender
namespace ArvVerif.C09

open ArvVerif.C10 (bSpace bNL bSlash bColon bDot splitOn joinWith fsEscape FsTree fsLine fsLines mapOpt Contrib applyOp runOps
  runOps_append createFile_kind createFileAndParents fsToken fsTokens)

def dirPrefixes : List Bytes → List (List Bytes)
  | [] => []
  | x :: rest => [x] :: (dirPrefixes rest).map (x :: ·)

theorem mem_dirPrefixes : ∀ {m pre : List Bytes}, pre ∈ dirPrefixes m ↔ pre ≠ [] ∧ pre <+: m
  | [], pre => by simp [dirPrefixes]
  | x :: rest, [] => by simp [dirPrefixes]
  | x :: rest, a :: q => by
    -- `[x]` itself, or `x ::` a non-empty prefix of the rest
    by_cases hq : q = []
    · simp [dirPrefixes, hq, eq_comm]
    · simp [dirPrefixes, mem_dirPrefixes (m := rest), List.cons_prefix_cons, hq, eq_comm (a := x)]
      exact and_comm

theorem emptyLoc_fsLocator : C10.fsLocator emptyLoc = some ⟨emptyLoc, 0⟩ ∧ emptyLoc.contains bColon = false := by
  unfold emptyLoc
  rw [str_ofList]
  decide +kernel

theorem markerTok_split : markerTok.contains bColon = true ∧
    C10.splitN3 bColon markerTok = [[48], [48], [92, 48, 53, 54]] := by
  rw [markerTok_eq]; decide +kernel

theorem marker_unescape : C10.fsUnescape [92, 48, 53, 54] = [bDot] := by decide +kernel

theorem parse_zero : C10.parseIntBits 64 [48] = some 0 := by decide +kernel

/-- the operations a text of the C09 grammar asks of the tree: the contributions of a stream; for a marker, the file
`.` below its directory, which makes the directory and nothing else -/
def ops9 : List Line9 → Contrib
  | [] => []
  | Line9.stream s :: rest => C10.contribsOf s.name s.blocks s.files ++ ops9 rest
  | Line9.marker n :: rest => (n ++ bSlash :: [bDot], []) :: ops9 rest

theorem splitOn_slash_dot (n : Bytes) : splitOn bSlash (n ++ bSlash :: [bDot]) = splitOn bSlash n ++ [[bDot]] := by
  rw [C10.splitOn_append_sep_gen]
  rfl

/-- the marker line `<name> d41d8cd98f00b204e9800998ecf8427e+0 0:0:\056`, on any tree -/
theorem fsLine_marker_op {line nm n : Bytes} (hsplit : splitOn bSpace line = [nm, emptyLoc, markerTok])
    (hun : C10.fsUnescape nm = n) (hne : n ≠ []) (t : FsTree) :
    fsLine line t = applyOp (n ++ bSlash :: [bDot], []) t := by
  have htok1 : fsToken emptyLoc ⟨n, [], false, 0, 0⟩ t = some (⟨n, [⟨emptyLoc, 0⟩], false, 0, 0⟩, t) := by
    unfold fsToken
    rw [if_pos (by rw [emptyLoc_fsLocator.2]; exact Bool.false_ne_true)]
    simp [emptyLoc_fsLocator.1]
  have htok2 : fsToken markerTok ⟨n, [⟨emptyLoc, 0⟩], false, 0, 0⟩ t =
      (applyOp (n ++ bSlash :: [bDot], []) t).map (⟨n, [⟨emptyLoc, 0⟩], true, 0, 0⟩, ·) := by
    have hk := (createFile_kind (n ++ bSlash :: [bDot]) t).2
    unfold fsToken applyOp
    rw [if_neg (by rw [markerTok_split.1]; simp), if_neg (by simp), markerTok_split.2]
    simp only [parse_zero, marker_unescape]
    rw [if_neg (by decide)]
    generalize createFileAndParents (n ++ bSlash :: [bDot]) t = r at hk ⊢
    obtain ⟨res, ta⟩ := r
    cases res with
    | file p => exact absurd (by rw [splitOn_slash_dot, List.getLastD_concat]) (hk p rfl)
    | _ => rfl
  unfold fsLine
  rw [hsplit]
  simp only [hun, fsTokens, htok1, htok2]
  cases applyOp (n ++ bSlash :: [bDot], []) t <;> simp [hne]

theorem applyOp_marker (path : List Bytes) (t : FsTree) (hok : C10.componentsOk path = true) (hns : ∀ c ∈ path, bSlash ∉ c)
    (hnofile : ∀ pre, pre ≠ [] → pre <+: path → t.files.any (·.1 = pre) = false) :
    ∃ t', applyOp (prefixOf path ++ bSlash :: [bDot], []) t = some t' ∧ Sim (dirPrefixes path) t t' := by
  obtain ⟨t', hw, hf, hd⟩ := C10.walkParents_spec path [] t hok (by simpa using hnofile)
  have hcfp : createFileAndParents (prefixOf path ++ bSlash :: [bDot]) t = (C10.Created.marker, t') := by
    unfold createFileAndParents
    simp only [splitOn_slash_dot, splitOn_prefixOf path hns, List.dropLast_concat, List.getLastD_concat]
    -- the walk skips the leading `.` of the stream name
    rw [C10.walkParents, if_pos (Or.inr rfl), hw]
    simp
  exact ⟨t', by simp only [applyOp, hcfp], hf, fun d => by simp [hd, mem_dirPrefixes]⟩

def markerDirs : List Line9 → List (List Bytes)
  | [] => []
  | Line9.stream _ :: rest => markerDirs rest
  | Line9.marker n :: rest => dirPrefixes (compsOfName n) ++ markerDirs rest

theorem fsLines_ops9 : ∀ (ls : List Bytes) (L : List Line9), mapOpt specLine9 ls = some L →
    (∀ s ∈ streamsOf L, C10.FitsFs s) → ∀ t, fsLines ls t = runOps (ops9 L) t
  | [], L, hL, _, t => by cases hL; rfl
  | l :: ls, L, hL, hfit, t => by
    obtain ⟨x, xs, h1, h2, rfl⟩ := C10.mapOpt_cons_some specLine9 l ls L hL
    rw [fsLines]
    rcases specLine9_cases h1 with ⟨s, hsl, rfl⟩ | ⟨_, n, hm, rfl⟩
    · obtain ⟨hs, hrest⟩ := List.forall_mem_cons.mp hfit
      rw [C10.fsLine_ops_spec l s hsl hs, ops9, runOps_append]
      cases runOps _ t with
      | none => rfl
      | some ta => exact fsLines_ops9 ls xs h2 hrest ta
    · obtain ⟨nm, hsplit, hu, hname⟩ := markerLine?_some hm
      have hun : C10.fsUnescape nm = n := C10.fsUnescape_spec hu
      rw [fsLine_marker_op hsplit hun (fun e => by rw [e] at hname; cases hname), ops9, runOps]
      cases applyOp _ t with
      | none => rfl
      | some ta => exact fsLines_ops9 ls xs h2 hfit ta

theorem runOps_mixed : ∀ (L : List Line9) (X : List (List Bytes)) (t1 t2 t1F : FsTree),
    (∀ n ∈ markersOf L, C10.specStreamNameOk n = true) → Sim X t1 t2 →
    runOps (C10.manifestContribs (streamsOf L)) t1 = some t1F → (∀ k ∈ keysOf t1F, k ∉ X ++ markerDirs L) →
    ∃ t2F, runOps (ops9 L) t2 = some t2F ∧ Sim (X ++ markerDirs L) t1F t2F
  | [], X, t1, t2, t1F, _, hs, h, _ => by
    cases h
    exact ⟨t2, rfl, by simpa [markerDirs] using hs⟩
  | Line9.stream s :: rest, X, t1, t2, t1F, hm, hs, h, hX => by
    rw [streamsOf, C10.manifestContribs, List.flatMap_cons, runOps_append] at h
    obtain ⟨ta, ha, h⟩ := Option.bind_eq_some_iff.mp h
    obtain ⟨tb, e1, e2⟩ := runOps_sim X _ t1 t2 ta hs ha
      (fun k hk hx => hX k (runOps_keys_mono h k hk) (List.mem_append_left _ hx))
    obtain ⟨t2F, e3, e4⟩ := runOps_mixed rest X ta tb t1F hm e2 h hX
    exact ⟨t2F, by rw [ops9, runOps_append, e1]; exact e3, e4⟩
  | Line9.marker n :: rest, X, t1, t2, t1F, hm, hs, h, hX => by
    simp only [markerDirs, ← List.append_assoc] at hX ⊢
    obtain ⟨hname, hm⟩ := List.forall_mem_cons.mp hm
    obtain ⟨hn, hok, hns⟩ := streamName_comps hname
    -- no ancestor-or-self of the marker's directory is a file: its key would be a key at the end
    have hnofile : ∀ pre, pre ≠ [] → pre <+: compsOfName n → t2.files.any (·.1 = pre) = false := by
      intro pre hp1 hp2
      rw [hs.1, C10.any_key_false_iff]
      intro e he heq
      exact hX pre (runOps_keys_mono h pre (heq ▸ List.mem_map_of_mem he))
        (List.mem_append_left _ (List.mem_append_right _ (mem_dirPrefixes.mpr ⟨hp1, hp2⟩)))
    obtain ⟨t2', m1, m2⟩ := applyOp_marker (compsOfName n) t2 hok hns hnofile
    obtain ⟨t2F, e3, e4⟩ := runOps_mixed rest _ t1 t2' t1F hm (hs.trans m2) h hX
    exact ⟨t2F, by rw [ops9, runOps, hn, m1]; exact e3, e4⟩

theorem markersOf_shape : ∀ (ls : List Bytes) (L : List Line9), mapOpt specLine9 ls = some L →
    ∀ n ∈ markersOf L, C10.specStreamNameOk n = true
  | [], L, h, n, hn => by simp [mapOpt] at h; subst h; cases hn
  | l :: ls, L, h, n, hn => by
    obtain ⟨x, xs, h1, h2, rfl⟩ := C10.mapOpt_cons_some specLine9 l ls L h
    rcases specLine9_cases h1 with ⟨s, _, rfl⟩ | ⟨_, m, hm, rfl⟩
    · exact markersOf_shape ls xs h2 n hn
    · rcases List.mem_cons.mp hn with rfl | hn
      · obtain ⟨_, _, _, hok⟩ := markerLine?_some hm
        exact hok
      · exact markersOf_shape ls xs h2 n hn

theorem mem_markerDirs {L : List Line9} {k : List Bytes} :
    k ∈ markerDirs L ↔ ∃ n ∈ markersOf L, k ∈ dirPrefixes (compsOfName n) := by
  induction L with
  | nil => simp [markerDirs, markersOf]
  | cons x rest ih => cases x <;> simp [markerDirs, markersOf, ih]

theorem fsLoad_mixed (txt : Bytes) (L : List Line9) (hvalid : parse9 txt = some L)
    (hfit : ∀ s ∈ streamsOf L, C10.FitsFs s) (htree : C10.TreeConsistent (streamsOf L))
    (hmark : ∀ p ∈ C10.pathsOf (streamsOf L), ∀ n ∈ markersOf L, p ≠ n ∧ C10.isDirPrefix p n = false) :
    ∃ tr tr1, C10.fsLoad txt = some tr ∧ C10.FsInv (C10.manifestContribs (streamsOf L)) tr1 ∧
      tr.files = tr1.files ∧ ∀ d, d ∈ tr.dirs ↔ (d ∈ tr1.dirs ∨ d ∈ markerDirs L) := by
  obtain ⟨lines, hlines, hload⟩ : ∃ lines, mapOpt specLine9 lines = some L ∧ C10.fsLoad txt = fsLines lines ⟨[], []⟩ := by
    unfold parse9 at hvalid
    split at hvalid
    · next h0 => cases hvalid; subst h0; exact ⟨[], rfl, rfl⟩
    · simp only [] at hvalid
      split at hvalid
      · next hl => exact ⟨_, hvalid, by simp [C10.fsLoad, hl]⟩
      · cases hvalid
  have hline : ∀ x ∈ L, ∃ l, specLine9 l = some x := fun x hx =>
    (C10.mapOpt_mem specLine9 lines L hlines x hx).imp fun _ h => h.2
  obtain ⟨tr1, hrun1, hinv⟩ := C10.runOps_manifest (streamsOf L) (fun s hs => by
    obtain ⟨l, hl⟩ := hline _ (mem_streamsOf.mp hs)
    rcases specLine9_cases hl with ⟨_, hsl, e⟩ | ⟨_, _, _, e⟩ <;> cases e
    exact ⟨l, hsl⟩) htree
  have hshape := markersOf_shape lines L hlines
  -- no file key is a marker directory
  have hX : ∀ k ∈ keysOf tr1, k ∉ [] ++ markerDirs L := by
    intro k hk hx
    simp only [List.nil_append] at hx
    obtain ⟨e, he, rfl⟩ := List.mem_map.mp hk
    obtain ⟨hko, hin, _⟩ := hinv.files e he
    have hp : C10.pathOfKey e.1 ∈ C10.pathsOf (streamsOf L) := contribs_paths hin
    obtain ⟨n, hn, hkn⟩ := mem_markerDirs.mp hx
    obtain ⟨_, rest, hrest⟩ := mem_dirPrefixes.mp hkn
    obtain ⟨hnj, _, _⟩ := streamName_comps (hshape n hn)
    have hn' : C10.pathOfKey (e.1 ++ rest) = n := by rw [hrest]; exact hnj.symm
    obtain ⟨h1, h2⟩ := hmark _ hp n hn
    cases rest with
    | nil => exact h1 (by simpa using hn')
    | cons x r =>
      rw [← hn', C10.isDirPrefix_of_key] at h2
      cases h2
  obtain ⟨tr, e1, e2⟩ := runOps_mixed L [] ⟨[], []⟩ ⟨[], []⟩ tr1 hshape (Sim.refl _) hrun1 hX
  exact ⟨tr, tr1, by rw [hload, fsLines_ops9 lines L hlines hfit]; exact e1, hinv, e2.1, by simpa using e2.2⟩

end ArvVerif.C09
