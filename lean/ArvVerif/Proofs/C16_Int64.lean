/-
C16 part A: Go's int64 arithmetic in node_size.go. `wrap64` depends only on the residue mod 2⁶⁴
(`wrap64_congr`), so intermediate wrap-arounds are harmless: the wrapped estimates equal the
unbounded formulas whenever the final values fit in int64. `InRange` of Props/C16.lean follows from the
explicit bounds on the inputs under which they fit.
-/
import ArvVerif.Model.C16
namespace ArvVerif.C16

theorem wrap64_of_in {x : Int} (h : inInt64 x) : wrap64 x = x := by
  unfold inInt64 at h; unfold wrap64; simp only [two63, two64] at *; omega

theorem wrap64_emod (x : Int) : wrap64 x % two64 = x % two64 := by
  unfold wrap64; rw [Int.emod_sub_emod, Int.add_sub_cancel]

theorem wrap64_congr {a b : Int} (h : a % two64 = b % two64) : wrap64 a = wrap64 b := by
  unfold wrap64; rw [Int.add_emod a, Int.add_emod b, h]

theorem wrap64_add_left (a b : Int) : wrap64 (wrap64 a + b) = wrap64 (a + b) :=
  wrap64_congr (by rw [← Int.emod_add_emod, wrap64_emod, Int.emod_add_emod])

theorem wrap64_mul_left (a k : Int) : wrap64 (wrap64 a * k) = wrap64 (a * k) :=
  wrap64_congr (by rw [Int.mul_emod, wrap64_emod, ← Int.mul_emod])

theorem wrap64_zero : wrap64 0 = 0 := by decide

theorem needRAM64_eq (ram keep reserve : Int) (h : inInt64 ((ram + keep + reserve) * 100)) :
    needRAM64 ram keep reserve = needRAMSpec ram keep reserve := by
  unfold needRAM64 needRAMSpec
  simp only [wrap64_add_left, wrap64_mul_left, wrap64_of_in h]

theorem sum64_eq (cs : List Int) : sum64 cs = wrap64 (cs.foldl (· + ·) 0) := by
  rw [← List.foldl_hom wrap64 (g₂ := fun a c => wrap64 (a + c)) wrap64_add_left, wrap64_zero]; rfl

theorem scratch64_eq (caps : List Int) (img : Int)
    (h1 : inInt64 (caps.foldl (· + ·) 0)) (h2 : inInt64 (scratchSpec caps img)) :
    scratch64 caps img = scratchSpec caps img := by
  unfold scratch64 scratchSpec at *
  simp only [sum64_eq, wrap64_of_in h1]
  exact wrap64_of_in h2

theorem imageSize64_eq (pdh : List UInt8) (h : inInt64 (imageSizeSpec pdh)) :
    imageSize64 pdh = imageSizeSpec pdh := by
  unfold imageSize64 imageSizeSpec at *
  repeat' split
  · rfl
  · rfl
  · exact wrap64_of_in (by simpa [*] using h)

/-- the tmp-capacity sum does not depend on the order in which the mounts map is iterated -/
theorem foldl_add_perm {l1 l2 : List Int} (h : l1.Perm l2) (x : Int) :
    l1.foldl (· + ·) x = l2.foldl (· + ·) x :=
  h.foldl_eq' (fun _ _ _ _ _ => by omega) x

/-- largest |ram + keep_cache + reserve| whose product with 100 fits in int64: ⌊(2⁶³ − 1)/100⌋ ≈ 81.9 PiB -/
def ramSumBound : Int := 92233720368547758

/-- largest manifest length in a PDH for which twice the image estimate stays below 2⁶³: 42·2³⁶ + 79 -/
def imageLenBound : Nat := 2886218022991

/-- bound on the sum of the tmp mount capacities: 2⁶² (4 EiB) -/
def tmpSumBound : Int := 4611686018427387904

theorem ramProduct_inRange (x : Int) (h1 : -ramSumBound ≤ x) (h2 : x ≤ ramSumBound) : inInt64 (x * 100) := by
  unfold inInt64 two63
  unfold ramSumBound at h1 h2
  omega

/-- one more byte and the product wraps: the bound is tight -/
theorem ramProduct_tight : ¬ inInt64 ((ramSumBound + 1) * 100) := by decide

/-- the upper bound is the estimate at `imageLenBound`: (2³⁶ − 1) · 64 MiB = 2⁶² − 2²⁶ -/
theorem imageSizeOfLen_bounds (n : Nat) (h : n ≤ imageLenBound) :
    0 ≤ imageSizeOfLen n ∧ imageSizeOfLen n ≤ 4611686018360279040 := by
  unfold imageSizeOfLen mib64
  unfold imageLenBound at h
  split
  · omega
  · have h1 : 0 ≤ ((n : Int) - 80) / 42 := by omega
    have h2 : ((n : Int) - 80) / 42 ≤ 68719476735 := by omega
    omega

theorem imageSizeSpec_bounds (pdh : List UInt8) (h : ∀ n, pdhSize? pdh = some n → n ≤ imageLenBound) :
    0 ≤ imageSizeSpec pdh ∧ imageSizeSpec pdh ≤ 4611686018360279040 := by
  unfold imageSizeSpec
  repeat' split
  · omega
  · omega
  · exact imageSizeOfLen_bounds _ (h _ ‹_›)

theorem scratchSpec_inRange (caps : List Int) (img : Int)
    (h1 : -tmpSumBound ≤ caps.foldl (· + ·) 0) (h2 : caps.foldl (· + ·) 0 ≤ tmpSumBound)
    (h3 : 0 ≤ img) (h4 : img ≤ 4611686018360279040) : inInt64 (scratchSpec caps img) := by
  unfold scratchSpec inInt64 two63
  unfold tmpSumBound at h1 h2
  dsimp only
  split <;> omega

end ArvVerif.C16
