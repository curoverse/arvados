/-
C03: a handle's sequence of File.Read / File.Seek calls reads the flat file content at the handle's
offset. The pointer invariant `PtrOK`: Seek keeps it (with a whence it is Seek to the computed target,
`fileSeekW_eq`), filenode.seek turns an accurate pointer into one that names a byte of a segment
(`seek_lt`, with `locate_spec` for a stale one), Read restores it.
-/
import ArvVerif.Proofs.C03_Segments
namespace ArvVerif.C03

/-- The pointer invariant: a pointer is stale (Seek changed its offset: recomputed on next use), or at
or beyond the end of the file, or its (segment index, offset in segment) pair names its offset —
possibly sitting exactly at the end of the segment. -/
def PtrOK (segs : List Seg) (p : Ptr) : Prop :=
  p.stale = true ∨ fileSize segs ≤ p.off ∨
  ∃ s, segs[p.idx]? = some s ∧ p.segOff ≤ s.length ∧ fileSize (segs.take p.idx) + p.segOff = p.off

theorem ptrOK_init (segs : List Seg) : PtrOK segs {} := by
  cases segs with
  | nil => exact .inr (.inl (Nat.le_refl _))
  | cons s rest => exact .inr (.inr ⟨s, rfl, Nat.zero_le _, rfl⟩)

theorem ptrOK_next {segs : List Seg} {k off : Nat} {s : Seg} (hk : segs[k]? = some s)
    (hp : fileSize (segs.take k) + s.length = off) :
    PtrOK segs { off := off, idx := k + 1, segOff := 0, stale := false } := by
  cases hn : segs[k + 1]? with
  | none => exact .inr (.inl (Nat.le_of_eq ((fileSize_at_last hk hn).symm.trans hp)))
  | some t => exact .inr (.inr ⟨t, hn, Nat.zero_le _, (fileSize_take_succ hk).trans hp⟩)

theorem ptrOK_fileSeek {segs : List Seg} {p : Ptr} (off : Nat) (h : PtrOK segs p) : PtrOK segs (fileSeek p off) := by
  unfold fileSeek
  split
  · exact h
  · left; rfl

theorem fileSeek_off (p : Ptr) (off : Nat) : (fileSeek p off).off = off := by
  unfold fileSeek
  split
  · exact (‹off = p.off›).symm
  · rfl

/-- the handle's offset after filehandle.Seek(off, whence) at `pos` in a file of `size` bytes: the target,
or `pos` again when the target is negative (the call fails and changes nothing) -/
def seekPos (size pos : Nat) (w : Whence) (off : Int) : Nat :=
  if seekTarget size pos w off < 0 then pos else (seekTarget size pos w off).toNat

theorem fileSeekW_eq (size : Nat) (p : Ptr) (w : Whence) (off : Int) :
    fileSeekW size p w off =
      if seekTarget size p.off w off < 0 then (p, none)
      else (fileSeek p (seekTarget size p.off w off).toNat, some (seekTarget size p.off w off).toNat) := by
  unfold fileSeekW fileSeek
  dsimp only
  split
  · rfl
  · split
    · rename_i h; rw [h]
    · rfl

theorem fileSeekW_off (size : Nat) (p : Ptr) (w : Whence) (off : Int) :
    (fileSeekW size p w off).1.off = seekPos size p.off w off := by
  rw [fileSeekW_eq, seekPos]
  split
  · rfl
  · exact fileSeek_off p _

theorem fileSeekW_pos (size : Nat) (p : Ptr) (w : Whence) (off : Int) :
    ((fileSeekW size p w off).2 = none ↔ seekTarget size p.off w off < 0) ∧
    (∀ n, (fileSeekW size p w off).2 = some n → (fileSeekW size p w off).1.off = n ∧
      (n : Int) = seekTarget size p.off w off) ∧
    ((fileSeekW size p w off).2 = none → (fileSeekW size p w off).1 = p) := by
  rw [fileSeekW_eq]
  split
  next h => exact ⟨⟨fun _ => h, fun _ => rfl⟩, nofun, fun _ => rfl⟩
  next h =>
    refine ⟨⟨nofun, fun hlt => absurd hlt h⟩, fun n hn => ?_, nofun⟩
    cases hn
    exact ⟨fileSeek_off p _, Int.toNat_of_nonneg (Int.not_lt.mp h)⟩

theorem ptrOK_fileSeekW (segs : List Seg) (size : Nat) (p : Ptr) (w : Whence) (off : Int) (h : PtrOK segs p) :
    PtrOK segs (fileSeekW size p w off).1 := by
  rw [fileSeekW_eq]
  split
  · exact h
  · exact ptrOK_fileSeek _ h

theorem fileSeekW_start (size : Nat) (p : Ptr) (off : Nat) :
    fileSeekW size p .start (off : Int) = (fileSeek p off, some off) := by
  rw [fileSeekW_eq]
  exact if_neg (Int.not_lt.mpr (Int.natCast_nonneg off))

theorem locate_spec (target : Nat) (segs : List Seg) (hpos : SegsPos segs) (off0 idx0 : Nat)
    (h1 : off0 ≤ target) (h2 : target < off0 + fileSize segs) :
    ∃ k s, (locate target segs off0 idx0).1 = idx0 + k ∧ segs[k]? = some s ∧
      (locate target segs off0 idx0).2 < s.length ∧
      off0 + fileSize (segs.take k) + (locate target segs off0 idx0).2 = target := by
  fun_induction locate target segs off0 idx0 with
  | case1 => exact absurd h2 (Nat.not_lt.mpr h1)
  | case2 s rest off idx hlt hin =>
    exact ⟨0, s, rfl, rfl, Nat.sub_lt_left_of_lt_add h1 hin, Nat.add_sub_cancel' h1⟩
  | case3 s rest off idx hlt hin ih =>
    rw [fileSize_cons, ← Nat.add_assoc] at h2
    obtain ⟨k, t, e1, e2, e3, e4⟩ := ih (fun u hu => hpos u (List.mem_cons_of_mem _ hu)) (Nat.le_of_not_lt hin) h2
    exact ⟨k + 1, t, by rw [e1, Nat.add_assoc, Nat.add_comm 1], e2, e3,
      by rw [List.take_succ_cons, fileSize_cons, ← Nat.add_assoc]; exact e4⟩
  | case4 s rest off idx hlt =>
    exact ⟨0, s, rfl, rfl, hpos s (List.mem_cons_self ..), Nat.le_antisymm h1 (Nat.le_of_not_lt hlt)⟩

theorem seek_ge {segs : List Seg} {p : Ptr} (hge : fileSize segs ≤ p.off) :
    seek segs p = some { p with idx := segs.length, segOff := 0, stale := false } := by
  simp [seek, hge]

theorem seek_lt {segs : List Seg} (hpos : SegsPos segs) {p : Ptr} (hok : PtrOK segs p)
    (hlt : p.off < fileSize segs) :
    ∃ k s o, seek segs p = some { off := p.off, idx := k, segOff := o, stale := false } ∧
      segs[k]? = some s ∧ o < s.length ∧ fileSize (segs.take k) + o = p.off := by
  unfold seek
  rw [if_neg (Nat.not_le.mpr hlt)]
  cases hst : p.stale with
  | true =>
    obtain ⟨k, s, e1, e2, e3, e4⟩ := locate_spec p.off segs hpos 0 0 (Nat.zero_le _) (by rwa [Nat.zero_add])
    rw [Nat.zero_add] at e1 e4
    exact ⟨k, s, _, by rw [← e1]; rfl, e2, e3, e4⟩
  | false =>
    obtain ⟨off, k, o, st⟩ := p
    cases hst
    rcases hok with h | h | ⟨s, hs, hle, hp⟩
    · cases h
    · exact absurd h (Nat.not_le.mpr hlt)
    · dsimp only at hs hle hp hlt
      simp only [Bool.not_false, if_true, hs]
      by_cases hend : s.length ≤ o
      · rw [if_pos hend]
        cases Nat.le_antisymm hle hend
        -- there is a next segment, because the offset is before the end of the file
        cases hn : segs[k + 1]? with
        | none => rw [fileSize_at_last hs hn] at hp; omega
        | some t =>
          exact ⟨_, t, _, rfl, hn, hpos t (List.mem_of_getElem? hn), (fileSize_take_succ hs).trans hp⟩
      · rw [if_neg hend]
        exact ⟨k, s, o, rfl, hs, Nat.lt_of_not_le hend, hp⟩

theorem fileRead_some {segRead : Seg → Nat → Nat → Bytes × Option Err} {segs : List Seg} {p : Ptr}
    {plen : Nat} {d : Bytes} {e : Option Err} {p' : Ptr}
    (h : fileRead segRead segs p plen = some (d, e, p')) :
    (d = [] ∧ e = some .eof) ∨
    ∃ s ∈ segs, ∃ o, d = (segRead s plen o).1 ∧ (e = (segRead s plen o).2 ∨ d ≠ []) := by
  unfold fileRead at h
  split at h
  · cases h
  · rename_i p1 _
    split at h
    · cases h; exact .inl ⟨rfl, rfl⟩
    · rename_i s hs
      refine .inr ⟨s, List.mem_of_getElem? hs, p1.segOff, ?_⟩
      dsimp only at h
      split at h
      · cases h; exact ⟨rfl, .inl rfl⟩
      · rename_i hn
        have hd : (segRead s plen p1.segOff).1 ≠ [] := fun h0 => hn (by rw [h0]; rfl)
        split at h <;> cases h <;> exact ⟨rfl, .inr hd⟩

theorem fileRead_at_end (blocks : Nat → Bytes) {segs : List Seg} {p : Ptr} (plen : Nat)
    (hge : fileSize segs ≤ p.off) :
    ∃ p', fileRead (vRead blocks) segs p plen = some ([], some .eof, p') ∧ p'.off = p.off ∧ PtrOK segs p' := by
  unfold fileRead
  rw [seek_ge hge]
  simp only
  have : segs[segs.length]? = none := by simp
  rw [this]
  exact ⟨_, rfl, rfl, Or.inr (Or.inl hge)⟩

theorem fileRead_before_end {blocks : Nat → Bytes} {segs : List Seg} (hin : SegsIn blocks segs)
    (hpos : SegsPos segs) {p : Ptr} (hok : PtrOK segs p) (plen : Nat) (hlt : p.off < fileSize segs) :
    ∃ d e p', fileRead (vRead blocks) segs p plen = some (d, e, p') ∧
      d = ((fileContent blocks segs).drop p.off).take d.length ∧
      (∃ s o, o < s.length ∧ s ∈ segs ∧ d.length = min plen (s.length - o)) ∧
      p'.off = p.off + d.length ∧ PtrOK segs p' ∧
      (e = none ∨ (e = some .eof ∧ p'.off = fileSize segs ∧ fileSize segs < p.off + plen)) := by
  obtain ⟨k, s, o, hseek, hs, ho, hp⟩ := seek_lt hpos hok hlt
  have hmem := List.mem_of_getElem? hs
  have hsin := hin s hmem
  unfold fileRead
  rw [hseek]
  simp only [hs, vRead_eq plen (Nat.le_of_lt ho) hsin]
  generalize hd : ((segSlice blocks s).drop o).take plen = d
  have hdlen : d.length = min plen (s.length - o) := by
    rw [← hd, List.length_take, List.length_drop, segSlice_length hsin]
  have hle : o + d.length ≤ s.length :=
    Nat.add_le_of_le_sub' (Nat.le_of_lt ho) (hdlen ▸ Nat.min_le_right _ _)
  -- a prefix of what is left of the segment, hence of what is left of the file
  have hdata := List.prefix_iff_eq_take.mp
    ((hd ▸ List.take_prefix plen _).trans (List.prefix_append _ (fileContent blocks (segs.drop (k + 1)))))
  rw [← fileContent_drop hin hs (Nat.le_of_lt ho), hp] at hdata
  by_cases hend : o + d.length = s.length
  · -- the read ends exactly at the segment's end: the pointer moves to the next segment, and EOF
    -- is reported only if that was the last one
    have hn : d.length ≠ 0 := fun h0 => Nat.ne_of_lt ho (by rw [← hend, h0]; rfl)
    rw [if_neg hn, if_pos hend]
    have hp' : fileSize (segs.take k) + s.length = p.off + d.length := by rw [← hend, ← Nat.add_assoc, hp]
    refine ⟨d, _, _, rfl, hdata, ⟨s, o, ho, hmem, hdlen⟩, rfl, ptrOK_next hs hp', ?_⟩
    by_cases hcut : s.length - o < plen
    · by_cases hmore : k + 1 < segs.length
      · exact .inl (if_pos ⟨hmore, if_pos hcut⟩)
      · have hlast := fileSize_at_last hs (List.getElem?_eq_none_iff.mpr (Nat.not_lt.mp hmore))
        refine .inr ⟨by rw [if_neg (fun h => hmore h.1), if_pos hcut], hp'.symm.trans hlast, ?_⟩
        rw [← hlast, ← hp, Nat.add_assoc]
        exact Nat.add_lt_add_left ((Nat.sub_lt_iff_lt_add' (Nat.le_of_lt ho)).mp hcut) _
    · exact .inl (by rw [if_neg hcut, ite_self])
  · -- the read ends inside the segment (also when nothing was asked for): the request was not cut
    have hfull : ¬ s.length - o < plen := fun hc =>
      hend (by rw [hdlen, Nat.min_eq_right (Nat.le_of_lt hc), Nat.add_sub_cancel' (Nat.le_of_lt ho)])
    refine ⟨d, none, ⟨p.off + d.length, k, o + d.length, false⟩, ?_, hdata, ⟨s, o, ho, hmem, hdlen⟩, rfl,
      .inr (.inr ⟨s, hs, hle, by rw [← Nat.add_assoc, hp]⟩), .inl rfl⟩
    rw [if_neg hfull, if_neg hend]
    split
    · rw [‹d.length = 0›]; rfl
    · rfl

inductive FOp where
  | read (n : Nat)
  | seek (off : Nat)
  | seekW (w : Whence) (off : Int)
deriving Repr, DecidableEq

/-- filehandle.Read / filehandle.Seek(off, whence) calls in sequence (`seek off` = SeekStart with a
non-negative offset), threading the handle's pointer; the results of the Read calls. -/
def runFile (segRead : Seg → Nat → Nat → Bytes × Option Err) (segs : List Seg) :
    Ptr → List FOp → Option (List (Bytes × Option Err))
  | _, [] => some []
  | p, .seek off :: rest => runFile segRead segs (fileSeek p off) rest
  | p, .seekW w off :: rest => runFile segRead segs (fileSeekW (fileSize segs) p w off).1 rest
  | p, .read n :: rest =>
    match fileRead segRead segs p n with
    | none => none
    | some (d, e, p') => (runFile segRead segs p' rest).map ((d, e) :: ·)

/-- The plain-file specification: the results of the Read calls, for a flat byte string `content` and
a position `pos` that Seek sets and Read advances. Short reads are allowed. -/
def Follows (content : Bytes) : Nat → List FOp → List (Bytes × Option Err) → Prop
  | _, [], rs => rs = []
  | _, .seek off :: ops, rs => Follows content off ops rs
  | pos, .seekW w off :: ops, rs => Follows content (seekPos content.length pos w off) ops rs
  | _, .read _ :: _, [] => False
  | pos, .read n :: ops, (d, e) :: rs =>
    d = (content.drop pos).take d.length ∧ d.length ≤ n ∧
    (d = [] → n = 0 ∨ content.length ≤ pos) ∧
    (e = none ∨ (e = some .eof ∧ content.length ≤ pos + d.length ∧ content.length < pos + n + 1)) ∧
    (content.length ≤ pos → e = some .eof) ∧
    Follows content (pos + d.length) ops rs

theorem runFile_follows (blocks : Nat → Bytes) (segs : List Seg) (hin : SegsIn blocks segs)
    (hpos : SegsPos segs) (ops : List FOp) (p : Ptr) (hok : PtrOK segs p) :
    ∃ rs, runFile (vRead blocks) segs p ops = some rs ∧ Follows (fileContent blocks segs) p.off ops rs := by
  have hclen := fileContent_length hin
  induction ops generalizing p with
  | nil => exact ⟨[], rfl, rfl⟩
  | cons op rest ih =>
    cases op with
    | seek off =>
      obtain ⟨rs, h1, h2⟩ := ih (fileSeek p off) (ptrOK_fileSeek off hok)
      rw [fileSeek_off] at h2
      exact ⟨rs, h1, h2⟩
    | seekW w off =>
      obtain ⟨rs, h1, h2⟩ := ih (fileSeekW (fileSize segs) p w off).1 (ptrOK_fileSeekW segs _ p w off hok)
      rw [fileSeekW_off, ← hclen] at h2
      exact ⟨rs, h1, h2⟩
    | read n =>
      by_cases hlt : p.off < fileSize segs
      · obtain ⟨d, e, p', hr, hd, ⟨s, o, ho, _, hlen⟩, hoff, hok', herr⟩ :=
          fileRead_before_end hin hpos hok n hlt
        obtain ⟨rs, h1, h2⟩ := ih p' hok'
        rw [hoff] at h2
        refine ⟨(d, e) :: rs, by rw [runFile, hr]; dsimp only; rw [h1]; rfl,
          hd, hlen ▸ Nat.min_le_left _ _, fun hnil => .inl ?_, ?_, fun h => absurd (hclen ▸ h) (Nat.not_le.mpr hlt), h2⟩
        · rw [hnil, List.length_nil] at hlen
          omega
        · rcases herr with h | ⟨h, h3, h4⟩
          · exact .inl h
          · exact .inr ⟨h, Nat.le_of_eq (by rw [hclen, ← h3, hoff]), Nat.lt_succ_of_lt (hclen ▸ h4)⟩
      · have hge : (fileContent blocks segs).length ≤ p.off := hclen ▸ Nat.le_of_not_lt hlt
        obtain ⟨p', hr, hoff, hok'⟩ := fileRead_at_end blocks n (Nat.le_of_not_lt hlt)
        obtain ⟨rs, h1, h2⟩ := ih p' hok'
        rw [hoff] at h2
        exact ⟨([], some .eof) :: rs, by rw [runFile, hr]; dsimp only; rw [h1]; rfl,
          rfl, Nat.zero_le _, fun _ => .inr hge,
          .inr ⟨rfl, hge, Nat.lt_succ_of_le (Nat.le_trans hge (Nat.le_add_right _ _))⟩, fun _ => rfl, h2⟩

end ArvVerif.C03
