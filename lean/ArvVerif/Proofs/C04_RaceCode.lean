/-
C04 interleaving layer: machinery for checking an inductive invariant given as an explicit table.

For each of the 144 configurations `Proofs/C04_RaceTable.lean` lists the (mixed-radix) codes of the
reachable states of `Model/C04_Race.lean`. Nothing about the table is trusted: `checkTable` (evaluated
by the kernel in `Proofs/C04_RaceCheck*.lean`) verifies that the table contains the code of the initial
state and, for the decoding of every entry, the codes of both threads' successors, and evaluates a
per-state predicate on every member. Since `decode (code s) = s`, the decoded table is then an inductive
invariant, and `checkTable_run` gives the predicate for `run sched (init c)`, for every `sched`.
The definitions are written so that kernel evaluation forces each state and each code once
(`withForced`, `forceNat`).
-/
import ArvVerif.Model.C04_Race
namespace ArvVerif.C04.Race

def encB (b : Bool) : Nat := if b then 1 else 0
def decB (n : Nat) : Bool := n != 0
def encOI : Option Ino → Nat | none => 0 | some i => i.ctorIdx + 1
def decOI (n : Nat) : Option Ino := bif n.ble 0 then none else some (.ofNat (n - 1))
def encOT : Option Thr → Nat | none => 0 | some y => y.ctorIdx + 1
def decOT (n : Nat) : Option Thr := bif n.ble 0 then none else some (.ofNat (n - 1))

/-- one mixed-radix digit `a` (radix `k`) below the digits `b`; on `Nat.add`/`Nat.mul` themselves, so that kernel
evaluation has no instances to unfold -/
def dg (a k b : Nat) : Nat := Nat.add a (Nat.mul k b)

/-- mixed-radix code of a state (least significant field first); each radix is the number of values of its field
(18 program counters of P, 11 of T, …), the last field needs none -/
def code : St → Nat
  | ⟨⟨ser, l0, pre, old, pop, top⟩, pcP, pcT, locA, locB, locX, aT, xT, fdP, fdT, fA, fB, fX, mu, wP, wT, rP, rT⟩ =>
    dg (encB ser) 2 <| dg (encB l0) 2 <| dg pre.ctorIdx 3 <| dg (encB old) 2 <| dg pop.ctorIdx 2 <| dg top.ctorIdx 3 <|
    dg pcP.ctorIdx 18 <| dg pcT.ctorIdx 11 <| dg locA.ctorIdx 5 <| dg locB.ctorIdx 5 <| dg locX.ctorIdx 5 <|
    dg (encB aT) 2 <| dg (encB xT) 2 <| dg (encOI fdP) 4 <| dg (encOI fdT) 4 <| dg (encOT fA) 3 <| dg (encOT fB) 3 <|
    dg (encOT fX) 3 <| dg (encOT mu) 3 <| dg (encB wP) 2 <| dg (encB wT) 2 <| dg rP.ctorIdx 4 rT.ctorIdx

/-- evaluate `n` to a numeral before using it -/
def forceNat {α : Type} (n : Nat) (k : Nat → α) : α := match n with | 0 => k 0 | m+1 => k (m+1)

theorem forceNat_eq {α : Type} (n : Nat) (k : Nat → α) : forceNat n k = k n := by cases n <;> rfl

/-- each quotient is evaluated to a numeral before it is used: with plain `let`s the kernel redoes the
chain of divisions for every field -/
def decode (n0 : Nat) : St :=
  forceNat (n0 / 2) fun n1 => forceNat (n1 / 2) fun n2 => forceNat (n2 / 3) fun n3 => forceNat (n3 / 2) fun n4 =>
  forceNat (n4 / 2) fun n5 => forceNat (n5 / 3) fun n6 => forceNat (n6 / 18) fun n7 => forceNat (n7 / 11) fun n8 =>
  forceNat (n8 / 5) fun n9 => forceNat (n9 / 5) fun n10 => forceNat (n10 / 5) fun n11 => forceNat (n11 / 2) fun n12 =>
  forceNat (n12 / 2) fun n13 => forceNat (n13 / 4) fun n14 => forceNat (n14 / 4) fun n15 => forceNat (n15 / 3) fun n16 =>
  forceNat (n16 / 3) fun n17 => forceNat (n17 / 3) fun n18 => forceNat (n18 / 3) fun n19 => forceNat (n19 / 2) fun n20 =>
  forceNat (n20 / 2) fun n21 => forceNat (n21 / 4) fun n22 =>
  { cfg := { serialize := decB (n0 % 2), life0 := decB (n1 % 2), pre := .ofNat (n2 % 3), ageOld := decB (n3 % 2),
             pop := .ofNat (n4 % 2), top := .ofNat (n5 % 3) }
    pcP := .ofNat (n6 % 18), pcT := .ofNat (n7 % 11), locA := .ofNat (n8 % 5), locB := .ofNat (n9 % 5)
    locX := .ofNat (n10 % 5), aTouched := decB (n11 % 2), xTouched := decB (n12 % 2)
    fdP := decOI (n13 % 4), fdT := decOI (n14 % 4), flockA := decOT (n15 % 3), flockB := decOT (n16 % 3)
    flockX := decOT (n17 % 3), mutex := decOT (n18 % 3), waitP := decB (n19 % 2), waitT := decB (n20 % 2)
    resP := .ofNat (n21 % 4), resT := .ofNat (n22 % 7) }

theorem dec_encB (b : Bool) : decB (encB b) = b ∧ encB b < 2 := by cases b <;> exact ⟨rfl, by decide⟩
theorem dec_encPre (x : Pre) : Pre.ofNat x.ctorIdx = x ∧ x.ctorIdx < 3 := by cases x <;> exact ⟨rfl, by decide⟩
theorem dec_encPOp (x : POp) : POp.ofNat x.ctorIdx = x ∧ x.ctorIdx < 2 := by cases x <;> exact ⟨rfl, by decide⟩
theorem dec_encTOp (x : TOp) : TOp.ofNat x.ctorIdx = x ∧ x.ctorIdx < 3 := by cases x <;> exact ⟨rfl, by decide⟩
theorem dec_encPPC (x : PPC) : PPC.ofNat x.ctorIdx = x ∧ x.ctorIdx < 18 := by cases x <;> exact ⟨rfl, by decide⟩
theorem dec_encTPC (x : TPC) : TPC.ofNat x.ctorIdx = x ∧ x.ctorIdx < 11 := by cases x <;> exact ⟨rfl, by decide⟩
theorem dec_encLoc (x : Loc) : Loc.ofNat x.ctorIdx = x ∧ x.ctorIdx < 5 := by cases x <;> exact ⟨rfl, by decide⟩
theorem dec_encOI (x : Option Ino) : decOI (encOI x) = x ∧ encOI x < 4 := by
  rcases x with _ | i
  · exact ⟨rfl, by decide⟩
  · cases i <;> exact ⟨rfl, by decide⟩
theorem dec_encOT (x : Option Thr) : decOT (encOT x) = x ∧ encOT x < 3 := by
  rcases x with _ | y
  · exact ⟨rfl, by decide⟩
  · cases y <;> exact ⟨rfl, by decide⟩
theorem dec_encPRes (x : PRes) : PRes.ofNat x.ctorIdx = x ∧ x.ctorIdx < 4 := by cases x <;> exact ⟨rfl, by decide⟩
-- the top digit: nothing sits above it, so no bound is needed; `decode` reduces it `% 7`
theorem dec_encTRes (x : TRes) : TRes.ofNat (x.ctorIdx % 7) = x := by cases x <;> rfl

theorem digit {k a : Nat} (h : a < k) (b : Nat) : dg a k b / k = b ∧ dg a k b % k = a := by
  show (a + k * b) / k = b ∧ (a + k * b) % k = a
  rw [Nat.add_mul_div_left _ _ (Nat.zero_lt_of_lt h), Nat.div_eq_of_lt h, Nat.zero_add, Nat.add_mul_mod_self_left,
    Nat.mod_eq_of_lt h]
  exact ⟨rfl, rfl⟩

theorem decode_code (s : St) : decode (code s) = s := by
  obtain ⟨⟨ser, l0, pre, old, pop, top⟩, pcP, pcT, locA, locB, locX, aT, xT, fdP, fdT, fA, fB, fX, mu, wP, wT, rP, rT⟩ := s
  -- (`simp only [code]` is very slow here)
  unfold code decode
  simp only [forceNat_eq]
  simp only [digit (dec_encB _).2, digit (dec_encPre _).2, digit (dec_encPOp _).2, digit (dec_encTOp _).2,
    digit (dec_encPPC _).2, digit (dec_encTPC _).2, digit (dec_encLoc _).2, digit (dec_encOI _).2,
    digit (dec_encOT _).2, digit (dec_encPRes _).2,
    dec_encB, dec_encPre, dec_encPOp, dec_encTOp, dec_encPPC, dec_encTPC, dec_encLoc, dec_encOI, dec_encOT,
    dec_encPRes, dec_encTRes]

/-- evaluate `s` to constructor form before using it -/
def withForced {α : Type} (s : St) (k : St → α) : α :=
  match s with
  | ⟨⟨ser, l0, pre, old, pop, top⟩, pcP, pcT, locA, locB, locX, aT, xT, fdP, fdT, fA, fB, fX, mu, wP, wT, rP, rT⟩ =>
    k ⟨⟨ser, l0, pre, old, pop, top⟩, pcP, pcT, locA, locB, locX, aT, xT, fdP, fdT, fA, fB, fX, mu, wP, wT, rP, rT⟩

theorem withForced_eq {α : Type} (s : St) (k : St → α) : withForced s k = k s := rfl

/-- search tree over an ascending row of the table: membership in at most 7 comparisons where a scan of the list
costs the kernel some hundred allocations per entry passed -/
inductive Tree | leaf | node (l : Tree) (x : Nat) (r : Tree)

def Tree.mem : Tree → Nat → Bool
  | .leaf, _ => false
  | .node l x r, y => bif Nat.blt y x then l.mem y else bif Nat.beq x y then true else r.mem y

/-- a balanced tree of the first `k` elements of `l`, in their order, and the rest of `l` -/
def build : Nat → Nat → List Nat → Tree × List Nat
  | 0, _, l => (.leaf, l)
  | fuel+1, k, l =>
    bif Nat.beq k 0 then (.leaf, l) else
    match build fuel (k / 2) l with
    | (lt, x :: rest) => let r := build fuel (k - k / 2 - 1) rest; (.node lt x r.1, r.2)
    | (lt, []) => (lt, [])

def treeOf (R : List Nat) : Tree := (build R.length R.length R).1

/-- soundness only: whatever `build` puts into the tree or hands back comes from its input (that the tree is
ordered and complete is what the evaluation of the check finds out) -/
theorem build_sub (fuel : Nat) : ∀ (k : Nat) (l : List Nat),
    (∀ y, (build fuel k l).1.mem y = true → y ∈ l) ∧ ∀ y ∈ (build fuel k l).2, y ∈ l := by
  induction fuel with
  | zero => exact fun _ _ => ⟨fun _ h => (by cases h), fun _ h => h⟩
  | succ fuel ih =>
    intro k l
    unfold build
    cases Nat.beq k 0
    · obtain ⟨h1, h2⟩ := ih (k / 2) l
      revert h1 h2
      rcases build fuel (k / 2) l with ⟨lt, _ | ⟨x, rest⟩⟩
      · exact fun h1 _ => ⟨h1, fun _ h => (by cases h)⟩
      · intro h1 h2
        obtain ⟨g1, g2⟩ := ih (k - k / 2 - 1) rest
        refine ⟨fun y hy => ?_, fun y hy => h2 y (List.mem_cons_of_mem _ (g2 y hy))⟩
        simp only [cond_false, Tree.mem] at hy
        cases hlt : Nat.blt y x <;> rw [hlt] at hy
        · cases heq : Nat.beq x y <;> rw [heq] at hy
          · exact h2 y (List.mem_cons_of_mem _ (g1 y hy))
          · exact Nat.eq_of_beq_eq_true heq ▸ h2 x List.mem_cons_self
        · exact h1 y hy
    · exact ⟨fun _ h => (by cases h), fun _ h => h⟩

theorem treeOf_sound {R : List Nat} {x : Nat} (h : (treeOf R).mem x = true) : x ∈ R :=
  (build_sub _ _ _).1 x h

def St.acked (s : St) : Bool := s.resP = .okTouch || s.resP = .okWrite

def St.protected (s : St) : Bool :=
  match s.blk with
  | some i => s.fresh i && (s.cfg.pop != .put || s.good i)
  | none => false

def ackSafe (s : St) : Bool := !s.acked || s.protected

/-- Volume contract (volume.go): not both "Touch succeeded" and "Trash trashed" -/
def contract (s : St) : Bool := !(s.resP = .okTouch && s.resT = .trashed)

def finished (s : St) : Bool := s.pcP = .done && s.pcT = .done

def rankP : PPC → Nat
  | .cStat => 17 | .cLock => 16 | .cOpen => 15 | .cRead => 14 | .tOpen => 13 | .tLock => 12 | .tFlock => 11
  | .tChtimes => 10 | .wMkdir => 9 | .wTemp => 8 | .wLock => 7 | .wCopy => 6 | .wClose => 5 | .wChtimes => 4
  | .wOpenOld => 3 | .wFlockOld => 2 | .wRename => 1 | .done => 0
def rankT : TPC → Nat
  | .iMtime => 7 | .dLock => 6 | .dOpen => 5 | .dFlock => 4 | .dStat => 3 | .dRemove => 2 | .dRename => 1
  | .uReadDir => 3 | .uRename => 2 | .uChtimes => 1 | .done => 0
def rank (s : St) : Nat := rankP s.pcP + rankT s.pcT

def checkTable (ok : St → Bool) (c : Cfg) (R : List Nat) : Bool :=
  (fun t => t.mem (code (init c)) &&
    R.all fun n => withForced (decode n) fun s =>
      forceNat (code (stepP s)) t.mem && forceNat (code (stepT s)) t.mem && ok s) (treeOf R)

theorem checkTable_run {ok : St → Bool} {c : Cfg} {R : List Nat} (h : checkTable ok c R = true)
    (sched : List Bool) : ok (run sched (init c)) = true := by
  simp only [checkTable, Bool.and_eq_true, List.all_eq_true, withForced_eq, forceNat_eq] at h
  have inv : ∀ s, (treeOf R).mem (code s) = true → ∃ n ∈ R, decode n = s :=
    fun s hs => ⟨code s, treeOf_sound hs, decode_code s⟩
  suffices ∀ s, (∃ n ∈ R, decode n = s) → ok (run sched s) = true from this _ (inv _ h.1)
  induction sched with
  | nil => rintro _ ⟨n, hn, rfl⟩; exact (h.2 n hn).2
  | cons x xs ih =>
    rintro _ ⟨n, hn, rfl⟩
    cases x
    · exact ih _ (inv _ (h.2 n hn).1.2)
    · exact ih _ (inv _ (h.2 n hn).1.1)

def cfgGroup (ser l0 : Bool) : List Cfg :=
  [Pre.absent, Pre.good, Pre.corrupt].flatMap fun pre => [false, true].flatMap fun old =>
  [POp.touch, POp.put].flatMap fun pop => [TOp.del, TOp.ti, TOp.untrash].map fun top =>
  { serialize := ser, life0 := l0, pre := pre, ageOld := old, pop := pop, top := top }

def allCfgs : List Cfg :=
  [false, true].flatMap fun ser => [false, true].flatMap fun l0 => cfgGroup ser l0

def cfgIdx (c : Cfg) : Nat :=
  ((((encB c.serialize * 2 + encB c.life0) * 3 + c.pre.ctorIdx) * 2 + encB c.ageOld) * 2 + c.pop.ctorIdx) * 3 + c.top.ctorIdx

theorem mem_cfgGroup (c : Cfg) : c ∈ cfgGroup c.serialize c.life0 := by
  simp only [cfgGroup, List.mem_flatMap, List.mem_map]
  exact ⟨c.pre, by cases c.pre <;> simp, c.ageOld, by cases c.ageOld <;> simp, c.pop, by cases c.pop <;> simp,
    c.top, by cases c.top <;> simp, rfl⟩

theorem mem_allCfgs (c : Cfg) : c ∈ allCfgs := by
  unfold allCfgs
  simp only [List.mem_flatMap]
  exact ⟨c.serialize, by cases c.serialize <;> simp, c.life0, by cases c.life0 <;> simp, mem_cfgGroup c⟩

end ArvVerif.C04.Race
