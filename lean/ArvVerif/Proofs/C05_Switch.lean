/-
C05 helper lemmas: the steps around the class loop. Before it, slot construction (`initSlots`);
after it, `finalSlot` and the final switch (`change`): what an entry of the change list says about
its slot. `Env.wantsSome` is the test behind the initial under-replication flag and the lost flag.
-/
import ArvVerif.Model.C05
namespace ArvVerif.C05

theorem mem_initSlots {mounts : List Mount} {reps : List Replica} {s : Slot}
    (h : s ∈ initSlots mounts reps) :
    s.mnt ∈ mounts ∧ s.repl = replicaOn reps s.mnt.id ∧ s.want = (s.repl.isSome && s.mnt.ro) := by
  unfold initSlots at h
  obtain ⟨m, hm, rfl⟩ := List.mem_map.1 h
  exact ⟨hm, rfl, rfl⟩

theorem initSlots_mnt (mounts : List Mount) (reps : List Replica) :
    (initSlots mounts reps).map (·.mnt) = mounts := by
  unfold initSlots
  rw [List.map_map]
  exact List.map_id _

/-- `range blk.Desired` finds a wanted class with property `p` iff there is one -/
theorem wantsSome_iff (env : Env) (p : Class → Bool) :
    env.wantsSome p = true ↔ ∃ c, env.desired c ≠ 0 ∧ p c = true := by
  unfold Env.wantsSome
  rw [List.any_eq_true]
  constructor
  · rintro ⟨e, _, he⟩
    simp only [Bool.and_eq_true, decide_eq_true_eq] at he
    exact ⟨e.1, he.1, he.2⟩
  · rintro ⟨c, hd, hp⟩
    -- the entry that `blk.Desired[c]` reads is in the map
    cases hf : env.desiredMap.find? (fun q => q.1 == c) with
    | none => exact absurd (by unfold Env.desired lookupD; rw [hf]; rfl) hd
    | some e =>
      have hec : e.1 = c := by simpa using List.find?_some hf
      exact ⟨e, List.mem_of_find?_eq_some hf, by simp [hec, hd, hp]⟩

theorem classes_any_iff (env : Env) (classes : List Class) :
    classes.any (fun c => env.desired c != 0) = true ↔ ∃ c ∈ classes, env.desired c ≠ 0 := by
  simp only [List.any_eq_true, bne_iff_ne]

theorem finalSlot_eq (b : BState) (s : Slot) :
    finalSlot b s = { s with want := s.want || s.repl.any fun t => b.underrep || b.utd.contains t } := by
  obtain ⟨m, _ | t, w⟩ := s <;> simp only [finalSlot, Option.any_none, Option.any_some, Bool.or_false]
  cases (b.underrep || b.utd.contains t) <;> simp

theorem finalSlot_want_of {b : BState} {s : Slot} {t : Int} (hr : s.repl = some t)
    (h : s.want = true ∨ b.underrep = true ∨ t ∈ b.utd) : (finalSlot b s).want = true := by
  simpa [finalSlot_eq, hr] using h

theorem want_of_underrep {b : BState} (hu : b.underrep = true) :
    ∀ s ∈ finalWant b, ∀ t, s.repl = some t → s.want = true := by
  intro s hs t ht
  obtain ⟨s0, _, rfl⟩ := List.mem_map.1 hs
  exact finalSlot_want_of (by simpa [finalSlot_eq] using ht) (Or.inr (Or.inl hu))

theorem mem_changes {env : Env} {classes : List Class} {sorter : Class → List Slot → List Slot}
    {mounts : List Mount} {reps : List Replica} {p : Slot × Change}
    (hp : p ∈ (balanceBlock env classes sorter mounts reps).changes) :
    p.1 ∈ finalWant (balanceBlock env classes sorter mounts reps).final ∧ p.2 = change env reps p.1 := by
  unfold balanceBlock at hp ⊢
  simp only [List.mem_map] at hp
  obtain ⟨s, hs, rfl⟩ := hp
  exact ⟨hs, rfl⟩

theorem change_trash {env : Env} {reps : List Replica} {s : Slot} {t : Int}
    (h : change env reps s = .trash t) : s.repl = some t ∧ s.want = false ∧ t < env.minMtime := by
  unfold change at h
  repeat' split at h
  all_goals simp_all

theorem change_pull {env : Env} {reps : List Replica} {s : Slot} {src : Option Nat}
    (h : change env reps s = .pull src) :
    s.repl = none ∧ s.want = true ∧ s.mnt.ro = false ∧ ∃ r rest, reps = r :: rest ∧ src = some r.srv := by
  unfold change at h
  repeat' split at h
  all_goals cases reps <;> simp_all

theorem change_lost {env : Env} {reps : List Replica} {s : Slot} :
    change env reps s = .lost ↔ s.repl = none ∧ s.want = true ∧ reps = [] := by
  unfold change
  repeat' split
  all_goals simp_all

theorem mem_trashes {r : Result} {s : Slot} {t : Int} : (s, t) ∈ r.trashes ↔ (s, Change.trash t) ∈ r.changes := by
  unfold Result.trashes
  simp only [List.mem_filterMap]
  constructor
  · rintro ⟨⟨s', ch⟩, hp, hm⟩
    cases ch <;> cases hm
    exact hp
  · exact fun h => ⟨(s, .trash t), h, rfl⟩

end ArvVerif.C05
