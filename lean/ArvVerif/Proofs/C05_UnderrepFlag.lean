/-
C05 helper lemmas: the code's own under-replication test. The `safe` loop with its `break`
decides `Σ < desired` for the mounts it would count (`safeCount_lt`); whatever the order of the
slots these are one view of every device holding the block in the class, so the sum is `physRepl`
of the held mounts (`countedSafe_sum`); hence the flag is set at the end whenever an offered wanted
class is physically under-replicated (`underrep_of_phys`). The property clauses do not rest on
this: `final_guar` shows that such a class cannot fill its protection quota, flag or no flag.
-/
import ArvVerif.Proofs.C05_Loop
import ArvVerif.Proofs.C05_Devices
namespace ArvVerif.C05

/-- the mounts the `safe` loop would count if it did not `break` -/
def countedSafe (c : Class) : List Slot → List Dev → List Mount
  | [], _ => []
  | s :: rest, seen =>
    if s.repl.isNone || !inClass c s.mnt || seen.contains s.mnt.dev then countedSafe c rest seen
    else s.mnt :: countedSafe c rest (if s.mnt.dev != 0 then s.mnt.dev :: seen else seen)

/-- the `safe` loop with its `break` decides `Σ < desired` -/
theorem safeCount_lt (c : Class) (d : Nat) : ∀ (l : List Slot) (seen : List Dev) (acc : Nat),
    safeCount c d l seen acc < d ↔ acc + ((countedSafe c l seen).map (·.repl)).sum < d := by
  intro l
  induction l with
  | nil => intro seen acc; simp [safeCount, countedSafe]
  | cons s l ih =>
    intro seen acc
    unfold safeCount countedSafe
    by_cases h : (s.repl.isNone || !inClass c s.mnt || seen.contains s.mnt.dev) = true
    · rw [if_pos h, if_pos h]; exact ih seen acc
    · rw [if_neg h, if_neg h]
      simp only [List.map_cons, List.sum_cons]
      split
      · omega
      · rw [ih]; omega

theorem runClasses_underrep (env : Env) (sorter : Class → List Slot → List Slot) (c' : Class) :
    ∀ (cs : List Class) (b : BState), RunPerm env sorter cs b → c' ∈ cs → env.desired c' ≠ 0 →
      (∀ l, CoreRel l b.slots → safeCount c' (env.desired c') l [] 0 < env.desired c') →
      (runClasses env sorter cs b).underrep = true :=
  runClasses_of_mem env sorter c'
    (fun b => ∀ l, CoreRel l b.slots → safeCount c' (env.desired c') l [] 0 < env.desired c') (fun b => b.underrep = true)
    (fun c _ _ hp h l hl => h l (hl.trans (classIter_coreRel env c hp)))
    (fun _ hp h => by simp [classIter, h _ (coreRel_of_perm hp)])
    (fun c _ _ _ h => classIter_underrep_mono env c _ h)

/-- the held mounts are read off the cores, so lists with the same cores hold the same mounts -/
theorem heldOf_perm {l l' : List Slot} (h : CoreRel l l') : (heldOf l).Perm (heldOf l') := by
  have e : ∀ l : List Slot, heldOf l = ((l.map core).filter (fun p => p.2.isSome)).map Prod.fst := fun l => by
    unfold heldOf
    rw [List.filter_map, List.map_map]
    rfl
  rw [e, e]
  exact (h.filter _).map _

theorem countedSafe_spec (c : Class) : ∀ (l : List Slot) (seen : List Dev), IdsDistinct l →
    (∀ k ∈ countedSafe c l seen,
      (∃ s ∈ l, s.mnt = k ∧ s.repl.isSome = true) ∧ inClass c k = true ∧ seen.contains k.dev = false) ∧
    ((countedSafe c l seen).map devKey).Nodup ∧
    (∀ s ∈ l, s.repl.isSome = true → inClass c s.mnt = true →
      seen.contains s.mnt.dev = true ∨ ∃ k ∈ countedSafe c l seen, devKey k = devKey s.mnt) := by
  intro l
  induction l with
  | nil => intro _ _; exact ⟨fun _ hk => (nomatch hk), List.nodup_nil, fun _ hs => (nomatch hs)⟩
  | cons s0 l ih =>
    intro seen hid
    have hid' := List.pairwise_cons.1 (show (s0.mnt :: l.map (·.mnt)).Pairwise (fun a b => a.id ≠ b.id) from hid)
    unfold countedSafe
    by_cases h : (s0.repl.isNone || !inClass c s0.mnt || seen.contains s0.mnt.dev) = true
    · rw [if_pos h]
      obtain ⟨ha, hb, hc⟩ := ih seen hid'.2
      refine ⟨fun k hk => ?_, hb, fun s hs hr hin => ?_⟩
      · obtain ⟨⟨s', hs', e⟩, a2, a3⟩ := ha k hk
        exact ⟨⟨s', List.mem_cons_of_mem _ hs', e⟩, a2, a3⟩
      · rcases List.mem_cons.1 hs with rfl | hs'
        · obtain ⟨t, hrr⟩ := Option.isSome_iff_exists.1 hr
          rw [hrr, hin] at h
          exact Or.inl (by simpa using h)
        · exact hc s hs' hr hin
    · rw [if_neg h]
      have h' := Bool.eq_false_iff.mpr h
      simp only [Bool.or_eq_false_iff, Bool.not_eq_false'] at h'
      obtain ⟨ha, hb, hc⟩ := ih (if s0.mnt.dev != 0 then s0.mnt.dev :: seen else seen) hid'.2
      refine ⟨fun k hk => ?_, ?_, fun s hs hr hin => ?_⟩
      · rcases List.mem_cons.1 hk with rfl | hk'
        · exact ⟨⟨s0, List.mem_cons_self .., rfl, by simpa using h'.1.1⟩, h'.1.2, h'.2⟩
        · obtain ⟨⟨s', hs', e⟩, a2, a3⟩ := ha k hk'
          refine ⟨⟨s', List.mem_cons_of_mem _ hs', e⟩, a2, ?_⟩
          cases hc' : seen.contains k.dev with
          | false => rfl
          | true => rw [contains_condCons _ _ hc'] at a3; cases a3
      · -- a counted mount of the tail is no view of the device of `s0`
        refine List.nodup_cons.2 ⟨fun hmem => ?_, hb⟩
        obtain ⟨k, hk, hkey⟩ := List.mem_map.1 hmem
        obtain ⟨⟨s', hs', e, _⟩, _, a3⟩ := ha k hk
        rcases (devKey_eq_iff k s0.mnt).1 hkey with ⟨_, _, hidd⟩ | ⟨h0, hd⟩
        · exact hid'.1 s'.mnt (List.mem_map.2 ⟨s', hs', rfl⟩) (by rw [e]; exact hidd.symm)
        · rw [if_pos (by rw [← hd]; simpa using h0), hd] at a3
          exact absurd List.elem_cons_self (Bool.eq_false_iff.1 a3)
      · rcases List.mem_cons.1 hs with rfl | hs'
        · exact Or.inr ⟨s.mnt, List.mem_cons_self .., rfl⟩
        · rcases hc s hs' hr hin with h1 | ⟨k, hk, hkey⟩
          · split at h1
            · rw [List.contains_cons, Bool.or_eq_true, beq_iff_eq] at h1
              exact h1.elim (fun e => Or.inr ⟨s0.mnt, List.mem_cons_self ..,
                (devKey_eq_iff ..).2 (Or.inr ⟨by simpa using ‹(s0.mnt.dev != 0) = true›, e.symm⟩)⟩) Or.inl
            · exact Or.inl h1
          · exact Or.inr ⟨k, List.mem_cons_of_mem _ hk, hkey⟩

theorem countedSafe_sum (c : Class) (l : List Slot) (hid : IdsDistinct l) (hkc : KeyConsistent c (heldOf l)) :
    ((countedSafe c l []).map (·.repl)).sum = physRepl c (heldOf l) := by
  obtain ⟨ha, hb, hc⟩ := countedSafe_spec c l [] hid
  have hsub : ∀ k ∈ countedSafe c l [], k ∈ heldOf l ∧ inClass c k = true := fun k hk =>
    ⟨mem_heldOf.2 (ha k hk).1, (ha k hk).2.1⟩
  apply Nat.le_antisymm
  · exact physRepl_ge c _ hkc _ hsub hb
  · apply physRepl_le c _ hkc _ (fun k hk => (hsub k hk).1)
    intro m hm hin
    obtain ⟨s, hs, e1, e2⟩ := mem_heldOf.1 hm
    rcases hc s hs e2 (by rw [e1]; exact hin) with h | ⟨k, hk, hkey⟩
    · cases h
    · exact ⟨k, hk, by rw [hkey, e1]⟩

theorem underrep_of_phys (env : Env) (classes : List Class) (sorter : Class → List Slot → List Slot)
    (mounts : List Mount) (reps : List Replica)
    (hok : BalancePerm env classes sorter mounts reps) (hid : DistinctIds mounts) (hcons : DeviceConsistent mounts)
    (c : Class) (hc : c ∈ classes) (hd : env.desired c ≠ 0)
    (hu : physRepl c (balanceBlock env classes sorter mounts reps).heldBefore < env.desired c) :
    (balanceBlock env classes sorter mounts reps).final.underrep = true := by
  have hrel : CoreRel (finalWant (balanceBlock env classes sorter mounts reps).final) (initSlots mounts reps) :=
    (coreRel_finalWant _).trans (runClasses_coreRel env sorter classes _ hok)
  rw [balanceBlock_heldBefore] at hu
  refine runClasses_underrep env sorter c classes _ hok hc hd fun l hl => ?_
  -- whatever the order `l` of the slots, the loop sums the physical replication of the held mounts
  have hmnt : (l.map (·.mnt)).Perm mounts := initSlots_mnt mounts reps ▸ coreRel_mnt_perm hl
  have hkc : KeyConsistent c (heldOf l) := (keyConsistent_of c hid hcons).heldOf fun s hs =>
    hmnt.mem_iff.1 (List.mem_map.2 ⟨s, hs, rfl⟩)
  rw [safeCount_lt, Nat.zero_add, countedSafe_sum c l (distinctIds_of_perm hmnt hid) hkc,
    physRepl_congr c (heldOf l) _ hkc fun _ => (heldOf_perm (CoreRel.trans hl hrel.symm)).mem_iff]
  exact hu

end ArvVerif.C05
