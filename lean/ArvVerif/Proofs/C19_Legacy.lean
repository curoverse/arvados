/-
C19, the legacy proxy path (`Handler.saltAuthToken`, lib/controller/federation.go): the credentials
the receiving cluster can read from a forwarded request (`forwardedTokens`) and those the sender
finds (`discovered`). `saltAuthToken_spec`: saltAuthToken is `finish` on the credentials in discovery
order with a token-free body, or refuses the body.
-/
import ArvVerif.Proofs.C19_Salt
namespace ArvVerif.C19

/-- the `api_token` values of a body as the receiver would read them: only a body declared as a
form (media type = text before the parameters) is searched -/
def bodyTokens (r : Req) : List Str :=
  if isFormType r.ctype then
    match r.body with
    | .form items => valuesOf apiTokenKey (goods items)
    | .raw => []
  else []

def authOutTokens (r : Req) : AuthOut → List Str
  | .same => headerTokens r.auth
  | .set v => headerTokens (.plain v)

def queryOutTokens (r : Req) : ItemsOut → List Str
  | .same => queryTokens r.query
  | .re items => valuesOf apiTokenKey items

def cookieOutTokens (r : Req) : CookieOut → List Str
  | .same => cookieTokens r.cookie
  | .stripped => []

def bodyOutTokens (r : Req) : ItemsOut → List Str
  | .same => bodyTokens r
  | .re items => valuesOf apiTokenKey items

/-- Every credential the receiving cluster can discover in the forwarded request, with the same
discovery rules the sending side uses. -/
def forwardedTokens (r : Req) (f : Fwd) : List Str :=
  authOutTokens r f.auth ++ queryOutTokens r f.query ++ cookieOutTokens r f.cookie ++
    bodyOutTokens r f.body

/-- all credentials `saltAuthToken` finds, in order: header, query string, cookie, then the form
body's first non-empty `api_token` -/
def discovered (r : Req) : List Str :=
  requestTokens r ++ (match bodyStage r with
    | .parsed ts _ => ts
    | _ => [])

variable {mac : Str → Str → List UInt8} {R t : Str} {db : Str → Option (Str × Str)} {r : Req}

theorem splitSpace2_append {a : Str} (b : Str) (ha : ' ' ∉ a) :
    splitSpace2 (a ++ ' ' :: b) = some (a, b) := by
  induction a with
  | nil => simp [splitSpace2]
  | cons c a ih =>
    rw [List.mem_cons, not_or] at ha
    simp [splitSpace2, ih ha.2, Ne.symm ha.1]

theorem sBearer_eq : sBearer = sBearerWord ++ [' '] := by
  rw [sBearerWord_eq]; exact String.toList_ofList

theorem headerTokens_scheme {w : Str} (t : Str) (hw : w = sOAuth2 ∨ w = sBearerWord) :
    headerTokens (.plain (w ++ ' ' :: t)) = [t] := by
  have hsp : ' ' ∉ w := by rcases hw with rfl | rfl <;> simp [sOAuth2_eq, sBearerWord_eq]
  simp [headerTokens, splitSpace2_append t hsp, hw]

theorem headerTokens_bearer (t : Str) : headerTokens (.plain (sBearer ++ t)) = [t] := by
  rw [sBearer_eq, List.append_assoc]
  exact headerTokens_scheme t (.inr rfl)

section
variable {k v : Str} {kv : Str × Str} {kvs : List (Str × Str)}

theorem mem_valuesOf : v ∈ valuesOf k kvs ↔ (k, v) ∈ kvs := by
  simp [valuesOf]

theorem valuesOf_eq_nil_iff : valuesOf k kvs = [] ↔ ∀ kv ∈ kvs, kv.1 ≠ k := by
  simp [valuesOf]

theorem mem_encodeOrder_dropKey : kv ∈ encodeOrder (dropKey k kvs) ↔ kv ∈ kvs ∧ kv.1 ≠ k := by
  simp [encodeOrder, List.mem_mergeSort, dropKey]

theorem valuesOf_encodeOrder_dropKey (k : Str) (kvs : List (Str × Str)) :
    valuesOf k (encodeOrder (dropKey k kvs)) = [] :=
  valuesOf_eq_nil_iff.mpr fun _ hkv => (mem_encodeOrder_dropKey.mp hkv).2

end

theorem queryOut_tokens (r : Req) : queryOutTokens r (queryOut r) = [] := by
  unfold queryOut
  split
  · exact valuesOf_encodeOrder_dropKey _ _
  · next h =>
    refine valuesOf_eq_nil_iff.mpr fun kv hkv hk => h (List.any_eq_true.mpr ⟨kv, hkv, ?_⟩)
    simp [hk]

theorem resolveLocal_out {uuid secret : Str} {out : TokOut} (h : resolveLocal mac R db t uuid secret = out) :
    out = .ok t ∨ (∃ x t', saltToken mac x R = .ok t' ∧ out = .ok t') ∨ ∃ e, out = .err e := by
  subst h
  unfold resolveLocal
  split
  · exact .inl rfl
  · split
    · exact .inl rfl
    · split
      · exact .inl rfl
      · split
        · next s hs => exact .inr (.inl ⟨_, s, hs, rfl⟩)
        · exact .inr (.inr ⟨_, rfl⟩)
        · exact .inr (.inr ⟨_, rfl⟩)

theorem legacyToken_ok_not_mustSalt (hmac : ∀ k m, (mac k m).length = 20) {t' : Str}
    (h : legacyToken mac R db t = .ok t') : ¬ MustSalt t' := by
  unfold legacyToken at h
  split at h
  · next s hst => cases h; exact not_mustSalt_of_saltToken_ok hmac hst
  · cases h
  · next e _ hst =>
    -- the token did not salt, so it is not an unsalted v2 token; the lookup returns it or salts.
    -- (A token that starts with `v2/` and has three parts salts or is `.salted`, so of the two arms
    -- under the prefix test only `.panic` is ever reached here; `key` covers the other all the same.)
    have key : ∀ u s, resolveLocal mac R db t u s = .ok t' → ¬ MustSalt t' := by
      intro u s h
      rcases resolveLocal_out h with h1 | ⟨x, t'', hx, h1⟩ | ⟨_, h1⟩ <;> cases h1
      · exact not_mustSalt_of_saltToken_error hst
      · exact not_mustSalt_of_saltToken_ok hmac hx
    split at h
    · split at h
      · exact key _ _ h
      · cases h
    · exact key _ _ h

theorem legacyToken_mustSalt {u s : Str} {more : List Str} (hsp : splitSlash t = sV2 :: u :: s :: more)
    (hl : s.length ≠ saltLen) : legacyToken mac R db t = .ok (saltedForm mac u s R) := by
  rw [legacyToken, saltToken_salts hsp hl]

/-- exactly the tokens `v2/<x>` with no further '/' make `validateAPItoken` index out of range -/
theorem legacyToken_panic_iff : legacyToken mac R db t = .panic ↔ ∃ x, t = sV2Slash ++ x ∧ '/' ∉ x := by
  have hne : ∀ u s, resolveLocal mac R db t u s ≠ .panic := by
    intro u s h
    rcases resolveLocal_out h with h1 | ⟨_, _, _, h1⟩ | ⟨_, h1⟩ <;> cases h1
  refine ⟨fun h => ?_, fun ⟨x, ht, hx⟩ => ?_⟩
  · unfold legacyToken at h
    split at h
    · cases h
    · cases h
    · split at h
      · next hp =>
        obtain ⟨x, rfl⟩ := List.isPrefixOf_iff_prefix.mp hp
        refine ⟨x, rfl, fun hx => ?_⟩
        -- with a further '/' the token has three parts, and the lookup does not crash
        obtain ⟨a, b, rfl, ha⟩ := List.eq_append_cons_of_mem hx
        obtain ⟨p, ps, hb⟩ := List.exists_cons_of_ne_nil (splitSlash_ne_nil b)
        rw [splitSlash_v2Slash, splitSlash_append_slash ha, hb] at h
        exact hne _ _ h
      · exact absurd h (hne _ _)
  · -- `v2/<x>` has two parts: `saltToken` refuses it as not being a v2 token, `sp[2]` does not exist
    subst ht
    have hsp : splitSlash (sV2Slash ++ x) = [sV2, x] := by rw [splitSlash_v2Slash, splitSlash_noslash hx]
    have hnot : ∀ u s more, splitSlash (sV2Slash ++ x) ≠ sV2 :: u :: s :: more := by simp [hsp]
    have hpre : sV2Slash.isPrefixOf (sV2Slash ++ x) = true := List.isPrefixOf_iff_prefix.mpr ⟨x, rfl⟩
    rw [legacyToken, saltToken_not_v2 hnot]
    cases isObsolete (sV2Slash ++ x) <;> simp [hpre, hsp]

theorem isFormType_formCT : isFormType (some formCT) = true := by
  unfold isFormType formCT
  rw [String.toList_ofList]
  decide +kernel

theorem bodyStage_notForm (hc : isFormType r.ctype = false) : bodyStage r = .skipped := by
  simp [bodyStage, hc]

theorem bodyStage_form {items : List QItem} (hc : isFormType r.ctype = true)
    (hb : r.body = .form items) (hbad : hasBad items = false) :
    bodyStage r = .parsed (firstToken (goods items)) (encodeOrder (dropKey apiTokenKey (goods items))) := by
  simp [bodyStage, hc, hb, hbad]

theorem mem_firstToken (pf : List (Str × Str)) (t : Str) (h : t ∈ firstToken pf) :
    t ∈ valuesOf apiTokenKey pf ∧ t ≠ [] := by
  unfold firstToken at h
  split at h <;> simp_all

/-- A body declared as a form is given as items, none of them rejected: the case in which
`saltAuthToken` gets past the body. Hypothesis `hb` of `C19_legacy_user_token_forwarded` is this
formula written out. -/
def BodyOK (r : Req) : Prop :=
  isFormType r.ctype = true → ∃ items, r.body = .form items ∧ hasBad items = false

theorem saltAuthToken_spec {out : LegacyOut} (h : saltAuthToken mac R db r = out) :
    (∃ b, bodyOutTokens r b = [] ∧ out = finish mac R db r (discovered r) b) ∨
    (¬ BodyOK r ∧ (out = .err .other ∨ out = .unmodelled)) := by
  subst h
  unfold saltAuthToken discovered
  cases hc : isFormType r.ctype with
  | false =>
    rw [bodyStage_notForm hc]
    exact .inl ⟨.same, by simp [bodyOutTokens, bodyTokens, hc], by simp⟩
  | true =>
    cases hb : r.body with
    | raw =>
      have : bodyStage r = .unmodelled := by simp [bodyStage, hc, hb]
      rw [this]
      exact .inr ⟨fun h => by simpa [hb] using h hc, .inr rfl⟩
    | form items =>
      cases hbad : hasBad items with
      | true =>
        have : bodyStage r = .failed := by simp [bodyStage, hc, hb, hbad]
        rw [this]
        exact .inr ⟨fun h => by simpa [hb, hbad] using h hc, .inl rfl⟩
      | false =>
        rw [bodyStage_form hc hb hbad]
        exact .inl ⟨.re _, valuesOf_encodeOrder_dropKey _ _, rfl⟩

theorem saltAuthToken_fwd {f : Fwd} (h : saltAuthToken mac R db r = .fwd f) :
    ∃ b, bodyOutTokens r b = [] ∧
      ((discovered r = [] ∧ f = ⟨.same, .same, b, .same⟩) ∨
       ∃ t rest t', discovered r = t :: rest ∧ legacyToken mac R db t = .ok t' ∧
         f = ⟨.set (sBearer ++ t'), queryOut r, b, .stripped⟩) := by
  rcases saltAuthToken_spec h with ⟨b, hb, hf⟩ | ⟨_, he | he⟩
  · refine ⟨b, hb, ?_⟩
    -- `finish`: no token; else the first token's `legacyToken` crashes, fails or gives `t'`, and
    -- then the query string is bad or the request is rebuilt
    unfold finish at hf
    split at hf
    · next hd => cases hf; exact .inl ⟨hd, rfl⟩
    · next t rest hd =>
      split at hf
      · cases hf
      · cases hf
      · next t' hl =>
        split at hf
        · cases hf
        · cases hf; exact .inr ⟨t, rest, t', hd, hl, rfl⟩
  · cases he
  · cases he

theorem saltAuthToken_panic (h : saltAuthToken mac R db r = .panic) :
    ∃ t rest, discovered r = t :: rest ∧ legacyToken mac R db t = .panic := by
  rcases saltAuthToken_spec h with ⟨b, _, hf⟩ | ⟨_, he | he⟩
  · -- the branches of `finish`, as in `saltAuthToken_fwd`
    unfold finish at hf
    split at hf
    · cases hf
    · next t rest hd =>
      split at hf
      · next hl => exact ⟨t, rest, hd, hl⟩
      · cases hf
      · split at hf <;> cases hf
  · cases he
  · cases he

end ArvVerif.C19
