/-
`loadKeepServers`: the writable map contains only roots of listed services that are not read-only
(`load_writable`), and a load keeps nothing of what the client held before except the sticky
`foundNonDiskSvc` (`reload_last`).
-/
import ArvVerif.Model.C11
namespace ArvVerif.C11

theorem mem_mapSet {m : RootMap} {k v : List Char} {e : List Char × List Char}
    (h : e ∈ mapSet m k v) : e ∈ m ∨ e = (k, v) := by
  unfold mapSet at h
  rw [List.mem_append, List.mem_singleton] at h
  exact h.imp_left fun h => (List.mem_filter.mp h).1

def Backed (l : List Svc) (e : List Char × List Char) : Prop :=
  ∃ s ∈ l, s.uuid = e.1 ∧ s.url = e.2 ∧ s.ro = false

theorem loadStep_writable {r : Roots} {s : Svc} {e : List Char × List Char}
    (he : e ∈ (loadStep r s).writable) : e ∈ r.writable ∨ (e = (s.uuid, s.url) ∧ s.ro = false) := by
  unfold loadStep at he
  split at he
  · exact Or.inl he
  · cases hro : s.ro <;> simp only [hro, Bool.not_true, Bool.not_false, Bool.false_eq_true, if_true, if_false] at he
    · exact (mem_mapSet he).imp_right fun h => ⟨h, rfl⟩
    · exact Or.inl he

theorem foldl_writable (l : List Svc) (r : Roots) :
    ∀ e ∈ (l.foldl loadStep r).writable, e ∈ r.writable ∨ Backed l e := by
  induction l generalizing r with
  | nil => exact fun e he => Or.inl he
  | cons s t ih =>
    intro e he
    rcases ih _ e he with h | ⟨x, hx, h⟩
    · rcases loadStep_writable h with h | ⟨rfl, hro⟩
      · exact Or.inl h
      · exact Or.inr ⟨s, List.mem_cons_self, rfl, rfl, hro⟩
    · exact Or.inr ⟨x, List.mem_cons_of_mem _ hx, h⟩

theorem load_writable (nd0 : Bool) (l : List Svc) : ∀ e ∈ (load nd0 l).writable, Backed l e :=
  fun e he => (foldl_writable l _ e he).resolve_left (by simp)

/-- `loadStep` reads and writes `foundNonDiskSvc` only, of what is not in `core` -/
theorem loadStep_core (r r' : Roots) (s : Svc) (h : r.core = r'.core) :
    (loadStep r s).core = (loadStep r' s).core := by
  obtain ⟨l, lo, w, g, n, d⟩ := r
  obtain ⟨l', lo', w', g', n', d'⟩ := r'
  simp only [Roots.core, Prod.mk.injEq] at h
  obtain ⟨rfl, rfl, rfl, rfl, rfl⟩ := h
  unfold loadStep
  by_cases hm : s.url ∈ l
  · rw [if_pos hm, if_pos hm]; rfl
  · rw [if_neg hm, if_neg hm]; rfl

theorem foldl_core (l : List Svc) (r r' : Roots) (h : r.core = r'.core) :
    (l.foldl loadStep r).core = (l.foldl loadStep r').core := by
  induction l generalizing r r' with
  | nil => exact h
  | cons s t ih => exact ih _ _ (loadStep_core r r' s h)

theorem load_core (a b : Bool) (l : List Svc) : (load a l).core = (load b l).core :=
  foldl_core l _ _ rfl

theorem reload_last (nd0 : Bool) (ls : List (List Svc)) (l : List Svc) :
    (reload nd0 (ls ++ [l])).core = (load false l).core := by
  induction ls generalizing nd0 with
  | nil => exact load_core _ _ l
  | cons a t ih =>
    cases t with
    | nil => exact load_core _ _ l
    | cons b u => exact ih _

end ArvVerif.C11
