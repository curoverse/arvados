/-
C05 helper lemmas: the comparator balanceBlock hands to `sort.Slice` is a strict weak
order whenever `rendezvousLess` compares a weight of the device id (it compares MD5 digests).
-/
import ArvVerif.Proofs.C05_Enumeration
namespace ArvVerif.C05

variable {α : Type}

def lexBy (f : α → Nat) (next : α → α → Bool) (a b : α) : Bool :=
  if f a != f b then decide (f a < f b) else next a b

theorem strictWeak_key (f : α → Nat) : StrictWeak (fun a b => decide (f a < f b)) where
  irrefl := by intro a; simp
  trans := by intro a b c h1 h2; simp only [decide_eq_true_eq] at *; omega
  ntrans := by intro a b c h1 h2; simp only [decide_eq_false_iff_not] at *; omega

theorem lexBy_eq (f : α → Nat) (next : α → α → Bool) (a b : α) :
    lexBy f next a b = if f a = f b then next a b else decide (f a < f b) := by
  unfold lexBy
  by_cases h : f a = f b <;> simp [h]

theorem strictWeak_lexBy (f : α → Nat) {next : α → α → Bool} (h : StrictWeak next) : StrictWeak (lexBy f next) where
  irrefl a := by rw [lexBy_eq, if_pos rfl]; exact h.irrefl a
  -- by cases on which keys agree: `next` decides between equal keys, `<` on the keys otherwise
  trans a b c h1 h2 := by
    have := h.trans a b c
    rw [lexBy_eq] at h1 h2 ⊢
    split at h1 <;> split at h2 <;> split <;> simp_all <;> omega
  ntrans a b c h1 h2 := by
    have := h.ntrans a b c
    rw [lexBy_eq] at h1 h2 ⊢
    split at h1 <;> split at h2 <;> split <;> simp_all <;> omega

def b01 (b : Bool) : Nat := if b then 0 else 1

theorem b01_ne (x y : Bool) : (b01 x != b01 y) = (x != y) := by cases x <;> cases y <;> rfl
theorem b01_lt (x y : Bool) (h : (x != y) = true) : decide (b01 x < b01 y) = x := by
  cases x <;> cases y <;> simp_all [b01]

/-- the comparator as a lexicographic order on (not in class, not wanted, rank, no replica, device weight) -/
theorem less_eq_lex (env : Env) (c : Class) (a b : Slot) :
    less env c a b =
      lexBy (fun s => b01 (inClass c s.mnt)) (lexBy (fun s => b01 s.want) (lexBy (fun s => env.rank s.mnt.srv)
        (lexBy (fun s => b01 s.repl.isSome) (fun x y => env.devLess x.mnt.dev y.mnt.dev)))) a b := by
  unfold less lexBy
  simp only [b01_ne]
  split
  · exact (b01_lt _ _ ‹_›).symm
  split
  · exact (b01_lt _ _ ‹_›).symm
  split
  · rfl
  split
  · exact (b01_lt _ _ ‹_›).symm
  · rfl

/-- `rendezvousLess` compares a weight (the MD5 digest) of the device id -/
def DevLessByWeight (env : Env) : Prop := ∃ w : Dev → Nat, ∀ a b, env.devLess a b = decide (w a < w b)

theorem less_strictWeak (env : Env) (c : Class) (hw : DevLessByWeight env) : StrictWeak (less env c) := by
  obtain ⟨w, hw⟩ := hw
  have hbase : StrictWeak (fun (x y : Slot) => env.devLess x.mnt.dev y.mnt.dev) := by
    simp only [hw]
    exact strictWeak_key (fun (s : Slot) => w s.mnt.dev)
  rw [show less env c = _ from funext fun a => funext fun b => less_eq_lex env c a b]
  exact strictWeak_lexBy _ (strictWeak_lexBy _ (strictWeak_lexBy _ (strictWeak_lexBy _ hbase)))

end ArvVerif.C05
