/- C04, link between the layers, race side: kernel evaluation, for all 144 configurations, of the two sequential
schedules of the interleaving model against the table of their observations (`linOf`). -/
import ArvVerif.Proofs.C04_ComposeTable
namespace ArvVerif.C04.Race
open ArvVerif.C04.Compose

def seqCfg (c : Cfg) : Bool :=
  decide (obsR (run schedPT (init c)) = (linOf c).1) && decide (obsR (run schedTP (init c)) = (linOf c).2) &&
  finished (run schedPT (init c)) && finished (run schedTP (init c))

theorem seqCheck : allCfgs.all seqCfg = true := by decide +kernel

theorem serial_lit (c : Cfg) :
    obsR (run schedPT (init c)) = (linOf c).1 ∧ obsR (run schedTP (init c)) = (linOf c).2 ∧
    finished (run schedPT (init c)) = true ∧ finished (run schedTP (init c)) = true := by
  have h := (List.all_eq_true.mp seqCheck) c (mem_allCfgs c)
  simpa only [seqCfg, Bool.and_eq_true, decide_eq_true_eq, and_assoc] using h

end ArvVerif.C04.Race
