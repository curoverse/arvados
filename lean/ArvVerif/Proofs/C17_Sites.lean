/-
C17 — the hypothesis "the manifest text collected by the scan loads" in terms of the specification.

`SpecCompat`: no two of the items `fragOf cfg D y` extracted at the `Site`s contradict each other.
`scan_load_iff`: the text of a successful scan loads exactly when `SpecCompat` holds.
`specCompat_of_apart`: it holds when every mounted collection is a tree (`CollsWF`) and the output
paths of two sites that contribute something are never nested in each other (`SitesApart` — mounts
that do not overlap).
-/
import ArvVerif.Proofs.C17_Load
import ArvVerif.Proofs.C17_Plan
namespace ArvVerif.C17

def SpecCompat (h : Host) (cfg : Cfg) : Prop :=
  ∀ D y D' y', Site h cfg D y → Site h cfg D' y' →
    ∀ f ∈ fragOf cfg D y, ∀ g ∈ fragOf cfg D' y', Compat f g

/-- compatibility only asks which items there are -/
theorem specCompat_iff {h : Host} {cfg : Cfg} {fs : List Frag}
    (hfs : ∀ f, f ∈ fs ↔ ∃ D y, Site h cfg D y ∧ f ∈ fragOf cfg D y) : FragsCompat fs ↔ SpecCompat h cfg :=
  ⟨fun hc D y D' y' s1 s2 f hf g hg => hc f ((hfs f).mpr ⟨D, y, s1, hf⟩) g ((hfs g).mpr ⟨D', y', s2, hg⟩),
   fun hsc f hf g hg =>
    let ⟨D, y, s1, h1⟩ := (hfs f).mp hf
    let ⟨D', y', s2, h2⟩ := (hfs g).mp hg
    hsc D y D' y' s1 s2 f h1 g h2⟩

theorem scan_load_iff (h : Host) (cfg : Cfg) (hwf : HostWF h) (wf : CfgWF h cfg)
    (hout : h.get cfg.hostOut = some .dir) (hs : supported cfg = true) (hx : InOut cfg cfg.ctrOut)
    (hdirect : Direct h cfg) (fuel : Nat) (plan : Plan) (hscan : scan h cfg fuel = .ok plan) :
    (∃ t0, loadFrags [] plan.frags = some t0) ↔ SpecCompat h cfg :=
  (loadFrags_iff _).trans (specCompat_iff (scan_frags h cfg hwf wf hs hx hdirect fuel plan hscan))

/-- path of a collection entry: the directory itself for an empty-directory marker -/
def entryPath (e : Path × Name × Bytes) : Path := if e.2.1 = "." then e.1 else e.1 ++ [e.2.1]

/-- no path is both a file and a directory; the same file may be listed again -/
def CollWF (c : Coll) : Prop :=
  ∀ e ∈ c, e.2.1 ≠ "." → ∀ e' ∈ c, (e.1 ++ [e.2.1]).isPrefixOf (entryPath e') = true →
    e'.1 = e.1 ∧ e'.2.1 = e.2.1

def CollsWF (cfg : Cfg) : Prop := ∀ e ∈ cfg.mounts, ∀ c, e.2.coll = some c → CollWF c

/-- a site whose output path lies at or below that of a site that contributes something adds no item
that the upper site does not have. In particular: two collections are not mounted one inside the
other, and no link into a collection sits where a collection is mounted -/
def SitesApart (h : Host) (cfg : Cfg) : Prop :=
  ∀ D y D' y', Site h cfg D y → Site h cfg D' y' → fragOf cfg D y ≠ [] → D.isPrefixOf D' = true →
    ∀ g ∈ fragOf cfg D' y', g ∈ fragOf cfg D y

def extractItem (rel dest : Path) (e : Path × Name × Bytes) : Frag :=
  let d := dest ++ e.1.drop rel.length
  if e.2.1 = "." then (d, none) else (d ++ [e.2.1], some e.2.2)

theorem extract_cases (c : Coll) (rel dest : Path) :
    extract c rel dest = [] ∨
    (∃ e : Path × Name × Bytes, extract c rel dest = [(if dest = [] then [e.2.1] else dest, some e.2.2)]) ∨
    extract c rel dest = (c.filter fun e => rel.isPrefixOf e.1).map (extractItem rel dest) := by
  unfold extract
  split
  · exact Or.inl rfl
  · split
    · rename_i e _; exact Or.inr (Or.inl ⟨e, rfl⟩)
    · exact Or.inr (Or.inr rfl)

theorem prefix_entryPath {rel : Path} {e : Path × Name × Bytes} (h : rel.isPrefixOf e.1 = true) :
    rel.isPrefixOf (entryPath e) = true := by
  unfold entryPath
  split
  · exact h
  · exact isPrefixOf_append_right _ _ _ h

theorem extractItem_fst {rel : Path} (dest : Path) {e : Path × Name × Bytes} (h : rel.isPrefixOf e.1 = true) :
    (extractItem rel dest e).1 = dest ++ (entryPath e).drop rel.length := by
  unfold extractItem entryPath
  split
  · rfl
  · simp [List.drop_append_of_le_length (prefix_length_le _ _ h)]

theorem extract_compat (c : Coll) (hc : CollWF c) (rel dest : Path) : FragsCompat (extract c rel dest) := by
  intro f hf g hg hfile
  rcases extract_cases c rel dest with h0 | ⟨e0, h1⟩ | h2
  · rw [h0] at hf; cases hf
  · -- the single-file case: one item
    rw [h1, List.mem_singleton] at hf hg
    subst hf hg
    refine ⟨?_, fun _ => ⟨rfl, rfl⟩⟩
    split
    · simp
    · assumption
  · rw [h2] at hf hg
    simp only [List.mem_map, List.mem_filter] at hf hg
    obtain ⟨e, ⟨hec, hepre⟩, rfl⟩ := hf
    obtain ⟨e', ⟨hec', hepre'⟩, rfl⟩ := hg
    have hdot : e.2.1 ≠ "." := fun hd => by simp [extractItem, hd] at hfile
    refine ⟨by simp [extractItem, hdot], fun hpre => ?_⟩
    -- with `rel` put back in front, the entry of `e` is a prefix of the entry of `e'`
    rw [extractItem_fst dest hepre, extractItem_fst dest hepre', isPrefixOf_append_cancel,
      ← isPrefixOf_append_cancel rel, prefix_append_drop _ _ (prefix_entryPath hepre),
      prefix_append_drop _ _ (prefix_entryPath hepre'), entryPath, if_neg hdot] at hpre
    obtain ⟨h1, h2⟩ := hc e hec hdot e' hec' hpre
    simp [extractItem, h1, h2, hdot]

theorem fragOf_compat (cfg : Cfg) (hc : CollsWF cfg) (D y : Path) : FragsCompat (fragOf cfg D y) := by
  intro f hf g hg
  obtain ⟨root, m, c, hsm, _, hcoll, hf⟩ := fragOf_mem hf
  obtain ⟨_, _, _, hsm', _, hcoll', hg⟩ := fragOf_mem hg
  cases hsm.symm.trans hsm'
  cases hcoll.symm.trans hcoll'
  exact extract_compat c (hc (root, m) (srcMount_mem cfg y _ hsm).1 c hcoll) _ _ f hf g hg

theorem specCompat_of_apart (h : Host) (cfg : Cfg) (hc : CollsWF cfg) (ha : SitesApart h cfg) : SpecCompat h cfg := by
  intro D y D' y' s1 s2 f hf g hg hfile
  refine ⟨(fragOf_compat cfg hc D y f hf f hf hfile).1, fun hpre => ?_⟩
  have hD : D.isPrefixOf g.1 = true := prefix_trans' _ _ _ (fragOf_prefix cfg D y f hf) hpre
  have hD' : D'.isPrefixOf g.1 = true := fragOf_prefix cfg D' y' g hg
  -- the two output paths are nested, so both items come from the upper site
  obtain ⟨D0, y0, hf0, hg0⟩ : ∃ D0 y0, f ∈ fragOf cfg D0 y0 ∧ g ∈ fragOf cfg D0 y0 := by
    by_cases hl : D.length ≤ D'.length
    · exact ⟨D, y, hf, ha D y D' y' s1 s2 (List.ne_nil_of_mem hf) (prefix_total D D' g.1 hD hD' hl) g hg⟩
    · exact ⟨D', y', ha D' y' D y s2 s1 (List.ne_nil_of_mem hg) (prefix_total D' D g.1 hD' hD (by omega)) f hf, hg⟩
  exact (fragOf_compat cfg hc D0 y0 f hf0 g hg0 hfile).2 hpre

end ArvVerif.C17
