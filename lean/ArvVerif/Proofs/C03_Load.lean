/-
C03: the segments loadManifest's offset→segment loop produces are non-empty
and lie inside their blocks — the two side conditions of the file-read theorems, discharged from the
model.
-/
import ArvVerif.Model.C03
namespace ArvVerif.C03

/-- `SegsPos` and `SegsIn` for one segment, with the size the locator names (`size i`, what `BlocksOK`
ties the stream's block list to) in place of the stored block's length. -/
def SegWF (size : Nat → Nat) (s : Seg) : Prop := 0 < s.length ∧ s.offset + s.length ≤ size s.blk

def BlocksOK (size : Nat → Nat) (blocks : List (Nat × Nat)) : Prop := ∀ b ∈ blocks, b.2 = size b.1

def FilesWF {ι : Type} (size : Nat → Nat) (files : List (ι × List Seg)) : Prop :=
  ∀ f ∈ files, ∀ s ∈ f.2, SegWF size s

theorem walkBlocks_wf (size : Nat → Nat) (offset length : Nat) (blocks : List (Nat × Nat)) (pos : Nat)
    (acc : List Seg) (hb : BlocksOK size blocks) (hacc : ∀ s ∈ acc, SegWF size s) :
    (∀ s ∈ (walkBlocks offset length blocks pos acc).1, SegWF size s) ∧
    BlocksOK size (walkBlocks offset length blocks pos acc).2.2 := by
  induction blocks generalizing pos acc with
  | nil => exact ⟨hacc, hb⟩
  | cons b rest ih =>
    obtain ⟨i, sz⟩ := b
    have ⟨hi, hrest⟩ := List.forall_mem_cons.mp hb
    unfold walkBlocks
    dsimp only
    by_cases h1 : pos + sz ≤ offset ∨ sz = 0
    · rw [if_pos h1]
      exact ih _ _ hrest hacc
    rw [if_neg h1]
    by_cases h2 : offset + length ≤ pos
    · rw [if_pos h2]
      exact ⟨hacc, hb⟩
    rw [if_neg h2]
    -- the new segment lies inside block `i`; it is appended when it is not empty
    generalize (if pos < offset then offset - pos else 0) = blkOff
    generalize hbl : (if offset + length < pos + blkOff + (sz - blkOff)
        then offset + length - pos - blkOff else sz - blkOff) = blkLen
    have hle : blkLen ≤ sz - blkOff := by
      rw [← hbl]
      split
      · omega
      · exact Nat.le_refl _
    have hacc' : ∀ s ∈ (if blkLen > 0 then acc ++ [{ blk := i, offset := blkOff, length := blkLen }] else acc),
        SegWF size s := by
      split
      · refine List.forall_mem_append.mpr ⟨hacc, fun s h => ?_⟩
        cases List.mem_singleton.mp h
        exact ⟨‹_›, by rw [← hi]; dsimp only; omega⟩
      · exact hacc
    by_cases h3 : offset + length < pos + sz
    · rw [if_pos h3]
      exact ⟨hacc', hb⟩
    · rw [if_neg h3]
      exact ih _ _ hrest hacc'

theorem FilesWF.snoc {ι : Type} {size : Nat → Nat} {files : List (ι × List Seg)} (hf : FilesWF size files)
    (name : ι) {segs : List Seg} (hs : ∀ s ∈ segs, SegWF size s) : FilesWF size (files ++ [(name, segs)]) :=
  List.forall_mem_append.mpr ⟨hf, fun _ h => List.mem_singleton.mp h ▸ hs⟩

theorem loadTokensN_wf {ι : Type} {size : Nat → Nat} {blocks : List (Nat × Nat)} (hb : BlocksOK size blocks)
    {toks : List (Nat × Nat × ι)} {pos : Nat} {remaining : List (Nat × Nat)} (hr : BlocksOK size remaining)
    {acc out : List (ι × List Seg)} (h : loadTokensN blocks toks pos remaining acc = some out)
    (hacc : FilesWF size acc) :
    FilesWF size out := by
  induction toks generalizing pos remaining acc with
  | nil => cases h; exact hacc
  | cons t rest ih =>
    obtain ⟨offset, length, name⟩ := t
    unfold loadTokensN at h
    -- the walk starts from the carried position, or again from the first block of the stream
    generalize hq : (if offset < pos then (0, blocks) else (pos, remaining)) = q at h
    have hq2 : BlocksOK size q.2 := by rw [← hq]; split <;> assumption
    dsimp only at h
    split at h
    · cases h
    · have hw := walkBlocks_wf size offset length q.2 q.1 [] hq2 nofun
      exact ih hw.2 h (hacc.snoc name hw.1)

theorem addToFile_wf {ι : Type} [BEq ι] {size : Nat → Nat} {files : List (ι × List Seg)} (path : ι) {segs : List Seg}
    (hf : FilesWF size files) (hs : ∀ s ∈ segs, SegWF size s) : FilesWF size (addToFile files path segs) := by
  unfold addToFile
  split
  · intro f hmem
    obtain ⟨g, hg, rfl⟩ := List.mem_map.mp hmem
    split
    · exact List.forall_mem_append.mpr ⟨hf g hg, hs⟩
    · exact hf g hg
  · exact hf.snoc path hs

theorem loadManifestN_wf {ι : Type} [BEq ι] {size : Nat → Nat}
    {streams : List (List (Nat × Nat) × List (Nat × Nat × ι))}
    (hstreams : ∀ st ∈ streams, BlocksOK size st.1)
    {files out : List (ι × List Seg)} (h : loadManifestN streams files = some out)
    (hfiles : FilesWF size files) : FilesWF size out := by
  induction streams generalizing files with
  | nil => simp [loadManifestN] at h; subst h; exact hfiles
  | cons st rest ih =>
    obtain ⟨blocks, toks⟩ := st
    unfold loadManifestN at h
    split at h
    · simp at h
    · rename_i perTok hper
      have ⟨hb, hrest⟩ := List.forall_mem_cons.mp hstreams
      have hwf := loadTokensN_wf hb hb hper nofun
      exact ih hrest h
        (List.foldlRecOn (motive := FilesWF size) perTok _ hfiles fun fs hfs t ht =>
          addToFile_wf t.1 hfs (hwf t ht))

end ArvVerif.C03
