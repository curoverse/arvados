/-
C02 helper lemmas: the steps each operation is made of. One eliminator per operation (`put_forall`,
`touch_forall`, … ; `wb_forall` for a `WriteBlock` run): every step of the operation satisfies `P` as
soon as the few steps the operation can take do. Two tables over `Op` built from them: no operation but
`Trash h` takes the file at `h`'s block path away (`op_noLoss`), and no operation touches a file without
owner other than its own temp files (`op_avoids_unowned`).
-/
import ArvVerif.Proofs.C02_Put
namespace ArvVerif.C02

variable {fs : FS} {h : Name} {evs : List Ev} {s : Step}

variable (hash : Bytes → Name)

section
variable {P : Step → Prop}

theorem put_forall {p : PutIn} (hnop : P .nop)
    (hch : isBlockName p.h = true → ∀ t, P (.chtimes (blockPath p.h) t))
    (hw : isBlockName p.h = true → ∀ w ∈ p.attempts, ∀ e ∈ (writeBlockEvs w).1, P e.eff) :
    ∀ e ∈ (Op.put p).evs hash fs, P e.eff := by
  rcases (handlePut_spec hash fs p).1 with h0 | ⟨hb, _, hs⟩
  · rw [Op.evs, h0]; exact fun _ he => nomatch he
  · exact hs.forall hnop (hch hb) fun hm => hw hb _ hm

theorem touch_forall {h : Name} {now : Nat} {fail : Option Nat} (hnop : P .nop)
    (hch : isBlockName h = true → ∀ t, P (.chtimes (blockPath h) t)) :
    ∀ e ∈ (Op.touch h now fail).evs hash fs, P e.eff := by
  simp only [Op.evs]
  split
  · next hb => exact (touch_looks fs h now fail).forall hnop (hch hb)
  · exact fun _ he => nomatch he

theorem trash_forall {cfg : Cfg} {h : Name} (hnop : P .nop)
    (hrm : isBlockName h = true → P (.remove (blockPath h)))
    (hrn : isBlockName h = true → ∀ d, P (.rename (blockPath h) (trashPath h d))) :
    ∀ e ∈ (Op.trash cfg h).evs hash fs, P e.eff := by
  simp only [Op.evs, trashEvs]
  split
  · next hb =>
    split
    · simp [hnop]
    · split
      · simp [hnop]
      · split <;> simp [hnop, hrm hb, hrn hb]
  · exact fun _ he => nomatch he

theorem untrash_forall {h : Name} {now : Nat} (hnop : P .nop)
    (hch : isBlockName h = true → P (.chtimes (blockPath h) now))
    (hrn : isBlockName h = true → ∀ rest, P (.rename ⟨blockDir h, h ++ trashInfix ++ rest⟩ (blockPath h))) :
    ∀ e ∈ (Op.untrash h now).evs hash fs, P e.eff := by
  simp only [Op.evs, untrashEvs]
  split
  · next hb =>
    split
    · simp [hnop]
    · next n hn =>
      obtain ⟨rest, rfl⟩ := List.isPrefixOf_iff_prefix.1 (List.find?_some hn)
      simpa [hnop, hch hb] using hrn hb rest
  · exact fun _ he => nomatch he

theorem mem_insertPath {a : Path} : ∀ (l : List Path) (y : Path), y ∈ insertPath a l → y = a ∨ y ∈ l
  | [], y, hy => .inl (List.mem_singleton.1 hy)
  | b :: bs, y, hy => by
    simp only [insertPath] at hy
    split at hy
    · rcases List.mem_cons.1 hy with hy | hy
      · exact .inr (hy ▸ List.mem_cons_self)
      · exact (mem_insertPath bs y hy).imp_right (List.mem_cons_of_mem _)
    · exact List.mem_cons.1 hy

theorem mem_foldr_insertPath : ∀ (l : List Path) (x : Path), x ∈ l.foldr insertPath [] → x ∈ l
  | [], x, hx => hx
  | a :: as, x, hx => by
    rcases mem_insertPath _ x hx with h1 | h1
    · exact h1 ▸ List.mem_cons_self
    · exact List.mem_cons_of_mem _ (mem_foldr_insertPath as x h1)

theorem emptyTrash_forall {now : Nat} (hrm : ∀ p, isTrashName p.name = true → P (.remove p)) :
    ∀ e ∈ (Op.emptyTrash now).evs hash fs, P e.eff := by
  intro e he
  obtain ⟨p, hp, rfl⟩ := List.mem_map.1 he
  have := mem_foldr_insertPath _ p hp
  simp only [List.mem_filter, Bool.and_eq_true] at this
  exact hrm p this.2.1.1.2
end

/-- The step does not take the file at `p` away (it may change it, or put another in its place). -/
def NoLoss (p : Path) : Step → Prop
  | .nop => True
  | .mkdirAll _ => True
  | .chtimes _ _ => True
  | .createTemp q _ => q ≠ p
  | .append q _ => q ≠ p
  | .remove q => q ≠ p
  | .rename a _ => a ≠ p

theorem noLoss_apply {p : Path} (hn : NoLoss p s) (hp : (fs.get p).isSome) :
    ((s.apply fs).get p).isSome := by
  cases s <;> simp only [get_apply]
  case chtimes q t => split <;> simp [hp]
  case rename a b =>
    split
    · split
      · assumption
      · rwa [if_neg hn]
    · exact hp
  all_goals simp_all [NoLoss]

theorem noLoss_always {p : Path} (h : ∀ e ∈ evs, NoLoss p e.eff) :
    Always (fun a b => (a.get p).isSome → (b.get p).isSome) evs :=
  .of_steps (fun _ => id) (fun _ _ _ f g => g ∘ f) (fun _ _ hs => noLoss_apply hs) h

theorem noLoss_of_avoids {p : Path} (h : s.avoids p) : NoLoss p s := by
  cases s <;> simp_all [Step.avoids, NoLoss]

theorem wb_noLoss (w : WBIn) {p : Path} (hne : tmpPath w.h w.sfx ≠ p) :
    ∀ e ∈ (writeBlockEvs w).1, NoLoss p e.eff :=
  wb_forall w (fun _ hl => noLoss_of_avoids (local_avoids hne hl)) hne

def Op.keeps (h : Name) : Op → Prop
  | .trash _ h' => h' ≠ h
  | .env s => NoLoss (blockPath h) s
  | _ => True

theorem op_noLoss (fs : FS) (op : Op) (hb : isBlockName h = true) (hk : op.keeps h) :
    ∀ e ∈ op.evs hash fs, NoLoss (blockPath h) e.eff := by
  cases op with
  | put p =>
    exact put_forall hash trivial (fun _ _ => trivial) fun _ _ _ =>
      wb_noLoss _ (tmpPath_ne_blockPath_of_blockName _ _ hb)
  | writeBlock w => exact wb_noLoss w (tmpPath_ne_blockPath_of_blockName _ _ hb)
  | touch h' now fail => exact touch_forall hash trivial fun _ _ => trivial
  | trash cfg h' => exact trash_forall hash trivial (fun _ => blockPath_ne hk) fun _ _ => blockPath_ne hk
  | untrash h' now =>
    -- the source is a trash-named file, never a block path
    exact untrash_forall hash trivial (fun _ => trivial) fun hb' rest =>
      ne_blockPath (trashPrefixed_not_blockName hb' rest) hb
  | emptyTrash now => exact emptyTrash_forall hash fun _ hp => ne_blockPath (trashName_not_blockName hp) hb
  | env s => exact List.forall_mem_singleton.2 hk

theorem wb_avoids (w : WBIn) {q : Path} (h1 : tmpPath w.h w.sfx ≠ q) (h2 : blockPath w.h ≠ q) :
    ∀ e ∈ (writeBlockEvs w).1, e.eff.avoids q :=
  wb_forall w (fun _ => local_avoids h1) ⟨h1, h2⟩

/-- the operation creates its temp files under names other than `q` (O_EXCL) -/
def Op.freshFor (q : Path) : Op → Prop
  | .put p => ∀ w ∈ p.attempts, tmpPath w.h w.sfx ≠ q
  | .writeBlock w => tmpPath w.h w.sfx ≠ q
  | .env s => s.avoids q
  | _ => True

theorem op_avoids_unowned (fs : FS) (op : Op) (hv : op.valid hash) {q : Path} (hq : owner q.name = none)
    (hf : op.freshFor q) : ∀ e ∈ op.evs hash fs, e.eff.avoids q := by
  have hbp : ∀ {h : Name}, isBlockName h = true → blockPath h ≠ q :=
    fun hb => ne_unowned hq (owner_blockPath hb)
  cases op with
  | put p =>
    exact put_forall hash trivial (fun hb _ => hbp hb) fun hb w hw =>
      wb_avoids w (hf w hw) ((hv w hw).1 ▸ hbp hb)
  | writeBlock w => exact wb_avoids w hf (hbp hv.1)
  | touch h now fail => exact touch_forall hash trivial fun hb _ => hbp hb
  | trash cfg h =>
    exact trash_forall hash trivial hbp fun hb _ =>
      ⟨hbp hb, ne_unowned hq (by simp [trashPath, owner_trashName hb])⟩
  | untrash h now =>
    exact untrash_forall hash trivial hbp fun hb rest =>
      ⟨ne_unowned hq (fun hn => nomatch (owner_trashPrefixed hb rest).symm.trans hn), hbp hb⟩
  | emptyTrash now => exact emptyTrash_forall hash fun _ hp => ne_unowned hq (owner_of_trashName hp)
  | env s => exact List.forall_mem_singleton.2 hf

end ArvVerif.C02
