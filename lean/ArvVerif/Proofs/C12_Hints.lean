/-
C12: the `+K@` hints of a locator. `classifyHint_spec` is the one place where the classification is
taken apart; from it, what `hintRoots` contains, and that Go's and Python's hint loops are the same
list of targets (`hintTargets`) rendered in two ways.
-/
import ArvVerif.Model.C12_Py
namespace ArvVerif.C12

theorem classifyHint_spec (f : List Char) :
    (classifyHint f = .proxy (f.drop 2) ∧ f.take 2 = ['K', '@'] ∧ f.length = 7) ∨
    (classifyHint f = .gateway (f.drop 2) ∧ f.take 2 = ['K', '@'] ∧ f.length = 29) ∨
    (classifyHint f = .other ∧ ¬(f.take 2 = ['K', '@'] ∧ (f.length = 7 ∨ f.length = 29))) := by
  by_cases hk : f.take 2 = ['K', '@']
  · by_cases h7 : f.length = 7
    · simp [classifyHint, hk, h7]
    · by_cases h29 : f.length = 29
      · simp [classifyHint, hk, h29]
      · simp [classifyHint, hk, h7, h29]
  · simp [classifyHint, hk]

theorem mem_hintRoots {gw : List Char → Option (List Char)} {fs : List (List Char)} {r : List Char} :
    r ∈ hintRoots gw fs ↔ ∃ f ∈ fs, f.take 2 = ['K', '@'] ∧
      (f.length = 7 ∧ r = proxyURL (f.drop 2) ∨ f.length = 29 ∧ gw (f.drop 2) = some r) := by
  induction fs with
  | nil => simp [hintRoots]
  | cons f rest ih =>
    rw [hintRoots]
    simp only [List.mem_cons, exists_eq_or_imp, ← ih]
    rcases classifyHint_spec f with ⟨hc, hk, hl⟩ | ⟨hc, hk, hl⟩ | ⟨hc, hn⟩ <;> rw [hc]
    · simp [hk, hl]
    · cases hg : gw (f.drop 2) <;> simp [hk, hl, hg, eq_comm]
    · exact (or_iff_right fun ⟨hk, h⟩ => hn ⟨hk, h.imp And.left And.left⟩).symm

theorem hintRoots_nil_of_unusable (gw : List Char → Option (List Char)) (fs : List (List Char))
    (h : ∀ f ∈ fs, classifyHint f = .other ∨ ∃ u, classifyHint f = .gateway u ∧ gw u = none) :
    hintRoots gw fs = [] := by
  induction fs with
  | nil => rfl
  | cons f rest ih =>
    rw [List.forall_mem_cons] at h
    rw [hintRoots, ih h.2]
    rcases h.1 with h1 | ⟨u, h1, h2⟩
    · rw [h1]
    · rw [h1]; dsimp only; rw [h2]

theorem hintRoots_eq_targets (gw : List Char → Option (List Char)) (fs : List (List Char)) :
    hintRoots gw fs = (hintTargets gw fs).map renderGo := by
  induction fs with
  | nil => rfl
  | cons h rest ih =>
    rw [hintRoots, hintTargets, ih]
    cases classifyHint h with
    | proxy c => rfl
    | gateway u => dsimp only; cases gw u <;> rfl
    | other => rfl

/-- Python guards the two length tests with the `K@` prefix alone, Go with `len < 7 ∨ ¬K@`:
`classifyHint_spec` gives the outcome without Go's extra length guard. -/
theorem pyHintRoots_eq_targets (gw : List Char → Option (List Char)) (fs : List (List Char)) :
    pyHintRoots gw fs = (hintTargets gw fs).map renderPy := by
  induction fs with
  | nil => rfl
  | cons h rest ih =>
    rw [pyHintRoots, hintTargets, ih]
    rcases classifyHint_spec h with ⟨hc, hk, hl⟩ | ⟨hc, hk, hl⟩ | ⟨hc, hn⟩ <;> rw [hc]
    · simp [hk, hl, renderPy]
    · cases hg : gw (h.drop 2) <;> simp [hk, hl, hg, renderPy]
    · by_cases hk : h.take 2 = ['K', '@']
      · simp [hk, not_or.mp fun hl => hn ⟨hk, hl⟩]
      · simp [hk]

end ArvVerif.C12
