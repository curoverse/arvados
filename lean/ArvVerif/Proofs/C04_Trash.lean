/-
C04 sequential layer, proofs: when a trash request may act, what emptying the trash removes, and
for how long a trashed copy can be brought back.
-/
import ArvVerif.Proofs.C04_Step
namespace ArvVerif.C04

theorem tiVol_acts (c : Cfg) (now : Time) (h : Hash) (req : Time) (mount : Option Nat) (v : Vol) (h' : Hash)
    (hne : (tiVol c now h req mount v).blocks h' ≠ v.blocks h') :
    h' = h ∧ v.ro = false ∧ c.blobTrash = true ∧ (mount = none ∨ mount = some v.id) ∧
    ¬ (now < req + c.ttl) ∧ (tiVol c now h req mount v).blocks h = none ∧
    ∃ f, v.blocks h = some f ∧ f.mtime = req := by
  by_cases hsel : tiSelected mount v = true
  · have hm : mount = none ∨ mount = some v.id := by
      simp only [tiSelected, Bool.and_eq_true, Bool.not_eq_true'] at hsel
      cases mount with
      | none => exact Or.inl rfl
      | some m => right; have := hsel.2; simp at this; rw [this]
    cases hf : v.blocks h with
    | none => exact absurd (by simp [tiVol, hsel, hf]) hne
    | some f =>
      by_cases hmt : f.mtime = req ∧ c.blobTrash = true
      · have heq : tiVol c now h req mount v = (Vol.trashBlock c now v h).2 := by
          simp [tiVol, hsel, hf, hmt]
        rw [heq] at hne ⊢
        obtain ⟨he, hro, hbt, hnone, f0, hf0, hold⟩ := (trashBlock_blocks c now v h h').resolve_left hne
        rw [hf] at hf0; cases hf0
        exact ⟨he, hro, hbt, hm, hmt.1 ▸ hold, hnone, f, rfl, hmt.1⟩
      · exact absurd (by simp [tiVol, hsel, hf, hmt]) hne
  · exact absurd (by simp [tiVol, hsel]) hne

theorem delVol_acts (c : Cfg) (now : Time) (h : Hash) (v : Vol) (h' : Hash)
    (hne : (delVol c now h v).blocks h' ≠ v.blocks h') :
    h' = h ∧ v.ro = false ∧ c.blobTrash = true ∧ (delVol c now h v).blocks h = none ∧
    ∃ f, v.blocks h = some f ∧ ¬ (now < f.mtime + c.ttl) := by
  by_cases hro : v.ro = true
  · exact absurd (by simp [delVol, hro]) hne
  · have heq : delVol c now h v = (Vol.trashBlock c now v h).2 := by simp [delVol, hro]
    rw [heq] at hne ⊢
    exact (trashBlock_blocks c now v h h').resolve_left hne

/-- writable volume `id` has a trash entry `<h>.trash.<D>` -/
def HasEntry (vs : List Vol) (id : Nat) (h : Hash) (D : Nat) : Prop :=
  ∃ v ∈ vs, v.id = id ∧ v.ro = false ∧ ∃ e ∈ v.trash, e.hash = h ∧ e.deadline = D

def VolHas (v : Vol) (h : Hash) (D : Nat) : Prop := ∃ e ∈ v.trash, e.hash = h ∧ e.deadline = D

theorem volHas_trashInsert {es : List TrashEnt} {e : TrashEnt} {h : Hash} {D : Nat}
    (hh : ∃ x ∈ es, x.hash = h ∧ x.deadline = D) : ∃ x ∈ trashInsert es e, x.hash = h ∧ x.deadline = D := by
  obtain ⟨x, hx, h1, h2⟩ := hh
  by_cases hk : x.hash = e.hash ∧ x.deadline = e.deadline
  · exact ⟨e, by simp [trashInsert], by rw [← hk.1, h1], by rw [← hk.2, h2]⟩
  · refine ⟨x, ?_, h1, h2⟩
    simp only [trashInsert, List.mem_cons, List.mem_filter]
    right
    refine ⟨hx, ?_⟩
    simp only [Bool.not_eq_true', decide_eq_false_iff_not]
    exact hk

def NoUntrashOf (h : Hash) : List Op → Prop
  | [] => True
  | .untrash h' :: ops => h' ≠ h ∧ NoUntrashOf h ops
  | _ :: ops => NoUntrashOf h ops

theorem volStep_keepsEntry {c : Cfg} {s : St} {op : Op} {v v' : Vol} (hs : VolStep c s op v v') (h : Hash) (D : Nat)
    (hno : ∀ h', op = .untrash h' → h' ≠ h) (hD : s.now / c.res < D) (hh : VolHas v h D) : VolHas v' h D := by
  cases hs with
  | same | touch | write => exact hh
  | trash h0 f _ _ =>
    unfold VolHas
    dsimp only
    split
    · exact hh
    · exact volHas_trashInsert hh
  | untrash h0 hop e _ _ =>
    obtain ⟨x, hx, h1, h2⟩ := hh
    refine ⟨x, List.mem_filter.mpr ⟨hx, ?_⟩, h1, h2⟩
    have : x.hash ≠ h0 := by rw [h1]; exact fun e => hno h0 hop e.symm
    simp [this]
  | sweep tr htr =>
    obtain ⟨x, hx, h1, h2⟩ := hh
    exact ⟨x, (htr x).mpr ⟨hx, .inr (.inr (by rw [h2]; exact hD))⟩, h1, h2⟩

theorem hasEntry_step (c : Cfg) (s : St) (op : Op) (id : Nat) (h : Hash) (D : Nat)
    (hno : ∀ h', op = .untrash h' → h' ≠ h) (hD : s.now / c.res < D) (hh : HasEntry s.vols id h D) :
    HasEntry (step c s op).1.vols id h D := by
  obtain ⟨F, hF, hs⟩ := step_map c s op
  obtain ⟨v, hv, hid, hro, he⟩ := hh
  obtain ⟨h1, h2⟩ := volStep_frame (hs v)
  exact ⟨F v, hF ▸ List.mem_map_of_mem hv, h1.trans hid, h2.trans hro, volStep_keepsEntry (hs v) h D hno hD he⟩

theorem hasEntry_run (c : Cfg) (id : Nat) (h : Hash) (D : Nat) :
    ∀ (ops : List Op) (s : St), NoUntrashOf h ops → HasEntry s.vols id h D →
      (run c s ops).1.now / c.res < D → HasEntry (run c s ops).1.vols id h D := by
  intro ops
  induction ops with
  | nil => intro s _ hh _; exact hh
  | cons op ops ih =>
    intro s hno hh hD
    have h1 : s.now / c.res < D := Nat.lt_of_le_of_lt (Nat.div_le_div_right (run_now_ge c (op :: ops) s)) hD
    have hno' : (∀ h', op = .untrash h' → h' ≠ h) ∧ NoUntrashOf h ops := by
      cases op <;> simp_all [NoUntrashOf]
    exact ih _ hno'.2 (hasEntry_step c s op id h D hno'.1 h1 hh) hD

theorem untrash_restores (c : Cfg) (s : St) (id : Nat) (h : Hash) (D : Nat) (hh : HasEntry s.vols id h D) :
    (step c s (.untrash h)).2 = .code 200 ∧
    ∃ v ∈ (step c s (.untrash h)).1.vols, v.id = id ∧ (v.blocks h).isSome = true := by
  obtain ⟨v, hv, hid, hro, e, he, heh, _⟩ := hh
  obtain ⟨m, hm⟩ := minEntry_some ⟨e, he, heh⟩
  have hw : (writables s.vols).isEmpty = false :=
    List.isEmpty_eq_false_iff_exists_mem.mpr ⟨v, by simp [writables, hv, hro]⟩
  have hf : (s.vols.filter (untrashHit h)).isEmpty = false :=
    List.isEmpty_eq_false_iff_exists_mem.mpr ⟨v, by simp [untrashHit, hv, hro, hm]⟩
  have hstep : step c s (.untrash h) =
      (({ vols := s.vols.map (fun v => untrashVol h (s.now + c.spread * v.id) v),
          now := s.now + c.spread * s.vols.length, rr := s.rr } : St), Res.code 200) := by
    simp [step, hw, hf]
  rw [hstep]
  refine ⟨rfl, _, List.mem_map.mpr ⟨v, hv, rfl⟩, ?_, ?_⟩ <;>
    simp [untrashVol, hro, Vol.untrash, hm, Vol.setBlock, hid]

end ArvVerif.C04
