/-
C10 — `dirnode.loadManifest` on manifest text inside the grammar. Parse level, for every tree: a file
token is the operation "create its path, append its `resolveTok` pieces" (`applyOp`), the carried cursor
stays consistent, a text is the run of its contributions (`fsLines_ops_spec`, `fsLoad_ops_spec`). Tree level
(`runOps_fsInv`, C10_FsTree): that run succeeds when no path is both file and directory, and the loaded
tree maps every path to `resolve`.
-/
import ArvVerif.Proofs.C10_FsTree
import ArvVerif.Proofs.C10_FsLoop
import ArvVerif.Proofs.C10_Grammar
import ArvVerif.Proofs.C10_Escape
namespace ArvVerif.C10

def two31 : Nat := 2147483648

/-- sizes the loader's `ParseInt(…, 10, 32)` / int64 arithmetic can represent -/
def FitsFs (s : Stream) : Prop := (∀ b ∈ s.blocks, b.size < two31) ∧ streamLen s.blocks < two63

theorem fsLocator_spec (t : Bytes) (b : Loc) (h : specLocator t = some b) (hsz : b.size < two31) :
    fsLocator t = some b ∧ bColon ∉ t := by
  obtain ⟨ds, hd, rfl⟩ := specLocator_eq_some.mp h
  refine ⟨?_, locator_no_colon isLowerHex (by decide) t ds hd⟩
  obtain ⟨hints, hsp, _, _, hdne, hdig, _⟩ :=
    locator_split t ds (goLocatorDigits_of_lower hd)
  obtain ⟨r, hr⟩ : ∃ r, splitN3 bPlus t = t.take 32 :: ds :: r := by
    unfold splitN3
    rw [hsp]
    cases hints <;> exact ⟨_, rfl⟩
  unfold fsLocator
  simp only [hr, parseIntBits_digits 32 ds hdne hdig, if_pos (show natOfDigits ds < 2 ^ (32 - 1) from hsz)]
  rw [if_neg (by omega)]
  simp

theorem pathOf_last {name fn : Bytes} (hfn : specFileNameOk fn = true) :
    (splitOn bSlash (name ++ bSlash :: fn)).getLastD [] ≠ [bDot] := by
  rw [splitOn_append_sep_gen, List.getLastD_eq_getLast?, List.getLast?_append,
    List.getLast?_eq_some_getLast (splitOn_ne_nil bSlash fn)]
  exact (componentsOk_mem hfn (List.getLast_mem _)).2.1

section

variable {name : Bytes} {blocks : List Loc} (hseg : blocks ≠ []) (htot : streamLen blocks < two63)

include hseg htot

theorem fsToken_ops_spec (a : Bool) (i : Nat) (p : Int) (tok : Bytes) (f : FTok) (htok : specFileTok tok = some f)
    (hcur : Cursor blocks i p) (hin : f.pos + f.len ≤ streamLen blocks) :
    ∃ i' p', Cursor blocks i' p' ∧ ∀ t, fsToken tok ⟨name, blocks, a, i, p⟩ t =
      (applyOp (pathOf name f.name, resolveTok blocks 0 f.pos f.len) t).map (⟨name, blocks, true, i', p'⟩, ·) := by
  obtain ⟨o, l, nm, ht, hsplit, ho1, ho2, hl1, hl2, _, hu, hfn, epos, elen⟩ := specFileTok_shape tok f htok
  have hpath : name ++ bSlash :: fsUnescape nm = pathOf name f.name := by
    rw [fsUnescape_spec hu]; rfl
  have h64 : ∀ ds, ds ≠ [] → ds.all isDigit = true → natOfDigits ds < two63 →
      parseIntBits 64 ds = some (natOfDigits ds : Int) :=
    fun ds h1 h2 h3 => (parseIntBits_digits 64 ds h1 h2).trans (if_pos h3)
  obtain ⟨i0, hi0, hle, hstart⟩ : ∃ i0, i0 ≤ blocks.length ∧ streamLen (blocks.take i0) ≤ f.pos ∧
      (if p > (f.pos : Int) then ((0 : Nat), (0 : Int)) else (i, p)) =
        (i0, ((streamLen (blocks.take i0) : Nat) : Int)) := by
    split
    · exact ⟨0, Nat.zero_le _, by simp, by simp⟩
    · exact ⟨i, hcur.1, by have := hcur.2; omega, by rw [← hcur.2]⟩
  obtain ⟨i', p', hl, hc, hne⟩ := fsLoop_cursor blocks f.pos f.len i0 hi0 hle hin
  refine ⟨i', p', hc, fun t => ?_⟩
  have hk := createFile_kind (pathOf name f.name) t
  unfold fsToken applyOp
  rw [if_neg (fun hn => hn (by rw [List.contains_iff_mem, ht]; simp)), if_neg hseg, hsplit]
  simp only [h64 o ho1 ho2 (by omega), h64 l hl1 hl2 (by omega), ← epos, ← elen]
  rw [addI64_eq f.pos f.len (by omega), if_neg (by omega), hpath]
  simp only [hstart, hl]
  rcases hc : createFileAndParents (pathOf name f.name) t with ⟨res, t'⟩
  rw [hc] at hk
  cases res with
  | marker => exact absurd (hk.1 rfl) (pathOf_last hfn)
  | error => rfl
  | file k => simp only [if_neg hne]; rfl

theorem fsTokens_ops_spec : ∀ (ftoks : List Bytes) (files : List FTok) (a : Bool) (i : Nat) (p : Int),
    mapOpt specFileTok ftoks = some files → Cursor blocks i p → (∀ f ∈ files, f.pos + f.len ≤ streamLen blocks) →
    ∃ a' i' p', (ftoks ≠ [] ∨ a = true → a' = true) ∧ ∀ t, fsTokens ftoks ⟨name, blocks, a, i, p⟩ t =
      (runOps (contribsOf name blocks files) t).map (⟨name, blocks, a', i', p'⟩, ·)
  | [], files, a, i, p, hm, _, _ => by
    simp [mapOpt] at hm; subst hm
    exact ⟨a, i, p, by simp, fun t => rfl⟩
  | tok :: rest, files, a, i, p, hm, hcur, hin => by
    obtain ⟨f, fs, h1, h2, rfl⟩ := mapOpt_cons_some specFileTok tok rest files hm
    obtain ⟨hinf, hinfs⟩ := List.forall_mem_cons.mp hin
    obtain ⟨i1, p1, e1, e2⟩ := fsToken_ops_spec (name := name) hseg htot a i p tok f h1 hcur hinf
    obtain ⟨a', i', p', g1, g2⟩ := fsTokens_ops_spec rest fs true i1 p1 h2 e1 hinfs
    refine ⟨a', i', p', fun _ => g1 (Or.inr rfl), fun t => ?_⟩
    rw [fsTokens, e2, contribsOf, List.map_cons, runOps]
    cases applyOp _ t with
    | none => rfl
    | some t1 => exact g2 t1

end

theorem fsTokens_locators : ∀ (blocks : List Loc) (rest : List Bytes) (st : FsLine) (t : FsTree),
    (∀ b ∈ blocks, specLocator b.text = some b) → (∀ b ∈ blocks, b.size < two31) → st.anyFile = false →
    fsTokens (blocks.map (·.text) ++ rest) st t = fsTokens rest { st with segments := st.segments ++ blocks } t
  | [], rest, st, t, _, _, _ => by simp
  | b :: bs, rest, st, t, hl, hs, ha => by
    obtain ⟨hlb, hlbs⟩ := List.forall_mem_cons.mp hl
    obtain ⟨hsb, hsbs⟩ := List.forall_mem_cons.mp hs
    obtain ⟨e1, e2⟩ := fsLocator_spec b.text b hlb hsb
    rw [List.map_cons, List.cons_append, fsTokens, fsToken, if_pos (by simpa using e2), if_neg (by simp [ha]), e1]
    simp only []
    rw [fsTokens_locators bs rest { st with segments := st.segments ++ [b] } t hlbs hsbs ha]
    simp [List.append_assoc]

theorem fsLine_ops_spec (line : Bytes) (s : Stream) (h : specLine line = some s) (hfit : FitsFs s) (t : FsTree) :
    fsLine line t = runOps (contribsOf s.name s.blocks s.files) t := by
  obtain ⟨nm, ftoks, hs, _, hu, hname, hr2, hfiles, hbne, hftne, hinside⟩ := specLine_tokens line s h
  obtain ⟨a', i', p', g1, g2⟩ := fsTokens_ops_spec (name := s.name) hbne hfit.2 ftoks s.files false 0 0 hfiles
    ⟨Nat.zero_le _, by simp⟩ hinside
  have hdn : s.name ≠ [] := fun he => by rw [he] at hname; exact absurd hname (by decide)
  unfold fsLine
  rw [hs]
  simp only [fsUnescape_spec hu]
  rw [fsTokens_locators s.blocks ftoks _ t hr2 hfit.1 rfl]
  simp only [List.nil_append, g2]
  cases runOps _ t with
  | none => rfl
  | some t' => simp [g1 (Or.inl hftne), hbne, hdn]

theorem fsLines_ops_spec : ∀ (lines : List Bytes) (M : Manifest), mapOpt specLine lines = some M →
    (∀ s ∈ M, FitsFs s) → ∀ t, fsLines lines t = runOps (manifestContribs M) t
  | [], M, h, _, t => by simp [mapOpt] at h; subst h; rfl
  | l :: ls, M, h, hfit, t => by
    obtain ⟨s, ss, h1, h2, rfl⟩ := mapOpt_cons_some specLine l ls M h
    obtain ⟨hfs, hfss⟩ := List.forall_mem_cons.mp hfit
    rw [fsLines, fsLine_ops_spec l s h1 hfs, manifestContribs, List.flatMap_cons, runOps_append]
    cases runOps _ t with
    | none => rfl
    | some t1 => exact fsLines_ops_spec ls ss h2 hfss t1

theorem stream_keys {l : Bytes} {s : Stream} (h : specLine l = some s) :
    ∀ f ∈ s.files, ∃ k, KeyOk k ∧ pathOf s.name f.name = pathOfKey k := by
  intro f hf
  obtain ⟨_, ftoks, _, _, _, hname, _, hfiles, _⟩ := specLine_tokens l s h
  obtain ⟨tk, _, ht⟩ := mapOpt_mem specFileTok ftoks s.files hfiles f hf
  exact path_components s.name f.name hname (specFileTok_nameOk ht)

theorem runOps_manifest (M : Manifest) (hlines : ∀ s ∈ M, ∃ l, specLine l = some s) (htree : TreeConsistent M) :
    ∃ t, runOps (manifestContribs M) ⟨[], []⟩ = some t ∧ FsInv (manifestContribs M) t := by
  have hmem : ∀ s ∈ M, ∀ f ∈ s.files, pathOf s.name f.name ∈ pathsOf M :=
    fun s hs f hf => mem_pathsOf.mpr ⟨s, hs, f, hf, rfl⟩
  obtain ⟨t, h1, h2⟩ := runOps_fsInv (pathsOf M) (manifestContribs M) [] ⟨[], []⟩ fsInv_empty (by simp) fun c hc => by
    obtain ⟨s, hs, f, hf, rfl⟩ := mem_manifestContribs.mp hc
    obtain ⟨l, hl⟩ := hlines s hs
    exact ⟨stream_keys hl f hf, hmem s hs f hf,
      fun q hq => ⟨htree q hq _ (hmem s hs f hf), htree _ (hmem s hs f hf) q hq⟩⟩
  exact ⟨t, h1, by simpa using h2⟩

theorem fsLoad_ops_spec (txt : Bytes) (M : Manifest) (hvalid : parseSpec txt = some M) (hfit : ∀ s ∈ M, FitsFs s) :
    fsLoad txt = runOps (manifestContribs M) ⟨[], []⟩ := by
  obtain ⟨lines, hsplit, hl⟩ := parseSpec_lines txt M hvalid
  unfold fsLoad
  simp only [hsplit, List.getLast?_concat, List.dropLast_concat, ne_eq, not_true_eq_false, if_false]
  exact fsLines_ops_spec lines M hl hfit _

theorem fsLoad_valid (txt : Bytes) (M : Manifest) (hvalid : parseSpec txt = some M)
    (hfit : ∀ s ∈ M, FitsFs s) (htree : TreeConsistent M) :
    ∃ t, fsLoad txt = some t ∧ FsInv (manifestContribs M) t := by
  obtain ⟨lines, _, hl⟩ := parseSpec_lines txt M hvalid
  rw [fsLoad_ops_spec txt M hvalid hfit]
  exact runOps_manifest M (fun s hs => (mapOpt_mem specLine lines M hl s hs).imp fun _ h => h.2) htree

end ArvVerif.C10
