/-
Facts about core list functions and `ite` that more than one property needs and core lacks.
-/
namespace ArvVerif.Lib

theorem foldl_fixed {α β : Type} {f : β → α → β} {b : β} {l : List α} (h : ∀ a ∈ l, f b a = b) :
    l.foldl f b = b :=
  List.foldlRecOn l f (motive := (· = b)) rfl fun _ hb a ha => hb ▸ h a ha

theorem sum_map_le {α : Type} {l : List α} {f g : α → Nat} (h : ∀ a ∈ l, f a ≤ g a) :
    (l.map f).sum ≤ (l.map g).sum := by
  induction l with
  | nil => simp
  | cons a l ih =>
    simp only [List.map_cons, List.sum_cons]
    have := h a List.mem_cons_self
    have := ih fun b hb => h b (List.mem_cons_of_mem _ hb)
    omega

theorem eq_of_pairwise_ne {α β : Type} (f : α → β) {l : List α} (h : l.Pairwise (fun a b => f a ≠ f b))
    {p q : α} (hp : p ∈ l) (hq : q ∈ l) (e : f p = f q) : p = q :=
  List.Pairwise.forall_of_forall_of_flip (R := fun a b => f a = f b → a = b) (fun _ _ _ => rfl)
    (h.imp fun hne e => absurd e hne) (h.imp fun hne e => absurd e.symm hne) hp hq e

theorem forall_mem_middle {α : Type} {pre post : List α} {a : α} {P : α → Prop} :
    (∀ x ∈ pre ++ a :: post, P x) ↔ P a ∧ ∀ x, x ∈ pre ∨ x ∈ post → P x := by
  simp only [List.mem_append, List.mem_cons, or_imp, forall_and, forall_eq]
  exact ⟨fun ⟨h1, h2, h3⟩ => ⟨h2, h1, h3⟩, fun ⟨h2, h1, h3⟩ => ⟨h1, h2, h3⟩⟩

theorem append_eq_append_cons {α : Type} {l1 l2 pre post : List α} {x : α}
    (h : l1 ++ l2 = pre ++ x :: post) :
    (∃ post', l1 = pre ++ x :: post' ∧ post = post' ++ l2) ∨
    (∃ pre', pre = l1 ++ pre' ∧ l2 = pre' ++ x :: post) := by
  rcases List.append_eq_append_iff.mp h with ⟨as, h1, h2⟩ | ⟨bs, h1, h2⟩
  · exact Or.inr ⟨as, h1, h2⟩
  · rcases List.cons_eq_append_iff.mp h2 with ⟨rfl, h3⟩ | ⟨bs', rfl, h3⟩
    · exact Or.inr ⟨[], by simpa using h1.symm, h3⟩
    · exact Or.inl ⟨bs', h1, h3⟩

theorem ite_eq_of_ne {α : Type} {c : Prop} [Decidable c] {a b x : α}
    (h : (if c then a else b) = x) (ha : a ≠ x) : ¬ c ∧ b = x := by
  split at h
  · exact absurd h ha
  · exact ⟨‹_›, h⟩

end ArvVerif.Lib
