/-
C18: one space-delimited token under `rewriteManifest`. `strings.Replace(tok, "+A", …)` acts on the
`+`-separated fields one by one (`replaceSig_eq_hints`, with `specHint`); only the part of a token
before its first newline is rewritten (`linePart`, `restPart`); a block token is 32 hex digits, a `+`
and anything (`locPrefix_shape`), and whether a token is one is decided before its first newline
(`locPrefix_linePart`). The tokens of the output are then the rewritten tokens of the input
(`rewriteManifest_tokens`).
-/
import ArvVerif.Proofs.C18_Tokens
namespace ArvVerif.C18

/-- what happens to one `+`-separated hint -/
def specHint (id : Str) : Str → Str
  | [] => []
  | c :: r => if c = 'A' then 'R' :: (id ++ '-' :: r) else c :: r

section replaceSig
variable (id : Str)

theorem specHint_of_head_ne {h : Str} (hh : h.head? ≠ some 'A') : specHint id h = h := by
  cases h <;> simp_all [specHint]

/-- no `+` in `a`, so no `+A` begins in it (`replaceSig_append` below allows a `+` that no `A` follows) -/
theorem replaceSig_append_of_not_mem {a : Str} (r : Str) (h : '+' ∉ a) :
    replaceSig id (a ++ r) = a ++ replaceSig id r := by
  induction a with
  | nil => rfl
  | cons c a ih => cases a <;> cases r <;> simp_all [replaceSig, eq_comm (a := '+')]

theorem replaceSig_plus (t : Str) :
    replaceSig id ('+' :: t) = '+' :: joinWith '+' ((splitOn '+' t).map (specHint id)) := by
  -- the first hint `a`; what follows it is empty or begins with the next `+`
  have key : ∀ a r, '+' ∉ a → r.head? ≠ some 'A' →
      replaceSig id ('+' :: (a ++ r)) = '+' :: (specHint id a ++ replaceSig id r) := by
    intro a r ha hr
    cases a with
    | nil => cases r <;> simp_all [replaceSig, specHint]
    | cons c a =>
      rw [List.mem_cons, not_or] at ha
      by_cases hc : c = 'A'
      · subst hc
        simp [replaceSig, specHint, replaceSig_append_of_not_mem id r ha.2]
      · have := replaceSig_append_of_not_mem id r (a := c :: a) (by simp [ha])
        simp_all [replaceSig, specHint]
  induction t using sep_induction '+' with
  | base a h => simpa [splitOn_of_not_mem h, joinWith, replaceSig] using key a [] h (by simp)
  | step a b h ih =>
    rw [key a _ h (by simp), ih, splitOn_append_sep h, List.map_cons, joinWith_cons (by simp [splitOn_ne_nil])]

/-- `strings.Replace(tok, "+A", "+R<id>-", -1)` acts hint by hint. -/
theorem replaceSig_eq_hints (t : Str) :
    replaceSig id t = joinWith '+' (mapTail (specHint id) (splitOn '+' t)) := by
  induction t using sep_induction '+' with
  | base a h =>
    simpa [splitOn_of_not_mem h, mapTail, joinWith, replaceSig] using replaceSig_append_of_not_mem id [] h
  | step a b h _ =>
    rw [replaceSig_append_of_not_mem id _ h, replaceSig_plus, splitOn_append_sep h, mapTail,
      joinWith_cons (by simp [splitOn_ne_nil])]

theorem replaceSig_head (r : Str) : (replaceSig id r).head? = r.head? := by
  fun_induction replaceSig id r <;> simp_all

/-- no `+A` begins inside `p` or straddles the seam, so `p` is copied -/
theorem replaceSig_append {p : Str} (r : Str) (hA : ∀ c ∈ p, c ≠ 'A') (hl : p.getLast? ≠ some '+') :
    replaceSig id (p ++ r) = p ++ replaceSig id r := by
  induction p with
  | nil => rfl
  | cons c p ih => cases p <;> cases r <;> simp_all [replaceSig]

end replaceSig

theorem not_mem_replaceSig {id t : Str} {x : Char} (ht : x ∉ t) (hid : x ∉ id) (hR : x ≠ 'R') (hm : x ≠ '-') :
    x ∉ replaceSig id t := by
  fun_induction replaceSig id t <;> simp_all

theorem mem_linePart {t : Str} {x : Char} (h : x ∈ linePart t) : x ∈ t :=
  (List.takeWhile_sublist _).subset h

theorem mem_restPart {t : Str} {x : Char} (h : x ∈ restPart t) : x ∈ t :=
  (List.dropWhile_sublist _).subset h

theorem linePart_append_restPart (t : Str) : linePart t ++ restPart t = t :=
  List.takeWhile_append_dropWhile

theorem not_nl_mem_linePart (t : Str) : '\n' ∉ linePart t := fun h =>
  absurd (List.all_eq_true.mp List.all_takeWhile _ h) (by decide)

theorem notNL_of_not_mem {a : Str} (h : '\n' ∉ a) : ∀ c ∈ a, notNL c = true :=
  fun c hc => by simpa [notNL] using fun e : c = '\n' => h (e ▸ hc)

theorem linePart_append {a : Str} (b : Str) (h : '\n' ∉ a) : linePart (a ++ b) = a ++ linePart b :=
  List.takeWhile_append_of_pos (notNL_of_not_mem h)

theorem restPart_append {a : Str} (b : Str) (h : '\n' ∉ a) : restPart (a ++ b) = restPart b :=
  List.dropWhile_append_of_pos (notNL_of_not_mem h)

theorem restPart_restPart (t : Str) : restPart (restPart t) = restPart t := by
  induction t with
  | nil => rfl
  | cons c t ih => by_cases h : notNL c = true <;> simp_all [restPart]

theorem linePart_of_no_nl {t : Str} (h : '\n' ∉ t) : linePart t = t := by
  simpa [linePart] using linePart_append [] h

theorem restPart_of_no_nl {t : Str} (h : '\n' ∉ t) : restPart t = [] := by
  simpa [restPart] using restPart_append [] h

theorem linePart_append_nl {a : Str} (b : Str) (h : '\n' ∉ a) : linePart (a ++ '\n' :: b) = a := by
  rw [linePart_append _ h]; simp [linePart, notNL]

theorem restPart_append_nl {a : Str} (b : Str) (h : '\n' ∉ a) :
    restPart (a ++ '\n' :: b) = '\n' :: b := by
  rw [restPart_append _ h]; simp [restPart, notNL]

theorem isLowerHex_plain {c : Char} (h : isLowerHex c = true) : c ≠ '\n' ∧ c ≠ 'A' := by
  constructor <;> (rintro rfl; revert h; decide)

theorem locPrefix_shape {t : Str} (h : locPrefix t = true) :
    ∃ hx rest, t = hx ++ '+' :: rest ∧ hx.length = 32 ∧ hx.all isLowerHex = true := by
  simp only [locPrefix, Bool.and_eq_true, beq_iff_eq] at h
  obtain ⟨rest, hr⟩ := List.head?_eq_some_iff.mp h.2
  exact ⟨t.take 32, rest, by rw [← hr, List.take_append_drop], h.1⟩

theorem locPrefix_of_shape {hx : Str} (rest : Str) (h1 : hx.length = 32)
    (h2 : hx.all isLowerHex = true) : locPrefix (hx ++ '+' :: rest) = true := by
  simp [locPrefix, List.take_left' h1, List.drop_left' h1, h1, h2]

theorem locPrefix_linePart (t : Str) : locPrefix (linePart t) = locPrefix t := by
  rw [Bool.eq_iff_iff]
  constructor
  · intro h
    obtain ⟨hx, rest, e, h1, h2⟩ := locPrefix_shape h
    rw [← linePart_append_restPart t, e, List.append_assoc, List.cons_append]
    exact locPrefix_of_shape _ h1 h2
  · intro h
    obtain ⟨hx, rest, rfl, h1, h2⟩ := locPrefix_shape h
    have hnl : '\n' ∉ hx ++ ['+'] := by
      simp only [List.mem_append, List.mem_singleton, not_or]
      exact ⟨fun hm => (isLowerHex_plain (List.all_eq_true.mp h2 _ hm)).1 rfl, by decide⟩
    rw [List.append_cons, linePart_append _ hnl, List.append_assoc, List.singleton_append]
    exact locPrefix_of_shape _ h1 h2

theorem locPrefix_append_nl (a b : Str) (_h : '\n' ∉ a) : locPrefix (a ++ '\n' :: b) = locPrefix a := by
  rw [← locPrefix_linePart, linePart_append_nl b _h]

theorem not_mem_rewriteTok {id t : Str} {x : Char} (ht : x ∉ t) (hid : x ∉ id) (hR : x ≠ 'R') (hm : x ≠ '-') :
    x ∉ rewriteTok id t := by
  unfold rewriteTok
  split
  · rw [List.mem_append, not_or]
    exact ⟨not_mem_replaceSig (fun h => ht (mem_linePart h)) hid hR hm, fun h => ht (mem_restPart h)⟩
  · exact ht

theorem rewriteManifest_tokens (mt : Str) {id : Str} (hid : ' ' ∉ id) :
    splitOn ' ' (rewriteManifest mt id) = mapTail (rewriteTok id) (splitOn ' ' mt) :=
  splitOn_joinWith_mapTail (fun _ ht => not_mem_rewriteTok ht hid (by decide) (by decide)) mt

end ArvVerif.C18
