/-
C08 — helper lemmas for the extension layer (`Model/C08_Ext.lean`): paged Readdir, Size(),
MemorySize(), memSegment capacity.
-/
import ArvVerif.Proofs.C08_AbsFS
import ArvVerif.Model.C08_Ext
import ArvVerif.Proofs.Lib_List
namespace ArvVerif.C08

variable {max : Nat} {hash : Bytes → Loc}

theorem pageStep_eof {u : Unread} {count : Nat} (h : u.pos ≥ u.snap.length) :
    pageStep u count = ([], u, Err.eof) := by
  simp [pageStep, h]

theorem pageStep_ok {u : Unread} {count : Nat} (h : u.pos < u.snap.length) :
    pageStep u count = ((u.snap.drop u.pos).take count,
      { u with pos := u.pos + ((u.snap.drop u.pos).take count).length }, Err.ok) := by
  have : ¬ u.pos ≥ u.snap.length := by omega
  simp [pageStep, this]

theorem pageStep_snap (u : Unread) (count : Nat) : (pageStep u count).2.1.snap = u.snap := by
  unfold pageStep
  split <;> rfl

theorem pageStep_pos (u : Unread) (count : Nat) :
    (pageStep u count).2.1.pos = u.pos + (pageStep u count).1.length := by
  unfold pageStep
  split <;> simp

theorem pageStep_page (u : Unread) (count : Nat) :
    (pageStep u count).1 = (u.snap.drop u.pos).take count := by
  unfold pageStep
  split
  · rename_i h
    rw [List.drop_eq_nil_of_le h, List.take_nil]
  · rfl

/-- Whatever the counts: the pages, concatenated, are the next `Σ counts` entries of the snapshot —
every entry once, in order, nothing else. -/
theorem pageRun_flatten : ∀ (cs : List Nat) (u : Unread),
    (pageRun u cs).flatten = (u.snap.drop u.pos).take cs.sum := by
  intro cs
  induction cs with
  | nil => intro u; simp [pageRun]
  | cons c cs ih =>
    intro u
    simp only [pageRun, List.flatten_cons, List.sum_cons]
    rw [ih, pageStep_snap, pageStep_pos, pageStep_page, List.length_take, ← List.drop_drop,
      ← List.drop_eq_drop_min, List.take_add]

theorem getUnread_setUnread {us : List (Nat × Unread)} {h : Nat} {u : Unread} :
    getUnread (setUnread us h u) h = some u := by
  unfold getUnread setUnread eraseUnread
  rw [find?_put_self]; rfl

theorem getUnread_setUnread_ne {us : List (Nat × Unread)} {h h' : Nat} {u : Unread} (hne : h' ≠ h) :
    getUnread (setUnread us h u) h' = getUnread us h' := by
  unfold getUnread setUnread eraseUnread
  rw [find?_put_ne us u hne]

theorem getUnread_eraseUnread_ne {us : List (Nat × Unread)} {h h' : Nat} (hne : h' ≠ h) :
    getUnread (eraseUnread us h) h' = getUnread us h' := by
  unfold getUnread eraseUnread
  rw [find?_erase_ne us hne]

/-- the pages handed out through slot `h` in a run (ops and their results) -/
def pagesOf (h : Nat) : List XOp → List XRes → List (List Entry)
  | XOp.hreaddirN h' _ :: ops, XRes.page p _ :: rs =>
    if h' = h then p :: pagesOf h ops rs else pagesOf h ops rs
  | _ :: ops, _ :: rs => pagesOf h ops rs
  | _, _ => []

/-- the operation does not give slot `h` a new filehandle and does not drop it -/
def keepsSlot (h : Nat) : XOp → Bool
  | XOp.base (Op.openF h' ..) => h' != h
  | XOp.base (Op.create h' _) => h' != h
  | XOp.base (Op.close h') => h' != h
  | _ => true

theorem slotReset_some {k : Nat} {o : Op} {r : Res} (hs : slotReset o r = some k) :
    ∀ h, keepsSlot h (XOp.base o) = (k != h) := by
  unfold slotReset at hs
  split at hs
  · cases hs; exact fun _ => rfl
  · cases hs; exact fun _ => rfl
  · cases hs; exact fun _ => rfl
  · cases hs

/-- One step seen from slot `h` with snapshot `u` pending: either it is a paged call on `h` that
returns `pageStep u count`, or it hands out nothing for `h` and leaves the snapshot alone. -/
theorem stepX_slot {F P W : Type} (impl : FileImpl F P W) (mem : F → Nat) {x : XFS F P W} {h : Nat} {u : Unread}
    (hu : getUnread x.unread h = some u) {op : XOp} (hk : keepsSlot h op = true) :
    (∃ count, pagesOf h [op] [(stepX impl mem x op).2] = [(pageStep u count).1] ∧
       getUnread (stepX impl mem x op).1.unread h = some (pageStep u count).2.1) ∨
    (pagesOf h [op] [(stepX impl mem x op).2] = [] ∧ getUnread (stepX impl mem x op).1.unread h = some u) := by
  cases op with
  | base o =>
    refine Or.inr ⟨rfl, ?_⟩
    simp only [stepX]
    cases hs : slotReset o (step impl x.fs o).2 with
    | none => exact hu
    | some k =>
      have hne : h ≠ k := fun e => by rw [slotReset_some hs, e] at hk; simp at hk
      exact (getUnread_eraseUnread_ne hne).trans hu
  | fsSize => exact Or.inr ⟨rfl, hu⟩
  | memSize => exact Or.inr ⟨rfl, hu⟩
  | hreaddirN h' count =>
    simp only [stepX]
    split
    · exact Or.inr ⟨rfl, hu⟩
    · split
      · exact Or.inr ⟨rfl, hu⟩
      · split
        · exact Or.inr ⟨rfl, hu⟩
        · by_cases hh : h' = h
          · subst hh
            rw [hu]
            exact Or.inl ⟨count, by simp [pagesOf], getUnread_setUnread⟩
          · refine Or.inr ⟨by simp [pagesOf, hh], ?_⟩
            rw [getUnread_setUnread_ne (fun e => hh e.symm)]
            exact hu

theorem pagesOf_cons (h : Nat) (op : XOp) (r : XRes) (ops : List XOp) (rs : List XRes) :
    pagesOf h (op :: ops) (r :: rs) = pagesOf h [op] [r] ++ pagesOf h ops rs := by
  cases op with
  | hreaddirN h' c =>
    cases r with
    | page p e => simp only [pagesOf]; split <;> rfl
    | base _ => rfl
    | size _ => rfl
  | base _ => rfl
  | fsSize => rfl
  | memSize => rfl

/-- In a history that keeps slot `h`, whatever else it does, the pages handed out through `h` are those of
consecutive paged calls on the slot's snapshot (`pageRun`) for some counts; so what holds of every `pageRun`
(`pageRun_flatten`) holds of the pages of a handle in every history. -/
theorem runX_pages {F P W : Type} (impl : FileImpl F P W) (mem : F → Nat) (h : Nat) :
    ∀ (ops : List XOp) (x : XFS F P W) (u : Unread), getUnread x.unread h = some u →
      (∀ op ∈ ops, keepsSlot h op = true) →
      ∃ cs, pagesOf h ops (runX impl mem x ops).2 = pageRun u cs ∧
        getUnread (runX impl mem x ops).1.unread h = some ⟨u.snap, u.pos + (pageRun u cs).flatten.length⟩ := by
  intro ops
  induction ops with
  | nil => intro x u hu _; exact ⟨[], rfl, hu⟩
  | cons op rest ih =>
    intro x u hu hk
    obtain ⟨hk1, hk2⟩ := List.forall_mem_cons.mp hk
    simp only [runX]
    rw [pagesOf_cons]
    rcases stepX_slot impl mem hu hk1 with ⟨c, hp, hu'⟩ | ⟨hp, hu'⟩
    · obtain ⟨cs, i1, i2⟩ := ih _ _ hu' hk2
      refine ⟨c :: cs, by rw [hp, i1]; rfl, ?_⟩
      rw [i2, pageStep_snap, pageStep_pos]
      simp only [pageRun, List.flatten_cons, List.length_append, Nat.add_assoc]
    · obtain ⟨cs, i1, i2⟩ := ih _ _ hu' hk2
      exact ⟨cs, by rw [hp, i1]; rfl, i2⟩

theorem entriesList_abs {s : CFS} (hinv : Inv max hash s) (d : Nat) :
    entriesList specImpl (absFS s) d = entriesList (concImpl hash max) s d := by
  simp only [entriesList, absFS_ents, nodeName_abs, nodeSize_abs hinv]

theorem treeSum_congr {F P W F' P' W' : Type} (s : FS F P W) (s' : FS F' P' W') (he : s'.ents = s.ents)
    (v v' : Nat → Nat) (hv : ∀ f, v' f = v f) : ∀ (fuel d : Nat), treeSum s' v' fuel d = treeSum s v fuel d := by
  intro fuel
  induction fuel with
  | zero => intro d; rfl
  | succ k ih =>
    intro d
    simp only [treeSum, he]
    congr 1
    apply List.map_congr_left
    intro e _
    cases e.2 with
    | file f => exact hv f
    | dir c => exact ih c

theorem fsSize_abs {s : CFS} (hinv : Inv max hash s) :
    fsSize specImpl (absFS s) = fsSize (concImpl hash max) s := by
  unfold fsSize
  exact treeSum_congr s (absFS s) rfl _ _ (fun f => nodeSize_abs hinv (Node.file f)) _ _

theorem treeSum_le {F P W : Type} (s : FS F P W) (v v' : Nat → Nat) (hv : ∀ f, v f ≤ v' f) :
    ∀ (fuel d : Nat), treeSum s v fuel d ≤ treeSum s v' fuel d := by
  intro fuel
  induction fuel with
  | zero => intro d; exact Nat.le_refl _
  | succ k ih =>
    intro d
    simp only [treeSum]
    apply Lib.sum_map_le
    intro e _
    cases e.2 with
    | file f => exact hv f
    | dir c => exact ih c

theorem memOf_le_sumLen (fn : FileNode) : memOf fn ≤ sumLen fn.segs := by
  unfold memOf sumLen
  apply Lib.sum_map_le
  intro s _
  cases s <;> simp [Seg.len]

theorem capTruncate_seg (c : CapSeg) (n : Nat) :
    (capTruncate true c n).seg = memTruncate c.buf c.fl n := by
  unfold capTruncate memTruncate CapSeg.seg
  split
  · next h =>
    congr 1
    by_cases hf : c.fl = Flush.none
    · simp [hf]
    · rw [if_pos ⟨hf, by omega⟩]
  · next h =>
    rw [if_neg (fun h4 => h (Or.inr h4))]
    split
    · simp [show n - c.buf.length = 0 by omega, zeros]
    · simp [List.take_of_length_le (show c.buf.length ≤ n by omega)]

theorem capWriteAt_seg (c : CapSeg) (p : Bytes) (off : Nat) :
    (capWriteAt c p off).map CapSeg.seg = memWriteAt c.buf p off := by
  unfold capWriteAt memWriteAt
  split
  · rfl
  · split <;> rfl

theorem capSlice_seg (c : CapSeg) (n : Nat) (l : Option Nat) :
    (capSlice c n l).seg = c.seg.slice n l := by
  cases l <;> rfl

end ArvVerif.C08
