/-
C02 helper lemmas: putWithPipe's contract towards the writer.
-/
import ArvVerif.Model.C02
namespace ArvVerif.C02

/-- Inductive invariant of `PStep`. The second disjunct of `main` is for `selectPut` with `ok = true`; no reachable
state enables it (only `giveUp` makes the writer return, with `false`), but the invariant has to hold of every step. -/
structure PInv (s : Pipe) : Prop where
  pre : s.got.flatten <+: s.body
  copy : s.copyDone = true → s.got.flatten = s.body
  main : s.mainErr = some false → s.got.flatten = s.body ∨ s.writer = .returned true
  closed : ∀ e, s.closed = some e → s.mainErr = some e
  eof : s.writer = .sawEOF → s.closed = some false
  err : s.writer = .sawErr → s.closed = some true

theorem pinv_init (body : Bytes) : PInv (Pipe.init body) := by
  constructor <;> simp [Pipe.init]

theorem prefix_full_no_more {body c : Bytes} (h : (body ++ c) <+: body) : c = [] := by
  have := h.length_le
  simp at this
  exact List.eq_nil_of_length_eq_zero (by omega)

theorem PInv.not_closed {s : Pipe} (hi : PInv s) (hm : s.mainErr = none) (e : Bool) :
    s.closed ≠ some e := by
  intro he
  have := hi.closed e he
  rw [hm] at this; cases this

theorem PInv.main_reading {s : Pipe} (hi : PInv s) (hw : s.writer = .reading)
    (h : s.mainErr = some false) : s.got.flatten = s.body := by
  rcases hi.main h with h1 | h1
  · exact h1
  · rw [hw] at h1; cases h1

theorem pinv_step {s t : Pipe} (hi : PInv s) (hs : PStep s t) : PInv t := by
  cases hs with
  | read c hw hc hne hp =>
    -- a non-empty piece was read, so the body had not been delivered completely
    have full : s.got.flatten ≠ s.body := fun h => by
      rw [h] at hp; exact hne (prefix_full_no_more hp)
    exact { hi with
      pre := by simpa using hp
      copy := fun h => absurd (hi.copy h) full
      main := fun h => absurd (hi.main_reading hw h) full }
  | copyFinish hm hg => exact { hi with copy := fun _ => hg, main := fun h => by simp [hm] at h }
  | cancel => exact { hi with }
  | selectCopy hm hc =>
    exact { hi with main := fun _ => .inl (hi.copy hc), closed := fun e he => absurd he (hi.not_closed hm e) }
  | selectCtx hm hc => exact { hi with main := nofun, closed := fun e he => absurd he (hi.not_closed hm e) }
  | selectPut ok hm hw =>
    refine { hi with main := fun h => ?_, closed := fun e he => absurd he (hi.not_closed hm e) }
    cases ok
    · cases h
    · exact .inr hw
  | close e hm hc =>
    refine { hi with closed := fun e' he' => ?_, eof := fun h => ?_, err := fun h => ?_ }
    · cases he'; exact hm
    · have := hi.eof h; rw [hc] at this; cases this
    · have := hi.err h; rw [hc] at this; cases this
  | seeEOF hw hc => exact { hi with main := fun h => .inl (hi.main_reading hw h), eof := fun _ => hc, err := nofun }
  | seeErr hw hc => exact { hi with main := fun h => .inl (hi.main_reading hw h), eof := nofun, err := fun _ => hc }
  | giveUp hw => exact { hi with main := fun h => .inl (hi.main_reading hw h), eof := nofun, err := nofun }

theorem pinv_reach {body : Bytes} {s : Pipe} (h : PReach body s) : PInv s ∧ s.body = body := by
  induction h with
  | init => exact ⟨pinv_init body, rfl⟩
  | step _ hs ih =>
    refine ⟨pinv_step ih.1 hs, ?_⟩
    rw [← ih.2]
    cases hs <;> rfl

end ArvVerif.C02
