/-
C14 layer L3, queue cache: invariants relating the cache to the API record.
-/
import ArvVerif.Model.C14_Queue
namespace ArvVerif.C14

theorem final_iff (s : CState) : s.final = true ↔ s = .complete ∨ s = .cancelled := by
  cases s <;> simp [CState.final]

structure QInv (s : QState) : Prop where
  q1 : ∀ c st, s.cache c = some st → st.final = true → (s.api c).final = true
  /-- a poll never overwrites a finished cache entry with an unfinished reading -/
  q2 : ∀ c st st', s.polling = true → s.snap c = some st → s.dont c = false →
        s.cache c = some st' → st'.final = true → st.final = true
  /-- a container the cache shows as Locked is not Queued (or unknown) in the API -/
  q3 : ∀ c, s.cache c = some .locked → s.api c ≠ .queued ∧ s.api c ≠ .other
  /-- nor is one that the poll in flight has read as Locked, unless a local update intervened -/
  q4 : ∀ c, s.polling = true → s.snap c = some .locked → s.dont c = false →
        s.api c ≠ .queued ∧ s.api c ≠ .other
  q5 : ∀ c st, s.polling = true → s.snap c = some st → st.final = true → (s.api c).final = true

theorem QInv_init : QInv QState.init where
  q1 := nofun
  q2 := nofun
  q3 := nofun
  q4 := nofun
  q5 := nofun

namespace QInv
variable {s : QState} (h : QInv s)
include h

theorem setApi (c : Uuid) {v : CState} (hf : (s.api c).final = true → v.final = true)
    (hq : s.api c ≠ .queued ∧ s.api c ≠ .other → v ≠ .queued ∧ v ≠ .other) :
    QInv { s with api := qupd s.api c v } :=
  { h with
    q1 := by have := h.q1; grind [qupd_eq]
    q3 := by have := h.q3; grind [qupd_eq]
    q4 := by have := h.q4; grind [qupd_eq]
    q5 := by have := h.q5; grind [qupd_eq] }

theorem localUpdate (c : Uuid) {v : CState} (hf : (s.api c).final = true → v.final = true) :
    QInv (s.localUpdate c v) := by
  unfold QState.localUpdate
  exact {
    q1 := by have := h.q1; grind [qupd_eq]
    q2 := by have := h.q2; grind
    q3 := by have := h.q3; grind [qupd_eq]
    q4 := by have := h.q4; grind [qupd_eq]
    q5 := by have := h.q5; grind [qupd_eq] }

end QInv

theorem QInv_step {s t : QState} {ev : QEv} (h : QInv s) (st : QStep s ev t) : QInv t := by
  cases st with
  | apiCancel c hc | apiComplete c hc => exact h.setApi c (fun _ => rfl) (fun _ => ⟨nofun, nofun⟩)
  | apiRun c hc => exact h.setApi c (fun e => nomatch hc ▸ e) (fun _ => ⟨nofun, nofun⟩)
  | apiSubmit c hc hc' => exact h.setApi c (fun e => nomatch hc ▸ e) (fun e => absurd hc e.2)
  | lockOk c hc | unlockOk c hc => exact h.localUpdate c (fun e => nomatch hc ▸ e)
  | cancelOk c hc => exact h.localUpdate c (fun _ => rfl)
  | forget c =>
    exact { h with
      q1 := by have := h.q1; grind [qupd_eq]
      q2 := by have := h.q2; grind [qupd_eq]
      q3 := by have := h.q3; grind [qupd_eq] }
  | pollBegin hp => exact { h with q2 := nofun, q4 := nofun, q5 := nofun }
  | pollRead c hp =>
    -- what is read now is the API record of now
    exact { h with
      q2 := by have := h.q2; have := h.q1; grind [qupd_eq]
      q4 := by have := h.q4; grind [qupd_eq]
      q5 := by have := h.q5; grind [qupd_eq] }
  | pollEnd hp =>
    -- an entry is kept (`dontupdate`) or replaced by what the poll read
    exact {
      q1 := by have := h.q1; have := h.q5; grind
      q2 := nofun
      q3 := by have := h.q3; have := h.q4; grind
      q4 := nofun
      q5 := nofun }
  | start c hc => exact h

theorem QInv_reachFrom {s t : QState} (hs : QInv s) (h : QReachFrom s t) : QInv t := by
  induction h with
  | refl => exact hs
  | step _ st ih => exact QInv_step ih st

theorem QInv_reach {s : QState} (h : QReach s) : QInv s := QInv_reachFrom QInv_init h

/-- Container `c` is finished for good: in the API, in the cache if it is there, and in what a
poll in flight is going to write into the cache. -/
structure Finished (s : QState) (c : Uuid) : Prop where
  api : (s.api c).final = true
  cache : ∀ x, s.cache c = some x → x.final = true
  snap : s.polling = true → ∀ x, s.snap c = some x → s.dont c = false → x.final = true

theorem Finished.of_cache {s : QState} {c : Uuid} {st : CState} (hq : QInv s)
    (hc : s.cache c = some st) (hf : st.final = true) : Finished s c where
  api := hq.q1 c st hc hf
  cache x hx := by cases hc.symm.trans hx; exact hf
  snap hp x hs hd := hq.q2 c x st hp hs hd hc hf

/-- A finished API record only moves to a finished one (the guards of `Lock`, `Unlock`, run and
submit exclude the rest), and the cache follows the API or the poll. -/
theorem Finished.step {s t : QState} {ev : QEv} {c : Uuid} (h : Finished s c) (st : QStep s ev t) :
    Finished t c := by
  cases st with
  | forget c' => exact { h with cache := by have := h.cache; grind [qupd_eq] }
  | pollBegin hp => exact { h with snap := fun _ => nofun }
  | pollRead c' hp => exact { h with snap := by have := h.snap; have := h.api; grind [qupd_eq] }
  | pollEnd hp =>
    exact { api := h.api, snap := nofun, cache := by have := h.cache; have := h.snap; grind }
  | start c' hc => exact h
  | lockOk c' hc | unlockOk c' hc | cancelOk c' hc =>
    obtain ⟨h1, h2, h3⟩ := h
    unfold QState.localUpdate
    constructor <;> grind [qupd_eq, CState.final]
  | _ => exact { h with api := by have := h.api; grind [qupd_eq, CState.final] }

end ArvVerif.C14
