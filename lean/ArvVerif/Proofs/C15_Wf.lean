/-
The order on the variant `Mu` is well founded, and the generic convergence argument under weak
fairness (`converge_fair`).
-/
import ArvVerif.Model.C15_Live
namespace ArvVerif.C15

theorem Mu.lt_irrefl (a : Mu) : ¬ a.lt a := by
  unfold Mu.lt; omega

theorem lex_trans {x y z : Nat} {P Q R : Prop} (h : P → Q → R) :
    (x < y ∨ x = y ∧ P) → (y < z ∨ y = z ∧ Q) → (x < z ∨ x = z ∧ R) := by
  rintro (h1 | ⟨rfl, p⟩) (h2 | ⟨rfl, q⟩)
  · exact Or.inl (Nat.lt_trans h1 h2)
  · exact Or.inl h1
  · exact Or.inl h2
  · exact Or.inr ⟨rfl, h p q⟩

theorem Mu.lt_trans {a b c : Mu} (h1 : a.lt b) (h2 : b.lt c) : a.lt c :=
  lex_trans (lex_trans (lex_trans (lex_trans (lex_trans Nat.lt_trans)))) h1 h2

theorem Mu.lt_of_lt_of_le {a b c : Mu} (h1 : a.lt b) (h2 : b.le c) : a.lt c := by
  rcases h2 with h | h
  · rw [← h]; exact h1
  · exact Mu.lt_trans h1 h

theorem Mu.le_trans {a b c : Mu} (h1 : a.le b) (h2 : b.le c) : a.le c := by
  rcases h1 with h | h
  · rw [h]; exact h2
  · exact Or.inr (Mu.lt_of_lt_of_le h h2)

def Mu.tuple (a : Mu) : Nat × Nat × Nat × Nat × Nat × Nat := (a.f, a.q, a.r, a.c, a.d, a.i)

/-- one level of `Mu.lt` as one level of core's `Prod.Lex` -/
theorem lex_mk {β : Type} {r : β → β → Prop} {x y : Nat} {p q : β} {P : Prop} (h : P → r p q) :
    (x < y ∨ x = y ∧ P) → Prod.Lex (· < ·) r (x, p) (y, q)
  | .inl hlt => .left _ _ hlt
  | .inr ⟨rfl, hp⟩ => .right _ (h hp)

theorem Mu.lt_wf : WellFounded Mu.lt :=
  Subrelation.wf (r := InvImage WellFoundedRelation.rel Mu.tuple)
    (fun h => lex_mk (lex_mk (lex_mk (lex_mk (lex_mk id)))) h) (InvImage.wf Mu.tuple WellFoundedRelation.wf)

theorem holds_from {σ : Type} {P : σ → Prop} {run : Nat → σ} (hstep : ∀ n, P (run n) → P (run (n + 1)))
    {n : Nat} (hn : P (run n)) : ∀ m, n ≤ m → P (run m) := by
  intro m hm
  induction hm with
  | refl => exact hn
  | step _ ih => exact hstep _ ih

theorem reach_of_descent {σ : Type} (μ : σ → Mu) (goal : σ → Prop) (run : Nat → σ)
    (hle : ∀ n, (μ (run (n + 1))).le (μ (run n)))
    (hprog : ∀ n, ¬ goal (run n) → ∃ m, n ≤ m ∧ (μ (run (m + 1))).lt (μ (run m))) :
    ∀ n, ∃ k, n ≤ k ∧ goal (run k) := by
  have key : ∀ x : Mu, ∀ n, μ (run n) = x → ∃ k, n ≤ k ∧ goal (run k) := by
    intro x
    induction x using Mu.lt_wf.induction with
    | _ x ih =>
      intro n hn
      by_cases hg : goal (run n)
      · exact ⟨n, Nat.le_refl _, hg⟩
      · obtain ⟨m, hm, hlt⟩ := hprog n hg
        have h1 : (μ (run m)).le (μ (run n)) :=
          holds_from (P := fun s => (μ s).le (μ (run n))) (fun k h => Mu.le_trans (hle k) h) (Or.inl rfl) m hm
        have h2 : (μ (run (m + 1))).lt x := hn ▸ Mu.lt_of_lt_of_le hlt h1
        obtain ⟨k, hk, hgk⟩ := ih _ h2 (m + 1) rfl
        exact ⟨k, by omega, hgk⟩
  intro n
  exact key _ n rfl

/-- `P k s` says that the fair action `k` is enabled at `s` in a way that survives steps which leave
the variant unchanged. -/
theorem converge_fair {σ κ : Type} (μ : σ → Mu) (goal : σ → Prop) (P : κ → σ → Prop)
    (run : Nat → σ) (lab : Nat → Option κ)
    (hle : ∀ n, (μ (run (n + 1))).le (μ (run n)))
    (hdec : ∀ n k, lab n = some k → (μ (run (n + 1))).lt (μ (run n)))
    (hP : ∀ n, ¬ goal (run n) → ∃ k, P k (run n))
    (hkeep : ∀ n k, P k (run n) → μ (run (n + 1)) = μ (run n) → P k (run (n + 1)))
    (hfair : ∀ k n, (∀ m, n ≤ m → P k (run m)) → ∃ m, n ≤ m ∧ lab m = some k) :
    ∀ n, ∃ k, n ≤ k ∧ goal (run k) := by
  apply reach_of_descent μ goal run hle
  intro n hg
  obtain ⟨k, hk⟩ := hP n hg
  apply Classical.byContradiction
  intro hno
  have hall : ∀ m, n ≤ m → μ (run (m + 1)) = μ (run m) := fun m hm =>
    (hle m).resolve_right fun h => hno ⟨m, hm, h⟩
  have hPk : ∀ m, n ≤ m → P k (run m) := by
    intro m hm
    induction hm with
    | refl => exact hk
    | step hm ih => exact hkeep _ k ih (hall _ hm)
  obtain ⟨m, hm, hl⟩ := hfair k n hPk
  exact hno ⟨m, hm, hdec m k hl⟩

end ArvVerif.C15
