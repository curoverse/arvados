/-
C17 — the collecting side of the walk is a function: `fragOf` and `belowFrags` are the walk's mount
case and its loop over the mounts below, and a call that only collects manifest text appends exactly
their value (`Run.frags_eq`).
-/
import ArvVerif.Proofs.C17_Walk
import ArvVerif.Proofs.C17_Frags
namespace ArvVerif.C17

/-- the calls that only collect manifest text: the loops over the mounts below a path that is not
above the output path, and their calls on those mounts -/
def FragsOnly (cfg : Cfg) : Call → Prop
  | .mount _ src _ below => below = false ∧ ¬ InOut cfg src
  | .below _ src _ ms => ∀ e ∈ ms, e ∈ cfg.mounts ∧ ¬ ProperPrefix src cfg.ctrOut
  | _ => False

theorem FragsOnly.below {cfg : Cfg} {dest src : Path} {n : Nat} {b : Bool}
    (hpp : b = true → ¬ ProperPrefix src cfg.ctrOut) :
    FragsOnly cfg (.below dest src n (if b then cfg.mounts else [])) := by
  cases b with
  | false => exact nofun
  | true => exact fun e he => ⟨he, hpp rfl⟩

/-- … and what they append; for the whole loop, `callFrags cfg (.below d x n cfg.mounts)` is
`belowFrags cfg d x` by definition -/
def callFrags (cfg : Cfg) : Call → List Frag
  | .mount dest x _ _ => fragOf cfg dest x
  | .below dest x _ ms => ms.flatMap fun e =>
      if x.isPrefixOf e.1 ∧ x.length < e.1.length ∧ ¬ copyRegular e.2 then fragOf cfg (dest ++ e.1.drop x.length) e.1
      else []
  | _ => []

theorem Plan.addFrags_nil (st : Plan) : st.addFrags [] = st := by simp [Plan.addFrags]

theorem Plan.addFrags_append (st : Plan) (a b : List Frag) : (st.addFrags a).addFrags b = st.addFrags (a ++ b) := by
  simp [Plan.addFrags]

theorem Run.frags_eq {h : Host} {cfg : Cfg} {c : Call} {st st' : Plan} (hr : Run h cfg c st st') :
    FragsOnly cfg c → st' = st.addFrags (callFrags cfg c) := by
  induction hr with
  | secret hsec => exact fun _ => by simp [callFrags, fragOf, hsec, Plan.addFrags_nil]
  | belowNil => exact fun _ => (Plan.addFrags_nil _).symm
  | exclude hsec hsm hex _ ih =>
    intro hp
    rw [ih (hp.1 ▸ .below nofun)]
    rw [hsm] at hsec
    simp [hp.1, callFrags, fragOf, hsm, hsec, hex]
  | coll hsec hsm hex hk hwr hc _ ih =>
    intro hp
    rw [ih (hp.1 ▸ .below nofun)]
    simp [hp.1, callFrags, fragOf_coll hsec hsm hex hk hwr hc, Plan.addFrags_append]
  | tmp hsec hsm hex hk => exact fun hp => absurd ⟨hsec, _, hsm, hk, hex⟩ hp.2
  | belowSkip hc _ ih =>
    intro hp
    rw [ih (List.forall_mem_cons.mp hp).2]
    simp only [callFrags, List.flatMap_cons, if_neg hc, List.nil_append]
  | belowTake hc _ _ ih1 ih2 =>
    intro hp
    obtain ⟨⟨hm, hpp⟩, hp'⟩ := List.forall_mem_cons.mp hp
    rw [ih2 hp', ih1 ⟨rfl, below_not_inOut hm hpp hc.1 hc.2.1⟩, Plan.addFrags_append]
    simp only [callFrags, List.flatMap_cons, if_pos hc]
  | link | emptyDir | dir | file | childrenNil | childSkip | childTake => exact fun hp => hp.elim

variable {h : Host} {cfg : Cfg}

theorem Run.mount_frag {dest x : Path} {n : Nat} {below : Bool} {st st' : Plan}
    (hw : Run h cfg (.mount dest x n below) st st') : ∀ f ∈ fragOf cfg dest x, f ∈ st'.frags := by
  cases hw with
  | secret hsec => simp [fragOf, hsec]
  | exclude hsec hsm hex => rw [hsm] at hsec; simp [fragOf, hsm, hsec, hex]
  | tmp hsec hsm hex hk => rw [hsm] at hsec; simp [fragOf, hsm, hsec, hex, hk]
  | coll hsec hsm hex hk hwr hc hr =>
    rw [fragOf_coll hsec hsm hex hk hwr hc]
    exact fun f hf => hr.mono.frags.subset (List.mem_append_right _ hf)

theorem Run.below_all {dest x : Path} {n : Nat} {st st' : Plan}
    (hw : Run h cfg (.below dest x n cfg.mounts) st st') (hpp : ¬ ProperPrefix x cfg.ctrOut) :
    ∀ f ∈ belowFrags cfg dest x, f ∈ st'.frags := by
  rw [hw.frags_eq fun e he => ⟨he, hpp⟩]
  exact fun f hf => List.mem_append_right _ hf

theorem Run.host_prelude {dest x : Path} {n : Nat} {inc : Bool} {st st' : Plan}
    (hw : Run h cfg (.host dest x n inc) st st') :
    ∃ a, Run h cfg (.below dest x n (if inc then cfg.mounts else [])) st a ∧ a.le st' := by
  cases hw with
  | link hp _ _ hm => exact ⟨_, hp, hm.mono⟩
  | emptyDir hp => exact ⟨_, hp, Plan.le_trans (Plan.le_addDir _ _) (Plan.le_addKeep _ _)⟩
  | dir hp _ _ hr => exact ⟨_, hp, Plan.le_trans (Plan.le_addDir _ _) hr.mono⟩
  | file hp => exact ⟨_, hp, Plan.le_addFile _ _ _⟩

theorem Run.mount_below (hs : supported cfg = true) {dest x : Path} {n : Nat} {st st' : Plan}
    (hw : Run h cfg (.mount dest x n true) st st') (hns : notSecret cfg x) :
    ∀ f ∈ belowFrags cfg dest x, f ∈ st'.frags := by
  cases hw with
  | secret hsec => rw [hns] at hsec; cases hsec
  | exclude _ hsm _ hr | coll _ hsm _ _ _ _ hr => exact hr.below_all (not_above_of_srcMount hs hsm)
  | tmp _ hsm _ _ hr =>
    obtain ⟨a, hp, hle⟩ := hr.host_prelude
    have hpre := (srcMount_mem cfg x _ hsm).2.1
    exact fun f hf => hle.frags.subset (hp.below_all (not_properPrefix_of_prefix _ _ hpre) f hf)

end ArvVerif.C17
