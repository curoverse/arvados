/-
C10 — `replace_range` (Python range mapper): pointwise semantics. `pyrAt rs p` says where byte `p` of the file
lives; the theorem is that after `replace_range` every position inside the written range lives in the new
segment and every other position lives where it lived before, and that the list stays contiguous.
-/
import ArvVerif.Model.C10_PyReplace
import ArvVerif.Proofs.C10_FirstBlock
namespace ArvVerif.C10

def ContigFrom : Nat → List PyR → Prop
  | _, [] => True
  | s, r :: rest => r.start = s ∧ ContigFrom (s + r.size) rest

def totalR (rs : List PyR) : Nat := (rs.map (·.size)).sum

theorem totalR_nil : totalR [] = 0 := rfl

theorem totalR_cons (r : PyR) (rs : List PyR) : totalR (r :: rs) = r.size + totalR rs := by
  simp [totalR]

theorem totalR_single (r : PyR) : totalR [r] = r.size := by simp [totalR]

theorem totalR_append (a b : List PyR) : totalR (a ++ b) = totalR a + totalR b := by
  simp [totalR]

theorem contigFrom_append : ∀ (a b : List PyR) (s : Nat),
    ContigFrom s (a ++ b) ↔ ContigFrom s a ∧ ContigFrom (s + totalR a) b
  | [], b, s => by simp [ContigFrom, totalR]
  | r :: a, b, s => by
    simp only [List.cons_append, ContigFrom, totalR_cons]
    rw [contigFrom_append a b (s + r.size), Nat.add_assoc, and_assoc]

theorem pyrAt_none : ∀ (rs : List PyR) (s p : Nat), ContigFrom s rs → p < s ∨ s + totalR rs ≤ p → pyrAt rs p = none
  | [], _, _, _, _ => rfl
  | r :: rest, s, p, ⟨h1, h2⟩, hp => by
    rw [totalR_cons] at hp
    rw [pyrAt, if_neg (by omega), pyrAt_none rest (s + r.size) p h2 (by omega)]

theorem pyrAt_append : ∀ (a b : List PyR) (p : Nat),
    pyrAt (a ++ b) p = match pyrAt a p with | some x => some x | none => pyrAt b p
  | [], b, p => rfl
  | r :: a, b, p => by
    simp only [List.cons_append, pyrAt]
    by_cases h : r.start ≤ p ∧ p < r.start + r.size
    · rw [if_pos h, if_pos h]
    · rw [if_neg h, if_neg h]; exact pyrAt_append a b p

/-- what `replace_range`'s loop makes of the segments behind the new one -/
def clipAfter (ne : Nat) : List PyR → List PyR
  | [] => []
  | dl :: tail =>
    if ne ≤ dl.start then dl :: tail
    else if dl.start + dl.size ≤ ne then clipAfter ne tail
    else ⟨dl.loc, ne, dl.start + dl.size - ne, dl.off + (ne - dl.start)⟩ :: tail

theorem clipAfter_spec (ne : Nat) : ∀ (l : List PyR) (s : Nat), ContigFrom s l → s ≤ ne →
    ContigFrom ne (clipAfter ne l) ∧ ne + totalR (clipAfter ne l) = max ne (s + totalR l) ∧
    ∀ p, ne ≤ p → pyrAt (clipAfter ne l) p = pyrAt l p
  | [], s, _, h => ⟨trivial, by rw [clipAfter, totalR_nil]; omega, fun _ _ => rfl⟩
  | dl :: tail, s, ⟨h1, h2⟩, hs => by
    unfold clipAfter
    by_cases c1 : ne ≤ dl.start
    · rw [if_pos c1]
      obtain rfl : ne = s := by omega
      exact ⟨⟨h1, h2⟩, by omega, fun _ _ => rfl⟩
    · rw [if_neg c1]
      by_cases c4 : dl.start + dl.size ≤ ne
      · rw [if_pos c4]
        obtain ⟨i1, i2, i3⟩ := clipAfter_spec ne tail (s + dl.size) h2 (by omega)
        exact ⟨i1, by rw [i2, totalR_cons]; omega, fun p hp => by rw [i3 p hp, pyrAt, if_neg (by omega)]⟩
      · rw [if_neg c4]
        refine ⟨⟨rfl, ?_⟩, by rw [totalR_cons, totalR_cons]; dsimp only; omega, fun p hp => ?_⟩
        · have e : ne + (dl.start + dl.size - ne) = s + dl.size := by omega
          dsimp only
          rw [e]; exact h2
        · -- from `ne` on the shrunk segment holds what `dl` held, at the same place
          simp only [pyrAt]
          by_cases hp' : p < dl.start + dl.size
          · rw [if_pos ⟨hp, by omega⟩, if_pos ⟨by omega, hp'⟩]
            congr 2; omega
          · rw [if_neg (by omega), if_neg (by omega)]

theorem rrLoop_eq_clipAfter (ns ne : Nat) (new : PyR) : ∀ (tail : List PyR) (s : Nat), ContigFrom s tail → ns < s →
    rrLoop ns ne new tail = clipAfter ne tail
  | [], _, _, _ => rfl
  | dl :: tail, s, ⟨h1, h2⟩, hs => by
    rw [rrLoop, clipAfter]
    by_cases c1 : ne ≤ dl.start
    · rw [if_pos c1, if_pos c1]
    · rw [if_neg c1, if_neg c1, if_neg (by omega), if_neg (by omega)]
      by_cases c4 : dl.start + dl.size ≤ ne
      · rw [if_pos ⟨by omega, c4⟩, if_pos c4, rrLoop_eq_clipAfter ns ne new tail (s + dl.size) h2 (by omega)]
      · rw [if_neg (by omega), if_neg c4]

/-- The first segment looked at holds `ns` (what `first_block` returns); the part of it before `ns` is kept
even when empty, if the write goes beyond this segment. -/
theorem rrLoop_head {ns ne : Nat} (new : PyR) {dl : PyR} {tail : List PyR} {s : Nat}
    (hc : ContigFrom s (dl :: tail)) (h1 : dl.start ≤ ns) (h2 : ns < dl.start + dl.size) (hne : ns < ne) :
    rrLoop ns ne new (dl :: tail) =
      (if ns - dl.start > 0 ∨ ne > dl.start + dl.size then [⟨dl.loc, dl.start, ns - dl.start, dl.off⟩] else []) ++
        new :: clipAfter ne (dl :: tail) := by
  obtain ⟨hs, ht⟩ := hc
  have hno : ¬ ne ≤ dl.start := by omega
  rw [rrLoop, clipAfter, if_neg hno, if_neg hno]
  by_cases c2 : dl.start ≤ ns ∧ ne ≤ dl.start + dl.size
  · rw [if_pos c2, show dl.off + (ns - dl.start) + (ne - ns) = dl.off + (ne - dl.start) by omega]
    have hcl : (if ns - dl.start > 0 ∨ ne > dl.start + dl.size then [(⟨dl.loc, dl.start, ns - dl.start, dl.off⟩ : PyR)]
        else []) ++ [new] = if ns - dl.start > 0 then [⟨dl.loc, dl.start, ns - dl.start, dl.off⟩, new] else [new] := by
      by_cases cl : ns - dl.start > 0
      · rw [if_pos cl, if_pos (Or.inl cl)]; rfl
      · rw [if_neg cl, if_neg (by omega)]; rfl
    rw [← hcl]
    by_cases cr : dl.start + dl.size - ne > 0
    · rw [if_pos cr, if_neg (show ¬ dl.start + dl.size ≤ ne by omega)]
      simp only [List.append_assoc, List.cons_append, List.nil_append]
    · have : clipAfter ne tail = tail := by
        cases tail with
        | nil => rfl
        | cons d t => rw [clipAfter, if_pos (by have := ht.1; omega)]
      rw [if_neg cr, if_pos (show dl.start + dl.size ≤ ne by omega), List.append_nil, this]
      simp only [List.append_assoc, List.cons_append, List.nil_append]
  · have c3 : dl.start ≤ ns ∧ ne > dl.start + dl.size := by omega
    rw [if_neg c2, if_pos c3, if_pos (show dl.start + dl.size ≤ ne by omega), if_pos (Or.inr c3.2),
      rrLoop_eq_clipAfter ns ne new tail (s + dl.size) ht (by omega)]
    rfl

/-- what `replace_range` is to achieve, `rs` before and `rs'` after the write of `nsize` bytes at `ns` (new locator `nl`,
segment offset `no`) -/
def Replaced (s ns nsize : Nat) (nl : Bytes) (no : Nat) (rs rs' : List PyR) : Prop :=
  ContigFrom s rs' ∧ s + totalR rs' = max (ns + nsize) (s + totalR rs) ∧
    ∀ p, pyrAt rs' p = if ns ≤ p ∧ p < ns + nsize then some (nl, no + (p - ns)) else pyrAt rs p

section
variable {s ns nsize : Nat} {nl : Bytes} {no : Nat}

theorem Replaced.append {pre X X' : List PyR} (hpre : ContigFrom s pre)
    (hle : s + totalR pre ≤ ns) (h : Replaced (s + totalR pre) ns nsize nl no X X') :
    Replaced s ns nsize nl no (pre ++ X) (pre ++ X') := by
  obtain ⟨g2, g3, g1⟩ := h
  refine ⟨(contigFrom_append pre _ s).mpr ⟨hpre, g2⟩, by rw [totalR_append, totalR_append]; omega, fun p => ?_⟩
  rw [pyrAt_append, pyrAt_append, g1 p]
  by_cases hp : ns ≤ p ∧ p < ns + nsize
  · rw [if_pos hp, if_pos hp, pyrAt_none pre s p hpre (.inr (by omega))]
  · rw [if_neg hp, if_neg hp]

/-- `A` is the file up to `ns`, `C` the file from the end of the write on: with the new segment between them
the write is done. -/
theorem Replaced.glue {A C rs : List PyR} (hA : ContigFrom s A) (hAt : s + totalR A = ns)
    (hAp : ∀ p, p < ns → pyrAt A p = pyrAt rs p)
    (hC : ContigFrom (ns + nsize) C) (hCt : ns + nsize + totalR C = max (ns + nsize) (s + totalR rs))
    (hCp : ∀ p, ns + nsize ≤ p → pyrAt C p = pyrAt rs p) :
    Replaced s ns nsize nl no rs (A ++ ⟨nl, ns, nsize, no⟩ :: C) := by
  refine ⟨(contigFrom_append A _ s).mpr ⟨hA, by rw [hAt]; exact ⟨rfl, hC⟩⟩,
    by rw [totalR_append, totalR_cons]; dsimp only; omega, fun p => ?_⟩
  rw [pyrAt_append, pyrAt]
  dsimp only
  by_cases h1 : p < ns
  · rw [if_neg (by omega), if_neg (by omega), hAp p h1, pyrAt_none C _ p hC (.inl (by omega))]
    cases pyrAt rs p <;> rfl
  · rw [pyrAt_none A s p hA (.inr (by omega))]
    by_cases h2 : p < ns + nsize
    · rw [if_pos ⟨by omega, h2⟩, if_pos ⟨by omega, h2⟩]
    · rw [if_neg (by omega), if_neg (by omega), hCp p (by omega)]

theorem rrLoop_head_spec (hsz : 0 < nsize) {dl : PyR} {tail : List PyR}
    (hc : ContigFrom s (dl :: tail)) (h1 : dl.start ≤ ns) (h2 : ns < dl.start + dl.size) :
    Replaced s ns nsize nl no (dl :: tail) (rrLoop ns (ns + nsize) ⟨nl, ns, nsize, no⟩ (dl :: tail)) := by
  rw [rrLoop_head (ne := ns + nsize) _ hc h1 h2 (by omega)]
  obtain ⟨k1, k2, k3⟩ := clipAfter_spec (ns + nsize) (dl :: tail) s hc (by have := hc.1; omega)
  obtain ⟨hs, ht⟩ := hc
  refine Replaced.glue ?_ ?_ (fun p hp => ?_) k1 k2 k3
  · split
    · exact ⟨hs, trivial⟩
    · trivial
  · split
    · rw [totalR_single]; dsimp only; omega
    · rw [totalR_nil]; omega
  · -- below `ns` the kept left part of `dl` is `dl`
    by_cases hp' : dl.start ≤ p
    · rw [if_pos (Or.inl (by omega))]
      simp only [pyrAt]
      rw [if_pos ⟨hp', by omega⟩, if_pos ⟨hp', by omega⟩]
    · rw [pyrAt_none (dl :: tail) s p ⟨hs, ht⟩ (.inl (by omega))]
      split
      · simp only [pyrAt]; rw [if_neg (by omega)]
      · rfl

end

theorem contigFrom_toRange : ∀ (rs : List PyR) (s : Nat), ContigFrom s rs → Contiguous (rs.map PyR.toRange)
  | [], _, _ => trivial
  | [_], _, _ => trivial
  | r :: r' :: rest, s, ⟨h1, h2, h3⟩ => by
    refine ⟨?_, contigFrom_toRange (r' :: rest) (s + r.size) ⟨h2, h3⟩⟩
    simp only [PyR.toRange]; omega

theorem exists_holding (rs : List PyR) : ∀ (s ns : Nat), ContigFrom s rs → s ≤ ns → ns < s + totalR rs →
    ∃ pre dl tail, rs = pre ++ dl :: tail ∧ dl.start ≤ ns ∧ ns < dl.start + dl.size := by
  induction rs with
  | nil => intro s ns _ h1 h2; simp [totalR] at h2; omega
  | cons r rest ih =>
    intro s ns ⟨hs, ht⟩ h1 h2
    rw [totalR_cons] at h2
    by_cases h : ns < s + r.size
    · exact ⟨[], r, rest, rfl, by omega, by omega⟩
    · obtain ⟨pre, dl, tail, rfl, hb⟩ := ih (s + r.size) ns ht (by omega) (by omega)
      exact ⟨r :: pre, dl, tail, rfl, hb⟩

theorem pyReplaceRange_spec (rs : List PyR) (s : Nat) (hc : ContigFrom s rs) (ns nsize : Nat) (nl : Bytes) (no : Nat)
    (hsz : 0 < nsize) (hlo : s ≤ ns) (hhi : ns ≤ s + totalR rs) :
    ∃ rs', pyReplaceRange rs ns nsize nl no = .ok rs' ∧ Replaced s ns nsize nl no rs rs' := by
  unfold pyReplaceRange
  simp only []
  rw [if_neg (by omega)]
  -- a write that starts at the end of the file can append its segment
  have happ : s + totalR rs = ns → Replaced s ns nsize nl no rs (rs ++ [⟨nl, ns, nsize, no⟩]) := fun h =>
    Replaced.glue hc h (fun _ _ => rfl) trivial (by rw [totalR_nil]; omega)
      fun p hp => (pyrAt_none rs s p hc (.inr (by omega))).symm
  cases hl : rs.getLast? with
  | none =>
    obtain rfl : rs = [] := List.getLast?_eq_none_iff.mp hl
    exact ⟨_, rfl, happ (by rw [totalR_nil] at hhi ⊢; omega)⟩
  | some last =>
    simp only []
    obtain ⟨init, rfl⟩ := List.getLast?_eq_some_iff.mp hl
    obtain ⟨hci, hcl, _⟩ := (contigFrom_append init [last] s).mp hc
    have htot : totalR (init ++ [last]) = totalR init + last.size := by
      rw [totalR_append, totalR_single]
    by_cases hend : last.start + last.size = ns
    · rw [if_pos hend]
      by_cases hext : last.loc = nl ∧ last.off + last.size = no
      · -- the new segment continues the last one in its block: the last one grows
        rw [if_pos hext, List.dropLast_concat]
        obtain ⟨rfl, rfl⟩ := hext
        refine ⟨_, rfl, Replaced.append hci (by omega)
          ⟨⟨hcl, trivial⟩, by rw [totalR_single, totalR_single]; dsimp only; omega, fun p => ?_⟩⟩
        simp only [pyrAt]
        by_cases hp : ns ≤ p ∧ p < ns + nsize
        · rw [if_pos hp, if_pos ⟨by omega, by omega⟩]
          congr 2; omega
        · rw [if_neg hp]
          by_cases hp' : last.start ≤ p ∧ p < last.start + last.size
          · rw [if_pos hp', if_pos ⟨hp'.1, by omega⟩]
          · rw [if_neg hp', if_neg (by omega)]
      · rw [if_neg hext]
        exact ⟨_, rfl, happ (by omega)⟩
    · rw [if_neg hend]
      obtain ⟨pre, dl, tail, hsplit, hb1, hb2⟩ := exists_holding _ s ns hc hlo (by omega)
      rw [hsplit] at hc ⊢
      rw [pyFirstBlock_found (i := pre.length) (contigFrom_toRange _ s hc) ⟨dl.toRange, by simp, hb1, hb2⟩]
      simp only [List.take_left', List.drop_left']
      obtain ⟨hcp, hcd⟩ := (contigFrom_append pre (dl :: tail) s).mp hc
      exact ⟨_, rfl, Replaced.append hcp (by have := hcd.1; omega)
        (rrLoop_head_spec hsz hcd hb1 hb2)⟩

end ArvVerif.C10
