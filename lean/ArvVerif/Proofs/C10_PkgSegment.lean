/-
C10 — `Manifest.segment()` of the Go manifest package at the level of parsed streams: over streams
whose tokens are canonical or directory markers (`StreamOk`: what the parser lets through), every
path's accumulated segment list is `resolve`, or the first parse error is the whole result.
Of the predicates on a stream, `StreamOk` is the one `segment()` needs and `PkgFit` its integer part; `PkgWf` is the
stronger hypothesis (all names canonical) of `segmentStreams_total` only. What the parser accepts is `PkgOk` (C10_PkgText).
-/
import ArvVerif.Proofs.C10_Pkg
namespace ArvVerif.C10

/-- the `ManifestStream` that `parseManifestStream` builds for a stream inside the grammar -/
def toPStream (s : Stream) : PStream := ⟨s.name, s.blocks, offsetsFrom 0 s.blocks, s.files, false⟩

def ofPStream (ps : PStream) : Stream := ⟨ps.name, ps.blocks, ps.files⟩

/-- side conditions under which the Go package handles a structured stream like the grammar does -/
structure PkgWf (s : Stream) : Prop where
  sizes : ∀ b ∈ s.blocks, b.size < two63
  total : streamLen s.blocks < two64
  inside : ∀ f ∈ s.files, f.pos + f.len ≤ streamLen s.blocks
  noTrailingSlash : s.name.getLast? ≠ some bSlash
  clean : ∀ f ∈ s.files, fixStreamName (pathOf s.name f.name) = pathOf s.name f.name

structure PkgFit (s : Stream) : Prop where
  sizes : ∀ b ∈ s.blocks, b.size < two63
  total : streamLen s.blocks < two64
  inside : ∀ f ∈ s.files, f.pos + f.len ≤ streamLen s.blocks

theorem PkgWf.fit {s : Stream} (h : PkgWf s) : PkgFit s := ⟨h.sizes, h.total, h.inside⟩

theorem sendByName_gen (s : Stream) (hw : PkgFit s) (p : Bytes) :
    ∃ segs, sendByName firstBlock (toPStream s) p = .ok segs ∧
      keepPositive segs = resolveStream s (fixStreamName p) := by
  unfold sendByName resolveStream
  have key : ∀ (tg : Bytes) (fs : List FTok), (∀ f ∈ fs, f.pos + f.len ≤ streamLen s.blocks) →
      ∃ segs, sendByName.go firstBlock (toPStream s) tg fs = .ok segs ∧
        keepPositive segs = fs.flatMap fun f =>
          if pathOf s.name f.name = tg then resolveTok s.blocks 0 f.pos f.len else [] := by
    intro tg fs
    induction fs with
    | nil => intro _; exact ⟨[], rfl, rfl⟩
    | cons f rest ih =>
      intro hmem
      obtain ⟨hf, hrest⟩ := List.forall_mem_cons.mp hmem
      obtain ⟨segs', h1, h2⟩ := ih hrest
      unfold sendByName.go
      rw [show (toPStream s).name ++ bSlash :: f.name = pathOf s.name f.name from rfl, List.flatMap_cons]
      by_cases hm : pathOf s.name f.name = tg
      · obtain ⟨a, ha1, ha2⟩ := sendTok_spec s.name s.blocks s.files f hw.sizes hw.total hf
        rw [if_neg (not_not_intro hm), show sendTok firstBlock (toPStream s) f = .ok a from ha1, h1]
        refine ⟨a ++ segs', rfl, ?_⟩
        rw [keepPositive_append, ha2, h2, if_pos hm]
      · rw [if_pos hm, if_neg hm, List.nil_append]
        exact ⟨segs', h1, h2⟩
  exact key (fixStreamName p) s.files hw.inside

theorem segLookup_cons (e : (Bytes × Bytes) × List Seg) (m : SegMap) (k : Bytes × Bytes) :
    segLookup (e :: m) k = if e.1 = k then e.2 else segLookup m k := by
  unfold segLookup
  rw [List.find?_cons]
  by_cases h : e.1 = k <;> simp [h]

theorem segLookup_segSet (m : SegMap) (k k' : Bytes × Bytes) (v : List Seg) :
    segLookup (segSet m k v) k' = if k' = k then v else segLookup m k' := by
  have upd : ∀ m : SegMap, segLookup (m.map fun e => if e.1 = k then (k, v) else e) k' =
      if k' = k then (if m.any (·.1 = k) then v else []) else segLookup m k' := by
    intro m
    induction m with
    | nil => simp [segLookup]
    | cons e rest ih => rw [List.map_cons, segLookup_cons, segLookup_cons, ih, List.any_cons]; grind
  have new : ∀ m : SegMap, m.any (·.1 = k) = false →
      segLookup (m ++ [(k, v)]) k' = if k' = k then v else segLookup m k' := by
    intro m
    induction m with
    | nil => intro _; rw [List.nil_append, segLookup_cons]; simp [segLookup, eq_comm]
    | cons e rest ih =>
      intro h
      rw [List.any_cons, Bool.or_eq_false_iff, decide_eq_false_iff_not] at h
      rw [List.cons_append, segLookup_cons, segLookup_cons, ih h.2]
      by_cases hk : k' = k
      · simp [hk, h.1]
      · simp [hk]
  unfold segSet
  split
  · rename_i h; rw [upd, h]; rfl
  · rename_i h; exact new m (Bool.eq_false_iff.mpr h)

theorem lastSlash_go_spec : ∀ (l : Bytes) (i : Nat) (acc : Option Nat),
    (∃ j, lastSlash.go l i acc = some (i + j) ∧ l[j]? = some bSlash) ∨
      (lastSlash.go l i acc = acc ∧ bSlash ∉ l)
  | [], _, _ => Or.inr ⟨rfl, List.not_mem_nil⟩
  | x :: xs, i, acc => by
    unfold lastSlash.go
    rcases lastSlash_go_spec xs (i + 1) (if x == bSlash then some i else acc) with ⟨j, h1, h2⟩ | ⟨h1, h2⟩
    · exact Or.inl ⟨j + 1, by rw [h1, Nat.add_right_comm]; rfl, h2⟩
    · rw [h1]
      by_cases hx : x = bSlash
      · exact Or.inl ⟨0, by simp [hx], by simp [hx]⟩
      · exact Or.inr ⟨by simp [hx], by simp [h2, Ne.symm hx]⟩

theorem splitPath_join (p : Bytes) (hp : bSlash ∈ p) : (splitPath p).1 ++ bSlash :: (splitPath p).2 = p := by
  rcases lastSlash_go_spec p 0 none with ⟨j, hj, hget⟩ | ⟨_, h⟩
  · have hls : lastSlash p = some j := by rw [← Nat.zero_add j]; exact hj
    obtain ⟨hjl, hje⟩ := List.getElem?_eq_some_iff.mp hget
    unfold splitPath
    rw [hls, ← hje, ← List.drop_eq_getElem_cons hjl, List.take_append_drop]
  · exact absurd hp h

theorem splitPath_inj {p q : Bytes} (hp : bSlash ∈ p) (hq : bSlash ∈ q) (h : splitPath p = splitPath q) : p = q := by
  rw [← splitPath_join p hp, ← splitPath_join q hq, h]

/-- the empty-directory marker the collection filesystem writes: a zero-length token named `.` -/
def IsMarker (f : FTok) : Prop := f.len = 0 ∧ f.name = [bDot]

/-- the path under which `segment()` looks up a token -/
def segPath (S : Bytes) (f : FTok) : Bytes :=
  (if S.getLast? = some bSlash then S.dropLast else S) ++ bSlash :: f.name

def markerTarget (S : Bytes) : Bytes := segPath S ⟨0, 0, [bDot]⟩

/-- What `segment()` needs of a parsed stream: integer ranges; a token whose combined path is
canonical lives in a stream without trailing slash; any other token is a directory marker, and that
is looked up under a path no token of the stream has. -/
structure StreamOk (s : Stream) : Prop where
  fit : PkgFit s
  clean : ∀ f ∈ s.files, fixStreamName (pathOf s.name f.name) = pathOf s.name f.name →
    s.name.getLast? ≠ some bSlash
  marker : ∀ f ∈ s.files, fixStreamName (pathOf s.name f.name) ≠ pathOf s.name f.name →
    IsMarker f ∧ ∀ name, fixStreamName (markerTarget s.name) ≠ pathOf s.name name

theorem PkgWf.streamOk {s : Stream} (h : PkgWf s) : StreamOk s :=
  ⟨h.fit, fun _ _ _ => h.noTrailingSlash, fun f hf hne => absurd (h.clean f hf) hne⟩

/-- The per-stream loop, from any `seen` and any map: each path looked up for the first time gains what
`sendFileSegmentIterByName` sends for it. The map is keyed by `splitPath` of the path; that two different paths never
share a key is `splitPath_inj` (both hold a `/`). -/
theorem segmentStream_gen (s : Stream) (hw : PkgFit s) (fs : List FTok) (seen : List Bytes) (m : SegMap) :
    ∃ m', segmentStream firstBlock (toPStream s) fs seen m = .ok m' ∧
      ∀ (a b : Bytes), segLookup m' (splitPath (pathOf a b)) =
        segLookup m (splitPath (pathOf a b)) ++
          (if pathOf a b ∈ fs.map (segPath s.name) ∧ pathOf a b ∉ seen
           then resolveStream s (fixStreamName (pathOf a b)) else []) := by
  fun_induction segmentStream firstBlock (toPStream s) fs seen m with
  | case1 seen m => exact ⟨m, rfl, by intro a b; simp⟩
  | case2 f rest seen m sn P hseen ih =>
    obtain ⟨m', h1, h2⟩ := ih
    refine ⟨m', h1, fun a b => ?_⟩
    rw [h2 a b, List.map_cons, show segPath s.name f = P from rfl]
    have hin : P ∈ seen := by simpa using hseen
    by_cases hp : pathOf a b = P
    · rw [hp]; simp [hin]
    · simp [hp]
  | case3 f rest seen m sn P key hseen ih =>
    obtain ⟨segs, hs1, hs2⟩ := sendByName_gen s hw P
    obtain ⟨m', h1, h2⟩ := ih segs
    rw [hs1]
    refine ⟨m', h1, fun a b => ?_⟩
    rw [h2 a b, segLookup_segSet, hs2, List.map_cons, show segPath s.name f = P from rfl]
    have hnin : P ∉ seen := by simpa using hseen
    by_cases hp : pathOf a b = P
    · rw [hp]; simp [hnin, key]
    · rw [if_neg fun h => hp (splitPath_inj (by simp [pathOf]) (by simp [P]) h)]
      congr 1
      simp [hp]

theorem resolveStream_nil_of_ok {s : Stream} (hok : StreamOk s) (p : Bytes)
    (h : ∀ f ∈ s.files, fixStreamName (pathOf s.name f.name) = pathOf s.name f.name → pathOf s.name f.name ≠ p) :
    resolveStream s p = [] := by
  unfold resolveStream
  rw [List.flatMap_eq_nil_iff]
  intro f hf
  split
  · rename_i hp
    by_cases hc : fixStreamName (pathOf s.name f.name) = pathOf s.name f.name
    · exact absurd hp (h f hf hc)
    · rw [(hok.marker f hf hc).1.1, resolveTok_len0]
  · rfl

theorem resolveStream_lookup {s : Stream} (hok : StreamOk s) (p : Bytes) :
    (if p ∈ s.files.map (segPath s.name) then resolveStream s (fixStreamName p) else []) = resolveStream s p := by
  have hseg : ∀ f ∈ s.files, fixStreamName (pathOf s.name f.name) = pathOf s.name f.name →
      segPath s.name f = pathOf s.name f.name := by
    intro f hf hc
    unfold segPath
    rw [if_neg (hok.clean f hf hc)]
    rfl
  split
  · rename_i hin
    obtain ⟨f, hf, rfl⟩ := List.mem_map.mp hin
    by_cases hc : fixStreamName (pathOf s.name f.name) = pathOf s.name f.name
    · rw [hseg f hf hc, hc]
    · -- the directory marker: neither its lookup path nor what `fixStreamName` makes of it is a token's path
      obtain ⟨hm, hne⟩ := hok.marker f hf hc
      have hQ : segPath s.name f = markerTarget s.name := by unfold markerTarget segPath; rw [hm.2]
      rw [hQ, resolveStream_nil_of_ok hok _ fun f' _ _ he => hne f'.name he.symm]
      refine (resolveStream_nil_of_ok hok _ fun f' hf' hc' he => ?_).symm
      exact hne f'.name (by rw [← he, hc'])
  · rename_i hnin
    refine (resolveStream_nil_of_ok hok _ fun f hf hc he => hnin ?_).symm
    exact List.mem_map.mpr ⟨f, hf, by rw [hseg f hf hc, he]⟩

/-- `segment()` never applies a manifest partially. -/
theorem segmentStreams_complete : ∀ (L : List PStream) (m : SegMap),
    (∀ ps ∈ L, ps.err = false → ps = toPStream (ofPStream ps) ∧ StreamOk (ofPStream ps)) →
    (segmentStreams firstBlock L m = .err ∧ ∃ ps ∈ L, ps.err = true) ∨
    (∃ m', segmentStreams firstBlock L m = .ok m' ∧ (∀ ps ∈ L, ps.err = false) ∧
      ∀ a b : Bytes, segLookup m' (splitPath (pathOf a b)) =
        segLookup m (splitPath (pathOf a b)) ++ resolve (L.map ofPStream) (pathOf a b)) := by
  intro L m h
  fun_induction segmentStreams firstBlock L m with
  | case1 m => exact Or.inr ⟨m, rfl, by simp, by intro a b; simp [resolve]⟩
  | case2 ps rest m he => exact Or.inl ⟨rfl, ps, by simp, he⟩
  | case3 ps rest m he ih =>
    have he' : ps.err = false := by simpa using he
    obtain ⟨hps, hrest⟩ := List.forall_mem_cons.mp h
    obtain ⟨e1, e2⟩ := hps he'
    obtain ⟨m1, h1, h2⟩ := segmentStream_gen (ofPStream ps) e2.fit (ofPStream ps).files [] m
    rw [show segmentStream firstBlock ps ps.files [] m = .ok m1 by rw [e1]; exact h1]
    rcases ih m1 hrest with ⟨r1, x, hx, hxe⟩ | ⟨m2, r1, r2, r3⟩
    · exact Or.inl ⟨r1, x, List.mem_cons_of_mem _ hx, hxe⟩
    · refine Or.inr ⟨m2, r1, List.forall_mem_cons.mpr ⟨he', r2⟩, fun a b => ?_⟩
      rw [r3 a b, h2 a b]
      simp only [List.not_mem_nil, not_false_eq_true, and_true, resolveStream_lookup e2, resolve, List.map_cons,
        List.flatMap_cons, List.append_assoc]

end ArvVerif.C10
