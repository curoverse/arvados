import ArvVerif.Proofs.C20_LoopResult
namespace ArvVerif.C20

theorem tsGe_trans : ∀ a b c : Obj, tsGe a b = true → tsGe b c = true → tsGe a c = true := by
  intro a b c; simp only [tsGe, decide_eq_true_eq]; omega

theorem tsGe_total : ∀ a b : Obj, (tsGe a b || tsGe b a) = true := by
  intro a b; simp only [tsGe, Bool.or_eq_true, decide_eq_true_eq]; omega

theorem mergePages_perm (ps : List (List Obj)) : (mergePages ps).Perm ps.flatten := by
  unfold mergePages
  simp only
  split
  · rw [← List.flatten_filter_ne_nil (L := ps)]; exact List.mergeSort_perm _ _
  · rw [List.flatten_filter_ne_nil]

theorem mergePages_sorted (ps : List (List Obj))
    (h : 2 ≤ (ps.filter (fun p => decide (p ≠ []))).length) :
    (mergePages ps).Pairwise (fun a b => b.ts ≤ a.ts) := by
  unfold mergePages
  simp only [h, if_true]
  have := List.pairwise_mergeSort tsGe_trans tsGe_total (ps.filter (fun p => decide (p ≠ []))).flatten
  exact this.imp (by intro a b hab; simpa [tsGe] using hab)

theorem mergePages_single (ps : List (List Obj))
    (h : ¬ 2 ≤ (ps.filter (fun p => decide (p ≠ []))).length) :
    mergePages ps = ps.flatten := by
  unfold mergePages
  simp only [h, if_false]
  exact List.flatten_filter_ne_nil

variable {cfg : Cfg} {o : Opts}

section
variable {c : ClusterId} {todo : List Uuid} {B : Backend}

theorem runCluster_none (hb : backendFor cfg c = none) : runCluster cfg o c todo = ⟨[], [], .failed 404⟩ := by
  unfold runCluster; rw [hb]

theorem runCluster_some (hb : backendFor cfg c = some B) :
    runCluster cfg o c todo = clusterLoop B (remoteOpts cfg.localId o) todo.length todo 0 := by
  unfold runCluster; rw [hb]

theorem runCluster_loop (hb : backendFor cfg c = some B) :
    Loop B (remoteOpts cfg.localId o) todo 0 (runCluster cfg o c todo) :=
  runCluster_some hb ▸ loop_run (Nat.le_refl _)

variable (cfg o c todo)

theorem runCluster_run :
    (backendFor cfg c = none ∧ runCluster cfg o c todo = ⟨[], [], .failed 404⟩) ∨
    ∃ B, backendFor cfg c = some B ∧ Loop B (remoteOpts cfg.localId o) todo 0 (runCluster cfg o c todo) := by
  cases hb : backendFor cfg c with
  | none => exact Or.inl ⟨rfl, runCluster_none hb⟩
  | some B => exact Or.inr ⟨B, rfl, runCluster_loop hb⟩

theorem runCluster_not_starved :
    (runCluster cfg o c todo).stop ≠ .starved ∧ (runCluster cfg o c todo).log.length ≤ todo.length := by
  rcases runCluster_run cfg o c todo with ⟨_, h⟩ | ⟨B, _, h⟩
  · simp [h]
  · obtain ⟨h1 | h1, h2, _⟩ := h.ends <;> simp [h1, h2]

theorem runCluster_status (s : Nat) :
    (runCluster cfg o c todo).stop.status? = some s ↔ (runCluster cfg o c todo).stop = .failed s := by
  simp [status_eq_some_iff, (runCluster_not_starved cfg o c todo).1]

theorem runCluster_pages_log :
    (runCluster cfg o c todo).pages.flatten = logItems (runCluster cfg o c todo).log := by
  rcases runCluster_run cfg o c todo with ⟨_, h⟩ | ⟨B, _, h⟩
  · rw [h]; rfl
  · exact h.pages_log

theorem runCluster_provenance :
    ∀ x ∈ (runCluster cfg o c todo).pages.flatten, ∃ B batch i page, backendFor cfg c = some B ∧
      (∀ u ∈ batch, u ∈ todo) ∧ B (batchReq (remoteOpts cfg.localId o) batch) i = .page page ∧ x ∈ page := by
  intro x hx
  rcases runCluster_run cfg o c todo with ⟨_, h⟩ | ⟨B, hb, h⟩
  · rw [h] at hx; cases hx
  · obtain ⟨batch, i, page, h1, h2, h3⟩ := h.provenance x hx
    exact ⟨B, batch, i, page, hb, h1, h2, h3⟩

variable {cfg o c todo}

theorem runCluster_failed {s : Nat} (h : (runCluster cfg o c todo).stop = .failed s) : s = 404 ∨ s = 502 := by
  rcases runCluster_run cfg o c todo with ⟨_, h'⟩ | ⟨B, _, h'⟩
  · rw [h'] at h; cases h; exact Or.inl rfl
  · rcases h'.ends.1 with h1 | h1 <;> rw [h1] at h <;> cases h
    exact Or.inr rfl

theorem runCluster_safe (hd : (runCluster cfg o c todo).stop = .done) :
    (∃ B, backendFor cfg c = some B) ∧
    (pageUuids (runCluster cfg o c todo).pages.flatten).Nodup ∧
    ∀ u ∈ pageUuids (runCluster cfg o c todo).pages.flatten, u ∈ todo := by
  rcases runCluster_run cfg o c todo with ⟨_, h⟩ | ⟨B, hb, h⟩
  · rw [h] at hd; cases hd
  · exact ⟨⟨B, hb⟩, (h.done_spec hd).1, (h.done_spec hd).2.1⟩

end

variable {gs : List (ClusterId × List Uuid)}

theorem split_errs_nil_iff :
    (splitResults cfg o gs).filterMap (fun r => r.2.stop.status?) = [] ↔
      ∀ g ∈ gs, (runCluster cfg o g.1 g.2).stop = .done := by
  simp [splitResults, List.filterMap_eq_nil_iff, status_eq_none_iff]

theorem mem_split_errs {s : Nat} :
    s ∈ (splitResults cfg o gs).filterMap (fun r => r.2.stop.status?) ↔
      ∃ g ∈ gs, (runCluster cfg o g.1 g.2).stop = .failed s := by
  simp [splitResults, List.mem_filterMap, runCluster_status]

theorem split_flat :
    ((splitResults cfg o gs).flatMap (fun r => r.2.pages)).flatten =
      gs.flatMap (fun g => (runCluster cfg o g.1 g.2).pages.flatten) := by
  induction gs with
  | nil => rfl
  | cons g gs ih =>
    rw [List.flatMap_cons, ← ih]
    exact List.flatten_append

theorem nodup_flatMap_groups {f : ClusterId × List Uuid → List Uuid} (hkeys : (gs.map (·.1)).Nodup)
    (hhome : ∀ g ∈ gs, ∀ u ∈ g.2, home u = g.1)
    (hf : ∀ g ∈ gs, (f g).Nodup ∧ ∀ u ∈ f g, u ∈ g.2) : (gs.flatMap f).Nodup :=
  List.pairwise_flatMap.mpr ⟨fun g hg => (hf g hg).1,
    (List.pairwise_map.mp hkeys).imp_of_mem fun {a b} ha hb hne x hx y hy hxy => hne <| by
      rw [← hhome a ha x ((hf a ha).2 x hx), hxy, hhome b hb y ((hf b hb).2 y hy)]⟩

theorem run_of_split (h : plan cfg.localId cfg.maxItems o = .split gs) :
    run cfg o =
      if (splitResults cfg o gs).filterMap (fun r => r.2.stop.status?) = [] then
        ⟨.ok (mergePages ((splitResults cfg o gs).flatMap (fun r => r.2.pages))),
          (splitResults cfg o gs).map (fun r => (r.1, r.2.log))⟩
      else ⟨.err ((splitResults cfg o gs).filterMap (fun r => r.2.stop.status?)),
          (splitResults cfg o gs).map (fun r => (r.1, r.2.log))⟩ := by
  unfold run; rw [h]

theorem run_log_of_split (h : plan cfg.localId cfg.maxItems o = .split gs) :
    (run cfg o).log = gs.map (fun g => (g.1, (runCluster cfg o g.1 g.2).log)) := by
  rw [run_of_split h]
  split <;> simp [splitResults, List.map_map, Function.comp_def]

theorem run_of_reject {s : Nat}
    (h : plan cfg.localId cfg.maxItems o = .reject s) : run cfg o = ⟨.err [s], []⟩ := by
  unfold run; rw [h]

theorem run_err_of_failed (h : plan cfg.localId cfg.maxItems o = .split gs) {g : ClusterId × List Uuid} (hg : g ∈ gs) {s : Nat}
    (hs : (runCluster cfg o g.1 g.2).stop = .failed s) : ∃ ss, (run cfg o).out = .err ss ∧ s ∈ ss := by
  have hmem := mem_split_errs.mpr ⟨g, hg, hs⟩
  rw [run_of_split h]
  split
  · rename_i hnil; rw [hnil] at hmem; cases hmem
  · exact ⟨_, rfl, hmem⟩

theorem run_err_split (h : plan cfg.localId cfg.maxItems o = .split gs) {ss : List Nat} (herr : (run cfg o).out = .err ss) :
    ss ≠ [] ∧ ∀ s ∈ ss, ∃ g ∈ gs, (runCluster cfg o g.1 g.2).stop = .failed s := by
  rw [run_of_split h] at herr
  split at herr
  · cases herr
  · rename_i hne
    cases herr
    exact ⟨hne, fun s => mem_split_errs.mp⟩

theorem run_ok_iff (h : plan cfg.localId cfg.maxItems o = .split gs) (items : List Obj) :
    (run cfg o).out = .ok items ↔ (∀ g ∈ gs, (runCluster cfg o g.1 g.2).stop = .done) ∧
      items = mergePages ((splitResults cfg o gs).flatMap (fun r => r.2.pages)) := by
  rw [run_of_split h, ← split_errs_nil_iff]
  split
  · simp [*, eq_comm]
  · simp [*]

theorem run_ok (h : plan cfg.localId cfg.maxItems o = .split gs) {items : List Obj}
    (hok : (run cfg o).out = .ok items) :
    (∀ g ∈ gs, (runCluster cfg o g.1 g.2).stop = .done) ∧
    items.Perm (gs.flatMap fun g => (runCluster cfg o g.1 g.2).pages.flatten) := by
  obtain ⟨hd, rfl⟩ := (run_ok_iff h items).mp hok
  exact ⟨hd, split_flat ▸ mergePages_perm _⟩

def runLogItems (r : Run) : List Obj := r.log.flatMap (fun e => logItems e.2)

theorem split_pages_log (h : plan cfg.localId cfg.maxItems o = .split gs) :
    (gs.flatMap fun g => (runCluster cfg o g.1 g.2).pages.flatten) = runLogItems (run cfg o) := by
  rw [runLogItems, run_log_of_split h, List.flatMap_map, List.flatMap_def, List.flatMap_def]
  exact congrArg List.flatten (List.map_congr_left fun g _ => runCluster_pages_log cfg o g.1 g.2)

def totalCalls (r : Run) : Nat := (r.log.map (fun e => e.2.length)).sum

end ArvVerif.C20
