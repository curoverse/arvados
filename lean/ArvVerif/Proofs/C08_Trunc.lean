/-
C08: `truncate` (filenode.truncate) against `specTruncate`.
-/
import ArvVerif.Proofs.C08_Seek
import ArvVerif.Proofs.C08_SegOps
namespace ArvVerif.C08

variable {max : Nat} {hash : Bytes → Loc} {st : Store}

theorem growLoop_spec (hmax : 1 ≤ max) :
    ∀ (fuel : Nat) (segs : List Seg) (size target : Nat),
      (∀ s ∈ segs, SegWF max hash st s) → size = sumLen segs → size ≤ target → target - size ≤ fuel →
      ∃ segs', growLoop max fuel segs size target = some (segs', target) ∧
        (∀ s ∈ segs', SegWF max hash st s) ∧ target = sumLen segs' ∧
        absSegs st segs' = absSegs st segs ++ zeros (target - size) := by
  intro fuel
  induction fuel with
  | zero =>
    intro segs size target hwf hsz hle hfuel
    obtain rfl : size = target := by omega
    exact ⟨segs, by unfold growLoop; simp, hwf, hsz, by simp⟩
  | succ fuel ih =>
    intro segs size target hwf hsz hle hfuel
    by_cases hge : size ≥ target
    · obtain rfl : size = target := by omega
      exact ⟨segs, by unfold growLoop; simp, hwf, hsz, by simp⟩
    · unfold growLoop
      rw [if_neg hge]
      simp only []
      -- an iteration that makes the list `grow` zero bytes longer
      have step : ∀ segs1 grow, 0 < grow → grow ≤ target - size → (∀ s ∈ segs1, SegWF max hash st s) →
          sumLen segs1 = sumLen segs + grow → absSegs st segs1 = absSegs st segs ++ zeros grow →
          ∃ segs', growLoop max fuel segs1 (size + grow) target = some (segs', target) ∧
            (∀ s ∈ segs', SegWF max hash st s) ∧ target = sumLen segs' ∧
            absSegs st segs' = absSegs st segs ++ zeros (target - size) := by
        intro segs1 grow h0 hg hwf1 hsum habs
        obtain ⟨segs', h1, h2, h3, h4⟩ := ih segs1 (size + grow) target hwf1 (by omega) (by omega) (by omega)
        refine ⟨segs', h1, h2, h3, ?_⟩
        rw [h4, habs, List.append_assoc, zeros_append]
        congr 2; omega
      obtain ⟨g, hg⟩ : ∃ g, g = if max < target - size then max else target - size := ⟨_, rfl⟩
      have hg' : 0 < g ∧ g ≤ max ∧ g ≤ target - size := by rw [hg]; split <;> omega
      have fresh := step (segs ++ [memTruncate [] Flush.none g]) g hg'.1 hg'.2.2
        (by simp only [List.forall_mem_append, List.forall_mem_singleton]
            exact ⟨hwf, memTruncate_wf_grow (buf := []) hg'.1 hg'.2.1⟩)
        (by simp [memTruncate_len]) (by simp [memTruncate_bytes])
      subst hg
      cases hlast : segs.getLast? with
      | none => exact fresh
      | some last =>
        cases last with
        | stored loc sz off l => exact fresh
        | mem buf fl =>
          simp only []
          by_cases hfull : buf.length ≥ max
          · rw [if_pos hfull]; exact fresh
          ·
            rw [if_neg hfull]
            obtain ⟨init, rfl⟩ := List.getLast?_eq_some_iff.mp hlast
            rw [List.dropLast_concat]
            simp only [List.forall_mem_append, List.forall_mem_singleton] at hwf
            generalize hg : (if max - buf.length < target - size then max - buf.length else target - size) = g
            have hg' : 0 < g ∧ buf.length + g ≤ max ∧ g ≤ target - size := by rw [← hg]; split <;> omega
            refine step _ g hg'.1 hg'.2.2 ?_ ?_ ?_
            · simp only [List.forall_mem_append, List.forall_mem_singleton]
              exact ⟨hwf.1, memTruncate_wf_grow (by omega) hg'.2.1⟩
            · simp [memTruncate_len]; omega
            · rw [memTruncate_grow]; simp

structure TruncOK (max : Nat) (hash : Bytes → Loc) (st : Store) (fn : FileNode) (n : Nat) (fn' : FileNode) : Prop where
  wf : WF max hash st fn'
  abs_eq : abs st fn' = specTruncate (abs st fn) n
  size_eq : fn'.size = n
  same : n = fn.size → fn' = fn
  bump : n ≠ fn.size → fn'.repacked = fn.repacked + 1

theorem TruncOK.ptrs {st : Store} {fn fn' : FileNode} {n : Nat} (h : TruncOK max hash st fn n fn') :
    ∀ q, PtrOK fn q → PtrOK fn' q := by
  intro q hq
  by_cases hn : n = fn.size
  · rw [h.same hn]; exact hq
  · have := h.bump hn
    exact ⟨by have := hq.1; omega, fun h' => by have := hq.1; omega⟩

theorem TruncOK.rep {st : Store} {fn fn' : FileNode} {n : Nat} (h : TruncOK max hash st fn n fn')
    (hrep : 0 ≤ fn.repacked) : 0 ≤ fn'.repacked := by
  by_cases hn : n = fn.size
  · rw [h.same hn]; exact hrep
  · rw [h.bump hn]; omega

theorem truncate_spec {fn : FileNode} (hmax : 1 ≤ max) (hwf : WF max hash st fn) (hrep : 0 ≤ fn.repacked)
    (n : Nat) : ∃ fn', truncate max fn n = some fn' ∧ TruncOK max hash st fn n fn' := by
  have habslen : (absSegs st fn.segs).length = fn.size := hwf.abs_length
  unfold truncate
  by_cases heq : n = fn.size
  · rw [if_pos heq]
    refine ⟨fn, rfl, hwf, ?_, heq.symm, fun _ => rfl, fun h => absurd heq h⟩
    unfold specTruncate abs
    rw [List.take_of_length_le (by omega), heq, ← habslen]; simp
  · rw [if_neg heq]
    -- every other case builds a new segment list and bumps the counter
    have fin : ∀ segs', (∀ s ∈ segs', SegWF max hash st s) → n = sumLen segs' →
        absSegs st segs' = specTruncate (abs st fn) n →
        ∃ fn', some ({ segs := segs', size := n, repacked := fn.repacked + 1 } : FileNode) = some fn' ∧
          TruncOK max hash st fn n fn' :=
      fun segs' h1 h2 h3 => ⟨_, rfl, ⟨h2, h1⟩, h3, rfl, fun h => absurd h heq, fun _ => rfl⟩
    by_cases hlt : n < fn.size
    · rw [if_pos hlt]
      simp only []
      -- seek in the file with the bumped counter
      have hwf1 : WF max hash st { fn with repacked := fn.repacked + 1 } := ⟨hwf.size_eq, hwf.segs⟩
      have hp : PtrOK { fn with repacked := fn.repacked + 1 } ⟨n, 0, 0, 0⟩ :=
        ⟨by simp only []; omega, fun h => by simp only [] at h; omega⟩
      obtain ⟨q, hq, hoff, _, hcase⟩ := seek_spec hwf1 hp
      rw [hq]
      simp only [] at hcase
      rcases hcase with ⟨hge, _, _⟩ | ⟨_, s, hs, hso, hsum⟩
      · omega
      · simp only []
        obtain ⟨htakewf, hswf, _, _, hX⟩ := hwf.split hs
        have hspec : specTruncate (abs st fn) n =
            absSegs st (fn.segs.take q.segIdx) ++ (s.bytes st).take q.segOff := by
          unfold specTruncate abs
          rw [show n - (absSegs st fn.segs).length = 0 by omega, ← hsum, ← hX,
            absSegs_split hs, List.append_assoc, List.take_length_add_append,
            List.take_append_of_le_length (by rw [hswf.bytes_length]; omega)]
          simp
        -- the segments before the pointer stay, followed by the head piece `c` of the one under it
        have cut : ∀ c, SegWF max hash st c → c.len = q.segOff → c.bytes st = (s.bytes st).take q.segOff →
            ∃ fn', some ({ segs := fn.segs.take q.segIdx ++ [c], size := n, repacked := fn.repacked + 1 } : FileNode)
              = some fn' ∧ TruncOK max hash st fn n fn' := fun c h1 h2 h3 =>
          fin _ (by simp only [List.forall_mem_append, List.forall_mem_singleton]; exact ⟨htakewf, h1⟩)
            (by simp [h2]; omega) (by rw [hspec]; simp [h3])
        by_cases hso0 : q.segOff = 0
        · rw [if_pos hso0]
          exact fin _ htakewf (by omega) (by rw [hspec, hso0]; simp)
        · rw [if_neg hso0, hs]
          cases s with
          | mem buf fl =>
            have hso' : q.segOff < buf.length := hso
            exact cut _ (memTruncate_wf_shrink hswf (by omega) hso') (memTruncate_len ..)
              (by rw [memTruncate_bytes, show q.segOff - buf.length = 0 by omega]; simp)
          | stored loc sz off l =>
            have hso' : q.segOff ≤ l := Nat.le_of_lt hso
            exact cut _ (stored_slice_wf hswf (by omega) hso') (stored_slice_len hso') (stored_slice_bytes hswf hso')
    · rw [if_neg hlt]
      obtain ⟨segs', h1, h2, h3, h4⟩ := growLoop_spec (hash := hash) (st := st) hmax (n - fn.size) fn.segs fn.size n
        hwf.segs hwf.size_eq (by omega) (Nat.le_refl _)
      rw [h1]
      refine fin _ h2 h3 ?_
      unfold specTruncate abs
      rw [h4, List.take_of_length_le (by omega), habslen]

end ArvVerif.C08
