/-
C17 — the specification of the mounted content: which collection is extracted where.
`Jumps h cfg d x` are the positions at which `walkMount(d, x, …, true)` is called (the output root, and
the target of every link that `Shows` reaches); `fragOf cfg d x` is what `walkMount` itself appends to
`cp.manifest` there (the extract of the read-only collection that contains `x`, relocated to `d`);
`belowFrags cfg d x` what `walkMountsBelow(d, x)` appends (every mount strictly below `x`, at `d` + its
relative path). `Site h cfg D y`: a jump position, or a mount strictly below a jump position `x` where no
secret mount hides `x`; the items extracted there are `fragOf cfg D y`.
-/
import ArvVerif.Proofs.C17_Shows
namespace ArvVerif.C17

inductive Jumps (h : Host) (cfg : Cfg) : Path → Path → Prop
  | root : Jumps h cfg [] cfg.ctrOut
  | link {d s : Path} {a : Bool} {t : Path} : Shows h cfg d s → nodeAt h cfg s = some (.link a t) →
      Jumps h cfg d (linkTarget s a t)

/-- a jump position in the output directory's mount is shown -/
theorem Jumps.shows {h : Host} {cfg : Cfg} {d x : Path} (hj : Jumps h cfg d x) (hin : InOut cfg x) :
    Shows h cfg d x := by
  cases hj with
  | root => exact .root
  | link hsh hnode => exact .link hsh hnode hin

def fragOf (cfg : Cfg) (dest x : Path) : List Frag :=
  if underSecret cfg x (rootLen (srcMount cfg x)) then [] else
  match srcMount cfg x with
  | none => []
  | some (root, m) =>
    if m.exclude then []
    else if m.kind = "tmp" then []
    else if m.kind ≠ "collection" then []
    else if ¬ m.writable then
      match m.coll with
      | none => []
      | some c => extract c (cleanRel (m.path ++ x.drop root.length)) dest
    else []

def belowFrags (cfg : Cfg) (dest x : Path) : List Frag :=
  cfg.mounts.flatMap fun e =>
    if x.isPrefixOf e.1 ∧ x.length < e.1.length ∧ ¬ copyRegular e.2 then fragOf cfg (dest ++ e.1.drop x.length) e.1
    else []

/-- the secret test of `walkMount`: no secret mount deeper than the innermost mount lies at or above `x` -/
def notSecret (cfg : Cfg) (x : Path) : Prop := underSecret cfg x (rootLen (srcMount cfg x)) = false

def FragJust (h : Host) (cfg : Cfg) (st : Plan) : Prop :=
  ∀ f ∈ st.frags, ∃ d x, Jumps h cfg d x ∧ (f ∈ fragOf cfg d x ∨ (notSecret cfg x ∧ f ∈ belowFrags cfg d x))

/-- `x` is a mount strictly below `x0` that `walkMountsBelow(d0, x0)` visits, and `d` its output path -/
def BelowOf (cfg : Cfg) (d0 x0 d x : Path) : Prop :=
  ∃ m, (x, m) ∈ cfg.mounts ∧ x0.isPrefixOf x = true ∧ x0.length < x.length ∧ copyRegular m = false ∧
    d = d0 ++ x.drop x0.length

theorem mem_belowFrags {cfg : Cfg} {d x : Path} {f : Frag} :
    f ∈ belowFrags cfg d x ↔ ∃ D y, BelowOf cfg d x D y ∧ f ∈ fragOf cfg D y := by
  unfold belowFrags
  rw [List.mem_flatMap]
  constructor
  · rintro ⟨e, he, hfe⟩
    split at hfe
    · rename_i hc
      exact ⟨_, e.1, ⟨e.2, he, hc.1, hc.2.1, by simpa using hc.2.2, rfl⟩, hfe⟩
    · cases hfe
  · rintro ⟨D, y, ⟨m, hm, h1, h2, h3, rfl⟩, hf⟩
    exact ⟨(y, m), hm, by simpa [h1, h2, h3] using hf⟩

theorem fragOf_coll {cfg : Cfg} {dest src root : Path} {m : Mount} {c : Coll}
    (hsec : underSecret cfg src (rootLen (srcMount cfg src)) = false) (hsm : srcMount cfg src = some (root, m))
    (hex : m.exclude = false) (hk : m.kind = "collection") (hwr : m.writable = false) (hc : m.coll = some c) :
    fragOf cfg dest src = extract c (cleanRel (m.path ++ src.drop root.length)) dest := by
  unfold fragOf
  rw [hsm] at hsec ⊢
  simp [hsec, hex, hk, hwr, hc]

theorem extract_prefix (c : Coll) (rel dest : Path) (f : Frag) (hf : f ∈ extract c rel dest) :
    dest.isPrefixOf f.1 = true := by
  unfold extract at hf
  split at hf
  · cases hf
  · split at hf
    · rw [List.mem_singleton.mp hf]
      split
      · rename_i hd; rw [hd]; rfl
      · exact isPrefixOf_self _
    · simp only [List.mem_map, List.mem_filter] at hf
      obtain ⟨e, _, rfl⟩ := hf
      split
      · exact isPrefixOf_append _ _
      · rw [List.append_assoc]; exact isPrefixOf_append _ _

theorem fragOf_mem {cfg : Cfg} {D y : Path} {f : Frag} (hf : f ∈ fragOf cfg D y) :
    ∃ root m c, srcMount cfg y = some (root, m) ∧ m.kind = "collection" ∧ m.coll = some c ∧
      f ∈ extract c (cleanRel (m.path ++ y.drop root.length)) D := by
  unfold fragOf at hf
  split at hf
  · cases hf
  · split at hf
    · cases hf
    · rename_i root m hsm
      simp only [List.mem_ite_nil_left, List.mem_ite_nil_right] at hf
      obtain ⟨_, _, hk, _, hf⟩ := hf
      split at hf
      · cases hf
      · exact ⟨root, m, _, hsm, Decidable.not_not.mp hk, ‹_›, hf⟩

theorem fragOf_prefix (cfg : Cfg) (d x : Path) (f : Frag) (hf : f ∈ fragOf cfg d x) : d.isPrefixOf f.1 = true := by
  obtain ⟨_, _, _, _, _, _, hf⟩ := fragOf_mem hf
  exact extract_prefix _ _ _ _ hf

theorem fragOf_not_inOut (cfg : Cfg) (d x : Path) (f : Frag) (hf : f ∈ fragOf cfg d x) : ¬ InOut cfg x := by
  intro ⟨_, m, hsm, hk, _⟩
  obtain ⟨_, _, _, hsm', hk', _⟩ := fragOf_mem hf
  cases hsm.symm.trans hsm'
  exact absurd (hk.symm.trans hk') (by decide)

def Site (h : Host) (cfg : Cfg) (D y : Path) : Prop :=
  Jumps h cfg D y ∨ ∃ d x, Jumps h cfg d x ∧ notSecret cfg x ∧ BelowOf cfg d x D y

theorem fragJust_site (h : Host) (cfg : Cfg) (plan : Plan) (hj : FragJust h cfg plan) (f : Frag) (hf : f ∈ plan.frags) :
    ∃ D y, Site h cfg D y ∧ f ∈ fragOf cfg D y := by
  obtain ⟨d, x, hjump, h1 | ⟨hns, h1⟩⟩ := hj f hf
  · exact ⟨d, x, Or.inl hjump, h1⟩
  · obtain ⟨D, y, hb, hfe⟩ := mem_belowFrags.mp h1
    exact ⟨D, y, Or.inr ⟨d, x, hjump, hns, hb⟩, hfe⟩

/-! ## nested mounts (finding F17d)

The items `fragOf cfg D y` are the extract of the collection that `y` lies in, *whole*: when another
mount point lies inside that collection's directory tree, the container sees the inner mount there,
yet the outer collection's items for those paths are part of the extract. `Unshadowed`: an item's
source path lies in no mount deeper than the one it was extracted from. True when no mount point lies
strictly below a collection mount point (`fragOf_unshadowed`); false in general (Props/C17.lean,
`C17_mounted_view_full_fails`). -/

/-- the container path an item of `fragOf cfg D y` was taken from -/
def fragSrc (D y : Path) (f : Frag) : Path := y ++ f.1.drop D.length

def Unshadowed (cfg : Cfg) (D y : Path) (f : Frag) : Prop :=
  ∀ e ∈ cfg.mounts, e.1.isPrefixOf (fragSrc D y f) = true → e.1.length ≤ rootLen (srcMount cfg y)

def NoNestedMounts (cfg : Cfg) : Prop :=
  ∀ e ∈ cfg.mounts, ∀ e' ∈ cfg.mounts, e.2.kind = "collection" → ¬ ProperPrefix e.1 e'.1

theorem fragOf_unshadowed (cfg : Cfg) (hn : NoNestedMounts cfg) (D y : Path) (f : Frag) (hf : f ∈ fragOf cfg D y) :
    Unshadowed cfg D y f := by
  obtain ⟨root, m, _, hsm, hk, _⟩ := fragOf_mem hf
  obtain ⟨hmem, hpre, _⟩ := srcMount_mem cfg y _ hsm
  intro e he hp
  have hy : y.isPrefixOf (fragSrc D y f) = true := isPrefixOf_append y _
  by_cases hl : e.1.length ≤ y.length
  · exact srcMount_max cfg y e he (prefix_total e.1 y _ hp hy hl)
  · exfalso
    have hye : y.isPrefixOf e.1 = true := prefix_total y e.1 _ hy hp (by omega)
    exact hn (root, m) hmem e he hk (properPrefix_of_prefix hpre ⟨hye, by omega⟩)

end ArvVerif.C17
