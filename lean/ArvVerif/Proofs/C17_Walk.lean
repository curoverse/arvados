/-
C17 — the calls of the walk that end well, as a relation without fuel: `Run h cfg c st st'` holds
exactly when `walk h cfg fuel c st = .ok st'` for some `fuel` (`Run.of_walk`, `Run.to_walk`). Everything
that is proved about successful scans is proved by induction on (or inversion of) `Run`.
-/
import ArvVerif.Proofs.C17_Mount
namespace ArvVerif.C17

theorem bind_eq_ok {α β : Type} (r : Res α) (f : α → Res β) (b : β) (hb : r.bind f = .ok b) :
    ∃ a, r = .ok a ∧ f a = .ok b := by
  cases r with
  | ok a => exact ⟨a, rfl, hb⟩
  | err e => cases hb
  | unmodelled => cases hb
  | fuel => cases hb

structure Plan.le (a b : Plan) : Prop where
  dirs : a.dirs <+: b.dirs
  files : a.files <+: b.files
  frags : a.frags <+: b.frags

theorem Plan.le_refl (a : Plan) : a.le a := ⟨List.prefix_refl _, List.prefix_refl _, List.prefix_refl _⟩

theorem Plan.le_trans {a b c : Plan} (h1 : a.le b) (h2 : b.le c) : a.le c :=
  ⟨h1.dirs.trans h2.dirs, h1.files.trans h2.files, h1.frags.trans h2.frags⟩

theorem Plan.le_addDir (a : Plan) (d : Path) : a.le (a.addDir d) := by
  unfold Plan.addDir; split
  · exact Plan.le_refl _
  · exact ⟨List.prefix_append _ _, List.prefix_refl _, List.prefix_refl _⟩

theorem Plan.le_addKeep (a : Plan) (d : Path) : a.le (a.addKeep d) := by
  unfold Plan.addKeep; split
  · exact Plan.le_refl _
  · exact ⟨List.prefix_refl _, List.prefix_append _ _, List.prefix_refl _⟩

theorem Plan.le_addFile (a : Plan) (d p : Path) : a.le (a.addFile d p) :=
  ⟨List.prefix_refl _, List.prefix_append _ _, List.prefix_refl _⟩

theorem Plan.le_addFrags (a : Plan) (fs : List Frag) : a.le (a.addFrags fs) :=
  ⟨List.prefix_refl _, List.prefix_refl _, List.prefix_append _ _⟩

/-- One rule per way a call of `walk` returns `.ok`. `walkMount` and `walkHostFS` visit the mounts
below only when asked to: that is the `.below` loop over `if b then cfg.mounts else []`. -/
inductive Run (h : Host) (cfg : Cfg) : Call → Plan → Plan → Prop
  | secret {dest src n below st} :
      underSecret cfg src (rootLen (srcMount cfg src)) = true → Run h cfg (.mount dest src n below) st st
  | exclude {dest src n below st st' root m} :
      underSecret cfg src (rootLen (srcMount cfg src)) = false → srcMount cfg src = some (root, m) →
      m.exclude = true →
      Run h cfg (.below dest src n (if below then cfg.mounts else [])) st st' →
      Run h cfg (.mount dest src n below) st st'
  | tmp {dest src n below st st' m} :
      underSecret cfg src (rootLen (srcMount cfg src)) = false → srcMount cfg src = some (cfg.ctrOut, m) →
      m.exclude = false → m.kind = "tmp" →
      Run h cfg (.host dest src n below) st st' →
      Run h cfg (.mount dest src n below) st st'
  | coll {dest src n below st st' root m c} :
      underSecret cfg src (rootLen (srcMount cfg src)) = false → srcMount cfg src = some (root, m) →
      m.exclude = false → m.kind = "collection" → m.writable = false → m.coll = some c →
      Run h cfg (.below dest src n (if below then cfg.mounts else []))
        (st.addFrags (extract c (cleanRel (m.path ++ src.drop root.length)) dest)) st' →
      Run h cfg (.mount dest src n below) st st'
  | belowNil {dest src n st} : Run h cfg (.below dest src n []) st st
  | belowSkip {dest src n mnt m ms st st'} :
      ¬ (src.isPrefixOf mnt ∧ src.length < mnt.length ∧ ¬ copyRegular m) →
      Run h cfg (.below dest src n ms) st st' →
      Run h cfg (.below dest src n ((mnt, m) :: ms)) st st'
  | belowTake {dest src n mnt m ms st a st'} :
      src.isPrefixOf mnt ∧ src.length < mnt.length ∧ ¬ copyRegular m →
      Run h cfg (.mount (dest ++ mnt.drop src.length) mnt (min n (belowMaxSymlinks + 1)) false) st a →
      Run h cfg (.below dest src n ms) a st' →
      Run h cfg (.below dest src n ((mnt, m) :: ms)) st st'
  | link {dest src n inc st a st' p abs t} :
      Run h cfg (.below dest src n (if inc then cfg.mounts else [])) st a →
      namei h [] (hostPath cfg src) 0 = .found p (.link abs t) → n ≠ 0 →
      Run h cfg (.mount dest (linkTarget src abs t) (n - 1) true) a st' →
      Run h cfg (.host dest src n inc) st st'
  | emptyDir {dest src n inc st a p} :
      Run h cfg (.below dest src n (if inc then cfg.mounts else [])) st a →
      namei h [] (hostPath cfg src) 0 = .found p .dir → h.children p = [] →
      Run h cfg (.host dest src n inc) st ((a.addDir dest).addKeep dest)
  | dir {dest src n inc st a st' p} :
      Run h cfg (.below dest src n (if inc then cfg.mounts else [])) st a →
      namei h [] (hostPath cfg src) 0 = .found p .dir → h.children p ≠ [] →
      Run h cfg (.children dest src n (sortNames (h.children p))) (a.addDir dest) st' →
      Run h cfg (.host dest src n inc) st st'
  | file {dest src n inc st a p content} :
      Run h cfg (.below dest src n (if inc then cfg.mounts else [])) st a →
      namei h [] (hostPath cfg src) 0 = .found p (.file content) →
      Run h cfg (.host dest src n inc) st (a.addFile dest p)
  | childrenNil {dest src n st} : Run h cfg (.children dest src n []) st st
  | childSkip {dest src n name names st st'} :
      (src ++ [name]) ∈ cfg.secrets ∨ skipMount cfg (src ++ [name]) = true →
      Run h cfg (.children dest src n names) st st' →
      Run h cfg (.children dest src n (name :: names)) st st'
  | childTake {dest src n name names st a st'} :
      (src ++ [name]) ∉ cfg.secrets → skipMount cfg (src ++ [name]) = false →
      Run h cfg (.host (dest ++ [name]) (src ++ [name]) n false) st a →
      Run h cfg (.children dest src n names) a st' →
      Run h cfg (.children dest src n (name :: names)) st st'

theorem Run.of_walk {h : Host} {cfg : Cfg} {fuel : Nat} {c : Call} {st st' : Plan}
    (hw : walk h cfg fuel c st = .ok st') : Run h cfg c st st' := by
  -- the mounts below, visited or not
  have hcont : ∀ {fuel dest src n} {b : Bool} {s1 s2 : Plan},
      (∀ st', walk h cfg fuel (.below dest src n cfg.mounts) s1 = .ok st' →
        Run h cfg (.below dest src n cfg.mounts) s1 st') →
      (if b = true then walk h cfg fuel (.below dest src n cfg.mounts) s1 else .ok s1) = .ok s2 →
      Run h cfg (.below dest src n (if b then cfg.mounts else [])) s1 s2 := by
    intro fuel dest src n b s1 s2 ih hc
    cases b with
    | true => exact ih _ hc
    | false => cases hc; exact .belowNil
  suffices key : ∀ st', walk h cfg fuel c st = .ok st' → Run h cfg c st st' from key st' hw
  clear hw st'
  -- the cases of `walk`: 1 no fuel; `.mount`: 2 under a secret mount, 3 in no mount, 4 excluded mount,
  -- 5 the output directory's `tmp` mount (goes on as `.host`), 6 another `tmp` mount, 7 neither `tmp` nor
  -- collection, 8 collection not available, 9 read-only collection, 10 writable collection; `.below`: 11 no
  -- mount left, 12 mount visited, 13 mount passed over; 14 `.host`; `.children`: 15 no name left, 16 secret
  -- mount, 17 mount point, 18 entry walked
  fun_induction walk h cfg fuel c st with
  | case1 | case3 | case6 | case7 | case8 | case10 => intro _ hw; cases hw
  | case2 _ _ _ _ _ _ _ hsec => intro _ hw; cases hw; exact .secret hsec
  | case4 _ _ _ _ _ _ _ hsec _ _ hsm _ hex ih =>
    exact fun _ hw => .exclude (by simpa using hsec) hsm hex (hcont (ih _) hw)
  | case5 _ _ _ _ _ _ _ hsec _ hex hk hsm _ ih =>
    exact fun _ hw => .tmp (by simpa using hsec) hsm (by simpa using hex) hk (ih _ hw)
  | case9 _ _ _ _ _ _ _ hsec _ _ hsm _ hex _ hk hwr _ hc ih =>
    exact fun _ hw => .coll (by simpa using hsec) hsm (by simpa using hex) (by simpa using hk) (by simpa using hwr) hc
      (hcont (ih _) hw)
  | case11 => intro _ hw; cases hw; exact .belowNil
  | case12 _ _ _ _ _ _ _ _ hc ih1 ih2 =>
    intro _ hw
    obtain ⟨a, ha, hr⟩ := bind_eq_ok _ _ _ hw
    exact .belowTake hc (ih1 _ ha) (ih2 _ _ hr)
  | case13 _ _ _ _ _ _ _ _ hc ih => exact fun _ hw => .belowSkip hc (ih _ hw)
  | case14 fuel dest src n inc st ih3 ih2 ih1 =>
    intro st' hw
    obtain ⟨a, ha, hr⟩ := bind_eq_ok _ _ _ hw
    have hpre := hcont ih3 ha
    split at hr
    · rename_i hst
      split at hr
      · cases hr
      · rename_i hn; exact .link hpre hst hn (ih2 _ _ _ _ hr)
    · rename_i hst
      split at hr
      · rename_i hnil; cases hr; exact .emptyDir hpre hst hnil
      · rename_i hnil; exact .dir hpre hst hnil (ih1 _ _ _ hr)
    · rename_i hst; cases hr; exact .file hpre hst
    · cases hr
    · cases hr
  | case15 => intro _ hw; cases hw; exact .childrenNil
  | case16 _ _ _ _ _ _ _ _ hx ih => exact fun _ hw => .childSkip (Or.inl (by simpa using hx)) (ih _ hw)
  | case17 _ _ _ _ _ _ _ _ _ hx ih => exact fun _ hw => .childSkip (Or.inr hx) (ih _ hw)
  | case18 _ _ _ _ _ _ _ _ hsec hskip ih1 ih2 =>
    intro _ hw
    obtain ⟨a, ha, hr⟩ := bind_eq_ok _ _ _ hw
    exact .childTake (by simpa using hsec) (by simpa using hskip) (ih1 _ ha) (ih2 _ _ hr)

def Ev (P : Nat → Prop) : Prop := ∃ F, ∀ f, F ≤ f → P f

theorem Ev.and {P Q : Nat → Prop} : Ev P → Ev Q → Ev fun f => P f ∧ Q f
  | ⟨F, hp⟩, ⟨G, hq⟩ => ⟨F + G, fun f hf => ⟨hp f (by omega), hq f (by omega)⟩⟩

theorem Ev.step {P Q : Nat → Prop} : Ev P → (∀ f, P f → Q (f + 1)) → Ev Q
  | ⟨F, hp⟩, hq => ⟨F + 1, fun
    | 0, hf => by omega
    | f + 1, hf => hq f (hp f (by omega))⟩

theorem Ev.of_succ {Q : Nat → Prop} (hq : ∀ f, Q (f + 1)) : Ev Q :=
  Ev.step ⟨0, fun _ _ => trivial⟩ fun f (_ : True) => hq f

theorem Run.to_walk {h : Host} {cfg : Cfg} {c : Call} {st st' : Plan} (hr : Run h cfg c st st') :
    Ev fun f => walk h cfg f c st = .ok st' := by
  -- the mounts below, visited or not
  have hcont : ∀ {b : Bool} {dest src n} {s1 s2 : Plan} {f : Nat},
      walk h cfg f (.below dest src n (if b then cfg.mounts else [])) s1 = .ok s2 →
      (if b = true then walk h cfg f (.below dest src n cfg.mounts) s1 else .ok s1) = .ok s2 := by
    intro b dest src n s1 s2 f hw
    cases b with
    | true => exact hw
    | false =>
      cases f with
      | zero => cases hw
      | succ f => simpa [walk] using hw
  induction hr with
  | secret hsec => exact .of_succ fun f => by rw [walk]; simp [hsec]
  | exclude hsec hsm hex _ ih =>
    refine ih.step fun f ih => ?_
    rw [walk]; rw [hsm] at hsec
    simp only [hsm, hsec, hex, Bool.false_eq_true, if_false, if_true]
    exact hcont ih
  | tmp hsec hsm hex hk _ ih =>
    refine ih.step fun f ih => ?_
    rw [walk]; rw [hsm] at hsec
    simp only [hsm, hsec, hex, hk, Bool.false_eq_true, if_false, if_true]
    exact ih
  | coll hsec hsm hex hk hwr hc _ ih =>
    refine ih.step fun f ih => ?_
    rw [walk]; rw [hsm] at hsec
    simp only [hsm, hsec, hex, hk, hwr, hc, Bool.false_eq_true, if_false]
    simp only [String.reduceEq, ne_eq, not_true_eq_false, not_false_eq_true, if_false, if_true]
    exact hcont ih
  | belowNil => exact .of_succ fun f => by rw [walk]
  | belowSkip hc _ ih => exact ih.step fun f ih => by rw [walk, if_neg hc]; exact ih
  | belowTake hc _ _ ih1 ih2 =>
    exact (ih1.and ih2).step fun f ih => by rw [walk, if_pos hc, ih.1]; exact ih.2
  | link _ hst hn _ ih1 ih2 =>
    refine (ih1.and ih2).step fun f ih => ?_
    unfold hostPath at hst
    rw [walk, hcont ih.1]
    simp only [Res.bind, hst, hn, if_false]
    exact ih.2
  | emptyDir _ hst hnil ih =>
    refine ih.step fun f ih => ?_
    unfold hostPath at hst
    rw [walk, hcont ih]
    simp only [Res.bind, hst, hnil, if_true]
  | dir _ hst hnil _ ih1 ih2 =>
    refine (ih1.and ih2).step fun f ih => ?_
    unfold hostPath at hst
    rw [walk, hcont ih.1]
    simp only [Res.bind, hst, hnil, if_false]
    exact ih.2
  | file _ hst ih =>
    refine ih.step fun f ih => ?_
    unfold hostPath at hst
    rw [walk, hcont ih]
    simp only [Res.bind, hst]
  | childrenNil => exact .of_succ fun f => by rw [walk]
  | childSkip hc _ ih =>
    refine ih.step fun f ih => ?_
    rw [walk]
    rcases hc with hc | hc
    · simp only [List.contains_iff_mem.mpr hc, if_true]; exact ih
    · simp only [hc, if_true, ite_self]; exact ih
  | childTake hsec hskip _ _ ih1 ih2 =>
    refine (ih1.and ih2).step fun f ih => ?_
    rw [walk]
    simp only [mt List.contains_iff_mem.mp hsec, hskip, Bool.false_eq_true, if_false, ih.1, Res.bind]
    exact ih.2

theorem Run.mono {h : Host} {cfg : Cfg} {c : Call} {st st' : Plan} (hr : Run h cfg c st st') : st.le st' := by
  induction hr with
  | secret | belowNil | childrenNil => exact Plan.le_refl _
  | exclude _ _ _ _ ih | tmp _ _ _ _ _ ih | belowSkip _ _ ih | childSkip _ _ ih => exact ih
  | coll _ _ _ _ _ _ _ ih => exact Plan.le_trans (Plan.le_addFrags _ _) ih
  | belowTake _ _ _ ih1 ih2 | link _ _ _ _ ih1 ih2 | childTake _ _ _ _ ih1 ih2 => exact Plan.le_trans ih1 ih2
  | emptyDir _ _ _ ih => exact Plan.le_trans ih (Plan.le_trans (Plan.le_addDir _ _) (Plan.le_addKeep _ _))
  | dir _ _ _ _ ih1 ih2 => exact Plan.le_trans ih1 (Plan.le_trans (Plan.le_addDir _ _) ih2)
  | file _ _ ih => exact Plan.le_trans ih (Plan.le_addFile _ _ _)

end ArvVerif.C17
