/-
C08: the loop of filenode.Write (`LoopOK`; iterations compose, `LoopOK.cons`), `write` itself (`write_start`:
zero-extension and `seek`; `WriteOK`), and what may be done to the written file afterwards (`WriteOK.key`, `settle`).
-/
import ArvVerif.Proofs.C08_WriteStep
import ArvVerif.Proofs.C08_Trunc
namespace ArvVerif.C08

variable {max : Nat} {hash : Bytes → Loc} {st : Store}

structure LoopOK (max : Nat) (hash : Bytes → Loc) (w : WState) (p : Bytes) (w' : WState) : Prop where
  ext : StoreExt w.st w'.st
  ok : StoreOK hash w'.st
  wf : WF max hash w'.st w'.fn
  pos : WPos w'.fn w'.ptr
  off : w'.ptr.off = w.ptr.off + p.length
  abs_eq : abs w'.st w'.fn = specWrite (abs w.st w.fn) w.ptr.off p
  rep_ge : w.fn.repacked ≤ w'.fn.repacked
  rep_same : w'.fn.repacked = w.fn.repacked → SameLens w'.fn.segs w.fn.segs ∧ w'.fn.size = w.fn.size

theorem LoopOK.refl {w : WState} (hok : StoreOK hash w.st) (hwf : WF max hash w.st w.fn) (hpos : WPos w.fn w.ptr) :
    LoopOK max hash w [] w :=
  ⟨StoreExt.refl _, hok, hwf, hpos, rfl, (specWrite_nil _ _ (hpos.off_le_abs hwf)).symm, Int.le_refl _,
    fun _ => ⟨SameLens.refl _, rfl⟩⟩

theorem LoopOK.cons {w w1 w2 : WState} {p : Bytes} {k : Nat} (hwf : WF max hash w.st w.fn) (hpos : WPos w.fn w.ptr)
    (hs : StepOK max hash w p w1 k) (hl : LoopOK max hash w1 (p.drop k) w2) : LoopOK max hash w p w2 := by
  have hk := hs.k_le
  have hdrop : (p.drop k).length = p.length - k := List.length_drop
  refine ⟨hs.ext.trans hl.ext, hl.ok, hl.wf, hl.pos, ?_, ?_, Int.le_trans hs.rep_ge hl.rep_ge, ?_⟩
  · rw [hl.off, hs.off]; omega
  · have htk : (p.take k).length = k := by rw [List.length_take]; omega
    have := specWrite_specWrite (abs w.st w.fn) w.ptr.off (p.take k) (p.drop k) (hpos.off_le_abs hwf)
    rw [htk, List.take_append_drop] at this
    rw [hl.abs_eq, hs.abs_eq, hs.off, this]
  · intro hrep
    have a := hs.rep_ge
    have b' := hl.rep_ge
    obtain ⟨a1, a2⟩ := hs.rep_same (by omega)
    obtain ⟨b1, b2⟩ := hl.rep_same (by omega)
    exact ⟨b1.trans a1, by omega⟩

/-- Every fuel `≥ p.length` suffices: each iteration consumes at least one byte. -/
theorem loop_spec (hinj : Function.Injective hash) (hmax : 1 ≤ max) :
    ∀ (fuel : Nat) (w : WState) (p : Bytes) (n : Nat), p.length ≤ fuel →
      StoreOK hash w.st → WF max hash w.st w.fn → WPos w.fn w.ptr →
      ∃ w', writeLoop hash max fuel w p n = WriteRes.done w' (n + p.length) ∧ LoopOK max hash w p w' := by
  intro fuel
  induction fuel with
  | zero =>
    intro w p n hlen hok hwf hpos
    obtain rfl : p = [] := List.eq_nil_of_length_eq_zero (by omega)
    exact ⟨w, by simp [writeLoop], LoopOK.refl hok hwf hpos⟩
  | succ fuel ih =>
    intro w p n hlen hok hwf hpos
    cases p with
    | nil => exact ⟨w, by simp [writeLoop], LoopOK.refl hok hwf hpos⟩
    | cons b p' =>
      obtain ⟨w1, k, hstep, hs⟩ := step_spec hinj hmax (p := b :: p') (by simp) hok hwf hpos
      have hk1 := hs.k_pos
      have hk2 := hs.k_le
      have hdrop : ((b :: p').drop k).length = (b :: p').length - k := List.length_drop
      obtain ⟨w2, hloop, hl⟩ := ih w1 ((b :: p').drop k) (n + k) (by rw [List.length_cons] at hlen hdrop; omega)
        hs.ok hs.wf hs.pos
      refine ⟨w2, ?_, hl.cons hwf hpos hs⟩
      simp only [writeLoop, hstep]
      rw [hloop]
      congr 1
      omega

structure WriteOK (max : Nat) (hash : Bytes → Loc) (st : Store) (fn : FileNode) (ptr : Ptr) (p : Bytes)
    (w : WState) : Prop where
  ext : StoreExt st w.st
  ok : StoreOK hash w.st
  wf : WF max hash w.st w.fn
  rep : 0 ≤ w.fn.repacked
  ptr_ok : PtrOK w.fn w.ptr
  off : w.ptr.off = ptr.off + p.length
  abs_eq : abs w.st w.fn = specWrite (abs st fn) ptr.off p
  others : ∀ q, PtrOK fn q → PtrOK w.fn q

/-- The start of `filenode.Write`: zero-extend up to the offset if it lies beyond EOF, then `seek`.
The loop starts from a well-formed file at a writer's position, and what the loop achieves (`LoopOK`)
from there is what the whole call achieves (`WriteOK`) — whichever loop it is. -/
theorem write_start (hmax : 1 ≤ max) {fn : FileNode} {ptr : Ptr} (hwf : WF max hash st fn) (hrep : 0 ≤ fn.repacked)
    (hptr : PtrOK fn ptr) (p : Bytes) :
    ∃ fn1 q, (if ptr.off > fn.size then truncate max fn ptr.off else some fn) = some fn1 ∧ seek fn1 ptr = some q ∧
      WF max hash st fn1 ∧ WPos fn1 q ∧
      ∀ w, LoopOK max hash ⟨fn1, q, st⟩ p w → WriteOK max hash st fn ptr p w := by
  obtain ⟨fn1, hfn1, hwf1, hsz, hrep1, hsame1, habs1⟩ : ∃ fn1,
      (if ptr.off > fn.size then truncate max fn ptr.off else some fn) = some fn1 ∧ WF max hash st fn1 ∧
      ptr.off ≤ fn1.size ∧ fn.repacked ≤ fn1.repacked ∧ (fn1.repacked = fn.repacked → fn1 = fn) ∧
      specWrite (abs st fn1) ptr.off p = specWrite (abs st fn) ptr.off p := by
    by_cases hgt : ptr.off > fn.size
    · rw [if_pos hgt]
      obtain ⟨fn1, ht, htok⟩ := truncate_spec (hash := hash) (st := st) hmax hwf hrep ptr.off
      have hbump := htok.bump (by omega)
      have hlen := hwf.abs_length
      refine ⟨fn1, ht, htok.wf, by rw [htok.size_eq]; exact Nat.le_refl _, by omega, fun h => by omega, ?_⟩
      rw [htok.abs_eq]
      unfold specTruncate
      rw [List.take_of_length_le (by omega)]
      exact specWrite_pad _ _ _ (by omega)
    · rw [if_neg hgt]
      exact ⟨fn, rfl, hwf, by omega, Int.le_refl _, fun _ => rfl, rfl⟩
  have hp1 : PtrOK fn1 ptr :=
    hptr.preserved hrep1 (fun h => by rw [hsame1 h]; exact ⟨SameLens.refl _, rfl⟩)
  obtain ⟨q, hq, hqoff, hqrep, hcase⟩ := seek_spec hwf1 hp1
  have hpos : WPos fn1 q := by
    refine ⟨hqrep, ?_⟩
    rcases hcase with ⟨h1, h2, h3⟩ | ⟨h1, s, h2, h3, h4⟩
    · exact Or.inl ⟨h2, h3, by rw [hqoff, ← hwf1.size_eq]; omega⟩
    · exact Or.inr ⟨s, h2, h3, by rw [hqoff]; exact h4⟩
  refine ⟨fn1, q, hfn1, hq, hwf1, hpos, fun w hl => ?_⟩
  have hge : fn1.repacked ≤ w.fn.repacked := hl.rep_ge
  refine ⟨hl.ext, hl.ok, hl.wf, by omega, hl.pos.ptrOK hl.wf, by rw [hl.off]; exact congrArg (· + _) hqoff,
    ?_, fun q' hq' => hq'.preserved (by omega) (fun h => ?_)⟩
  · rw [hl.abs_eq]
    show specWrite (abs st fn1) q.off p = _
    rw [hqoff, habs1]
  · obtain rfl : fn1 = fn := hsame1 (by omega)
    exact hl.rep_same h

theorem write_spec (hinj : Function.Injective hash) (hmax : 1 ≤ max) {fn : FileNode} {ptr : Ptr}
    (hok : StoreOK hash st) (hwf : WF max hash st fn) (hrep : 0 ≤ fn.repacked) (hptr : PtrOK fn ptr) (p : Bytes) :
    ∃ w, write hash max st fn ptr p = WriteRes.done w p.length ∧ WriteOK max hash st fn ptr p w := by
  obtain ⟨fn1, q, h1, h2, hwf1, hpos, fin⟩ := write_start hmax hwf hrep hptr p
  obtain ⟨w, hloop, hl⟩ := loop_spec hinj hmax p.length ⟨fn1, q, st⟩ p 0 (Nat.le_refl _) hok hwf1 hpos
  exact ⟨w, by simp only [write, h1, h2, hloop, Nat.zero_add], fin w hl⟩

/-- `WriteOK` does not see what is done to the written file afterwards as long as the key stays
(`settle` here; in C13 the segments `tokenizeFrom` puts in the place of freshly marked ones). -/
theorem WriteOK.key {fn : FileNode} {ptr : Ptr} {p : Bytes} {w : WState} {fn' : FileNode}
    (h : WriteOK max hash st fn ptr p w) (hk : fileKey w.st fn' = fileKey w.st w.fn)
    (hs : ∀ s ∈ fn'.segs, SegWF max hash w.st s) : WriteOK max hash st fn ptr p ⟨fn', w.ptr, w.st⟩ := by
  obtain ⟨k1, _, _, k4⟩ := abs_of_key hk
  exact ⟨h.ext, h.ok, h.wf.of_key hk hs, by rw [k4]; exact h.rep, h.ptr_ok.of_key hk, h.off, k1.trans h.abs_eq,
    fun q hq => (h.others q hq).of_key hk⟩

theorem settle_spec {fn : FileNode} (hwf : WF max hash st fn) :
    WF max hash st (settle hash fn) ∧ abs st (settle hash fn) = abs st fn ∧
    (settle hash fn).size = fn.size ∧ (settle hash fn).repacked = fn.repacked ∧
    ∀ q, PtrOK fn q → PtrOK (settle hash fn) q := by
  obtain ⟨hk, hs⟩ := settle_key hwf
  exact ⟨hwf.of_key hk hs, (abs_of_key hk).1, rfl, rfl, fun q => PtrOK.of_key hk⟩

end ArvVerif.C08
