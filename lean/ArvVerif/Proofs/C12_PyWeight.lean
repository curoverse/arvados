/-
C12: for which uuid lengths the Python SDK's weight (`pyWeight`, last 15 characters) is Go's
(`weight`, `uuid[12:]` of a 27-character uuid, else all of it).
-/
import ArvVerif.Model.C12_Py
namespace ArvVerif.C12

theorem pyUuidSuffix_eq (uuid : List Char) (h : uuid.length = 27 ∨ uuid.length ≤ 15) :
    pyUuidSuffix uuid = uuidSuffix uuid := by
  unfold pyUuidSuffix uuidSuffix
  rcases h with h | h
  · rw [if_pos h, h]
  · rw [if_neg (by omega), Nat.sub_eq_zero_of_le h, List.drop_zero]

/-- Outside those lengths Go hashes all `n` characters of the uuid and Python 15 of them: with
`List.length` for `md5` the two weights are `n` and `15`. -/
theorem pyWeight_ne_weight {n : Nat} (h : 15 < n) (h27 : n ≠ 27) :
    ∃ (md5 : List Char → Nat) (hash uuid : List Char), uuid.length = n ∧
      pyWeight md5 hash uuid ≠ weight md5 hash uuid :=
  ⟨List.length, [], List.replicate n 'a', List.length_replicate, by
    simp [pyWeight, weight, pyUuidSuffix, uuidSuffix, h27]; omega⟩

end ArvVerif.C12
