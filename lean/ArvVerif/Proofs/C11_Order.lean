/-
The order of the requests in time. The request log is sorted by round, and with distinct services
(`Once`: no service twice in the list of a round) it has no duplicates; together with the contiguity
of the attempts this gives:
the k-th request sent to a service (k = 0, 1, …, in the order they are sent) is its round-k request.
(The scripted services of the correspondence check answer "the k-th request they receive"; the
model answers "the round-k request".)
-/
import ArvVerif.Proofs.C11_Trace
namespace ArvVerif.C11

structure Once (s : St) : Prop where
  svNodup : s.sv.Nodup
  nodup : (s.retrySv ++ pending s).Nodup

theorem once_init (c : Cfg) (sv : List Srv) (h : sv.Nodup) : Once (init c sv) :=
  ⟨h, by simpa [pending, init] using h⟩

theorem once_preserved (c : Cfg) : Preserved c Once where
  start s h ho := ⟨ho.svNodup, ((pending_startOne h).append_left _).nodup_iff.mpr ho.nodup⟩
  recv s srv hm ho := by
    have hn := ((pending_receive c hm).append_left s.retrySv).nodup_iff.mp ho.nodup
    rw [receive_eq] at hn ⊢
    refine ⟨ho.svNodup, ?_⟩
    dsimp only at hn ⊢
    split
    · rw [List.append_assoc]
      exact hn
    · exact hn.sublist ((List.sublist_cons_self srv _).append_left _)
  round s hact hnext _ _ ho := by
    have hr : s.retrySv.Nodup := by
      have := ho.nodup
      rwa [pending_nil hact hnext, List.append_nil] at this
    exact ⟨hr, by simpa [pending, nextRound, hact] using hr⟩

theorem getElem_not_mem_take {l : List Srv} (hn : l.Nodup) {i : Nat} (h : i < l.length) :
    l[i] ∉ l.take i := by
  have h1 : (l.take (i + 1)).Nodup := hn.sublist (List.take_sublist _ _)
  rw [← List.take_append_getElem h, List.nodup_append] at h1
  exact fun hm => h1.2.2 _ hm _ (List.mem_singleton.mpr rfl) rfl

theorem mem_take_succ {l : List Srv} {i : Nat} (h : i < l.length) (x : Srv) :
    x ∈ l.take (i + 1) ↔ x ∈ l.take i ∨ x = l[i] := by
  rw [← List.take_append_getElem h, List.mem_append, List.mem_singleton]

/-- `reqLog` is newest first, so `sorted` says the rounds never decrease in time. `now` (the requests
of the current round went to `sv.take next`) is what keeps `nodup` when a request is added: the new
one goes to `sv[next]`, which with `Once.svNodup` is not in `sv.take next`. -/
structure Ordered (s : St) : Prop where
  le : ∀ e ∈ s.reqLog, e.2 ≤ s.round
  now : ∀ e ∈ s.reqLog, e.2 = s.round → e.1 ∈ s.sv.take s.next
  sorted : s.reqLog.Pairwise (fun a b => b.2 ≤ a.2)
  nodup : s.reqLog.Nodup

/-- `Ordered` needs "no service twice in the probe list of a round", which `Once` maintains -/
def OrderedOnce (s : St) : Prop := Once s ∧ Ordered s

theorem orderedOnce_init (c : Cfg) (sv : List Srv) (h : sv.Nodup) : OrderedOnce (init c sv) := by
  refine ⟨once_init c sv h, ?_, ?_, ?_, ?_⟩ <;> simp [init]

theorem orderedOnce_preserved (c : Cfg) : Preserved c OrderedOnce where
  start s h := fun ⟨hon, ho⟩ => by
    have hnot := getElem_not_mem_take hon.svNodup h
    refine ⟨(once_preserved c).start s h hon, ?_, ?_, ?_, ?_⟩
    · exact List.forall_mem_cons.mpr ⟨Nat.le_refl _, ho.le⟩
    · exact List.forall_mem_cons.mpr ⟨fun _ => (mem_take_succ h _).mpr (Or.inr rfl),
        fun e he hr => (mem_take_succ h _).mpr (Or.inl (ho.now e he hr))⟩
    · exact List.pairwise_cons.mpr ⟨ho.le, ho.sorted⟩
    · exact List.nodup_cons.mpr ⟨fun hm => hnot (ho.now _ hm rfl), ho.nodup⟩
  recv s srv hm := fun ⟨hon, ho⟩ => by
    refine ⟨(once_preserved c).recv s srv hm hon, ?_⟩
    rw [receive_eq]
    exact ⟨ho.le, ho.now, ho.sorted, ho.nodup⟩
  round s h1 h2 h3 h4 := fun ⟨hon, ho⟩ => by
    refine ⟨(once_preserved c).round s h1 h2 h3 h4 hon, ?_, ?_, ho.sorted, ho.nodup⟩
    · exact fun e he => Nat.le_succ_of_le (ho.le e he)
    · intro e he hr
      exact absurd (hr ▸ ho.le e he) (Nat.not_succ_le_self _)

theorem put_ordered {c : Cfg} {sv : List Srv} {picks : List Nat} {r : Res} {s : St} (hnd : sv.Nodup)
    (h : put c sv picks = some (r, s)) : Ordered s :=
  (put_preserved (orderedOnce_preserved c) (orderedOnce_init c sv hnd) h).2

theorem range'_of_increasing_closed (L : List Nat) (b : Nat) (hinc : L.Pairwise (· < ·))
    (hge : ∀ k ∈ L, b ≤ k) (hclosed : ∀ k ∈ L, ∀ j, b ≤ j → j ≤ k → j ∈ L) :
    L = List.range' b L.length := by
  induction L generalizing b with
  | nil => rfl
  | cons a t ih =>
    obtain ⟨hat, ht⟩ := List.pairwise_cons.mp hinc
    have ha := hge a List.mem_cons_self
    have hab : a = b := by
      rcases List.mem_cons.mp (hclosed a List.mem_cons_self b (Nat.le_refl _) ha) with h | h
      · exact h.symm
      · exact absurd (hat b h) (Nat.not_lt.mpr ha)
    subst hab
    rw [List.length_cons, List.range'_succ, ← ih (a + 1) ht hat]
    intro k hk j hj hjk
    exact (List.mem_cons.mp (hclosed k (List.mem_cons_of_mem _ hk) j (by omega) hjk)).resolve_left
      (by omega)

def reqCount (l : List (Srv × Nat)) (x : Srv) : Nat := (l.filter (fun e => e.1 == x)).length

/-- the rounds of the requests sent to `x`, in the order they were sent -/
def roundsOf (l : List (Srv × Nat)) (x : Srv) : List Nat :=
  (l.reverse.filter (fun e => e.1 == x)).map (·.2)

theorem mem_roundsOf {l : List (Srv × Nat)} {x : Srv} {k : Nat} : k ∈ roundsOf l x ↔ (x, k) ∈ l := by
  simp [roundsOf]

theorem roundsOf_increasing {l : List (Srv × Nat)} (x : Srv)
    (hs : l.Pairwise (fun a b => b.2 ≤ a.2)) (hn : l.Nodup) :
    (roundsOf l x).Pairwise (· < ·) := by
  have h : (l.reverse.filter (fun e => e.1 == x)).Pairwise (fun a b => a.2 ≤ b.2 ∧ b ≠ a) :=
    (List.pairwise_reverse.mpr (hs.and hn)).filter _
  refine List.pairwise_map.mpr (h.imp_of_mem ?_)
  intro a b ha hb hr
  rw [List.mem_filter, beq_iff_eq] at ha hb
  -- two requests to `x` of the same round would be the same request
  exact Nat.lt_of_le_of_ne hr.1 fun he => hr.2 (Prod.ext (hb.2.trans ha.2.symm) he.symm)

theorem length_roundsOf (l : List (Srv × Nat)) (x : Srv) : (roundsOf l x).length = reqCount l x := by
  unfold roundsOf reqCount
  rw [List.length_map, List.filter_reverse, List.length_reverse]

theorem roundsOf_eq_range {l : List (Srv × Nat)} {x : Srv}
    (hs : l.Pairwise (fun a b => b.2 ≤ a.2)) (hn : l.Nodup)
    (hc : ∀ k, (x, k) ∈ l → ∀ j, j ≤ k → (x, j) ∈ l) :
    roundsOf l x = List.range (reqCount l x) := by
  have h := range'_of_increasing_closed (roundsOf l x) 0 (roundsOf_increasing x hs hn)
    (fun _ _ => Nat.zero_le _)
    (fun k hk j _ hjk => mem_roundsOf.mpr (hc k (mem_roundsOf.mp hk) j hjk))
  rw [length_roundsOf] at h
  rw [h, List.range_eq_range']

end ArvVerif.C11
