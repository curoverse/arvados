/-
C09 helper lemmas: one line. The stream line `marshalManifest` writes from a name, blocks and parts parses (under
the published grammar) to exactly that stream (`specLine_stream`); the marker line of an empty directory is outside
`C10.specLine` and parses to its marker (`specLine9_marker`); a text without markers is a text of `C10.parseSpec`.
-/
import ArvVerif.Proofs.C09_TextTokens
namespace ArvVerif.C09

open ArvVerif.C10 (bSpace bNL bSlash bColon bPlus bBackslash bDot isDigit natToDec natOfDigits
  splitOn joinWith fsEscape specUnescape tokenBytesOk specLocator specLocators specFileTok mapOpt)

theorem locator_token {t : Bytes} {l : C10.Loc} (h : specLocator t = some l) : TokOK t := by
  unfold specLocator at h
  cases hd : C10.locatorSizeDigits C10.isLowerHex t with
  | none => rw [hd] at h; cases h
  | some ds =>
    obtain ⟨hs, tl, ht, hlen, hall, hdne, hdig, htl⟩ := C10.locatorSizeDigits_shape C10.isLowerHex t ds hd
    have hcls : ∀ c ∈ t, (C10.isLowerHex c || C10.isHintChar c || c == bPlus) = true := by
      intro c hc
      rw [ht] at hc
      simp only [List.mem_append, List.mem_cons] at hc
      rcases hc with hc | rfl | hc | hc
      · simp [List.all_eq_true.mp hall c hc]
      · simp
      · have := List.all_eq_true.mp hdig c hc
        simp [C10.isLowerHex, this]
      · rcases htl with rfl | ⟨hh, _⟩
        · cases hc
        · rcases C10.hintsOk_chars tl false false hh c hc with rfl | h'
          · simp
          · simp [h']
    exact token_of_printable (by simp [ht]) (fun c hc => locChar_printable c (hcls c hc))

theorem emptyLoc_ok : specLocator emptyLoc = some ⟨emptyLoc, 0⟩ := by
  unfold emptyLoc
  rw [str_ofList]
  decide +kernel

theorem markerTok_eq : markerTok = [48, 58, 48, 58, 92, 48, 53, 54] := by
  unfold markerTok
  rw [str_ofList]
  decide +kernel

theorem markerTok_not_file : specFileTok markerTok = none := by rw [markerTok_eq]; decide +kernel

theorem markerTok_not_loc : specLocator markerTok = none := by rw [markerTok_eq]; decide +kernel

theorem markerTok_token : TokOK markerTok := by
  unfold TokOK
  rw [markerTok_eq]; decide +kernel

theorem specLocators_blocks : ∀ (blocks : List C10.Loc) (ftoks : List Bytes),
    (∀ b ∈ blocks, specLocator b.text = some b) → (∀ t ∈ ftoks, specLocator t = none) →
    specLocators (blocks.map (·.text) ++ ftoks) = (blocks, ftoks)
  | [], [], _, _ => rfl
  | [], t :: rest, _, h => by
    simp only [List.map_nil, List.nil_append]
    unfold specLocators
    rw [h t List.mem_cons_self]
  | b :: bs, ftoks, h1, h2 => by
    simp only [List.map_cons, List.cons_append]
    unfold specLocators
    rw [h1 b List.mem_cons_self, specLocators_blocks bs ftoks (fun x hx => h1 x (List.mem_cons_of_mem _ hx)) h2]

theorem fileTok_not_locator {t : Bytes} {f : C10.FTok} (h : specFileTok t = some f) : specLocator t = none := by
  cases hl : specLocator t with
  | none => rfl
  | some l =>
    obtain ⟨ds, hg, _⟩ := C10.specLocator_go t l hl
    have := C10.fileTok_not_goLocator t f h
    unfold C10.isGoLocator at this
    rw [hg] at this
    cases this

theorem mapOpt_tokText : ∀ (parts : List Part), (∀ p ∈ parts, NameOK p.name) →
    mapOpt specFileTok (parts.map tokText) = some (parts.map fun p => ⟨p.off, p.len, p.name⟩)
  | [], _ => rfl
  | p :: ps, h => by
    simp only [List.map_cons]
    unfold mapOpt
    rw [specFileTok_tokText p (h p (by simp)), mapOpt_tokText ps (fun x hx => h x (List.mem_cons_of_mem _ hx))]

/-- proper components none of which holds 0x7f (left raw by `manifestEscape`, finding F9a): what the escaped
stream name needs to be a token of the grammar -/
def PathOK (path : List Bytes) : Prop := ∀ c ∈ path, NameOK c ∧ (127 : UInt8) ∉ c

theorem splitOn_prefixOf (path : List Bytes) (h : ∀ c ∈ path, bSlash ∉ c) :
    splitOn bSlash (prefixOf path) = [bDot] :: path := by
  unfold prefixOf
  apply C10.splitOn_joinWith bSlash _ (by simp)
  intro p hp
  rcases List.mem_cons.mp hp with rfl | hp
  · decide
  · exact h p hp

theorem prefixOf_inj {a b : List Bytes} (ha : ∀ c ∈ a, bSlash ∉ c) (hb : ∀ c ∈ b, bSlash ∉ c)
    (h : prefixOf a = prefixOf b) : a = b := by
  have e := splitOn_prefixOf a ha
  rw [h, splitOn_prefixOf b hb] at e
  exact (List.cons.inj e).2.symm

theorem pathOf_prefixOf (path : List Bytes) (n : Bytes) :
    C10.pathOf (prefixOf path) n = prefixOf (path ++ [n]) := by
  unfold C10.pathOf prefixOf
  rw [← List.cons_append, C10.joinWith_append bSlash ([bDot] :: path) [n] (by simp) (by simp)]
  rfl

theorem pathOf_inj {p1 p2 : List Bytes} {n1 n2 : Bytes} (h1 : ∀ c ∈ p1, bSlash ∉ c) (h2 : ∀ c ∈ p2, bSlash ∉ c)
    (hn1 : bSlash ∉ n1) (hn2 : bSlash ∉ n2)
    (h : C10.pathOf (prefixOf p1) n1 = C10.pathOf (prefixOf p2) n2) : p1 = p2 ∧ n1 = n2 := by
  rw [pathOf_prefixOf, pathOf_prefixOf] at h
  have hh := List.append_inj' (prefixOf_inj (mem_append_singleton h1 hn1) (mem_append_singleton h2 hn2) h) rfl
  exact ⟨hh.1, by simpa using hh.2⟩

theorem pathOfKey_of_key {key path : List Bytes} {n : Bytes} (h : key = path ++ [n]) :
    C10.pathOfKey key = C10.pathOf (prefixOf path) n := by
  rw [h, pathOf_prefixOf]; rfl

theorem isDirPrefix_comps {a b : List Bytes} (ha : ∀ c ∈ a, bSlash ∉ c) (hb : ∀ c ∈ b, bSlash ∉ c)
    (h : C10.isDirPrefix (prefixOf a) (prefixOf b) = true) : ∃ x rest, b = a ++ x :: rest := by
  unfold C10.isDirPrefix at h
  obtain ⟨r, hr⟩ := List.isPrefixOf_iff_prefix.mp h
  have e := congrArg (splitOn bSlash) hr
  rw [List.append_assoc, List.singleton_append, C10.splitOn_append_sep_gen, splitOn_prefixOf a ha, splitOn_prefixOf b hb,
    List.cons_append, List.cons.injEq] at e
  cases hsr : splitOn bSlash r with
  | nil => exact absurd hsr (C10.splitOn_ne_nil bSlash r)
  | cons x rest => exact ⟨x, rest, by rw [← e.2, hsr]⟩

/-- component path of a stream name "./a/b" -/
def compsOfName (n : Bytes) : List Bytes := (splitOn bSlash n).tail

theorem compsOfName_prefixOf (p : List Bytes) (h : ∀ c ∈ p, bSlash ∉ c) : compsOfName (prefixOf p) = p := by
  unfold compsOfName; rw [splitOn_prefixOf p h]; rfl

theorem streamName_comps {n : Bytes} (h : C10.specStreamNameOk n = true) :
    n = prefixOf (compsOfName n) ∧ C10.componentsOk (compsOfName n) = true ∧ ∀ c ∈ compsOfName n, bSlash ∉ c := by
  obtain ⟨cs, hcs, hn, hns⟩ := C10.streamName_shape n h
  have : compsOfName n = cs := by rw [hn]; exact compsOfName_prefixOf cs hns
  rw [this]
  exact ⟨hn, hcs, hns⟩

theorem prefixOf_spec {path : List Bytes} (h : PathOK path) :
    C10.specStreamNameOk (prefixOf path) = true ∧ prefixOf path ≠ [] ∧ (127 : UInt8) ∉ prefixOf path := by
  refine ⟨?_, ?_, ?_⟩
  · unfold C10.specStreamNameOk
    rw [splitOn_prefixOf path fun p hp => (h p hp).1.2.2.2]
    simp only [beq_self_eq_true, Bool.true_and]
    exact componentsOk_of_nameOK fun c hc => (h c hc).1
  · cases path <;> simp [prefixOf, joinWith]
  · exact C10.not_mem_joinWith (by decide) _ (List.forall_mem_cons.mpr ⟨by decide, fun p hp => (h p hp).2⟩)

theorem line_tokens {path : List Bytes} (hpath : PathOK path) {toks : List Bytes}
    (htoks : ∀ t ∈ toks, TokOK t) :
    splitOn bSpace (joinWith bSpace (fsEscape (prefixOf path) :: toks)) = fsEscape (prefixOf path) :: toks ∧
    (∀ t ∈ fsEscape (prefixOf path) :: toks, tokenBytesOk t = true) ∧
    bNL ∉ joinWith bSpace (fsEscape (prefixOf path) :: toks) := by
  obtain ⟨_, hpne, hpdel⟩ := prefixOf_spec hpath
  have hall : ∀ t ∈ fsEscape (prefixOf path) :: toks, TokOK t :=
    List.forall_mem_cons.mpr ⟨fsEscape_token hpne hpdel, htoks⟩
  obtain ⟨hs, hnl⟩ := C10.line_split (by simp) fun t ht => (hall t ht).2
  exact ⟨hs, fun t ht => (hall t ht).1, hnl⟩

theorem specLine_tokens {path : List Bytes} (hpath : PathOK path) {toks : List Bytes}
    (htoks : ∀ t ∈ toks, TokOK t) {blocks : List C10.Loc} {ftoks : List Bytes}
    (hl : specLocators toks = (blocks, ftoks)) :
    C10.specLine (joinWith bSpace (fsEscape (prefixOf path) :: toks)) =
      (mapOpt specFileTok ftoks).bind fun files =>
        if blocks ≠ [] ∧ files ≠ [] ∧ files.all (fun f => f.pos + f.len ≤ C10.streamLen blocks) then
          some ⟨prefixOf path, blocks, files⟩ else none := by
  obtain ⟨hsplit, hok, _⟩ := line_tokens hpath htoks
  unfold C10.specLine
  simp only [hsplit]
  rw [if_pos (List.all_eq_true.mpr hok)]
  simp only [specUnescape_fsEscape]
  rw [if_pos (prefixOf_spec hpath).1, hl]
  cases mapOpt specFileTok ftoks <;> rfl

theorem specLine_stream (path : List Bytes) (blocks : List C10.Loc) (parts : List Part)
    (hpath : PathOK path) (hb : ∀ b ∈ blocks, specLocator b.text = some b) (hbne : blocks ≠ [])
    (hp : ∀ p ∈ parts, NameOK p.name ∧ (127 : UInt8) ∉ p.name) (hpne : parts ≠ [])
    (hin : ∀ p ∈ parts, p.off + p.len ≤ C10.streamLen blocks) :
    C10.specLine (joinWith bSpace (fsEscape (prefixOf path) :: (blocks.map (·.text) ++ parts.map tokText))) =
      some ⟨prefixOf path, blocks, parts.map fun p => ⟨p.off, p.len, p.name⟩⟩ ∧
    bNL ∉ joinWith bSpace (fsEscape (prefixOf path) :: (blocks.map (·.text) ++ parts.map tokText)) := by
  have htoks : ∀ t ∈ blocks.map (·.text) ++ parts.map tokText, TokOK t := by
    intro t ht
    rcases List.mem_append.mp ht with ht | ht
    · obtain ⟨b, hb', rfl⟩ := List.mem_map.mp ht
      exact locator_token (hb b hb')
    · obtain ⟨p, hp', rfl⟩ := List.mem_map.mp ht
      exact tokText_token (hp p hp').2
  have hfile : ∀ t ∈ parts.map tokText, specLocator t = none := by
    intro t ht
    obtain ⟨p, hp', rfl⟩ := List.mem_map.mp ht
    exact fileTok_not_locator (specFileTok_tokText p (hp p hp').1)
  refine ⟨?_, (line_tokens hpath htoks).2.2⟩
  rw [specLine_tokens hpath htoks (specLocators_blocks blocks _ hb hfile),
    mapOpt_tokText parts fun p hp' => (hp p hp').1]
  exact if_pos ⟨hbne, by simpa using hpne, by simpa using hin⟩

theorem markerToks_ok : ∀ t ∈ [emptyLoc, markerTok], TokOK t :=
  List.forall_mem_cons.mpr ⟨locator_token emptyLoc_ok, List.forall_mem_singleton.mpr markerTok_token⟩

theorem markerLine_tokens (path : List Bytes) (hpath : PathOK path) :
    splitOn bSpace (joinWith bSpace [fsEscape (prefixOf path), emptyLoc, markerTok]) =
      [fsEscape (prefixOf path), emptyLoc, markerTok] ∧
    tokenBytesOk (fsEscape (prefixOf path)) = true ∧
    bNL ∉ joinWith bSpace [fsEscape (prefixOf path), emptyLoc, markerTok] :=
  (line_tokens hpath markerToks_ok).imp_right (.imp_left fun h => h _ List.mem_cons_self)

/-- **the marker line** is outside `C10.specLine` (a file named ".") and is the marker of its directory -/
theorem specLine9_marker (path : List Bytes) (hpath : PathOK path) (hne : path ≠ []) :
    specLine9 (joinWith bSpace [fsEscape (prefixOf path), emptyLoc, markerTok]) = some (Line9.marker (prefixOf path)) ∧
    bNL ∉ joinWith bSpace [fsEscape (prefixOf path), emptyLoc, markerTok] := by
  obtain ⟨hsplit, n1, hnl⟩ := markerLine_tokens path hpath
  refine ⟨?_, hnl⟩
  unfold specLine9
  rw [specLine_tokens hpath markerToks_ok (specLocators_blocks [⟨emptyLoc, 0⟩] [markerTok]
    (List.forall_mem_singleton.mpr emptyLoc_ok) (List.forall_mem_singleton.mpr markerTok_not_loc))]
  simp only [mapOpt, markerTok_not_file, Option.bind_none]
  unfold markerLine?
  simp only [hsplit, n1, and_self, if_true, specUnescape_fsEscape]
  rw [if_pos ⟨(prefixOf_spec hpath).1, fun he =>
    hne (prefixOf_inj (fun c hc => (hpath c hc).1.2.2.2) (fun _ h => nomatch h) he)⟩]
  rfl

theorem specLine9_cases {l : Bytes} {x : Line9} (h : specLine9 l = some x) :
    (∃ s, C10.specLine l = some s ∧ x = Line9.stream s) ∨
    (C10.specLine l = none ∧ ∃ n, markerLine? l = some n ∧ x = Line9.marker n) := by
  unfold specLine9 at h
  cases hs : C10.specLine l with
  | some s => rw [hs] at h; cases h; exact Or.inl ⟨s, rfl, rfl⟩
  | none =>
    rw [hs] at h
    obtain ⟨n, hn, rfl⟩ := Option.map_eq_some_iff.mp h
    exact Or.inr ⟨rfl, n, hn, rfl⟩

theorem markerLine?_some {l n : Bytes} (h : markerLine? l = some n) :
    ∃ nm, splitOn bSpace l = [nm, emptyLoc, markerTok] ∧ C10.specUnescape nm = some n ∧ C10.specStreamNameOk n = true := by
  unfold markerLine? at h
  split at h
  · next nm b tk hsplit =>
    split at h
    · next hc =>
      obtain ⟨rfl, rfl, _⟩ := hc
      split at h
      · next u hu =>
        split at h
        · next hok => cases h; exact ⟨nm, hsplit, hu, hok.1⟩
        · cases h
      · cases h
    · cases h
  · cases h

theorem mapOpt_specLine_of_no_markers : ∀ (lines : List Bytes) (L : List Line9),
    C10.mapOpt specLine9 lines = some L → markersOf L = [] → C10.mapOpt C10.specLine lines = some (streamsOf L)
  | [], L, h, _ => by simp [C10.mapOpt] at h; subst h; rfl
  | l :: ls, L, h, hm => by
    obtain ⟨x, xs, h1, h2, rfl⟩ := C10.mapOpt_cons_some specLine9 l ls L h
    rcases specLine9_cases h1 with ⟨s, hs, rfl⟩ | ⟨_, n, _, rfl⟩
    · unfold C10.mapOpt
      rw [hs, mapOpt_specLine_of_no_markers ls xs h2 hm]
      rfl
    · simp [markersOf] at hm

def unlines (ls : List Bytes) : Bytes := ls.flatMap (· ++ [bNL])

theorem parse9_unlines {ls : List Bytes} (h : ∀ l ∈ ls, bNL ∉ l) : parse9 (unlines ls) = mapOpt specLine9 ls := by
  unfold parse9
  by_cases he : unlines ls = []
  · rw [if_pos he]
    cases ls with
    | nil => rfl
    | cons l rest => simp [unlines] at he
  · rw [if_neg he]
    simp only [show splitOn bNL (unlines ls) = ls ++ [[]] from C10.splitOn_lines bNL ls h]
    rw [if_pos (by simp)]
    simp

theorem parseSpec_of_parse9 (txt : Bytes) (L : List Line9) (h : parse9 txt = some L) (hm : markersOf L = []) :
    C10.parseSpec txt = some (streamsOf L) := by
  unfold parse9 at h
  unfold C10.parseSpec
  by_cases h0 : txt = []
  · rw [if_pos h0] at h ⊢
    cases h; rfl
  · rw [if_neg h0] at h ⊢
    simp only [] at h ⊢
    split at h
    · next hl => rw [if_pos hl]; exact mapOpt_specLine_of_no_markers _ L h hm
    · cases h

end ArvVerif.C09
