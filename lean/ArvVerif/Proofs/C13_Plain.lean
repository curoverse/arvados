/-
C13: the operations that go through C08's `step` unchanged (open, create, read, seek, truncate,
close, stat, readdir, mkdir, rename, remove) do not touch Keep, and every segment of every file
afterwards either was there before or comes out of `truncate` — so a per-segment predicate that
survives `truncate` (the token invariant) is preserved. Each elementary update of C08's `Eff` has
this property; `step_eff` places every operation among them.
-/
import ArvVerif.Proofs.C13_Sim
import ArvVerif.Proofs.C13_Marks
namespace ArvVerif.C13
open ArvVerif.C08

variable {max : Nat} {hash : Bytes → Loc}

def PlainOK (P : Seg → Prop) (fs fs' : Conc) : Prop := fs'.world = fs.world ∧ (AllSegs P fs → AllSegs P fs')

variable {P : Seg → Prop}

theorem PlainOK.refl {fs : Conc} : PlainOK P fs fs := ⟨rfl, id⟩

theorem PlainOK.trans {a b c : Conc} (h1 : PlainOK P a b) (h2 : PlainOK P b c) : PlainOK P a c :=
  ⟨h2.1.trans h1.1, fun h => h2.2 (h1.2 h)⟩

theorem PlainOK.same_files {fs fs' : Conc} (hw : fs'.world = fs.world) (hf : fs'.files = fs.files) : PlainOK P fs fs' :=
  ⟨hw, fun h nf hnf => h nf (hf ▸ hnf)⟩

theorem PlainOK.setHandle {fs : Conc} {h : Nat} {v : Handle Ptr} : PlainOK P fs (setHandle fs h v) :=
  PlainOK.same_files rfl rfl

theorem PlainOK.setFile (fs : Conc) (f : Nat) (c : FileNode) (hc : AllSegs P fs → ∀ sg ∈ c.segs, P sg) :
    PlainOK P fs (setFile fs f c) :=
  ⟨setFile_world .., fun h => h.setFile f c (hc h)⟩

theorem PlainOK.addNode (fs : Conc) (d : Nat) (name : String) (isDir : Bool) :
    PlainOK P fs (addNode (concImpl hash max) fs d name isDir).1 := by
  cases isDir with
  | true => exact PlainOK.same_files rfl rfl
  | false =>
    refine ⟨rfl, fun h nf hnf => (List.mem_append.mp hnf).elim (h nf) (fun e => ?_)⟩
    rw [List.mem_singleton.mp e]
    exact nofun

theorem PlainOK.setNameParent {fs : Conc} {n : Node} {name : String} {d : Nat} :
    PlainOK P fs (setNameParent fs n name d) := by
  unfold ArvVerif.C08.setNameParent
  cases n with
  | dir k => exact PlainOK.same_files rfl rfl
  | file f =>
    dsimp only
    cases hf : fs.files[f]? with
    | none => exact PlainOK.refl
    | some nc => exact ⟨rfl, fun h => forall_mem_set h f (h nc (List.mem_of_getElem? hf))⟩

def TruncClosed (max : Nat) (P : Seg → Prop) : Prop :=
  ∀ c n c', (∀ sg ∈ c.segs, P sg) → truncate max c n = some c' → ∀ sg ∈ c'.segs, P sg

/-- the file layer's `trunc` written back into the table (`O_TRUNC`, `Truncate`) -/
theorem truncFile_plain (hT : TruncClosed max P) {fs : Conc} {f n : Nat} {nc : String × FileNode} {c' : FileNode}
    (hf : fs.files[f]? = some nc) (hc' : (concImpl hash max).trunc nc.2 n = Except.ok c') :
    PlainOK P fs (setFile fs f c') := by
  refine PlainOK.setFile fs f c' (fun hall => hT nc.2 n c' (hall nc (List.mem_of_getElem? hf)) ?_)
  change (match truncate max nc.2 n with | some fn' => pure fn' | none => throw Err.panic) = _ at hc'
  cases ht : truncate max nc.2 n with
  | none => rw [ht] at hc'; cases hc'
  | some fn' => rw [ht] at hc'; cases hc'; rfl

theorem eff_plain (hT : TruncClosed max P) {fs fs' : Conc} (h : Eff (concImpl hash max) false fs fs') :
    PlainOK P fs fs' := by
  induction h with
  | refl => exact PlainOK.refl
  | trans _ _ h1 h2 => exact h1.trans h2
  | handle => exact PlainOK.setHandle
  | close => exact PlainOK.same_files rfl rfl
  | add name isDir => exact PlainOK.addNode ..
  | erase => exact PlainOK.same_files rfl rfl
  | @rename s o nw od nd n =>
    -- only the entries change, except for the moved inode's name
    exact (PlainOK.trans (b := { s with ents := setEnt s.ents nd (newName o nw) n }) (PlainOK.same_files rfl rfl)
      PlainOK.setNameParent).trans (PlainOK.same_files rfl rfl)
  | trunc hf hc => exact truncFile_plain hT hf hc
  | write hio => cases hio
  | flush _ _ _ hio => cases hio

theorem step_plain (hT : TruncClosed max P) (fs : Conc) (op : Op) (hop : Op.plain op = true) :
    PlainOK P fs (step (concImpl hash max) fs op).1 := by
  have hio : op.io = false := by
    cases op
    case write | hsync | flush | sync => cases hop
    all_goals rfl
  exact eff_plain hT (hio ▸ step_eff (concImpl hash max) fs op)

/-- `truncate` only cuts a marked buffer shorter -/
theorem markOK_truncClosed (world : Store) (toks : List Tok) : TruncClosed max (MarkOK max hash world toks) :=
  fun _ _ _ h ht => AllG.all_segs (fun _ _ _ _ => trivial)
    (truncate_G ⟨fun _ => trivial, fun _ _ n => MarkOK.take n⟩ (fun _ _ hm => h _ hm) ht)

theorem plain_step_marks {s : St} (hinv : Inv13 max hash s) (op : Op) (hp : Op.plain op = true) :
    AllSegs (MarkOK max hash (step (concImpl hash max) s.fs op).1.world s.toks) (step (concImpl hash max) s.fs op).1 := by
  obtain ⟨p1, p2⟩ := step_plain (markOK_truncClosed s.fs.world s.toks) s.fs op hp
  rw [p1]
  exact p2 hinv.marks

end ArvVerif.C13
