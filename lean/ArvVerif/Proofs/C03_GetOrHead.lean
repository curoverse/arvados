/-
C03: what `getOrHead` hands out (keepclient.go), one inversion lemma for its three outcomes
(`getOrHead_inv`): the shortcut is taken only for the empty-block prefix, an error is never `panic`, and
a body it returns was offered with status 200 by some service's script and passed the size rule. The
last is followed through `popResp`, one pass over the servers and the retry rounds as the relation
`FromScripts`. `getOrHead_eq` / `getOrHead_of_ne` open `getOrHead` without evaluating `emptyLocator`.
-/
import ArvVerif.Model.C03
namespace ArvVerif.C03

theorem accept200_hint (h : Nat) (clen : Option Nat) (e : Nat)
    (ha : accept200 (some h) clen = some e) : e = h ∧ ∀ c, clen = some c → c = h := by
  cases clen with
  | none => cases ha; exact ⟨rfl, nofun⟩
  | some c =>
    rw [accept200] at ha
    split at ha <;> cases ha
    exact ⟨rfl, fun _ hc => Option.some.inj hc ▸ (‹h = c›).symm⟩

theorem accept200_nohint (clen : Option Nat) (e : Nat)
    (ha : accept200 none clen = some e) : clen = some e := by
  cases clen <;> cases ha
  rfl

def Offered (sc : List (List Resp)) (r : Resp) : Prop := ∃ l ∈ sc, r ∈ l

theorem popResp_offered (sc : List (List Resp)) (i : Nat) :
    ((popResp sc i).1 = .connErr ∨ Offered sc (popResp sc i).1) ∧
    ∀ r, Offered (popResp sc i).2 r → Offered sc r := by
  simp only [Offered, ← List.mem_flatten]
  fun_induction popResp sc i with
  | case1 => simp
  | case2 rest => simp
  | case3 r rs rest => simp; exact fun _ => .inr
  | case4 s rest i p ih =>
    simp only [List.flatten_cons, List.mem_append]
    exact ⟨ih.1.imp_right .inr, fun r => Or.imp_right (ih.2 r)⟩

def FromScripts (hint : Option Nat) (sc : List (List Resp)) (t : TryRes × G) : Prop :=
  (∀ r, Offered t.2.scripts r → Offered sc r) ∧
  ∀ body expect, t.1 = .found body expect →
    ∃ clen, Offered sc (.ok clen body) ∧ accept200 hint clen = some expect

theorem FromScripts.mono {hint : Option Nat} {sc sc' : List (List Resp)} {t : TryRes × G}
    (h : FromScripts hint sc' t) (hsc : ∀ r, Offered sc' r → Offered sc r) : FromScripts hint sc t :=
  ⟨fun r hr => hsc r (h.1 r hr), fun body expect ht =>
    let ⟨clen, ho, ha⟩ := h.2 body expect ht; ⟨clen, hsc _ ho, ha⟩⟩

theorem tryServers_from (hint : Option Nat) (servers : List Nat) (g : G) (retry : List Nat) :
    FromScripts hint g.scripts (tryServers hint servers g retry) := by
  fun_induction tryServers hint servers g retry
  case case1 => exact ⟨fun _ h => h, nofun⟩
  case case6 clen body hp expect ha =>
    refine ⟨(popResp_offered _ _).2, fun _ _ h => ?_⟩
    cases h
    exact ⟨clen, hp ▸ (popResp_offered _ _).1.resolve_left (by rw [hp]; nofun), ha⟩
  case case7 => exact ⟨(popResp_offered _ _).2, nofun⟩
  -- a request that found nothing: the pass goes on with what `popResp` left
  all_goals exact FromScripts.mono ‹_› (popResp_offered _ _).2

theorem rounds_from (hint : Option Nat) (tries : Nat) (servers : List Nat) (g : G) :
    FromScripts hint g.scripts (rounds hint tries servers g) := by
  fun_induction rounds hint tries servers g with
  | case1 => exact ⟨fun _ h => h, nofun⟩
  | case2 t servers g retry g' h ih =>
    refine ih.mono ?_
    have := (tryServers_from hint servers g []).1
    rwa [h] at this
  | case3 t servers g h => exact tryServers_from hint servers g []

/-- `getOrHead` after the empty-block shortcut: the retry rounds, and the error class when they
find nothing (keepclient.go:224-313). -/
def getRounds (hint : Option Nat) (tries : Nat) (order : List Nat) (g : G) : GetRes × G :=
  match rounds hint tries order { g with n404 := 0 } with
  | (.found body expect, g') => (.rdr body expect, g')
  | (.proto, g') => (.err .proto, g')
  | (.exhausted left, g') =>
    (.err (if g'.n404 = order.length then .notFound
           else if left.isEmpty then .failPerm else .failTemp), g')

theorem getOrHead_eq (loc : List Char) (tries : Nat) (order : List Nat) (g : G) :
    getOrHead loc tries order g =
      if emptyLocator.isPrefixOf loc then (.empty, g) else getRounds (hint64 loc) tries order g := rfl

/-- Concrete runs are evaluated through this equation: evaluating `emptyLocator`, the `toList` of a
string literal, is slow in the kernel. -/
theorem getOrHead_of_ne {c : Char} (hc : c ≠ 'd') (cs : List Char) (tries : Nat) (order : List Nat) (g : G) :
    getOrHead (c :: cs) tries order g = getRounds (hint64 (c :: cs)) tries order g := by
  -- the literal begins with 'd'; the other 33 characters never come into play
  have ⟨t, ht⟩ : ∃ t, emptyLocator = 'd' :: t := ⟨_, String.toList_ofList⟩
  rw [getOrHead_eq, ht, if_neg]
  simp [List.isPrefixOf, hc.symm]

theorem getOrHead_inv {loc : List Char} {tries : Nat} {order : List Nat} {g g' : G} {r : GetRes}
    (h : getOrHead loc tries order g = (r, g')) :
    match r with
    | .empty => emptyLocator.isPrefixOf loc = true
    | .err e => e ≠ .panic
    | .rdr body expect =>
      ∃ clen, Offered g.scripts (.ok clen body) ∧ accept200 (hint64 loc) clen = some expect := by
  rw [getOrHead_eq] at h
  by_cases hp : emptyLocator.isPrefixOf loc = true
  · rw [if_pos hp] at h; cases h; exact hp
  · rw [if_neg hp, getRounds] at h
    split at h <;> cases h <;> dsimp only
    · rename_i hr
      exact (rounds_from _ _ _ { g with n404 := 0 }).2 _ _ (congrArg Prod.fst hr)
    · nofun
    · split
      · nofun
      · split <;> nofun

theorem getOrHead_rdr (loc : List Char) (tries : Nat) (order : List Nat) (g : G)
    (body : Body) (expect : Nat) (g' : G)
    (h : getOrHead loc tries order g = (.rdr body expect, g')) :
    ∃ clen, Offered g.scripts (.ok clen body) ∧ accept200 (hint64 loc) clen = some expect :=
  getOrHead_inv h

end ArvVerif.C03
