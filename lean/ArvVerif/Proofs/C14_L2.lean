/-
C14 layer L2 (pool bookkeeping): what each per-worker step does. Lists stand for Go map key sets,
so everything is stated with `∈`.
-/
import ArvVerif.Model.C14_Pool
namespace ArvVerif.C14

@[simp] theorem mem_sInsert {l : List Uuid} {u v : Uuid} : v ∈ sInsert l u ↔ v ∈ l ∨ v = u := by
  grind [sInsert]

@[simp] theorem mem_sRemove {l : List Uuid} {u v : Uuid} : v ∈ sRemove l u ↔ v ∈ l ∧ v ≠ u := by
  simp [sRemove]

namespace Worker

@[simp] theorem accept_starting (w : Worker) (u v : Uuid) :
    v ∈ (w.accept u).starting ↔ v ∈ w.starting ∨ v = u := by simp [accept]
@[simp] theorem accept_running (w : Worker) (u : Uuid) : (w.accept u).running = w.running := rfl
@[simp] theorem accept_state (w : Worker) (u : Uuid) : (w.accept u).state = .running := rfl
@[simp] theorem accept_updated (w : Worker) (u : Uuid) : (w.accept u).updated = w.updated := rfl
@[simp] theorem accept_idleB (w : Worker) (u : Uuid) : (w.accept u).idleB = w.idleB := rfl

theorem startDone_of_mem {w : Worker} {u : Uuid} (now : Nat) (h : u ∈ w.starting) :
    w.startDone u now =
      { w with updated := now, busy := now, starting := sRemove w.starting u, running := sInsert w.running u } := by
  unfold startDone
  rw [if_pos (by simpa using h)]

theorem startDone_of_not_mem {w : Worker} {u : Uuid} (now : Nat) (h : u ∉ w.starting) :
    w.startDone u now = w := by
  unfold startDone
  rw [if_neg (by simpa using h)]

theorem startDone_starting (w : Worker) (u v : Uuid) (now : Nat) :
    v ∈ (w.startDone u now).starting ↔ v ∈ w.starting ∧ v ≠ u := by
  unfold startDone; split <;> grind [mem_sRemove]
theorem startDone_running (w : Worker) (u v : Uuid) (now : Nat) :
    v ∈ (w.startDone u now).running ↔ v ∈ w.running ∨ (v = u ∧ u ∈ w.starting) := by
  unfold startDone; split <;> grind [mem_sInsert]
@[simp] theorem startDone_state (w : Worker) (u : Uuid) (now : Nat) :
    (w.startDone u now).state = w.state := by
  unfold startDone; split <;> rfl
theorem startDone_updated (w : Worker) (u : Uuid) (now : Nat) :
    (w.startDone u now).updated = if u ∈ w.starting then now else w.updated := by
  unfold startDone; split <;> grind

@[simp] theorem shutdown_starting (w : Worker) (now : Nat) : (w.shutdown now).starting = w.starting := rfl
@[simp] theorem shutdown_running (w : Worker) (now : Nat) : (w.shutdown now).running = w.running := rfl
@[simp] theorem shutdown_state (w : Worker) (now : Nat) : (w.shutdown now).state = .shutdown := rfl
@[simp] theorem shutdown_updated (w : Worker) (now : Nat) : (w.shutdown now).updated = now := rfl

theorem isEmpty_iff (w : Worker) : w.isEmpty = true ↔ w.running = [] ∧ w.starting = [] := by
  simp [isEmpty, List.isEmpty_iff]

theorem closeRunner_spec (w : Worker) (u : Uuid) (now : Nat) :
    let r := (w.closeRunner u now).1
    (∀ v, v ∈ r.running ↔ v ∈ w.running ∧ v ≠ u) ∧ r.starting = w.starting ∧ r.idleB = w.idleB ∧
    (u ∈ w.running → r.updated = now) ∧ (u ∉ w.running → r = w) ∧
    (r.state = w.state ∨ (w.state = .running ∧ r.state = .idle ∧ r.running = [] ∧ r.starting = [])) := by
  unfold closeRunner
  dsimp only
  split
  · split <;> grind [isEmpty_iff, mem_sRemove]
  · grind

theorem closeRunner_idleB (w : Worker) (u : Uuid) (now : Nat) : (w.closeRunner u now).1.idleB = w.idleB :=
  (closeRunner_spec w u now).2.2.1

theorem adoptAlive_spec (us : List Uuid) : ∀ (w : Worker),
    let r := (w.adoptAlive us).1
    (∀ v, v ∈ r.running ↔ v ∈ w.running ∨ v ∈ us) ∧
    (∀ v, v ∈ r.starting ↔ v ∈ w.starting ∧ (v ∈ us → v ∈ w.running)) ∧
    r = { w with running := r.running, starting := r.starting } ∧
    ((w.adoptAlive us).2 = false → r = w) := by
  induction us with
  | nil => intro w; simp [adoptAlive]
  | cons u rest ih =>
    intro w
    unfold adoptAlive
    split
    · have := ih w
      grind
    · have := ih { w with running := w.running ++ [u], starting := sRemove w.starting u }
      grind [mem_sRemove]

theorem closeDead_spec (w : Worker) (alive : List Uuid) (now : Nat) :
    let r := (w.closeDead alive now).1
    (∀ v, v ∈ r.running ↔ v ∈ w.running ∧ v ∈ alive) ∧ r.starting = w.starting ∧ r.idleB = w.idleB ∧
    (r.state = w.state ∨ (w.state = .running ∧ r.state = .idle ∧ r.running = [] ∧ r.starting = [])) ∧
    (r.updated = w.updated ∨ r.updated = now) ∧
    ((w.closeDead alive now).2 = [] → r = w) ∧
    (∀ v, v ∈ (w.closeDead alive now).2 ↔ v ∈ w.running ∧ v ∉ alive) := by
  unfold closeDead
  dsimp only
  split
  · grind [List.isEmpty_iff, List.filter_eq_nil_iff]
  · split <;> grind [isEmpty_iff, List.isEmpty_iff]

theorem updateRunning_spec (w : Worker) (alive : List Uuid) (now : Nat) :
    let r := (w.updateRunning alive now).1
    (∀ v, v ∈ r.running ↔ v ∈ alive) ∧
    (∀ v, v ∈ r.starting ↔ v ∈ w.starting ∧ (v ∈ alive → v ∈ w.running)) ∧
    r.idleB = w.idleB ∧
    (r.state = w.state ∨ (w.state = .running ∧ r.state = .idle ∧ r.running = [] ∧ r.starting = [])) ∧
    (r.updated = w.updated ∨ r.updated = now) ∧
    ((w.updateRunning alive now).2.2 = false → r = w ∧ (w.updateRunning alive now).2.1 = []) := by
  unfold updateRunning
  dsimp only
  have := adoptAlive_spec alive w
  have := closeDead_spec (w.adoptAlive alive).1 alive now
  grind [List.isEmpty_iff]

theorem updateRunning_closed (w : Worker) (alive : List Uuid) (now : Nat) (v : Uuid) :
    v ∈ (w.updateRunning alive now).2.1 ↔ v ∈ w.running ∧ v ∉ alive := by
  unfold updateRunning
  dsimp only
  have := adoptAlive_spec alive w
  have := closeDead_spec (w.adoptAlive alive).1 alive now
  grind

theorem setIdleBehavior_spec (w : Worker) (b : IdleB) (t g : Bool) (now : Nat) :
    let r := w.setIdleBehavior b t g now
    r.running = w.running ∧ r.starting = w.starting ∧ r.idleB = b ∧
    ((r.state = w.state ∧ r.updated = w.updated) ∨ (r.state = .shutdown ∧ r.updated = now)) := by
  unfold setIdleBehavior shutdownIfIdle shutdown
  grind

theorem setIdleBehavior_idleB (w : Worker) (b : IdleB) (t g : Bool) (now : Nat) :
    (w.setIdleBehavior b t g now).idleB = b :=
  (setIdleBehavior_spec w b t g now).2.2.1

theorem drainStep_spec (w : Worker) (p : Probe) (now : Nat) :
    let r := w.drainStep p now
    r.running = w.running ∧ r.starting = w.starting ∧
    ((r.state = w.state ∧ r.updated = w.updated) ∨ (r.state = .shutdown ∧ r.updated = now)) ∧
    r.idleB = (if p.broken && w.idleB == .run then .drain else w.idleB) := by
  unfold drainStep
  have := setIdleBehavior_spec w .drain false p.allGivenUp now
  grind

theorem drainStep_idleB (w : Worker) (p : Probe) (now : Nat) :
    (w.drainStep p now).idleB = if p.broken && w.idleB == .run then .drain else w.idleB :=
  (drainStep_spec w p now).2.2.2

theorem applyFailed_spec (w : Worker) (p : Probe) (now : Nat) :
    let r := w.applyFailed p now
    r.running = w.running ∧ r.starting = w.starting ∧
    ((r.state = w.state ∧ r.updated = w.updated) ∨ (r.state = .shutdown ∧ r.updated = now)) ∧
    r.idleB = w.idleB := by
  unfold applyFailed shutdown
  grind

/-- Only the clause about Idle needs the worker to have been consistent before. -/
theorem applyFresh_result (w : Worker) (p : Probe) (now : Nat) :
    let r := (w.applyFresh p now).1
    (∀ v, v ∈ r.running ↔ v ∈ p.uuids) ∧
    (∀ v, v ∈ r.starting ↔ v ∈ w.starting ∧ (v ∈ p.uuids → v ∈ w.running)) ∧
    ((w.state = .idle → w.running = [] ∧ w.starting = []) →
      r.state = .idle → r.running = [] ∧ r.starting = []) ∧
    (r.updated = w.updated ∨ r.updated = now) ∧
    r.idleB = w.idleB ∧
    (∀ v, v ∈ (w.applyFresh p now).2 ↔ v ∈ w.running ∧ v ∉ p.uuids) := by
  unfold applyFresh
  extract_lets w1 r w2 fb w3 w4 res
  have h1 : w1.running = w.running ∧ w1.starting = w.starting ∧ w1.state = w.state ∧
      w1.updated = w.updated ∧ w1.idleB = w.idleB := by
    unfold w1; split <;> exact ⟨rfl, rfl, rfl, rfl, rfl⟩
  have u := updateRunning_spec w1 p.uuids now
  have uc := updateRunning_closed w1 p.uuids now
  have h3 : w3.running = w2.running ∧ w3.starting = w2.starting ∧ w3.idleB = w2.idleB ∧ (fb = false → w3 = w2) := by
    unfold w3; grind
  have h4 : w4.running = w3.running ∧ w4.starting = w3.starting ∧ w4.idleB = w3.idleB ∧
      (w4.state = .idle → w3.running = [] ∧ w3.starting = []) := by
    have := isEmpty_iff w3
    unfold w4; split
    · exact ⟨rfl, rfl, rfl, nofun⟩
    · split <;> grind
  have hres : res = w3 ∧ r.2.2 = false ∧ fb = false ∨ res = { w4 with updated := now } := by
    unfold res; split
    next hc => exact .inl ⟨rfl, by simpa using hc⟩
    next => exact .inr rfl
  rw [show ∀ a b : Worker, (if (!(r.2.2 || fb)) = true then (a, r.2.1) else (b, r.2.1)).2 = r.2.1 from
    fun a b => by split <;> rfl]
  -- the facts above are all that is needed: with the values in context `grind` is slow
  clear_value w1 fb w3 w4 res
  grind

theorem applyFresh_spec (w : Worker) (p : Probe) (now : Nat)
    (hidle : w.state = .idle → w.running = [] ∧ w.starting = []) :
    let r := (w.applyFresh p now).1
    (∀ v, v ∈ r.running ↔ v ∈ p.uuids) ∧
    (∀ v, v ∈ r.starting ↔ v ∈ w.starting ∧ (v ∈ p.uuids → v ∈ w.running)) ∧
    (r.state = .idle → r.running = [] ∧ r.starting = []) ∧
    (r.updated = w.updated ∨ r.updated = now) :=
  have ⟨a, b, c, d, _⟩ := applyFresh_result w p now
  ⟨a, b, c hidle, d⟩

theorem probeFresh_stamp {w : Worker} {p : Probe} {now : Nat} (hlt : p.stamp < now)
    (h : probeFresh w p now = true) : p.stamp = w.updated ∧ p.ok = true := by
  unfold probeFresh probeFailed at h
  have := drainStep_spec w p now
  grind

/-- What the final critical section of a probe does to the worker, whatever the worker was: only
the clause about Idle needs it to have been consistent before. -/
theorem probeApply_result (w : Worker) (p : Probe) (now : Nat) :
    let r := (w.probeApply p now).1
    (probeFresh w p now = false →
      r.running = w.running ∧ r.starting = w.starting ∧ (w.probeApply p now).2 = [] ∧
      (r.state = w.state ∨ r.state = .shutdown)) ∧
    (probeFresh w p now = true →
      (∀ v, v ∈ r.running ↔ v ∈ p.uuids) ∧
      (∀ v, v ∈ r.starting ↔ v ∈ w.starting ∧ (v ∈ p.uuids → v ∈ w.running)) ∧
      ((w.state = .idle → w.running = [] ∧ w.starting = []) →
        r.state = .idle → r.running = [] ∧ r.starting = []) ∧
      (∀ v, v ∈ (w.probeApply p now).2 ↔ v ∈ w.running ∧ v ∉ p.uuids)) ∧
    (r.updated = w.updated ∨ r.updated = now) ∧
    r.idleB = (if p.broken && w.idleB == .run then .drain else w.idleB) := by
  unfold probeApply probeFresh
  dsimp only
  have := drainStep_spec w p now
  have := applyFailed_spec (w.drainStep p now) p now
  have := applyFresh_result { w.drainStep p now with probed := now } p now
  grind

/-- Not fresh: failed, empty-and-unbooted, or stale. No well-formedness assumption on the worker. -/
theorem probeApply_not_fresh (w : Worker) (p : Probe) (now : Nat) (h : probeFresh w p now = false) :
    (w.probeApply p now).1.running = w.running ∧ (w.probeApply p now).1.starting = w.starting ∧
    (w.probeApply p now).2 = [] :=
  have ⟨a, b, c, _⟩ := (probeApply_result w p now).1 h
  ⟨a, b, c⟩

theorem probeApply_starting_sub (w : Worker) (p : Probe) (now : Nat) (v : Uuid)
    (hv : v ∈ (w.probeApply p now).1.starting) : v ∈ w.starting := by
  have := probeApply_result w p now
  cases h : probeFresh w p now <;> grind

theorem probeApply_running {w : Worker} {p : Probe} {now : Nat} (h : probeFresh w p now = true) (v : Uuid) :
    v ∈ (w.probeApply p now).1.running ↔ v ∈ p.uuids :=
  ((probeApply_result w p now).2.1 h).1 v

theorem probeApply_closed {w : Worker} {p : Probe} {now : Nat} (h : probeFresh w p now = true) (v : Uuid) :
    v ∈ (w.probeApply p now).2 ↔ v ∈ w.running ∧ v ∉ p.uuids :=
  ((probeApply_result w p now).2.1 h).2.2.2 v

theorem probeApply_idleB (w : Worker) (p : Probe) (now : Nat) :
    (w.probeApply p now).1.idleB = if p.broken && w.idleB == .run then .drain else w.idleB :=
  (probeApply_result w p now).2.2.2

theorem probeApply_spec (w : Worker) (p : Probe) (now : Nat)
    (hidle : w.state = .idle → w.running = [] ∧ w.starting = []) :
    let r := (w.probeApply p now).1
    (probeFresh w p now = false →
      r.running = w.running ∧ r.starting = w.starting ∧ (w.probeApply p now).2 = [] ∧
      (r.state = w.state ∨ r.state = .shutdown)) ∧
    (probeFresh w p now = true →
      (∀ v, v ∈ r.running ↔ v ∈ p.uuids) ∧
      (∀ v, v ∈ r.starting ↔ v ∈ w.starting ∧ (v ∈ p.uuids → v ∈ w.running)) ∧
      (r.state = .idle → r.running = [] ∧ r.starting = [])) ∧
    (r.updated = w.updated ∨ r.updated = now) :=
  have ⟨a, b, c, _⟩ := probeApply_result w p now
  ⟨a, fun h => have ⟨b1, b2, b3, _⟩ := b h; ⟨b1, b2, b3 hidle⟩, c⟩

end Worker
/-- Looking up an id after `Pool.put`'s replacement of the worker with `w.id`. -/
theorem find?_replace (w : Worker) (j : Nat) (l : List Worker) :
    (l.map (fun x => if x.id == w.id then w else x)).find? (fun x => x.id == j) =
      if j = w.id then (l.find? (fun x => x.id == j)).map (fun _ => w)
      else l.find? (fun x => x.id == j) := by
  induction l with
  | nil => simp
  | cons x rest ih => grind

theorem find?_id_of_mem (l : List Worker) (hwf : l.Pairwise (fun a b => a.id ≠ b.id)) :
    ∀ w ∈ l, l.find? (fun x => x.id == w.id) = some w := by
  induction l with
  | nil => nofun
  | cons x rest ih => grind [List.pairwise_cons]

theorem Pool.find_of_mem {p : Pool} (hwf : p.WF) {w : Worker} (hw : w ∈ p.workers) :
    p.find w.id = some w := find?_id_of_mem p.workers hwf w hw

end ArvVerif.C14
