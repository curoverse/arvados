/-
C17 — what makes the scan fail: special files, links that leave every mount, link cycles.
-/
import ArvVerif.Proofs.C17_Visit
namespace ArvVerif.C17

variable {h : Host} {cfg : Cfg}

theorem scan_reach (wf : HostWF h) (hx : InOut cfg cfg.ctrOut) (hreal : OutDirReal h cfg)
    {rel : Path} {node : Node} (hne : rel ≠ []) (hv : Visible h cfg cfg.ctrOut cfg.hostOut rel node)
    {fuel : Nat} {plan : Plan} (hs : scan h cfg fuel = .ok plan) :
    Visit h cfg plan (limitFollowSymlinks + 1) rel (cfg.ctrOut ++ rel) (cfg.hostOut ++ rel) node := by
  simpa using (Visit.root hx hreal hs).reach wf rel hv hne

theorem Run.not_special {dest src p : Path} {n : Nat} {inc : Bool} {st st' : Plan}
    (hd : namei h [] (hostPath cfg src) 0 = .found p .special) : ¬ Run h cfg (.host dest src n inc) st st' := by
  intro hr
  cases hr with
  | link _ hst | emptyDir _ hst | dir _ hst | file _ hst => rw [hd] at hst; cases hst

theorem special_fails (wf : HostWF h) (hx : InOut cfg cfg.ctrOut) (hreal : OutDirReal h cfg)
    {rel : Path} (hne : rel ≠ []) (hv : Visible h cfg cfg.ctrOut cfg.hostOut rel .special)
    (fuel : Nat) (plan : Plan) : scan h cfg fuel ≠ .ok plan := fun hs =>
  let ⟨_, ⟨_, _, _, hr, _⟩, hst⟩ := scan_reach wf hx hreal hne hv hs
  Run.not_special hst hr

/-- the case in which `walkMount` fails with "not in any mount" (`.notMounted`) -/
def Outside (cfg : Cfg) (x : Path) : Prop :=
  srcMount cfg x = none ∧ underSecret cfg x 0 = false

theorem Run.not_outside {dest x : Path} {n : Nat} {b : Bool} {st st' : Plan} (hout : Outside cfg x) :
    ¬ Run h cfg (.mount dest x n b) st st' := by
  obtain ⟨h1, h2⟩ := hout
  intro hr
  cases hr with
  | secret hs => rw [h1] at hs; rw [show rootLen none = 0 from rfl, h2] at hs; cases hs
  | exclude _ hsm | tmp _ hsm | coll _ hsm => rw [h1] at hsm; cases hsm

theorem link_outside_fails (wf : HostWF h) (hx : InOut cfg cfg.ctrOut) (hreal : OutDirReal h cfg)
    {rel : Path} (hne : rel ≠ []) {abs : Bool} {t : Path}
    (hv : Visible h cfg cfg.ctrOut cfg.hostOut rel (.link abs t))
    (hout : Outside cfg (linkTarget (cfg.ctrOut ++ rel) abs t))
    (fuel : Nat) (plan : Plan) : scan h cfg fuel ≠ .ok plan := fun hs =>
  let ⟨_, _, _, hm, _⟩ := (scan_reach wf hx hreal hne hv hs).jump
  Run.not_outside hout hm

/-- A position `x` in the output directory's mount such that every call on it leads to the visit of a
link back to `x`: no call on `x` returns, whatever the budget, because every round costs a follow. -/
theorem Made.no_cycle {pl : Plan} {x rel : Path} {abs : Bool} {t : Path} (hxin : InOut cfg x)
    (hback : linkTarget (x ++ rel) abs t = x)
    (hlink : ∀ {n d inc}, Made h cfg pl (.host d x n inc) →
      ∃ d' p', Visit h cfg pl n d' (x ++ rel) p' (.link abs t)) :
    ∀ (n : Nat) {d : Path} {inc : Bool}, ¬ Made h cfg pl (.host d x n inc) := by
  intro n
  induction n with
  | zero =>
    intro d inc hm
    obtain ⟨_, _, hl⟩ := hlink hm
    exact hl.jump.1 rfl
  | succ n ih =>
    intro d inc hm
    obtain ⟨_, _, hl⟩ := hlink hm
    obtain ⟨_, hm'⟩ := hl.jump
    rw [hback] at hm'
    exact ih (hm'.host_of_mount hxin)

/-- `rel0` leads from the output directory to the base of the cycle (`[]`: the output directory itself),
`rel` from the base to the link that points back at the base (`[]`: the base is that link, so the node
at the base is the link and not a directory) -/
theorem cycle_fails (wf : HostWF h) (hx : InOut cfg cfg.ctrOut) (hreal : OutDirReal h cfg)
    (rel0 rel : Path) (abs : Bool) (t : Path)
    (hxin : InOut cfg (cfg.ctrOut ++ rel0))
    (h0 : rel0 = [] ∨ Visible h cfg cfg.ctrOut cfg.hostOut rel0 (if rel = [] then .link abs t else .dir))
    (hrel : rel = [] ∨ Visible h cfg (cfg.ctrOut ++ rel0) (cfg.hostOut ++ rel0) rel (.link abs t))
    (hnot : ¬ (rel0 = [] ∧ rel = []))
    (hback : linkTarget (cfg.ctrOut ++ rel0 ++ rel) abs t = cfg.ctrOut ++ rel0)
    (fuel : Nat) (plan : Plan) : scan h cfg fuel ≠ .ok plan := by
  intro hs
  have hbase : Visit h cfg plan (limitFollowSymlinks + 1) rel0 (cfg.ctrOut ++ rel0) (cfg.hostOut ++ rel0)
      (if rel = [] then .link abs t else .dir) := by
    by_cases hr0 : rel0 = []
    · subst hr0
      rw [if_neg fun hr => hnot ⟨rfl, hr⟩]
      simpa using Visit.root hx hreal hs
    · exact scan_reach wf hx hreal hr0 (h0.resolve_left hr0) hs
  obtain ⟨_, hm⟩ := hbase.call
  refine Made.no_cycle hxin hback (fun hm => ?_) _ hm
  -- every call on the base has found what that visit has found
  have hv : Visit h cfg plan _ _ _ _ _ := ⟨hbase.pre, ⟨_, hm⟩, hbase.stat⟩
  by_cases hr : rel = []
  · subst hr; exact ⟨_, _, by simpa using hv⟩
  · rw [if_neg hr] at hv
    exact ⟨_, _, hv.reach wf rel (hrel.resolve_left hr) hr⟩

end ArvVerif.C17
