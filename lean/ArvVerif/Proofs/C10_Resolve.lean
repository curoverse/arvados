/-
C10 — facts about the reference interpreter `resolveTok` and about block offset arrays, shared by
the three codec agreement proofs.
-/
import ArvVerif.Proofs.C10_FirstBlock
namespace ArvVerif.C10

@[simp] theorem streamLen_nil : streamLen [] = 0 := rfl

@[simp] theorem streamLen_cons (b : Loc) (bs : List Loc) : streamLen (b :: bs) = b.size + streamLen bs := by
  simp [streamLen]

theorem streamLen_append (a b : List Loc) : streamLen (a ++ b) = streamLen a + streamLen b := by
  simp [streamLen, List.sum_append]

theorem streamLen_take_drop (bs : List Loc) (i : Nat) :
    streamLen bs = streamLen (bs.take i) + streamLen (bs.drop i) := by
  rw [← streamLen_append, List.take_append_drop]

theorem streamLen_take_succ (bs : List Loc) (i : Nat) (h : i < bs.length) :
    streamLen (bs.take (i + 1)) = streamLen (bs.take i) + bs[i].size := by
  rw [List.take_succ_eq_append_getElem h, streamLen_append]; simp

/-- block offsets without wrap-around: `[base, base+s0, base+s0+s1, ...]` -/
def plainOffsets : Nat → List Loc → List Nat
  | base, [] => [base]
  | base, b :: rest => base :: plainOffsets (base + b.size) rest

theorem offsetsFrom_eq_plain : ∀ (bs : List Loc) (base : Nat), base + streamLen bs < two64 →
    offsetsFrom base bs = plainOffsets base bs
  | [], _, _ => rfl
  | b :: rest, base, h => by
    simp only [streamLen_cons] at h
    simp only [offsetsFrom, plainOffsets]
    rw [Nat.mod_eq_of_lt (by omega), offsetsFrom_eq_plain rest (base + b.size) (by omega)]

theorem plainOffsets_length : ∀ (bs : List Loc) (base : Nat), (plainOffsets base bs).length = bs.length + 1
  | [], _ => rfl
  | _ :: rest, base => by simp [plainOffsets, plainOffsets_length rest]

theorem plainOffsets_ne_nil (bs : List Loc) (base : Nat) : plainOffsets base bs ≠ [] := by
  cases bs <;> simp [plainOffsets]

theorem plainOffsets_head (bs : List Loc) (base : Nat) : ∃ tl, plainOffsets base bs = base :: tl := by
  cases bs <;> simp [plainOffsets]

theorem plainOffsets_ge : ∀ (bs : List Loc) (base : Nat), ∀ x ∈ plainOffsets base bs, base ≤ x
  | [], base, x, hx => by simp [plainOffsets] at hx; omega
  | b :: rest, base, x, hx => by
    simp only [plainOffsets, List.mem_cons] at hx
    rcases hx with hx | hx
    · omega
    · have := plainOffsets_ge rest (base + b.size) x hx; omega

theorem plainOffsets_sorted : ∀ (bs : List Loc) (base : Nat), (plainOffsets base bs).Pairwise (· ≤ ·)
  | [], _ => by simp [plainOffsets]
  | b :: rest, base => by
    simp only [plainOffsets, List.pairwise_cons]
    refine ⟨?_, plainOffsets_sorted rest _⟩
    intro x hx
    have := plainOffsets_ge rest (base + b.size) x hx; omega

theorem plainOffsets_get : ∀ (bs : List Loc) (base i : Nat), i ≤ bs.length →
    (plainOffsets base bs)[i]? = some (base + streamLen (bs.take i))
  | [], base, i, h => by
    have : i = 0 := by simpa using h
    subst this; simp [plainOffsets]
  | b :: rest, base, 0, _ => by simp [plainOffsets]
  | b :: rest, base, i + 1, h => by
    have h' : i ≤ rest.length := by simpa using h
    simp only [plainOffsets, List.getElem?_cons_succ, List.take_succ_cons, streamLen_cons]
    rw [plainOffsets_get rest (base + b.size) i h']
    congr 1; omega

theorem plainOffsets_last (bs : List Loc) (base : Nat) :
    (plainOffsets base bs).getLastD 0 = base + streamLen bs := by
  rw [List.getLastD_eq_getLast?, List.getLast?_eq_getElem?, plainOffsets_length, Nat.add_sub_cancel,
    plainOffsets_get bs base bs.length (Nat.le_refl _), List.take_length]
  rfl

theorem exists_inBlock : ∀ (bs : List Loc) (pos : Nat), pos < streamLen bs →
    ∃ i, ∃ hi : i < bs.length, streamLen (bs.take i) ≤ pos ∧ pos < streamLen (bs.take i) + bs[i].size
  | [], pos, h => by simp at h
  | b :: rest, pos, h => by
    by_cases hb : pos < b.size
    · exact ⟨0, by simp, by simp, by simpa using hb⟩
    · rw [streamLen_cons] at h
      obtain ⟨i, hi, h1, h2⟩ := exists_inBlock rest (pos - b.size) (by omega)
      refine ⟨i + 1, by simpa using hi, ?_, ?_⟩
      · simp only [List.take_succ_cons, streamLen_cons]; omega
      · simp only [List.take_succ_cons, streamLen_cons, List.getElem_cons_succ]; omega

theorem inBlock_of_take (bs : List Loc) (pos i : Nat) (hi : i < bs.length)
    (h1 : streamLen (bs.take i) ≤ pos) (h2 : pos < streamLen (bs.take i) + bs[i].size) :
    InBlock (plainOffsets 0 bs) pos i :=
  ⟨_, _, plainOffsets_get bs 0 i (by omega), plainOffsets_get bs 0 (i + 1) (by omega),
    by omega, by rw [streamLen_take_succ bs i hi]; omega⟩

/-- the part of block `b`, laid out at stream offset `base`, that the range `[pos, pos+len)` covers -/
def piece (b : Loc) (base pos len : Nat) : List Seg :=
  if max pos base < min (pos + len) (base + b.size) then
    [⟨b.text, max pos base - base, min (pos + len) (base + b.size) - max pos base⟩]
  else []

theorem resolveTok_cons (b : Loc) (rest : List Loc) (base pos len : Nat) :
    resolveTok (b :: rest) base pos len = piece b base pos len ++ resolveTok rest (base + b.size) pos len := by
  simp only [resolveTok, piece]
  split <;> rfl

/-- The three range mappers compute a block's piece in signed arithmetic and keep it when its length
is positive: that is `piece`, whenever offset and length are the clipped ones. -/
theorem keep_eq_piece (b : Loc) (base pos len : Nat) (off n : Int)
    (hoff : off = ((max pos base - base : Nat) : Int))
    (hn : n = ((min (pos + len) (base + b.size) : Nat) : Int) - ((max pos base : Nat) : Int)) :
    (if n > 0 then [(⟨b.text, off.toNat, n.toNat⟩ : Seg)] else []) = piece b base pos len := by
  unfold piece
  by_cases h : max pos base < min (pos + len) (base + b.size)
  · rw [if_pos h, if_pos (by omega)]
    congr 2 <;> omega
  · rw [if_neg h, if_neg (by omega)]

theorem piece_nil_of_le (b : Loc) (base pos len : Nat) (h : min (pos + len) (base + b.size) ≤ max pos base) :
    piece b base pos len = [] := by
  unfold piece
  rw [if_neg (by omega)]

/-- a run of blocks that the range does not meet (it ends before the run, starts after it, or is empty) contributes
nothing -/
theorem resolveTok_skip : ∀ (a rest : List Loc) (base pos len : Nat),
    pos + len ≤ base ∨ base + streamLen a ≤ pos ∨ len = 0 →
    resolveTok (a ++ rest) base pos len = resolveTok rest (base + streamLen a) pos len
  | [], _, _, _, _, _ => rfl
  | b :: a, rest, base, pos, len, h => by
    rw [streamLen_cons] at h
    rw [List.cons_append, resolveTok_cons, piece_nil_of_le b base pos len (by omega),
      resolveTok_skip a rest (base + b.size) pos len (by omega), streamLen_cons, Nat.add_assoc]
    rfl

theorem resolveTok_nil_of_ge (bs : List Loc) (base pos len : Nat) (h : pos + len ≤ base) :
    resolveTok bs base pos len = [] :=
  bs.append_nil ▸ resolveTok_skip bs [] base pos len (.inl h)

theorem resolveTok_len0 (bs : List Loc) (base pos : Nat) : resolveTok bs base pos 0 = [] :=
  bs.append_nil ▸ resolveTok_skip bs [] base pos 0 (.inr (.inr rfl))

theorem resolveTok_drop (bs : List Loc) (base pos len i : Nat) (h : base + streamLen (bs.take i) ≤ pos) :
    resolveTok bs base pos len = resolveTok (bs.drop i) (base + streamLen (bs.take i)) pos len := by
  rw [← resolveTok_skip (bs.take i) (bs.drop i) base pos len (.inr (.inl h)), List.take_append_drop]

theorem resolveTok_inside : ∀ (bs : List Loc) (base pos len : Nat), ∀ s ∈ resolveTok bs base pos len,
    ∃ b ∈ bs, s.loc = b.text ∧ s.off + s.len ≤ b.size ∧ 0 < s.len
  | [], _, _, _, s, hs => by simp [resolveTok] at hs
  | b :: rest, base, pos, len, s, hs => by
    rw [resolveTok_cons, List.mem_append] at hs
    rcases hs with hs | hs
    · unfold piece at hs
      split at hs
      · rw [List.mem_singleton] at hs
        subst hs
        exact ⟨b, by simp, rfl, by simp only []; omega, by simp only []; omega⟩
      · cases hs
    · obtain ⟨b', hb', h⟩ := resolveTok_inside rest _ pos len s hs
      exact ⟨b', List.mem_cons_of_mem _ hb', h⟩

end ArvVerif.C10
