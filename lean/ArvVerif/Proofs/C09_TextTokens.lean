/-
C09 helper lemmas: tokens. An escaped name holds no delimiter, control byte or raw colon and is read
back as the name, and the file token `%d:%d:%s` of a part parses to that part (decimal printing and
reading are inverse: `C10.natToDec_spec`).
-/
import ArvVerif.Proofs.C09_Lists
import ArvVerif.Proofs.C10_FsText
import ArvVerif.Proofs.C10_Decimal
import ArvVerif.Model.C09_Spec
namespace ArvVerif.C09

open ArvVerif.C10 (bSpace bNL bSlash bColon bPlus bBackslash bDot isDigit isOctDigit natToDec natOfDigits
  splitOn joinWith fsEscape fsEscapePred escapeWith octDigits specUnescape tokenBytesOk)

theorem takeWhile_stop (p : UInt8 → Bool) : ∀ (a : Bytes) (c : UInt8) (r : Bytes), a.all p = true → p c = false →
    (a ++ c :: r).takeWhile p = a ∧ (a ++ c :: r).dropWhile p = c :: r
  | [], c, r, _, hc => by simp [hc]
  | x :: a, c, r, ha, hc => by
    simp only [List.all_cons, Bool.and_eq_true] at ha
    obtain ⟨i1, i2⟩ := takeWhile_stop p a c r ha.2 hc
    simp [ha.1, i1, i2]

theorem escapeWith_mem (p : UInt8 → Bool) (s : Bytes) (x : UInt8) (h : x ∈ escapeWith p s) :
    x = bBackslash ∨ isOctDigit x = true ∨ (x ∈ s ∧ p x = false) := by
  induction s with
  | nil => cases h
  | cons c rest ih =>
    have tail : x ∈ escapeWith p rest → x = bBackslash ∨ isOctDigit x = true ∨ (x ∈ c :: rest ∧ p x = false) :=
      fun h => (ih h).imp_right (.imp_right (.imp_left (List.mem_cons_of_mem c)))
    unfold escapeWith at h
    split at h
    · obtain ⟨a, b, d, hoct, ha, hb, hd, _⟩ := C10.octDigits_spec c
      rw [hoct] at h
      simp only [List.cons_append, List.nil_append, List.mem_cons] at h
      rcases h with rfl | rfl | rfl | rfl | h
      · exact Or.inl rfl
      · exact Or.inr (Or.inl ha)
      · exact Or.inr (Or.inl hb)
      · exact Or.inr (Or.inl hd)
      · exact tail h
    · next hc =>
      rcases List.mem_cons.mp h with rfl | h
      · exact Or.inr (Or.inr ⟨List.mem_cons_self, by simpa using hc⟩)
      · exact tail h

theorem escapeWith_ne_nil (p : UInt8 → Bool) {s : Bytes} (h : s ≠ []) : escapeWith p s ≠ [] := by
  cases s with
  | nil => exact absurd rfl h
  | cons c rest => unfold escapeWith; split <;> simp

theorem specUnescape_fsEscape (s : Bytes) : specUnescape (fsEscape s) = some s :=
  C10.specUnescape_escapeWith _ (by decide) s

/-- a token of a manifest line: it passes the grammar's byte check and, joined to others by spaces and ended by a
newline, is split off again unchanged -/
def TokOK (t : Bytes) : Prop := tokenBytesOk t = true ∧ bSpace ∉ t ∧ bNL ∉ t

theorem token_of_printable {t : Bytes} (hne : t ≠ []) (h : ∀ x ∈ t, 33 ≤ x ∧ x ≠ 127) : TokOK t := by
  refine ⟨?_, fun hx => ?_, fun hx => ?_⟩
  · unfold tokenBytesOk
    simp only [Bool.and_eq_true, bne_iff_ne, ne_eq, List.all_eq_true, decide_eq_true_eq]
    exact ⟨hne, h⟩
  · have := (h _ hx).1; revert this; decide
  · have := (h _ hx).1; revert this; decide

theorem locChar_printable (c : UInt8) (h : (C10.isLowerHex c || C10.isHintChar c || c == bPlus) = true) :
    33 ≤ c ∧ c ≠ 127 := by
  simp only [C10.isLowerHex, isDigit, C10.isHintChar, C10.isUpper, C10.isLower, bPlus, Bool.or_eq_true,
    Bool.and_eq_true, decide_eq_true_eq, beq_iff_eq, UInt8.le_iff_toNat_le, ne_eq, ← UInt8.toNat_inj,
    UInt8.toNat_ofNat] at h ⊢
  omega

theorem fsEscape_bytes (s : Bytes) (x : UInt8) (hx : x ∈ fsEscape s) : 32 < x ∧ x ≠ bColon ∧ (x = 127 → (127 : UInt8) ∈ s) := by
  refine ⟨C10.escapeWith_no_delim fsEscapePred (fun c hc => by simp [fsEscapePred, hc]) s x hx, ?_⟩
  rcases escapeWith_mem _ s x hx with rfl | h | ⟨hm, h⟩
  · exact ⟨by decide, fun hc => absurd hc (by decide)⟩
  · exact ⟨fun hc => by subst hc; revert h; decide, fun hc => by subst hc; exact absurd h (by decide)⟩
  · exact ⟨fun hc => by subst hc; revert h; decide, fun hc => hc ▸ hm⟩

theorem fsEscape_printable {s : Bytes} (hdel : (127 : UInt8) ∉ s) (x : UInt8) (hx : x ∈ fsEscape s) : 33 ≤ x ∧ x ≠ 127 :=
  ⟨UInt8.le_iff_toNat_le.mpr (by have h' := UInt8.lt_iff_toNat_lt.mp (fsEscape_bytes s x hx).1; simp at h' ⊢; omega),
   fun h => hdel ((fsEscape_bytes s x hx).2.2 h)⟩

theorem fsEscape_token {s : Bytes} (hne : s ≠ []) (hdel : (127 : UInt8) ∉ s) : TokOK (fsEscape s) :=
  token_of_printable (escapeWith_ne_nil fsEscapePred hne) (fsEscape_printable hdel)

/-- a proper name: what `newNode` / `permittedName` accept, as one path component -/
def NameOK (n : Bytes) : Prop := n ≠ [] ∧ n ≠ [bDot] ∧ n ≠ [bDot, bDot] ∧ bSlash ∉ n

theorem componentsOk_of_nameOK {cs : List Bytes} (h : ∀ c ∈ cs, NameOK c) : C10.componentsOk cs = true := by
  unfold C10.componentsOk
  rw [List.all_eq_true]
  intro c hc
  obtain ⟨h1, h2, h3, _⟩ := h c hc
  simp [h1, h2, h3]

theorem specFileTok_tokText (p : Part) (hn : NameOK p.name) :
    C10.specFileTok (tokText p) = some ⟨p.off, p.len, p.name⟩ := by
  unfold tokText C10.specFileTok
  obtain ⟨t1, d1⟩ := takeWhile_stop isDigit (natToDec p.off) bColon
    (natToDec p.len ++ bColon :: fsEscape p.name) (C10.natToDec_spec _).2.1 C10.colon_not_digit
  obtain ⟨t2, d2⟩ := takeWhile_stop isDigit (natToDec p.len) bColon (fsEscape p.name) (C10.natToDec_spec _).2.1 C10.colon_not_digit
  simp only [t1, d1]
  rw [if_pos ⟨by simp, (C10.natToDec_spec _).1⟩]
  simp only [t2, d2]
  rw [if_pos ⟨by simp, (C10.natToDec_spec _).1, escapeWith_ne_nil _ hn.1⟩, specUnescape_fsEscape]
  have hok : C10.specFileNameOk p.name = true := by
    unfold C10.specFileNameOk
    rw [C10.splitOn_of_no_sep bSlash p.name hn.2.2.2]
    exact componentsOk_of_nameOK (List.forall_mem_singleton.mpr hn)
  simp only []
  rw [if_pos hok, (C10.natToDec_spec _).2.2, (C10.natToDec_spec _).2.2]

theorem tokText_token {p : Part} (hdel : (127 : UInt8) ∉ p.name) : TokOK (tokText p) := by
  have hdig : ∀ n, ∀ x ∈ natToDec n, 33 ≤ x ∧ x ≠ 127 := fun n x hx =>
    locChar_printable x (by simp [C10.isLowerHex, List.all_eq_true.mp (C10.natToDec_spec n).2.1 x hx])
  refine token_of_printable (by simp [tokText]) fun x hx => ?_
  simp only [tokText, List.mem_append, List.mem_cons] at hx
  rcases hx with hx | rfl | hx | rfl | hx
  · exact hdig _ x hx
  · decide
  · exact hdig _ x hx
  · decide
  · exact fsEscape_printable hdel x hx

end ArvVerif.C09
