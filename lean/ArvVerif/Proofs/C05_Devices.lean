/-
C05, the specification side: physical devices. A device is a key (`devKey`); views of one device
agree on replication and class (`KeyConsistent`, from `DeviceConsistent` and distinct mount
identities). Every "replication over distinct physical devices" statement rests on one counting
lemma (`keysum_le`): a duplicate-free family of device keys drawn from a list is dominated by any
family covering those keys.
-/
import ArvVerif.Model.C05
import ArvVerif.Proofs.Lib_List
namespace ArvVerif.C05

def ssum (g : Slot → Nat) (l : List Slot) : Nat := (l.map g).sum
@[simp] theorem ssum_nil (g : Slot → Nat) : ssum g [] = 0 := rfl
@[simp] theorem ssum_cons (g : Slot → Nat) (s : Slot) (l : List Slot) : ssum g (s :: l) = g s + ssum g l := by
  simp [ssum]

def DistinctIds (l : List Mount) : Prop := l.Pairwise (fun a b => a.id ≠ b.id)

theorem distinctIds_of_perm {l₁ l₂ : List Mount} (h : l₁.Perm l₂) (hp : DistinctIds l₂) : DistinctIds l₁ :=
  (h.pairwise_iff (fun {_ _} hab => fun e => hab e.symm)).2 hp

def IdsDistinct (S : List Slot) : Prop := DistinctIds (S.map (·.mnt))

theorem eq_of_same_id {S : List Slot} (hid : IdsDistinct S) {p q : Slot} (hp : p ∈ S) (hq : q ∈ S)
    (h : p.mnt.id = q.mnt.id) : p = q :=
  Lib.eq_of_pairwise_ne (fun s => s.mnt.id)
    ((List.pairwise_map (f := fun s : Slot => s.mnt) (R := fun a b => a.id ≠ b.id)).1 hid) hp hq h

theorem mount_eq_of_same_id {L : List Mount} (hid : DistinctIds L) {a b : Mount} (ha : a ∈ L) (hb : b ∈ L)
    (h : a.id = b.id) : a = b :=
  Lib.eq_of_pairwise_ne Mount.id (show L.Pairwise _ from hid) ha hb h

theorem contains_cons_of {α : Type} [BEq α] {l : List α} {x : α} (a : α) (h : l.contains x = true) :
    (a :: l).contains x = true := by
  rw [List.contains_cons, h, Bool.or_true]

/-- `if dev != "" { m[dev] = true }` keeps what is in the map -/
theorem contains_condCons {α : Type} [BEq α] {l : List α} {x : α} (p : Prop) [Decidable p] (a : α)
    (h : l.contains x = true) : (if p then a :: l else l).contains x = true := by
  split
  · exact contains_cons_of _ h
  · exact h

theorem devKey_blank {m : Mount} (h : m.dev = 0) : devKey m = (0, m.id) := by unfold devKey; simp [h]
theorem devKey_named {m : Mount} (h : m.dev ≠ 0) : devKey m = (1, m.dev) := by unfold devKey; simp [h]

theorem devKey_eq_iff (a b : Mount) :
    devKey a = devKey b ↔ (a.dev = 0 ∧ b.dev = 0 ∧ a.id = b.id) ∨ (a.dev ≠ 0 ∧ a.dev = b.dev) := by
  unfold devKey
  split <;> split <;> simp_all

theorem sameDevice_iff (a b : Mount) : sameDevice a b = true ↔ devKey a = devKey b := by
  unfold sameDevice; simp

/-- mounts of one device agree on classes and replication (a device has one configuration) -/
def DeviceConsistent (mounts : List Mount) : Prop :=
  ∀ a ∈ mounts, ∀ b ∈ mounts, a.dev ≠ 0 → a.dev = b.dev → a.classes = b.classes ∧ a.repl = b.repl

def KeyConsistent (c : Class) (L : List Mount) : Prop :=
  ∀ a ∈ L, ∀ b ∈ L, devKey a = devKey b → a.repl = b.repl ∧ inClass c a = inClass c b

theorem keyConsistent_of (c : Class) {L : List Mount} (hid : DistinctIds L) (hc : DeviceConsistent L) :
    KeyConsistent c L := by
  intro a ha b hb hk
  rcases (devKey_eq_iff a b).1 hk with ⟨_, _, hidab⟩ | ⟨h0, hd⟩
  · have : a = b := mount_eq_of_same_id hid ha hb hidab
    subst this; exact ⟨rfl, rfl⟩
  · have := hc a ha b hb h0 hd
    exact ⟨this.2, by unfold inClass; rw [this.1]⟩

theorem KeyConsistent.sub {c : Class} {L L' : List Mount} (h : KeyConsistent c L) (hs : ∀ m ∈ L', m ∈ L) :
    KeyConsistent c L' := fun a ha b hb hk => h a (hs a ha) b (hs b hb) hk

theorem sum_le_of_nodup_subset {α : Type} [DecidableEq α] (f : α → Nat) :
    ∀ (A B : List α), A.Nodup → (∀ a ∈ A, a ∈ B) → (A.map f).sum ≤ (B.map f).sum := by
  intro A
  induction A with
  | nil => intro B _ _; simp
  | cons a A ih =>
    intro B hnd hsub
    obtain ⟨ha, hnd'⟩ := List.nodup_cons.1 hnd
    -- take `a` out of `B`; the rest of `A` is still in what remains
    have hsum := ((List.perm_cons_erase (hsub a (List.mem_cons_self ..))).map f).sum_nat
    have := ih (B.erase a) hnd' fun x hx =>
      (List.mem_erase_of_ne fun (e : x = a) => ha (e ▸ hx)).2 (hsub x (List.mem_cons_of_mem _ hx))
    simp only [List.map_cons, List.sum_cons] at hsum ⊢
    omega

theorem keysum_le (c : Class) (L : List Mount) (hc : KeyConsistent c L) (A B : List Mount)
    (hA : ∀ a ∈ A, a ∈ L) (hB : ∀ b ∈ B, b ∈ L) (hnd : (A.map devKey).Nodup)
    (hcov : ∀ a ∈ A, ∃ b ∈ B, devKey b = devKey a) :
    (A.map (·.repl)).sum ≤ (B.map (·.repl)).sum := by
  -- count (device key, replication) pairs: distinct for `A`, and each occurs for `B`
  let g : Mount → (Nat × Nat) × Nat := fun m => (devKey m, m.repl)
  have hndg : (A.map g).Nodup :=
    List.Pairwise.of_map Prod.fst (fun a b hne e => hne (congrArg Prod.fst e))
      (show ((A.map g).map Prod.fst).Nodup by rwa [List.map_map])
  have hsub : ∀ x ∈ A.map g, x ∈ B.map g := by
    intro x hx
    obtain ⟨a, ha, rfl⟩ := List.mem_map.1 hx
    obtain ⟨b, hb, hk⟩ := hcov a ha
    exact List.mem_map.2 ⟨b, hb, Prod.ext hk (hc b (hB b hb) a (hA a ha) hk).1⟩
  simpa [List.map_map, Function.comp_def, g] using sum_le_of_nodup_subset Prod.snd (A.map g) (B.map g) hndg hsub

theorem distinctDevices_sub : ∀ (L : List Mount), ∀ r ∈ distinctDevices L, r ∈ L
  | a :: l, r, hr => by
    unfold distinctDevices at hr
    split at hr
    · exact List.mem_cons_of_mem _ (distinctDevices_sub l r hr)
    · exact List.mem_cons.2 ((List.mem_cons.1 hr).imp_right (distinctDevices_sub l r))

theorem distinctDevices_nodup : ∀ (L : List Mount), ((distinctDevices L).map devKey).Nodup := by
  intro L
  induction L with
  | nil => simp [distinctDevices]
  | cons a l ih =>
    unfold distinctDevices
    split
    · exact ih
    · rename_i hany
      simp only [List.map_cons]
      refine List.nodup_cons.2 ⟨?_, ih⟩
      intro hmem
      obtain ⟨r, hr, hk⟩ := List.mem_map.1 hmem
      apply hany
      rw [List.any_eq_true]
      exact ⟨r, hr, (sameDevice_iff a r).2 hk.symm⟩

theorem distinctDevices_cover : ∀ (L : List Mount), ∀ m ∈ L, ∃ r ∈ distinctDevices L, devKey r = devKey m
  | a :: l, m, hm => by
    unfold distinctDevices
    split
    · rcases List.mem_cons.1 hm with rfl | h
      · obtain ⟨r, hr, hs⟩ := List.any_eq_true.1 ‹_›
        exact ⟨r, hr, ((sameDevice_iff m r).1 hs).symm⟩
      · exact distinctDevices_cover l m h
    · rcases List.mem_cons.1 hm with rfl | h
      · exact ⟨m, List.mem_cons_self .., rfl⟩
      · exact (distinctDevices_cover l m h).imp fun r hr => ⟨List.mem_cons_of_mem _ hr.1, hr.2⟩

theorem physRepl_cover {c : Class} {L : List Mount} (hc : KeyConsistent c L) {m : Mount} (hm : m ∈ L)
    (hin : inClass c m = true) : ∃ r ∈ (distinctDevices L).filter (inClass c), devKey r = devKey m := by
  obtain ⟨r, hr, hk⟩ := distinctDevices_cover L m hm
  exact ⟨r, List.mem_filter.2 ⟨hr, (hc r (distinctDevices_sub L r hr) m hm hk).2 ▸ hin⟩, hk⟩

theorem physRepl_ge (c : Class) (L : List Mount) (hc : KeyConsistent c L) (A : List Mount)
    (hA : ∀ a ∈ A, a ∈ L ∧ inClass c a = true) (hnd : (A.map devKey).Nodup) :
    (A.map (·.repl)).sum ≤ physRepl c L := by
  unfold physRepl
  exact keysum_le c L hc A _ (fun a ha => (hA a ha).1) (fun b hb => distinctDevices_sub L b (List.mem_filter.1 hb).1) hnd
    fun a ha => physRepl_cover hc (hA a ha).1 (hA a ha).2

theorem physRepl_le (c : Class) (L : List Mount) (hc : KeyConsistent c L) (B : List Mount)
    (hB : ∀ b ∈ B, b ∈ L) (hcov : ∀ m ∈ L, inClass c m = true → ∃ b ∈ B, devKey b = devKey m) :
    physRepl c L ≤ (B.map (·.repl)).sum := by
  unfold physRepl
  apply keysum_le c L hc _ B (fun a ha => distinctDevices_sub L a (List.mem_filter.1 ha).1) hB
  · exact ((distinctDevices_nodup L).sublist ((List.filter_sublist).map devKey))
  · intro a ha
    have := List.mem_filter.1 ha
    exact hcov a (distinctDevices_sub L a this.1) this.2

theorem physRepl_congr (c : Class) (L L' : List Mount) (hc : KeyConsistent c L)
    (h : ∀ m, m ∈ L ↔ m ∈ L') : physRepl c L = physRepl c L' := by
  have hc' : KeyConsistent c L' := hc.sub (fun m hm => (h m).2 hm)
  have half : ∀ {L L' : List Mount}, KeyConsistent c L → KeyConsistent c L' → (∀ m, m ∈ L ↔ m ∈ L') →
      physRepl c L ≤ physRepl c L' := by
    intro L L' hc hc' h
    exact physRepl_le c L hc _ (fun b hb => (h b).2 (distinctDevices_sub L' b (List.mem_filter.1 hb).1))
      fun m hm hin => physRepl_cover hc' ((h m).1 hm) hin
  exact Nat.le_antisymm (half hc hc' h) (half hc' hc fun m => (h m).symm)

def heldOf (l : List Slot) : List Mount := (l.filter (fun s => s.repl.isSome)).map (·.mnt)

theorem mem_heldOf {l : List Slot} {m : Mount} : m ∈ heldOf l ↔ ∃ s ∈ l, s.mnt = m ∧ s.repl.isSome = true := by
  unfold heldOf
  simp only [List.mem_map, List.mem_filter]
  constructor
  · rintro ⟨s, ⟨hs, hr⟩, rfl⟩; exact ⟨s, hs, rfl, hr⟩
  · rintro ⟨s, hs, rfl, hr⟩; exact ⟨s, ⟨hs, hr⟩, rfl⟩

theorem KeyConsistent.heldOf {c : Class} {mounts : List Mount} {F : List Slot} (h : KeyConsistent c mounts)
    (hmem : ∀ s ∈ F, s.mnt ∈ mounts) : KeyConsistent c (heldOf F) :=
  h.sub fun m hm => by
    obtain ⟨s, hs, e1, _⟩ := mem_heldOf.1 hm
    exact e1 ▸ hmem s hs

section
variable {env : Env} {reps : List Replica} {r : Result} {F : List Slot}

theorem heldBefore_eq (hr : r.changes = F.map fun s => (s, change env reps s)) : r.heldBefore = heldOf F := by
  unfold Result.heldBefore heldOf
  rw [hr, List.filter_map, List.map_map]
  rfl

theorem mem_heldAfter (hr : r.changes = F.map fun s => (s, change env reps s)) (m : Mount) :
    m ∈ r.heldAfter ↔
      m ∈ heldOf F ∧ ∀ s ∈ F, (change env reps s).isTrash = true → devKey m ≠ devKey s.mnt := by
  unfold Result.heldAfter Result.trashedMounts
  rw [List.mem_filter, heldBefore_eq hr, hr]
  simp only [Bool.not_eq_true', List.any_eq_false, List.mem_map, List.mem_filter, sameDevice_iff]
  exact and_congr_right' ⟨fun h2 s hs ht => h2 s.mnt ⟨_, ⟨⟨s, hs, rfl⟩, ht⟩, rfl⟩,
    fun h2 => by rintro _ ⟨_, ⟨⟨s, hs, rfl⟩, ht⟩, rfl⟩; exact h2 s hs ht⟩

end

theorem balanceBlock_heldBefore (env : Env) (classes : List Class) (sorter : Class → List Slot → List Slot)
    (mounts : List Mount) (reps : List Replica) :
    (balanceBlock env classes sorter mounts reps).heldBefore =
      heldOf (finalWant (balanceBlock env classes sorter mounts reps).final) :=
  heldBefore_eq rfl

instance (l : List Mount) : Decidable (DistinctIds l) := inferInstanceAs (Decidable (l.Pairwise _))

instance (mounts : List Mount) : Decidable (DeviceConsistent mounts) :=
  inferInstanceAs (Decidable (∀ a ∈ mounts, ∀ b ∈ mounts, _))

end ArvVerif.C05
