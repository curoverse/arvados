/-
The latch algebra of goroutines that run to completion (Model/C15_Glue.lean): a completed body leaves the
latch as it found it (`runBody_held`, `runBodies_held`), and makes its calls when the latch was free.
-/
import ArvVerif.Model.C15_Glue
import ArvVerif.Proofs.C14_L1
namespace ArvVerif.C15
open ArvVerif.C14

theorem runBody_held (l : Latch) (b : Body) (v : Uuid) :
    (runBody l b).latch.held v = l.held v := by
  unfold runBody uuidLock
  by_cases h : l.held b.uuid = true
  · simp [h]
  · simp only [h, Bool.false_eq_true, if_false, if_true]
    rw [held_uuidUnlock, held_cons]
    by_cases hv : v = b.uuid
    · subst hv
      simp only [Bool.not_eq_true] at h
      simp [h]
    · have hv' : ¬ b.uuid = v := fun e => hv e.symm
      simp [hv, hv']

theorem runBodies_held (bs : List Body) (l : Latch) (v : Uuid) : (runBodies l bs).1.held v = l.held v := by
  induction bs generalizing l with
  | nil => rfl
  | cons b rest ih =>
    show (runBodies (runBody l b).latch rest).1.held v = l.held v
    rw [ih, runBody_held]

theorem runBody_effects (l : Latch) (b : Body) (h : l.held b.uuid = false) :
    (runBody l b).effects = bodyEffects b.stateNow b.apiOk b.op b.uuid ∧ (runBody l b).wake = false := by
  unfold runBody uuidLock
  simp [h]

end ArvVerif.C15
