/-
The byte-level loops: `compareReaderWithBuf` (collision.go) gives its verdict on the whole file however the
reader cuts it into chunks; `getWithPipe` (pipe_adapters.go) hands on a prefix of what was written.
-/
import ArvVerif.Model.C01
namespace ArvVerif.C01

section
variable {δ : Type} [DecidableEq δ]

/-- Loop invariant of `compareReaderWithBuf`: `done` of `expect` has been matched, `cmp` is still expected. -/
theorem compareReaderWithBuf_spec (hash : Bytes → δ) (h : δ) (expect : Bytes) :
    ∀ (chunks : List Bytes) (done cmp : Bytes), expect = done ++ cmp →
      compareReaderWithBuf hash h expect cmp chunks =
        if chunks.flatten = cmp then .same
        else if hash (done ++ chunks.flatten) = h then .collision else .corrupt := by
  have htake : ∀ {done cmp : Bytes}, expect = done ++ cmp → expect.take (expect.length - cmp.length) = done := by
    rintro _ _ rfl
    simp
  intro chunks
  induction chunks with
  | nil =>
    intro done cmp he
    rw [compareReaderWithBuf, htake he]
    cases cmp <;> simp [collisionOrCorruptBytes]
  | cons c rest ih =>
    intro done cmp he
    by_cases hpre : c <+: cmp
    ·
      obtain ⟨t, rfl⟩ := hpre
      have hgo : ¬ (c.length > (c ++ t).length ∨ (c ++ t).take c.length ≠ c) := by simp
      rw [compareReaderWithBuf, if_neg hgo, List.drop_left, ih (done ++ c) t (by rw [he, List.append_assoc])]
      simp [List.append_assoc]
    · -- mismatch: the verdict is on the matched part, this chunk and the rest of the reader
      have hstop : c.length > cmp.length ∨ cmp.take c.length ≠ c := by
        refine Classical.or_iff_not_imp_right.mpr fun ht => ?_
        exact absurd (Decidable.not_not.mp ht ▸ List.take_prefix _ _) hpre
      have hne : ¬ c ++ rest.flatten = cmp := fun heq => hpre (heq ▸ List.prefix_append _ _)
      rw [compareReaderWithBuf, if_pos hstop, htake he, List.flatten_cons, if_neg hne, collisionOrCorruptBytes,
        List.append_assoc]
end

theorem getWithPipeBytes_fst (bufLen : Nat) (written : Bytes) (wend : PipeEnd) :
    (getWithPipeBytes bufLen written wend).1 = written.take bufLen := by
  unfold getWithPipeBytes readFull
  split
  · rfl
  · rw [List.take_of_length_le (by omega)]
    cases wend <;> rfl

end ArvVerif.C01
