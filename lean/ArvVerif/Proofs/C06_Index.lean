/-
C06(b) proofs, the readers: `KeepService.index` and `KeepClient.GetIndex` both reject every proper
prefix of a well-formed index response and accept the complete response with exactly its entries;
a read error while the body arrives is an error whatever had arrived.
-/
import ArvVerif.Model.C06_Index
import ArvVerif.Proofs.Lib_List
namespace ArvVerif.C06

instance {α : Type} [DecidableEq α] : DecidableEq (Except IdxErr α) := fun a b =>
  match a, b with
  | .ok x, .ok y => if h : x = y then isTrue (by rw [h]) else isFalse (by intro h'; cases h'; exact h rfl)
  | .error x, .error y => if h : x = y then isTrue (by rw [h]) else isFalse (by intro h'; cases h'; exact h rfl)
  | .ok _, .error _ => isFalse (by intro h; cases h)
  | .error _, .ok _ => isFalse (by intro h; cases h)

/-- What rejection of truncated responses needs from a line: not empty, no LF, does not start with CR. -/
structure LineOK (l : Line) : Prop where
  ne : l ≠ []
  noNL : 10 ∉ l
  noCRhead : l.head? ≠ some 13

theorem scanGo_append (l rest : List Byte) (hl : 10 ∉ l) (cur : Line) :
    scanGo (l ++ rest) cur = scanGo rest (l.reverse ++ cur) := by
  induction l generalizing cur with
  | nil => rfl
  | cons b l ih =>
    obtain ⟨hb, hl'⟩ : b ≠ 10 ∧ 10 ∉ l := by simpa [eq_comm] using hl
    simp only [List.cons_append, scanGo, hb, if_false, ih hl', List.reverse_cons, List.append_assoc,
      List.nil_append,
      List.cons_append]

theorem scanLines_line (l rest : List Byte) (hl : 10 ∉ l) :
    scanLines (l ++ 10 :: rest) =
      if maxTok ≤ l.length then [.tooLong] else .line (dropCR l) :: scanLines rest := by
  simp [scanLines, scanGo_append l _ hl, scanGo]

theorem scanLines_noNL (l : List Byte) (hl : 10 ∉ l) :
    scanLines l = if l = [] then [] else if maxTok ≤ l.length then [.tooLong] else [.line (dropCR l)] := by
  have := scanGo_append l [] hl []
  simp only [List.append_nil] at this
  simp [scanLines, this, scanGo]

theorem dropCR_ne_nil {l : Line} (hne : l ≠ []) (hh : l.head? ≠ some 13) : dropCR l ≠ [] := by
  unfold dropCR
  split
  · rename_i hlast
    intro hd
    cases l with
    | nil => exact hne rfl
    | cons a t =>
      cases t with
      | nil => simp at hlast; simp [hlast] at hh
      | cons b t' => simp [List.dropLast] at hd
  · exact hne

theorem render_cons (l : Line) (ls : List Line) : render (l :: ls) = l ++ 10 :: render ls := by
  simp [render, List.flatMap_cons, List.append_assoc]

theorem render_nil : render [] = [10] := rfl

theorem render_append (a b : List Line) :
    render (a ++ b) = a.flatMap (fun l => l ++ [10]) ++ render b := by
  simp [render, List.flatMap_append, List.append_assoc]

theorem prefix_append_cons {α : Type} {P l R : List α} {a : α} (h : P <+: l ++ a :: R) :
    P <+: l ∨ ∃ P', P = l ++ a :: P' ∧ P' <+: R := by
  obtain ⟨t, ht⟩ := h
  rcases Lib.append_eq_append_cons ht with ⟨P', hP, hR⟩ | ⟨l', hl, _⟩
  · exact .inr ⟨P', hP, t, hR.symm⟩
  · exact .inl ⟨l', hl.symm⟩

theorem no_blank_in_line {l P : Line} (hl : LineOK l) (hP : P <+: l) : Tok.line [] ∉ scanLines P := by
  obtain ⟨t, rfl⟩ := hP
  rw [scanLines_noNL P fun h => hl.noNL (by simp [h])]
  split
  · simp
  · rename_i hne
    split
    · simp
    · obtain ⟨p, P', rfl⟩ := List.exists_cons_of_ne_nil hne
      simp only [List.mem_singleton, Tok.line.injEq]
      exact fun h => dropCR_ne_nil hne (by simpa using hl.noCRhead) h.symm

theorem no_blank_in_prefix (ls : List Line) (hok : ∀ l ∈ ls, LineOK l) (P) (hp : P <+: render ls)
    (hne : P ≠ render ls) : Tok.line [] ∉ scanLines P := by
  induction ls generalizing P with
  | nil =>
    rcases List.prefix_cons_iff.1 (render_nil ▸ hp) with rfl | ⟨P', rfl, hP'⟩
    · simp [scanLines, scanGo]
    · exact absurd (by rw [List.prefix_nil.1 hP', render_nil]) hne
  | cons l ls ih =>
    obtain ⟨hl, hls⟩ := List.forall_mem_cons.1 hok
    rw [render_cons] at hp hne
    rcases prefix_append_cons hp with hpl | ⟨P', rfl, hP'⟩
    · exact no_blank_in_line hl hpl
    · rw [scanLines_line l P' hl.noNL]
      split
      · simp
      · simp only [List.mem_cons, Tok.line.injEq, not_or]
        exact ⟨fun h => dropCR_ne_nil hl.ne hl.noCRhead h.symm, ih hls P' hP' fun heq => hne (heq ▸ rfl)⟩

theorem ksLoop_ok_blank (toks saw acc es) : ksLoop toks saw acc = .ok es →
    saw = true ∨ Tok.line [] ∈ toks := by
  fun_induction ksLoop toks saw acc
  case case1 => exact fun _ => .inl rfl
  case case5 => exact fun _ => .inr List.mem_cons_self
  case case6 ih => exact fun h => (ih h).elim nofun fun h' => .inr (List.mem_cons_of_mem _ h')
  all_goals exact nofun

theorem ksIndex_rejects_prefix (ls : List Line) (hok : ∀ l ∈ ls, LineOK l) (P : List Byte)
    (hp : P <+: render ls) (hne : P ≠ render ls) : ∃ e, ksIndex P = .error e := by
  cases h : ksIndex P with
  | error e => exact ⟨e, rfl⟩
  | ok es =>
    unfold ksIndex at h
    rcases ksLoop_ok_blank _ _ _ _ h with h' | h'
    · cases h'
    · exact absurd h' (no_blank_in_prefix ls hok P hp hne)

/-- What acceptance of the complete response needs in addition: no trailing CR (it would be
dropped), shorter than the scanner's token limit, and `parseLine` yields the entry. -/
structure GoodLine (l : Line) (e : Entry) : Prop where
  ok : LineOK l
  noCRlast : l.getLast? ≠ some 13
  short : l.length < maxTok
  parses : parseLine l = .ok e

inductive AllGood : List Line → List Entry → Prop
  | nil : AllGood [] []
  | cons {l e ls es} : GoodLine l e → AllGood ls es → AllGood (l :: ls) (e :: es)

theorem AllGood.lineOK {ls : List Line} {es : List Entry} (h : AllGood ls es) : ∀ l ∈ ls, LineOK l := by
  induction h with
  | nil => nofun
  | cons hg _ ih => exact List.forall_mem_cons.2 ⟨hg.ok, ih⟩

theorem dropCR_id {l : Line} (h : l.getLast? ≠ some 13) : dropCR l = l := by
  unfold dropCR
  split
  · rename_i h'; exact absurd h' h
  · rfl

theorem scanLines_render (ls : List Line) (es : List Entry) (h : AllGood ls es) :
    scanLines (render ls) = ls.map Tok.line ++ [Tok.line []] := by
  induction h with
  | nil => simp [render, scanLines, scanGo, maxTok, dropCR]
  | @cons l e ls es hg _ ih =>
    rw [render_cons, scanLines_line l _ hg.ok.noNL, if_neg (Nat.not_le.2 hg.short), dropCR_id hg.noCRlast, ih]
    rfl

theorem ksLoop_accepts (ls : List Line) (es : List Entry) (h : AllGood ls es) (acc) :
    ksLoop (ls.map Tok.line ++ [Tok.line []]) false acc = .ok (acc.reverse ++ es) := by
  induction h generalizing acc with
  | nil => simp [ksLoop]
  | @cons l e ls es hg _ ih =>
    simp only [List.map_cons, List.cons_append, ksLoop, Bool.false_eq_true, if_false, hg.ok.ne, hg.parses]
    rw [ih (e :: acc)]
    simp

theorem ksIndex_accepts (ls : List Line) (es : List Entry) (h : AllGood ls es) :
    ksIndex (render ls) = .ok es := by
  unfold ksIndex
  rw [scanLines_render ls es h, ksLoop_accepts ls es h []]
  simp

theorem render_head {ls : List Line} (hok : ∀ l ∈ ls, LineOK l) {t : List Byte} (h : render ls = 10 :: t) :
    t = [] := by
  cases ls with
  | nil => exact (List.cons.inj h).2.symm
  | cons l ls =>
    have hl := hok l (by simp)
    rw [render_cons] at h
    cases l with
    | nil => exact absurd rfl hl.ne
    | cons a l => exact absurd (by simp [(List.cons.inj h).1]) hl.noNL

theorem blank_only_at_end (ls : List Line) (hok : ∀ l ∈ ls, LineOK l) (pre t)
    (h : render ls = pre ++ 10 :: 10 :: t) : t = [] := by
  induction ls generalizing pre with
  | nil =>
    have := congrArg List.length h
    simp [render] at this
    omega
  | cons l ls ih =>
    obtain ⟨hl, hls⟩ := List.forall_mem_cons.1 hok
    rw [render_cons] at h
    rcases List.append_eq_append_iff.mp h with ⟨a', ha', ha2⟩ | ⟨c', hc', hc2⟩
    · -- pre = l ++ a', 10 :: render ls = a' ++ 10 :: 10 :: t
      cases a' with
      | nil => exact render_head hls (List.cons.inj ha2).2
      | cons x a'' => exact ih hls a'' (List.cons.inj ha2).2
    · -- l = pre ++ c', 10 :: 10 :: t = c' ++ 10 :: render ls
      cases c' with
      | nil => exact render_head hls (List.cons.inj hc2).2.symm
      | cons x c'' => exact absurd (by rw [hc']; simp [← (List.cons.inj hc2).1]) hl.noNL

theorem getIndex_rejects_prefix (ls : List Line) (hok : ∀ l ∈ ls, LineOK l) (P : List Byte)
    (hp : P <+: render ls) (hne : P ≠ render ls) : getIndex P = .error .incomplete := by
  obtain ⟨t, ht⟩ := hp
  have htne : t ≠ [] := fun h => hne (by simpa [h] using ht)
  unfold getIndex
  rw [if_neg]
  rintro (rfl | hb)
  · exact htne (render_head hok ht.symm)
  · obtain ⟨pre, rfl⟩ := List.isSuffixOf_iff_suffix.mp hb
    exact htne (blank_only_at_end ls hok pre t (by simpa using ht.symm))

theorem readers_reject_prefix (ls : List Line) (hok : ∀ l ∈ ls, LineOK l) (P : List Byte)
    (hp : P <+: render ls) (hne : P ≠ render ls) :
    (∃ e, ksIndex P = .error e) ∧ getIndex P = .error .incomplete :=
  ⟨ksIndex_rejects_prefix ls hok P hp hne, getIndex_rejects_prefix ls hok P hp hne⟩

theorem blank_suffix (l : Line) (ls : List Line) : [10, 10] <:+ render (l :: ls) := by
  induction ls generalizing l with
  | nil => exact ⟨l, by simp [render]⟩
  | cons l2 ls ih => exact (ih l2).trans ⟨l ++ [10], by simp [render_cons]⟩

theorem getIndex_accepts (ls : List Line) :
    getIndex (render ls) = .ok (ls.flatMap (fun l => l ++ [10])) := by
  unfold getIndex
  rw [if_pos, render, List.dropLast_concat]
  cases ls with
  | nil => exact .inl rfl
  | cons l ls => exact .inr (List.isSuffixOf_iff_suffix.2 (blank_suffix l ls))

theorem ksLoopAbort_error (toks saw acc) : ∃ e, ksLoopAbort toks saw acc = .error e := by
  fun_induction ksLoopAbort toks saw acc
  case case4 ih => exact ih
  case case5 ih => exact ih
  all_goals exact ⟨_, rfl⟩

end ArvVerif.C06
