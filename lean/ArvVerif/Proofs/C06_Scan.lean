/-
C06(a) proofs about the executable scan (`scan` / `pageLoop` / `finalCheck`): completeness for every
environment function, error propagation, and termination — the loop makes at most K + 3·|db| + 3
page requests if the table is constant from request K on (the measure `mu` of C06_Progress).
-/
import ArvVerif.Proofs.C06_Serve
import ArvVerif.Proofs.C06_Progress
namespace ArvVerif.C06

theorem finalCheck_st (env fail k s) : (finalCheck env fail k s).st = pushLog s (.reqCheck s.ftime) := by
  unfold finalCheck
  simp only
  split
  · rfl
  · split <;> rfl

theorem finalCheck_out (env fail k s) : (finalCheck env fail k s).out ≠ .outOfFuel := by
  unfold finalCheck
  simp only
  split
  · simp
  · split <;> simp

theorem pageLoop_complete {P : List Nat} {limit : Nat} {env : Nat → List Coll} (fail : Nat → Bool)
    (cbFail : Option Nat) (hl : 0 < limit)
    (hnd : ∀ k, ((env k).map Coll.uuid).Nodup)
    (henv : ∀ k, Env P (env k) (env (k + 1))) (fuel k s) :
    Reach P (env k) s → (pageLoop limit env fail cbFail fuel k s).out = .ok →
      ∀ u ∈ P, u ∈ (pageLoop limit env fail cbFail fuel k s).st.seen := by
  fun_induction pageLoop limit env fail cbFail fuel k s
  case case3 k s s1 _ s' hnx =>
    intro r _
    rw [finalCheck_st]
    exact paging_complete (s' := s') (.log _ r) (serve_pageOf _ _ _ hl (hnd k)) hnx
  case case6 k s s1 _ s' hnx ih =>
    exact fun r => ih (.env (.page (.log _ r) (serve_pageOf _ _ _ hl (hnd k)) hnx) (henv k))
  all_goals exact fun _ h => nomatch h

theorem scan_complete {P : List Nat} {limit : Nat} {env : Nat → List Coll} (fail : Nat → Bool)
    (cbFail : Option Nat) (fuel : Nat) (hl : 0 < limit)
    (hnd : ∀ k, ((env k).map Coll.uuid).Nodup)
    (hstart : ∀ u ∈ P, ∃ c ∈ env 0, c.uuid = u)
    (henv : ∀ k, Env P (env k) (env (k + 1)))
    (hok : (scan limit env fail cbFail fuel).out = .ok) :
    ∀ u ∈ P, u ∈ (scan limit env fail cbFail fuel).st.seen := by
  cases hf : fail 0 with
  | true => simp [scan, hf] at hok
  | false =>
    simp only [scan, hf, Bool.false_eq_true, ↓reduceIte] at hok ⊢
    exact pageLoop_complete fail cbFail hl hnd henv fuel 1 _ (.log _ (.env (.start _ hstart) (henv 0))) hok

theorem finalCheck_ok {env fail k s} (h : (finalCheck env fail k s).out = .ok) :
    fail k = false ∧ (finalCheck env fail k s).nreq = k + 1 ∧
      ¬ (s.seen.length < countLE (env k) s.ftime) := by
  unfold finalCheck at h ⊢
  simp only at h ⊢
  split at h
  · cases h
  · rename_i hf
    split at h
    · cases h
    · rename_i hc
      simp only [hf, hc]
      simp [pushLog] at hc ⊢
      omega

theorem pageLoop_ok {limit env fail cbFail} (fuel k s) :
    (pageLoop limit env fail cbFail fuel k s).out = .ok →
      k < (pageLoop limit env fail cbFail fuel k s).nreq ∧
      (∀ j, k ≤ j → j < (pageLoop limit env fail cbFail fuel k s).nreq → fail j = false) ∧
      (∀ n, cbFail = some n → (pageLoop limit env fail cbFail fuel k s).st.seen.length ≤ n) := by
  fun_induction pageLoop limit env fail cbFail fuel k s
  case case3 k s s1 hf s' hnx =>
    intro h
    obtain ⟨h1, h2, -⟩ := finalCheck_ok h
    obtain ⟨hadv, hcb⟩ := next_advance hnx nofun
    obtain ⟨-, -, rfl⟩ := advance_done hadv
    rw [h2, finalCheck_st]
    refine ⟨by omega, fun j hj1 hj2 => ?_, hcb⟩
    obtain rfl | rfl : j = k ∨ j = k + 1 := by omega
    · simpa using hf
    · exact h1
  case case6 k s s1 hf s' hnx ih =>
    intro h
    obtain ⟨i1, i2, i3⟩ := ih h
    refine ⟨by omega, fun j hj1 hj2 => ?_, i3⟩
    by_cases hjk : j = k
    · subst hjk; simpa using hf
    · exact i2 j (by omega) hj2
  all_goals exact fun h => nomatch h

theorem scan_ok {limit env fail cbFail fuel} (h : (scan limit env fail cbFail fuel).out = .ok) :
    (∀ j, j < (scan limit env fail cbFail fuel).nreq → fail j = false) ∧
    (∀ n, cbFail = some n → (scan limit env fail cbFail fuel).st.seen.length ≤ n) := by
  cases hf : fail 0 with
  | true => simp [scan, hf] at h
  | false =>
    simp only [scan, hf, Bool.false_eq_true, ↓reduceIte] at h ⊢
    obtain ⟨_, i2, i3⟩ := pageLoop_ok fuel 1 _ h
    exact ⟨fun j hj => if hj0 : j = 0 then hj0 ▸ hf else i2 j (by omega) hj, i3⟩

/-- Fuel needed from request `k` on, if the table is constant (= `db`) from request `K` on. -/
def fuelNeeded (K : Nat) (db : List Coll) (k : Nat) (s : St) : Nat :=
  if K ≤ k then mu db s else (K - k) + (3 * db.length + 3)

/-- Termination needs of the invariant only its cursor and mode part: it is run with the empty
persistent set, `Inv []`, which any change of the table preserves (`Env []` holds of any two tables). -/
theorem pageLoop_terminates {limit : Nat} {env : Nat → List Coll} {fail : Nat → Bool}
    {cbFail : Option Nat} {db : List Coll} {K : Nat} (hl : 0 < limit)
    (hnd : ∀ k, ((env k).map Coll.uuid).Nodup) (hconst : ∀ j, K ≤ j → env j = db) (fuel k s) :
    Inv [] (env k) s → fuelNeeded K db k s < fuel →
      (pageLoop limit env fail cbFail fuel k s).out ≠ .outOfFuel := by
  fun_induction pageLoop limit env fail cbFail fuel k s
  case case1 => exact fun _ h => absurd h (Nat.not_lt_zero _)
  case case3 => exact fun _ _ => finalCheck_out _ _ _ _
  case case6 fuel k s s1 _ s' hnx ih =>
    intro hinv hfuel
    have hinv1 : Inv [] (env k) s1 := inv_pushLog hinv _
    have hp : PageOf (env k) s1.filt limit (serve (env k) s1.filt limit) := serve_pageOf _ _ _ hl (hnd k)
    apply ih (inv_env (step_cont hinv1 hp hnx) ⟨nofun, nofun⟩)
    unfold fuelNeeded at hfuel ⊢
    by_cases hK : K ≤ k
    · have hK1 : K ≤ k + 1 := by omega
      simp only [hK, hK1, if_true] at hfuel ⊢
      rw [hconst k hK] at hinv1 hp hnx
      have := mu_decreases hinv1 hp hnx
      have hmu : mu db s1 = mu db s := rfl
      omega
    · have := mu_le db s'
      split <;> simp only [hK, if_false] at hfuel <;> omega
  all_goals exact fun _ _ => nofun

theorem scan_terminates {limit : Nat} {env : Nat → List Coll} {fail : Nat → Bool}
    {cbFail : Option Nat} {db : List Coll} {K fuel : Nat} (hl : 0 < limit)
    (hnd : ∀ k, ((env k).map Coll.uuid).Nodup) (hconst : ∀ j, K ≤ j → env j = db)
    (hfuel : K + fuelBound db ≤ fuel) :
    (scan limit env fail cbFail fuel).out ≠ .outOfFuel := by
  unfold scan
  simp only
  split
  · simp
  · apply pageLoop_terminates hl hnd hconst fuel 1 _ (inv_pushLog (inv_init [] _) _)
    unfold fuelNeeded fuelBound at *
    have := mu_le db (pushLog init .reqCount0)
    split <;> omega

end ArvVerif.C06
