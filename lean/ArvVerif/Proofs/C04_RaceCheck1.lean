/- C04 interleaving layer: kernel evaluation of the table check for the 36 configurations with
Serialize = false, BlobTrashLifetime == 0 = true. -/
import ArvVerif.Proofs.C04_RaceCheck
namespace ArvVerif.C04.Race

theorem checkGroup1 : (cfgGroup false true).all checkAll = true := by decide +kernel

end ArvVerif.C04.Race
