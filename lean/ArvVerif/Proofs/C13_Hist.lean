/-
C13: every atomic step of the concurrent model refines the corresponding step
of the sequential specification; histories.
-/
import ArvVerif.Proofs.C13_Complete
import ArvVerif.Proofs.C13_Write
import ArvVerif.Proofs.C13_Flush
import ArvVerif.Proofs.C13_Plain
import ArvVerif.Proofs.C13_Save
namespace ArvVerif.C13
open ArvVerif.C08

variable {max : Nat} {hash : Bytes → Loc}

/-- Output of the concurrent model vs. output of the specification: equal; or the concurrent model
answered `Out.failed` (the specification has no failures; the relation does not say when — that only a
save with `fail = true` fails is `save_spec`); or a completion event, whose only output is whether such
a background write existed. -/
inductive OutRef : Out → Out → Prop
  | same (o : Out) : OutRef o o
  | failed (sp : Out) : OutRef Out.failed sp
  | done (b : Bool) : OutRef (Out.done b) (Out.done true)

theorem OutRef.of_eq {a b : Out} (h : a = b) : OutRef a b := h ▸ OutRef.same a

inductive OutsRef : List Out → List Out → Prop
  | nil : OutsRef [] []
  | cons {a b : Out} {as bs : List Out} : OutRef a b → OutsRef as bs → OutsRef (a :: as) (b :: bs)

/-- events whose results are determined by the plain model (everything except the single-call
`read`, whose contract is C08_read_step_refines) -/
def Ev.det : Ev → Bool
  | Ev.fg _ op => Op.det op
  | _ => true

theorem event_refines (hinj : Function.Injective hash) (hmax : 1 ≤ max) {s : St} (hinv : Inv13 max hash s) (e : Ev)
    (hdet : e.det = true) :
    OutRef (evStep hash max s e).2 (specStep (absFS s.fs) e).2 ∧
    absFS (evStep hash max s e).1.fs = (specStep (absFS s.fs) e).1 ∧
    Inv13 max hash (evStep hash max s e).1 := by
  cases e with
  | fg w op =>
    have hd : Op.det op = true := hdet
    cases op
    case write h data =>
      obtain ⟨h1, h2, h3⟩ := doWrite_ref hinj hmax hinv h data
      exact ⟨OutRef.of_eq (congrArg Out.res h1), h2, h3⟩
    case read => cases hd
    case hsync | flush | sync => exact ⟨OutRef.same _, rfl, hinv⟩
    all_goals
      obtain ⟨h1, h2, h3⟩ := C08_step_refines hinj hmax hinv.base _ hd
      simp only [evStep, specStep, Op.plain, Bool.true_or, if_true]
      exact ⟨OutRef.of_eq (congrArg Out.res h1), h2, h3, plain_step_marks hinv _ rfl⟩
  | flush w path short =>
    obtain ⟨h1, h2, h3⟩ := doFlushAsync_spec hinj hinv path short
    exact ⟨OutRef.of_eq (congrArg Out.res h3), h2, h1⟩
  | complete g ok =>
    obtain ⟨h1, h2⟩ := complete_spec hinv g ok
    exact ⟨OutRef.done _, h2, h1⟩
  | save w mask fail =>
    obtain ⟨h1, h2, h3⟩ := save_spec hinj hinv w mask fail
    refine ⟨?_, h2, h1⟩
    rcases h3 with h | ⟨h, _⟩
    · rw [h]; exact OutRef.same _
    · rw [h]; exact OutRef.failed _

theorem history_refines (hinj : Function.Injective hash) (hmax : 1 ≤ max) :
    ∀ (evs : List Ev) (s : St), Inv13 max hash s → (∀ e ∈ evs, e.det = true) →
      OutsRef (run13 hash max s evs).2 (runSpec (absFS s.fs) evs).2 ∧
      absFS (run13 hash max s evs).1.fs = (runSpec (absFS s.fs) evs).1 ∧
      Inv13 max hash (run13 hash max s evs).1 := by
  intro evs
  induction evs with
  | nil => intro s hinv _; exact ⟨OutsRef.nil, rfl, hinv⟩
  | cons e rest ih =>
    intro s hinv hdet
    obtain ⟨hd, hdet'⟩ := List.forall_mem_cons.mp hdet
    obtain ⟨h1, h2, h3⟩ := event_refines hinj hmax hinv e hd
    obtain ⟨i1, i2, i3⟩ := ih _ h3 hdet'
    simp only [run13, runSpec]
    rw [← h2]
    exact ⟨OutsRef.cons h1 i1, i2, i3⟩

end ArvVerif.C13
