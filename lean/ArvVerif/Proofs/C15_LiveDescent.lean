/-
How each step of the C15 liveness system moves the variant: every fair action, every fault and
`quotaShutdown` strictly decrease it; `lockQ`/`unlockQ` (only at quota) leave it unchanged; `idle`
changes nothing.
-/
import ArvVerif.Proofs.C15_LiveVariant
import ArvVerif.Proofs.C15_Wf
namespace ArvVerif.C15
open ArvVerif.C14 (Uuid IType)

/-- a comparison of ranks that holds by computation; unlike `decide` it accepts a goal that mentions
variables (on which the ranks do not depend) -/
theorem lt_of_ble {a b : Nat} (h : Nat.ble (a + 1) b = true) : a < b := Nat.le_of_ble_eq_true h

theorem job_of_setJob (p : IPh) (j j' : Job) (h : p.job = some j) : (p.setJob (some j')).job = some j' := by
  cases p <;> simp_all [IPh.job, IPh.setJob]

theorem bad_setJob (i : Inst) (j : Option Job) : ({ i with ph := i.ph.setJob j } : Inst).bad = i.bad := by
  unfold Inst.bad
  cases i.ph <;> rfl

theorem irank_setJob_some (i : Inst) (j j' : Job) (h : i.ph.job = some j) :
    ({ i with ph := i.ph.setJob (some j') } : Inst).irank = i.irank := by
  unfold Inst.irank
  cases hp : i.ph <;> simp_all [IPh.job, IPh.setJob]

theorem crank_of_job (i : Inst) (j : Job) (h : i.ph.job = some j) : i.crank = jrank i.bad j.ph := by
  unfold Inst.crank; rw [h]

theorem crank_setJob (i : Inst) (j j' : Job) (h : i.ph.job = some j) :
    ({ i with ph := i.ph.setJob (some j') } : Inst).crank = jrank i.bad j'.ph := by
  rw [crank_of_job _ _ (job_of_setJob i.ph j _ h), bad_setJob]

/-- a job moves to a phase of lower rank on the same instance -/
theorem lt_job {s : LState} {ipre ipost : List Inst} {i : Inst} {j : Job} (ph' : JPh)
    (h1 : s.insts = ipre ++ i :: ipost) (h2 : i.ph.job = some j) (h : jrank i.bad ph' < jrank i.bad j.ph) :
    (mu { s with insts := ipre ++ { i with ph := i.ph.setJob (some { j with ph := ph' }) } :: ipost }).lt (mu s) := by
  have e1 := crank_of_job i j h2
  have e2 : _ = jrank i.bad ph' := crank_setJob i j { j with ph := ph' } h2
  exact lt_move h1 s.ctrs e1 e2 (by omega)

/- Where the numbers of `crank`, `jrank`, `irank` (Model/C15_Live.lean) come from: every fair step has to lower the
sum of the container and job ranks, or keep it, not raise `deficit`, and lower the instance rank.
* Containers and jobs: deadL 9 > exitedL 8 > queued 7 > locked 6 > starting 5 > runL 4 > runR 3 > done 0 (`noticeDead`,
  `requeue`, `lock`, `start`, `exec`, `apiRun`, `complete`) and deadR 2 > lostR 1 > fin 0 (`noticeDead`, `cancel`);
  lockedStale 8 resolves to queued or locked. At quota Locked counts 7 like Queued: `lockQ`/`unlockQ` may go back and
  forth there, so they must not move the variant.
* A job on a bad instance (broken, or being destroyed) comes back through `released` as Locked (7 at quota) or lostR
  (1), so it ranks 8 while starting/runL/deadL and 2 while runR/deadR. Only a fault gives a job a bad instance
  (`brokenTimeout` finds it broken already, the other shutdowns need an instance without a job), and a fault pays with
  the budget: the bad ranks need not lie below the good ones.
* Instances: creating 7 > booting 6 = unknown 6 > up (some _) 5 > up none 4 > shutF 3 > shutP 2 > gone 0; `createDone`,
  `boot`/`probeUnknown`, `jobGone`, the shutdowns, `destroyRetry`, `destroyOk` each go down in this order.
In each case below the instance (and its phase, where the guard gives it) is taken apart first: the ranks of the
concrete phases then compute, and are written out as numbers. -/
theorem step_fair {s t : LState} {k : Kind} (h : Step s (.fair k) t) : (mu t).lt (mu s) := by
  cases h with
  | lock pre post c h1 h2 h3 h4 => exact lt_ctr h1 (by rw [h2, h4]; exact lt_of_ble rfl)
  | start pre post c ipre ipost i h1 h2 h3 h4 h5 h6 h7 =>
    obtain ⟨ty, hl, ph⟩ := i
    cases h5
    cases h6
    refine lt_move h4 _ (n := 0) (n' := 5) rfl rfl ?_
    rw [h1, sumBy_append, sumBy_append, sumBy_cons, h2]
    have : 6 ≤ crank s.atQuota .locked := by cases s.atQuota <;> decide
    omega
  | create t h1 h2 h3 h4 =>
    refine Mu.lt_of_d (by rfl) (by rfl) (by rfl) ?_ ?_
    · exact congrArg (_ + ·) (sumBy_append Inst.crank s.insts [⟨t, .ok, .creating⟩])
    · rw [mu_d s h2 h1, mu_d { s with insts := s.insts ++ [⟨t, .ok, .creating⟩] } h2 h1]
      exact deficit_create _ _ _ _ h3 h4
  | requeue pre post c h1 h2 | cancel pre post c h1 h2 => exact lt_ctr h1 (by rw [h2]; exact lt_of_ble rfl)
  | staleResolve pre post c unlocked h1 h2 h3 =>
    exact lt_ctr h1 (by rw [h2]; cases unlocked <;> cases s.atQuota <;> exact lt_of_ble rfl)
  | recoveryDone h1 h2 =>
    refine .inr ⟨rfl, .inr ⟨rfl, .inl ?_⟩⟩
    show (if false = true then 1 else 0) < (if s.recovering = true then 1 else 0)
    rw [h1]; decide
  | boot ipre ipost i h1 h2 | createDone ipre ipost i h1 h2 =>
    obtain ⟨ty, hl, ph⟩ := i
    cases h2
    exact lt_inst h1 (Nat.le_refl 0) (fun _ h => h) (lt_of_ble rfl)
  | probeUnknown ipre ipost i j h1 h2 h3 =>
    obtain ⟨ty, hl, ph⟩ := i
    cases h2
    -- the job and its rank stay as they are
    refine lt_inst h1 (Nat.le_refl (Inst.crank ⟨ty, hl, .unknown j⟩)) ?_ ?_
    · cases j
      · exact fun _ h => h
      · intro t; simp [Inst.unallocOk, Inst.unallocReal]
    · cases j <;> exact lt_of_ble rfl
  | noticeDead ipre ipost i j h1 h2 h3 h4 =>
    obtain ⟨ty, hl, ph⟩ := i
    cases h2
    have hb : Inst.bad ⟨ty, hl, .up (some j)⟩ = false := by simpa [Inst.bad] using h3
    have hn : Inst.crank ⟨ty, hl, .up (some j)⟩ = jrank false j.ph := by unfold Inst.crank; rw [hb]; rfl
    refine lt_release h1 _ hn (n' := 0) rfl ?_
    rcases h4 with h4 | h4 <;> rw [h4] <;> cases s.atQuota <;> exact lt_of_ble rfl
  | jobGone ipre ipost i j gaveUp h1 h2 h3 h4 =>
    obtain ⟨ty, hl, ph⟩ := i
    cases h2
    exact lt_inst h1 (Nat.zero_le _) (fun t => by simp [Inst.unallocOk, Inst.unallocReal]) (by decide : 4 < 5)
  | idleTimeout ipre ipost i h1 h2 h3 h4 =>
    obtain ⟨ty, hl, ph⟩ := i
    cases h2
    refine lt_inst' h1 (Nat.le_refl 0) (fun _ hr => ?_) (by decide : 2 < 4)
    rcases h4 with h4 | h4
    · rw [h4] at hr; cases hr
    · refine deficit_inst_le _ _ _ _ _ _ fun t => ?_
      by_cases e : ty = t
      · exact .inl (e ▸ h4)
      · exact .inr fun h => by simp [Inst.unallocOk, Inst.unallocReal, e] at h
  | drainShutdown ipre ipost i h1 h2 h3 =>
    obtain ⟨ty, hl, ph⟩ := i
    cases h3
    refine lt_inst h1 (Nat.zero_le _) (fun t => by simp [Inst.unallocOk, Inst.unallocReal]) ?_
    rcases h2 with h2 | h2 <;> cases h2 <;> exact lt_of_ble rfl
  | brokenTimeout ipre ipost i j h1 h2 h3 =>
    obtain ⟨ty, hl, ph⟩ := i
    cases h3
    rcases h2 with ⟨h2, rfl⟩ | h2 | h2 <;> cases h2
    -- the job stays, and a broken instance is as bad as one being destroyed
    all_goals refine lt_inst h1 (Nat.le_refl _) (fun t => by simp [Inst.unallocOk]) ?_
    · exact lt_of_ble rfl
    · exact lt_of_ble rfl
    · cases j <;> exact lt_of_ble rfl
  | destroyRetry ipre ipost i j h1 h2 =>
    obtain ⟨ty, hl, ph⟩ := i
    cases h2
    exact lt_inst h1 (Nat.le_refl (Inst.crank ⟨ty, hl, .shutF j⟩))
      (fun t => by simp [Inst.unallocOk, Inst.unallocReal]) (by decide : 2 < 3)
  | quotaExpire h1 =>
    refine .inr ⟨rfl, .inl ?_⟩
    show (if false = true then 1 else 0) < (if s.atQuota = true then 1 else 0)
    rw [h1]; decide
  | exec ipre ipost i j h1 h2 h3 h4 =>
    have hj : i.ph.job = some j := by rcases h2 with h2 | h2 <;> rw [h2] <;> rfl
    have hb : i.bad = false := by rcases h2 with h2 | h2 <;> simp [Inst.bad, h2, h3]
    exact lt_job .runL h1 hj (by rw [hb, h4]; exact lt_of_ble rfl)
  | apiRun ipre ipost i j h1 h2 h4 =>
    exact lt_job .runR h1 h2 (by rw [h4]; cases i.bad <;> exact lt_of_ble rfl)
  | complete ipre ipost i j h1 h2 h4 =>
    refine lt_release h1 _ (crank_of_job i j h2) (crank_setJob i j _ h2) ?_
    rw [h4]; cases i.bad <;> exact lt_of_ble rfl
  | destroyOk ipre ipost i j h1 h2 =>
    obtain ⟨ty, hl, ph⟩ := i
    cases h2
    have hb : Inst.bad ⟨ty, hl, .shutP j⟩ = true := by simp [Inst.bad]
    -- nothing is handed back: the instance rank goes down
    have easy : released ty j = [] →
        (mu { s with insts := ipre ++ ⟨ty, hl, .gone⟩ :: ipost, ctrs := s.ctrs ++ released ty j }).lt (mu s) := by
      intro hrel
      rw [hrel, List.append_nil]
      exact lt_inst h1 (Nat.zero_le _) (fun t => by simp [Inst.unallocOk, Inst.unallocReal]) (by decide : 0 < 2)
    cases j with
    | none => exact easy rfl
    | some j =>
      obtain ⟨u, jp⟩ := j
      have hn : Inst.crank ⟨ty, hl, .shutP (some ⟨u, jp⟩)⟩ = jrank true jp := by unfold Inst.crank; rw [hb]; rfl
      cases jp
      case done => exact easy rfl
      all_goals exact lt_release h1 _ hn (n' := 0) rfl (by cases s.atQuota <;> exact lt_of_ble rfl)

theorem step_fault {s t : LState} (h : Step s .fault t) : (mu t).lt (mu s) := by
  -- every fault takes one unit of the budget
  cases h <;> exact Or.inl (Nat.sub_one_lt (Nat.ne_of_gt (by assumption)))

/-- Every step lowers the variant, or leaves it as it is: at quota (`lockQ`, `unlockQ`, which stay at
quota), or by changing nothing (`idle`). -/
theorem step_mu {s t : LState} {a : Act} (h : Step s a t) :
    (mu t).lt (mu s) ∨ (mu t = mu s ∧ ((s.atQuota = true ∧ t.atQuota = true) ∨ t = s)) := by
  cases a with
  | fair k => exact .inl (step_fair h)
  | fault => exact .inl (step_fault h)
  | quotaShutdown =>
    cases h with
    | quotaShutdown ipre ipost i h1 h2 h3 =>
      refine .inl (lt_inst' h1 (Nat.zero_le _) (fun hq => ?_) ?_)
      · rw [h3] at hq; cases hq
      · rcases h2 with h2 | h2 <;> simp [Inst.irank, h2]
  | lockQ | unlockQ =>
    cases h
    rename_i pre post c h1 h2 _ h4
    exact .inr ⟨eq_ctr_q h1 h4 (by simp [h2, crank]), .inl ⟨h4, h4⟩⟩
  | idle => cases h; exact .inr ⟨rfl, .inr rfl⟩

theorem step_le {s t : LState} {a : Act} (h : Step s a t) : (mu t).le (mu s) :=
  (step_mu h).elim Or.inr (fun e => Or.inl e.1)

theorem step_stutter {s t : LState} {a : Act} (h : Step s a t) (he : mu t = mu s) :
    (s.atQuota = true ∧ t.atQuota = true) ∨ t = s :=
  (step_mu h).elim (fun hlt => absurd (he ▸ hlt) (Mu.lt_irrefl _)) (·.2)

def Act.kind? : Act → Option Kind
  | .fair k => some k
  | _ => none

theorem step_kind {s t : LState} {a : Act} {k : Kind} (h : Step s a t) (hk : a.kind? = some k) : (mu t).lt (mu s) := by
  cases a <;> cases hk
  exact step_fair h

end ArvVerif.C15
