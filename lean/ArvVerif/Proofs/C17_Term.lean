/-
C17 — termination of the scan: with enough fuel the walk never runs out of it, for every host tree
and every configuration. The measure: (symlink budget `n`, depth left below the physical position,
entries left in the current directory), lexicographic, written as one natural number (`need`).
`walkMountsBelow` hands its caller's budget (capped at one follow) to the mounts below, so re-entering
the output directory from a collection mounted above it costs a follow like any other jump.
-/
import ArvVerif.Proofs.C17_Walk
namespace ArvVerif.C17

variable (h : Host) (cfg : Cfg)

def physDepth (src : Path) : Nat :=
  match namei h [] (hostPath cfg src) 0 with
  | .found p _ => p.length
  | _ => depthBound h

/-- fuel that suffices for a host call with budget `n` at physical depth `D - r` -/
def needHost (n r : Nat) : Nat := n * cL h cfg + (r + 1) * cS h + cB cfg

/-- Fuel that suffices for a call (`walk_ne_fuel`). Every nested call costs one unit, so each clause is
more than the need of every call made from it. With `D = depthBound h`, `cS = h.length + 2` (a directory
has at most `h.length` entries), `cB = mounts.length + 2` (a loop over the mounts below):
 * `.host` with budget `n` at physical depth `D - r`: `needHost n r = n·cL + (r+1)·cS + cB` — `cB` for the
   loop over the mounts below that comes first, one `cS` for the loop over the entries, whose calls are one
   level deeper (`r - 1`). A link leads to `.mount … (n-1) true` at any depth, and `cL` is chosen so that
   `needHost (n+1) r = big n + (r+1)·cS`.
 * `.mount … true` (the start, or a followed link): `big n = needHost n D + cB + 2`, enough for a host call
   at any depth and for the loop over the mounts below.
 * `.mount … false` (a call from that loop): 1, unless `src` lies in the output directory's own mount (for a
   mount point: is the output directory itself); then the host walk starts again.
 * `.below src`: one unit per mount left, plus room for that re-entry exactly when `src` lies strictly above
   the output path — only then is the output directory among the mounts below; its budget is `min n 1`. -/
def need : Call → Nat
  | .mount _ src n below =>
    if below = true then big h cfg n
    else if (srcMount cfg src).map (·.1) = some cfg.ctrOut then needHost h cfg n (depthBound h) + 1
    else 1
  | .below _ src n ms =>
    if ProperPrefix src cfg.ctrOut then ms.length + 3 + needHost h cfg (min n 1) (depthBound h)
    else ms.length + 2
  | .host _ src n _ => needHost h cfg n (depthBound h - physDepth h cfg src)
  | .children _ src n names =>
    names.length + 1 + (n * cL h cfg + (depthBound h - physDepth h cfg src) * cS h + cB cfg)

/-- what the caller of each call guarantees -/
def Inv : Call → Prop
  | .mount .. => True
  | .below _ _ _ ms => ∀ e ∈ ms, e ∈ cfg.mounts
  | .host _ src _ _ => cfg.ctrOut.isPrefixOf src = true
  | .children _ src _ names =>
    cfg.ctrOut.isPrefixOf src = true ∧
    ∃ p, namei h [] (hostPath cfg src) 0 = .found p .dir ∧
      ∀ c ∈ names, CleanName c ∧ ∃ n, h.get (p ++ [c]) = some n

theorem bind_ne_fuel {α β : Type} (r : Res α) (f : α → Res β) (h1 : r ≠ .fuel)
    (h2 : ∀ a, f a ≠ .fuel) : r.bind f ≠ .fuel := by
  cases r with
  | ok a => exact h2 a
  | err e => nofun
  | unmodelled => nofun
  | fuel => exact absurd rfl h1

theorem needHost_ge (n r : Nat) : cB cfg + 2 ≤ needHost h cfg n r := by
  unfold needHost
  have : 1 * cS h ≤ (r + 1) * cS h := Nat.mul_le_mul_right _ (by omega)
  simp only [cS] at this ⊢
  omega

theorem needHost_mono {n n' r r' : Nat} (hn : n ≤ n') (hr : r ≤ r') :
    needHost h cfg n r ≤ needHost h cfg n' r' := by
  unfold needHost
  have : n * cL h cfg ≤ n' * cL h cfg := Nat.mul_le_mul_right _ hn
  have : (r + 1) * cS h ≤ (r' + 1) * cS h := Nat.mul_le_mul_right _ (by omega)
  omega

theorem need_below_cons (dest src : Path) (n : Nat) (e : Path × Mount) (ms : List (Path × Mount)) :
    need h cfg (.below dest src n (e :: ms)) = need h cfg (.below dest src n ms) + 1 := by
  simp only [need, List.length_cons]; split <;> omega

theorem need_pos (c : Call) : 1 ≤ need h cfg c := by
  cases c with
  | mount dest src n below =>
    simp only [need]
    split
    · simp [big]
    · split <;> omega
  | below dest src n ms => simp only [need]; split <;> omega
  | host dest src n inc =>
    have := needHost_ge h cfg n (depthBound h - physDepth h cfg src)
    simp only [need]; omega
  | children dest src n names => simp only [need]; omega

theorem physDepth_child {src p : Path} {c : Name} {n : Node}
    (hp : cfg.ctrOut.isPrefixOf src = true)
    (hd : namei h [] (hostPath cfg src) 0 = .found p .dir) (hc : CleanName c)
    (hg : h.get (p ++ [c]) = some n) :
    physDepth h cfg (src ++ [c]) = p.length + 1 := by
  unfold physDepth
  rw [namei_child hp hd hc hg]; simp

theorem walk_ne_fuel (wf : HostWF h) (fuel : Nat) (c : Call) (st : Plan) :
    Inv h cfg c → need h cfg c ≤ fuel → walk h cfg fuel c st ≠ .fuel := by
  -- the mounts below a `walkMount` position, visited or not
  have hcont : ∀ {fuel dest src n} {below : Bool} {st' : Plan},
      (∀ st, Inv h cfg (.below dest src n cfg.mounts) → need h cfg (.below dest src n cfg.mounts) ≤ fuel →
        walk h cfg fuel (.below dest src n cfg.mounts) st ≠ .fuel) →
      need h cfg (.mount dest src n below) ≤ fuel + 1 →
      (if below = true then walk h cfg fuel (.below dest src n cfg.mounts) st' else .ok st') ≠ .fuel := by
    intro fuel dest src n below st' ih hn
    split
    · rename_i hb
      refine ih _ (fun e he => he) ?_
      simp only [need, hb, if_true, big] at hn
      have h1 := needHost_mono h cfg (Nat.min_le_left n 1) (Nat.le_refl (depthBound h))
      simp only [need]
      unfold needHost at h1 ⊢
      simp only [cB] at hn h1 ⊢
      split <;> omega
    · nofun
  -- the cases of `walk`: 1 no fuel; `.mount`: 2 under a secret mount, 3 in no mount, 4 excluded mount,
  -- 5 the output directory's `tmp` mount (goes on as `.host`), 6 another `tmp` mount, 7 neither `tmp` nor
  -- collection, 8 collection not available, 9 read-only collection, 10 writable collection; `.below`: 11 no
  -- mount left, 12 mount visited, 13 mount passed over; 14 `.host`; `.children`: 15 no name left, 16 secret
  -- mount, 17 mount point, 18 entry walked
  fun_induction walk h cfg fuel c st with
  | case1 c st => intro _ hn; have := need_pos h cfg c; omega
  | case2 | case3 | case6 | case7 | case8 | case10 | case11 | case15 => intros; nofun
  | case4 _ _ _ _ _ _ _ _ _ _ _ _ _ ih | case9 _ _ _ _ _ _ _ _ _ _ _ _ _ _ _ _ _ _ ih =>
    exact fun _ hn => hcont ih hn
  | case5 fuel dest src n below st best _ m _ _ hsm _ ih =>
    intro _ hn
    obtain ⟨_, hpre, _⟩ := srcMount_mem cfg src _ hsm
    refine ih hpre ?_
    have h1 := needHost_mono h cfg (Nat.le_refl n) (Nat.sub_le (depthBound h) (physDepth h cfg src))
    have hsm' : srcMount cfg src = some (cfg.ctrOut, m) := hsm
    simp only [need, hsm', Option.map_some, if_true] at hn ⊢
    split at hn
    · simp only [big] at hn; unfold needHost at h1 ⊢; omega
    · omega
  | case12 fuel dest src n mnt m ms st hc ih1 ih2 =>
    intro (hsub : ∀ e ∈ (mnt, m) :: ms, e ∈ cfg.mounts) hn
    have hrest : ∀ st', walk h cfg fuel (.below dest src n ms) st' ≠ .fuel := fun st' =>
      ih2 st' (fun e he => hsub e (List.mem_cons_of_mem _ he)) (by rw [need_below_cons] at hn; omega)
    refine bind_ne_fuel _ _ (ih1 trivial ?_) hrest
    obtain ⟨m', hself⟩ := srcMount_self cfg (mnt, m) (hsub _ (List.mem_cons_self ..))
      (by show 0 < mnt.length; omega)
    have hself' : srcMount cfg mnt = some (mnt, m') := hself
    simp only [need, hself', Option.map_some, Option.some.injEq, Bool.false_eq_true, if_false,
      List.length_cons, belowMaxSymlinks, Nat.zero_add] at hn ⊢
    by_cases hpp : ProperPrefix src cfg.ctrOut
    · simp only [hpp, if_true] at hn
      split <;> omega
    · simp only [hpp, if_false] at hn
      have hne : mnt ≠ cfg.ctrOut := fun heq => hpp (heq ▸ ⟨hc.1, hc.2.1⟩)
      simp only [hne, if_false]
      omega
  | case13 fuel dest src n mnt m ms st _ ih =>
    intro (hsub : ∀ e ∈ (mnt, m) :: ms, e ∈ cfg.mounts) hn
    exact ih (fun e he => hsub e (List.mem_cons_of_mem _ he)) (by rw [need_below_cons] at hn; omega)
  | case14 fuel dest src n inc st ih3 ih2 ih1 =>
    intro (hpre : cfg.ctrOut.isPrefixOf src = true) hn
    refine bind_ne_fuel _ _ ?_ fun st' => ?_
    · split
      · refine ih3 (fun e he => he) ?_
        have := needHost_ge h cfg n (depthBound h - physDepth h cfg src)
        simp only [need, not_properPrefix_of_prefix _ _ hpre, if_false, cB] at hn this ⊢; omega
      · nofun
    · cases hst : namei h [] (cfg.hostOut ++ src.drop cfg.ctrOut.length) 0 with
      | enoent | enotdir | eloop => simp
      | found p node =>
        have hpd : physDepth h cfg src = p.length := by unfold physDepth hostPath; rw [hst]
        cases node with
        | special | file c => simp
        | link abs t =>
          simp only
          split
          · nofun
          · refine ih2 st' abs t trivial ?_
            simp only [need, if_true, big]
            simp only [need, needHost] at hn
            obtain ⟨k, rfl⟩ : ∃ k, n = k + 1 := ⟨n - 1, by omega⟩
            have h1 : (k + 1) * cL h cfg = k * cL h cfg + cL h cfg := Nat.succ_mul k (cL h cfg)
            have h2 : 1 * cS h ≤ (depthBound h - physDepth h cfg src + 1) * cS h :=
              Nat.mul_le_mul_right _ (by omega)
            simp only [Nat.add_sub_cancel]
            have h3 : cL h cfg = (depthBound h + 1) * cS h + cB cfg + 2 := rfl
            have h4 : 2 ≤ cS h := by simp [cS]
            omega
        | dir =>
          simp only
          split
          · nofun
          · refine ih1 st' p ⟨hpre, p, hst, children_spec h wf p⟩ ?_
            simp only [need, needHost, length_sortNames, hpd] at hn ⊢
            have hk := length_children h p
            have hlen : p.length ≤ depthBound h := get_len (namei_root hst)
            have h1 : (depthBound h - p.length + 1) * cS h = (depthBound h - p.length) * cS h + cS h :=
              Nat.succ_mul _ _
            simp only [cS] at h1 hn ⊢
            omega
  | case16 fuel dest src n name names st _ _ ih | case17 fuel dest src n name names st _ _ _ ih =>
    intro ⟨hpre, p, hd, hall⟩ hn
    refine ih ⟨hpre, p, hd, fun c hc => hall c (List.mem_cons_of_mem _ hc)⟩ ?_
    simp only [need, List.length_cons] at hn ⊢; omega
  | case18 fuel dest src n name names st src' _ _ ih2 ih1 =>
    intro ⟨hpre, p, hd, hall⟩ hn
    rw [show src' = src ++ [name] from rfl] at ih2
    refine bind_ne_fuel _ _ (ih2 (isPrefixOf_append_right _ _ _ hpre) ?_) fun a =>
      ih1 a ⟨hpre, p, hd, fun c hc => hall c (List.mem_cons_of_mem _ hc)⟩ (by
        simp only [need, List.length_cons] at hn ⊢; omega)
    obtain ⟨hcl, nd, hg⟩ := hall name (List.mem_cons_self ..)
    have hpc := physDepth_child h cfg hpre hd hcl hg
    have hle : p.length + 1 ≤ depthBound h := by simpa using get_len hg
    have hpd : physDepth h cfg src = p.length := by unfold physDepth; rw [hd]
    simp only [need, needHost, List.length_cons, hpd, hpc] at hn ⊢
    have : depthBound h - (p.length + 1) + 1 = depthBound h - p.length := by omega
    rw [this]
    omega

theorem scan_ne_fuel (wf : HostWF h)
    (fuel : Nat) (hf : fuelBound h cfg ≤ fuel) : scan h cfg fuel ≠ .fuel :=
  walk_ne_fuel h cfg wf fuel _ _ trivial (by simp only [need, if_true]; exact hf)

theorem bind_ne_unmodelled {α β : Type} (r : Res α) (f : α → Res β) (h1 : r ≠ .unmodelled)
    (h2 : ∀ a, f a ≠ .unmodelled) : r.bind f ≠ .unmodelled := by
  cases r with
  | ok a => exact h2 a
  | err e => nofun
  | unmodelled => exact absurd rfl h1
  | fuel => nofun

theorem walk_ne_unmodelled (hs : runnable cfg = true) (fuel : Nat) (c : Call) (st : Plan) :
    walk h cfg fuel c st ≠ .unmodelled := by
  have hcont : ∀ {fuel dest src n} {below : Bool} {st' : Plan},
      walk h cfg fuel (.below dest src n cfg.mounts) st' ≠ .unmodelled →
      (if below = true then walk h cfg fuel (.below dest src n cfg.mounts) st' else .ok st') ≠ .unmodelled := by
    intro fuel dest src n below st' ih
    split
    · exact ih
    · nofun
  -- cases numbered as in `walk_ne_fuel`; 6 and 10 are the two that return `.unmodelled`
  fun_induction walk h cfg fuel c st with
  | case1 | case2 | case3 | case7 | case8 | case11 | case15 => nofun
  | case4 _ _ _ _ _ _ _ _ _ _ _ _ _ ih | case9 _ _ _ _ _ _ _ _ _ _ _ _ _ _ _ _ _ _ ih => exact hcont (ih _)
  | case5 _ _ _ _ _ _ _ _ _ _ _ _ _ ih => exact ih
  | case6 _ _ src _ _ _ _ _ root m hsm _ hk hr =>
    exact absurd (((runnable_iff cfg).mp hs (root, m) (srcMount_mem cfg src _ hsm).1).1 hk) hr
  | case10 _ _ src _ _ _ _ _ root m hsm _ _ hk hw =>
    exact absurd ⟨by simpa using hk, by simpa using hw⟩
      ((runnable_iff cfg).mp hs (root, m) (srcMount_mem cfg src _ hsm).1).2
  | case12 _ _ _ _ _ _ _ _ _ ih1 ih2 => exact bind_ne_unmodelled _ _ ih1 ih2
  | case13 _ _ _ _ _ _ _ _ _ ih | case16 _ _ _ _ _ _ _ _ _ ih | case17 _ _ _ _ _ _ _ _ _ _ ih => exact ih
  | case14 _ _ _ _ _ _ ih3 ih2 ih1 =>
    refine bind_ne_unmodelled _ _ (hcont ih3) fun st' => ?_
    split
    · split
      · nofun
      · exact ih2 _ _ _
    · split
      · nofun
      · exact ih1 _ _
    all_goals nofun
  | case18 _ _ _ _ _ _ _ _ _ _ ih2 ih1 => exact bind_ne_unmodelled _ _ ih2 ih1

end ArvVerif.C17
