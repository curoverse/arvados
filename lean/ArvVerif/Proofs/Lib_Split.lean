/-
The models of C10, C18 and C19 each write out `strings.Split` / `strings.Join` for a one-element
separator over their own character type. These are the library's `List.splitOn sep` and
`[sep].intercalate`: a property proves that once for its functions and takes the theory from
`Init.Data.List.SplitOn.Lemmas`. Here is what several properties need and that theory lacks.
-/
namespace ArvVerif.Lib

variable {α : Type} {sep : α}

theorem not_mem_of_mem_splitOn [BEq α] [LawfulBEq α] (s : List α) : ∀ t ∈ s.splitOn sep, sep ∉ t := by
  induction s with
  | nil => simp
  | cons x xs ih =>
    obtain ⟨q, qs, hq⟩ := List.exists_cons_of_ne_nil (List.splitOn_ne_nil sep xs)
    rw [hq, List.forall_mem_cons] at ih
    rw [List.splitOn_cons_eq_if_modifyHead, hq]
    split
    · simpa using ih
    · next hx => simpa [Ne.symm (by simpa using hx)] using ih

theorem not_mem_intercalate {c : α} {ts : List (List α)} (hc : c ≠ sep) (h : ∀ t ∈ ts, c ∉ t) :
    c ∉ [sep].intercalate ts := by
  induction ts with
  | nil => simp
  | cons t ts ih =>
    rw [List.forall_mem_cons] at h
    cases ts with
    | nil => simpa using h.1
    | cons u us => simp [h.1, hc, ih h.2]

end ArvVerif.Lib
