/-
C08: one loop iteration of filenode.Write = `overwrite ∘ restructure` meets `StepOK`.
-/
import ArvVerif.Proofs.C08_WriteRestructure
import ArvVerif.Proofs.C08_Key
namespace ArvVerif.C08

variable {max : Nat} {hash : Bytes → Loc} {st : Store}

/-- Inside the file no zero-filling takes place. -/
theorem specWrite_of_le (f : Bytes) (off : Nat) (p : Bytes) (h : off ≤ f.length) :
    specWrite f off p = f.take off ++ p ++ f.drop (off + p.length) := by
  unfold specWrite
  rw [show off - f.length = 0 by omega, zeros_zero, List.append_nil]

/-- Writing `c` at offset `|X|` into `X ++ M ++ Y`, where `M` is as long as `c` (overwrite) or the
file ends at `X` (append). -/
theorem specWrite_mid (X M Y c : Bytes) (h : M.length = c.length ∨ (M = [] ∧ Y = [])) :
    specWrite (X ++ M ++ Y) X.length c = X ++ c ++ Y := by
  rw [specWrite_of_le _ _ _ (by simp), List.append_assoc X, List.take_left' rfl]
  congr 1
  rcases h with h | ⟨rfl, rfl⟩
  · rw [← h, List.drop_length_add_append, List.drop_left' rfl]
  · simp

theorem specWrite_specWrite (f : Bytes) (off : Nat) (a b : Bytes) (h : off ≤ f.length) :
    specWrite (specWrite f off a) (off + a.length) b = specWrite f off (a ++ b) := by
  have hl : (f.take off ++ a).length = off + a.length := by simp; omega
  have e : (f.take off ++ a ++ f.drop (off + a.length)).drop (off + a.length + b.length)
      = f.drop (off + (a ++ b).length) := by
    rw [← hl, List.drop_length_add_append, List.drop_drop, hl, List.length_append, Nat.add_assoc]
  rw [specWrite_of_le f off a h, specWrite_of_le f off (a ++ b) h,
    specWrite_of_le _ _ _ (by rw [List.length_append, hl]; omega), List.take_left' hl, e]
  simp

theorem specWrite_nil (f : Bytes) (off : Nat) (h : off ≤ f.length) : specWrite f off [] = f := by
  rw [specWrite_of_le f off [] h]
  simp

theorem specWrite_pad (f : Bytes) (off : Nat) (p : Bytes) (h : f.length ≤ off) :
    specWrite (f ++ zeros (off - f.length)) off p = specWrite f off p := by
  unfold specWrite
  have hl : (f ++ zeros (off - f.length)).length = off := by simp; omega
  rw [hl, Nat.sub_self]
  simp only [zeros_zero, List.append_nil]
  rw [List.drop_of_length_le (by omega), List.drop_of_length_le (by omega)]

structure StepOK (max : Nat) (hash : Bytes → Loc) (w : WState) (p : Bytes) (w' : WState) (k : Nat) : Prop where
  k_pos : 0 < k
  k_le : k ≤ p.length
  ext : StoreExt w.st w'.st
  ok : StoreOK hash w'.st
  wf : WF max hash w'.st w'.fn
  pos : WPos w'.fn w'.ptr
  off : w'.ptr.off = w.ptr.off + k
  abs_eq : abs w'.st w'.fn = specWrite (abs w.st w.fn) w.ptr.off (p.take k)
  rep_ge : w.fn.repacked ≤ w'.fn.repacked
  rep_same : w'.fn.repacked = w.fn.repacked → SameLens w'.fn.segs w.fn.segs ∧ w'.fn.size = w.fn.size

/-- `WriteAt` after `restructure`: the buffer under the pointer takes `cando`. Whatever is then made
of the list under `PruneOK` (nothing, `pruneSegs`, the pruning of C09 over a Keep that can fail), the
record an iteration assembles from it meets `StepOK`. -/
theorem RestrOK.written {fn : FileNode} {ptr : Ptr} {p : Bytes} {r : Restr}
    (hpos : WPos fn ptr) (hr : RestrOK max hash st fn ptr p r) :
    ∃ buf fl nb, r.segs[r.idx]? = some (Seg.mem buf fl) ∧
      memWriteAt buf r.cando r.off = some (Seg.mem nb Flush.none) ∧
      (∀ s ∈ r.segs.set r.idx (Seg.mem nb Flush.none), SegWF max hash st s) ∧
      ∀ pr : List Seg × Store, PruneOK max hash st (r.segs.set r.idx (Seg.mem nb Flush.none)) pr →
        StepOK max hash ⟨fn, ptr, st⟩ p
          ⟨{ segs := pr.1, size := r.size, repacked := fn.repacked + (if r.bump then 1 else 0) },
           { off := ptr.off + r.cando.length,
             segIdx := if (Seg.mem nb Flush.none).len = r.off + r.cando.length then r.idx + 1 else r.idx,
             segOff := if (Seg.mem nb Flush.none).len = r.off + r.cando.length then 0 else r.off + r.cando.length,
             repacked := ptr.repacked + (if r.bump then 1 else 0) }, pr.2⟩ r.cando.length := by
  obtain ⟨pre, buf, fl, post, M, hsegs, hidx, hroom, habs, hM, hoff⟩ := hr.shape
  have hk := hr.k_pos
  have hwf := hr.wf
  simp only [hsegs, List.forall_mem_append, List.forall_mem_cons] at hwf
  obtain ⟨hprewf, hbufwf, hpostwf⟩ := hwf
  obtain ⟨nb, hnb⟩ : ∃ nb, nb = buf.take r.off ++ r.cando ++ buf.drop (r.off + r.cando.length) := ⟨_, rfl⟩
  have hnblen : nb.length = buf.length := by
    rw [hnb]; simp only [List.length_append, List.length_take, List.length_drop]; omega
  obtain ⟨segs1, hsegs1⟩ : ∃ l, l = pre ++ Seg.mem nb Flush.none :: post := ⟨_, rfl⟩
  have hset : r.segs.set r.idx (Seg.mem nb Flush.none) = segs1 := by
    rw [hsegs, hidx, hsegs1]; exact set_mid ..
  have hwf1 : ∀ s ∈ segs1, SegWF max hash st s := by
    simp only [hsegs1, List.forall_mem_append, List.forall_mem_cons]
    exact ⟨hprewf, ⟨by rw [hnblen]; exact hbufwf.1, by rw [hnblen]; exact hbufwf.2.1, nofun⟩, hpostwf⟩
  refine ⟨buf, fl, nb, by rw [hsegs, hidx]; exact get_mid .., by unfold memWriteAt; rw [if_neg (by omega), hnb],
    hset ▸ hwf1, ?_⟩
  rw [hset, Seg.len_mem]
  have hlens : SameLens segs1 r.segs := by
    rw [hsegs, hsegs1]; unfold SameLens; simp [hnblen]
  have habs1 : absSegs st segs1 = specWrite (abs st fn) ptr.off r.cando := by
    have hX : (absSegs st pre ++ buf.take r.off).length = ptr.off := by
      simp only [List.length_append, List.length_take]; omega
    rw [habs, ← hX, specWrite_mid _ _ _ _ hM, hsegs1, hnb]
    simp
  have hpos1 : Pos segs1 (ptr.off + r.cando.length)
      (if nb.length = r.off + r.cando.length then r.idx + 1 else r.idx)
      (if nb.length = r.off + r.cando.length then 0 else r.off + r.cando.length) := by
    have hpl : (absSegs st pre).length = sumLen pre := absSegs_length hprewf
    have hmid : segs1[pre.length]? = some (Seg.mem nb Flush.none) := by rw [hsegs1]; exact get_mid ..
    have htake : segs1.take pre.length = pre := by rw [hsegs1]; exact List.take_left
    by_cases hend : nb.length = r.off + r.cando.length
    · rw [if_pos hend, if_pos hend, hidx]
      have := Pos.next (fun s hs => (hwf1 s hs).len_pos) hmid
      rwa [htake, show sumLen pre + (Seg.mem nb Flush.none).len = ptr.off + r.cando.length by
        rw [Seg.len_mem]; omega] at this
    · rw [if_neg hend, if_neg hend, hidx]
      exact Or.inr ⟨_, hmid, by rw [Seg.len_mem]; omega, by rw [htake]; omega⟩
  rintro pr ⟨h1, h2, h3, h4, h5⟩
  refine ⟨hk, ?_, h1, h2, ⟨?_, h4⟩, ⟨?_, h3.symm.pos hpos1⟩, rfl, ?_, ?_, ?_⟩
  · have := congrArg List.length hr.pfx; simp at this; omega
  · dsimp only; rw [hr.size, h3.sumLen, hlens.sumLen]
  · dsimp only; rw [hpos.1]
  · show absSegs _ _ = _; rw [h5, habs1, ← hr.pfx]
  · dsimp only; split <;> omega
  · intro hrep
    have hb : r.bump = false := by
      cases hbv : r.bump with
      | false => rfl
      | true => simp only [hbv, if_true] at hrep; omega
    obtain ⟨e1, e2⟩ := hr.nobump hb
    exact ⟨by dsimp only; rw [← e1]; exact h3.trans hlens, e2⟩

theorem overwrite_spec (hinj : Function.Injective hash) {fn : FileNode} {ptr : Ptr} {p : Bytes} {r : Restr}
    (hok : StoreOK hash st) (hpos : WPos fn ptr) (hr : RestrOK max hash st fn ptr p r) :
    ∃ w', overwrite hash max ⟨fn, ptr, st⟩ r = some (w', r.cando.length) ∧
      StepOK max hash ⟨fn, ptr, st⟩ p w' r.cando.length := by
  obtain ⟨buf, fl, nb, hget, hwa, hwf1, hstep⟩ := hr.written hpos
  unfold overwrite
  simp only [hget, hwa]
  refine ⟨_, rfl, hstep _ ?_⟩
  split
  · exact pruneSegs_ok hinj _ _ _ hok hwf1
  · exact PruneOK.refl hok hwf1

theorem step_spec (hinj : Function.Injective hash) (hmax : 1 ≤ max) {w : WState} {p : Bytes} (hp : p ≠ [])
    (hok : StoreOK hash w.st) (hwf : WF max hash w.st w.fn) (hpos : WPos w.fn w.ptr) :
    ∃ w' k, writeStep hash max w p = some (w', k) ∧ StepOK max hash w p w' k := by
  obtain ⟨r, hr, hrok⟩ := restructure_spec (p := p) hmax hp hwf hpos
  obtain ⟨w', h1, h2⟩ := overwrite_spec hinj hok hpos hrok
  refine ⟨w', r.cando.length, ?_, h2⟩
  unfold writeStep
  rw [hr]
  exact h1

end ArvVerif.C08
