/-
C09 — proofs about the goroutine protocol of a synchronous flush (Model/C09_Conc.lean): the contextGroup's
bookkeeping (first error wins, who may be skipped, what `Wait` returns).
-/
import ArvVerif.Proofs.C09_Conc
namespace ArvVerif.C09.Conc

open ArvVerif.C09 (Outcome)

structure EInv (s : CS) : Prop where
  errSome : ∀ (i : Nat), s.cgErr = some i → s.cancelled = true ∧ ∃ (o : Outcome) (c : Bool), s.pcs[i]? = some (PC.finished o c) ∧ o ≠ Outcome.ok
  errNone : s.cgErr = none → ∀ (j : Nat) (o : Outcome) (c : Bool), s.pcs[j]? = some (PC.finished o c) → o = Outcome.ok
  /-- `c = true`: a task that skips its write never made a `done` channel -/
  skipC : ∀ (j : Nat) (c : Bool), (s.pcs[j]? = some (PC.returned Outcome.skip c) ∨ s.pcs[j]? = some (PC.finished Outcome.skip c)) →
    c = true ∧ s.cancelled = true
  /-- `Go` drops a func only when an error was already recorded -/
  dropC : ∀ (j : Nat), s.pcs[j]? = some PC.dropped → s.cgErr.isSome = true
  why : s.cancelled = true → s.ext = true ∨ ∃ (j : Nat) (c : Bool), s.pcs[j]? = some (PC.finished Outcome.fail c)
  extC : s.ext = true → s.cancelled = true

/-- what `EInv` says of a single task `p`, given `cg.err` and whether the context is cancelled -/
structure TaskOK (e : Option Nat) (can : Bool) (p : PC) : Prop where
  fin : ∀ o c, p = PC.finished o c → e = none → o = Outcome.ok
  skipR : ∀ c, p = PC.returned Outcome.skip c → c = true ∧ can = true
  skipF : ∀ c, p = PC.finished Outcome.skip c → c = true ∧ can = true
  drop : p = PC.dropped → e.isSome = true

theorem EInv.task {s : CS} (hs : EInv s) {j : Nat} {p : PC} (hp : s.pcs[j]? = some p) : TaskOK s.cgErr s.cancelled p :=
  ⟨fun o c e hn => hs.errNone hn j o c (e ▸ hp), fun c e => hs.skipC j c (.inl (e ▸ hp)),
   fun c e => hs.skipC j c (.inr (e ▸ hp)), fun e => hs.dropC j (e ▸ hp)⟩

theorem EInv.of_tasks {s : CS}
    (errSome : ∀ (i : Nat), s.cgErr = some i → s.cancelled = true ∧ ∃ (o : Outcome) (c : Bool), s.pcs[i]? = some (PC.finished o c) ∧ o ≠ Outcome.ok)
    (tasks : ∀ (j : Nat) (p : PC), s.pcs[j]? = some p → TaskOK s.cgErr s.cancelled p)
    (why : s.cancelled = true → s.ext = true ∨ ∃ (j : Nat) (c : Bool), s.pcs[j]? = some (PC.finished Outcome.fail c))
    (extC : s.ext = true → s.cancelled = true) : EInv s :=
  ⟨errSome, fun hn j o c hj => (tasks j _ hj).fin o c rfl hn,
   fun j c hj => hj.elim (fun h => (tasks j _ h).skipR c rfl) (fun h => (tasks j _ h).skipF c rfl),
   fun j hj => (tasks j _ hj).drop rfl, why, extC⟩

theorem TaskOK.mono {e e' : Option Nat} {can can' : Bool} {p : PC} (t : TaskOK e can p)
    (he : e' = e ∨ e'.isSome = true) (hc : can = true → can' = true) : TaskOK e' can' p := by
  refine ⟨fun o c h hn => ?_, fun c h => ⟨(t.skipR c h).1, hc (t.skipR c h).2⟩,
    fun c h => ⟨(t.skipF c h).1, hc (t.skipF c h).2⟩, fun h => ?_⟩
  · rcases he with rfl | he
    · exact t.fin o c h hn
    · rw [hn] at he; cases he
  · rcases he with rfl | he
    · exact t.drop h
    · exact he

theorem EInv.init (n bg : Nat) (script : List Bool) (dflt : Bool) : EInv (init n bg script dflt) :=
  .of_tasks nofun
    (fun j p h => by cases (List.mem_replicate.mp (List.mem_of_getElem? h)).2; exact ⟨nofun, nofun, nofun, nofun⟩) nofun nofun

theorem einv_set {s u : CS} {i : Nat} {p q : PC} (hs : EInv s) (hp : s.pcs[i]? = some p)
    (hpcs : u.pcs = s.pcs.set i q) (he : u.cgErr = s.cgErr) (hc : u.cancelled = s.cancelled) (hx : u.ext = s.ext)
    (c1 : ∀ o c, p = PC.finished o c → ∃ c', q = PC.finished o c')
    (c2 : ∀ o c, q = PC.finished o c → s.cgErr = none → o = Outcome.ok)
    (c3 : ∀ c, (q = PC.returned Outcome.skip c ∨ q = PC.finished Outcome.skip c) → c = true ∧ s.cancelled = true)
    (c4 : q = PC.dropped → s.cgErr.isSome = true) : EInv u := by
  have stays : ∀ {j : Nat} {o c}, s.pcs[j]? = some (PC.finished o c) → ∃ c', u.pcs[j]? = some (PC.finished o c') := by
    intro j o c hj
    rw [hpcs, getElem?_set' hp]
    split
    · next e =>
      rw [e, hp] at hj
      obtain ⟨c', hq⟩ := c1 o c (Option.some.inj hj)
      exact ⟨c', by rw [hq]⟩
    · exact ⟨c, hj⟩
  rw [← he] at c2 c4
  rw [← hc] at c3
  refine .of_tasks ?_ ?_ ?_ (by rw [hx, hc]; exact hs.extC)
  · intro k hk
    obtain ⟨h1, o, c, h2, h3⟩ := hs.errSome k (he ▸ hk)
    obtain ⟨c', h2'⟩ := stays h2
    exact ⟨hc ▸ h1, o, c', h2', h3⟩
  · intro j y hj
    rw [hpcs, getElem?_set' hp] at hj
    split at hj
    · cases hj; exact ⟨c2, fun c e => c3 c (.inl e), fun c e => c3 c (.inr e), c4⟩
    · rw [he, hc]; exact hs.task hj
  · intro hcu
    rw [hx]
    refine (hs.why (hc ▸ hcu)).imp_right fun ⟨j, c, hj⟩ => ?_
    obtain ⟨c', hj'⟩ := stays hj
    exact ⟨j, c', hj'⟩

theorem Move.taskOK {cap : Nat} {s : CS} {p x : PC} (hm : Move cap s p x false) (hp : TaskOK s.cgErr s.cancelled p) :
    TaskOK s.cgErr s.cancelled x := by
  cases hm with
  | spawn =>
    split
    · next h => exact ⟨nofun, nofun, nofun, fun _ => h⟩
    · exact ⟨nofun, nofun, nofun, nofun⟩
  | check =>
    split
    · next h => exact ⟨nofun, fun c e => by cases e; exact ⟨rfl, h⟩, nofun, nofun⟩
    · exact ⟨nofun, nofun, nofun, nofun⟩
  | acquire _ | putb | release _ => exact ⟨nofun, nofun, nofun, nofun⟩
  | ret b => cases b <;> exact ⟨nofun, nofun, nofun, nofun⟩
  | closeR o =>
    exact ⟨nofun, fun c e => by cases e; exact ⟨rfl, (hp.skipR false rfl).2⟩, nofun, nofun⟩
  | closeF o =>
    exact ⟨fun o' c e => by cases e; exact hp.fin o false rfl, nofun,
      fun c e => by cases e; exact ⟨rfl, (hp.skipF false rfl).2⟩, nofun⟩
  | finish o c hcond =>
    refine ⟨fun o' c' e hn => ?_, nofun, fun c' e => by cases e; exact hp.skipR _ rfl, nofun⟩
    cases e
    cases o with
    | ok => rfl
    | _ => exact absurd ⟨nofun, hn⟩ hcond

theorem step_einv {cap : Nat} {s u : CS} {a : Act} (hs : EInv s) (h : step cap s a = some u) : EInv u := by
  rcases step_cases h with ⟨i, p, x, r, hp, hm, hpcs, _, hx, _, he, hc⟩ | ⟨_, rfl⟩ | ⟨_, rfl⟩
  · cases r with
    | false =>
      have t := hm.taskOK (hs.task hp)
      -- a finished task only closes its `done` channel
      exact einv_set hs hp hpcs he (by simpa using hc) hx (fun o c e => by subst e; cases hm; exact ⟨true, rfl⟩) t.fin
        (fun c e => e.elim (t.skipR c) (t.skipF c)) t.drop
    | true =>
      cases hm with
      | finishErr o c ho hn =>
        simp only [if_true] at he
        simp only [Bool.true_or] at hc
        have hget : ∀ j, u.pcs[j]? = if j = i then some (PC.finished o c) else s.pcs[j]? := by
          intro j; rw [hpcs]; exact getElem?_set' hp _ j
        refine .of_tasks ?_ ?_ ?_ fun _ => hc
        · intro k hk
          rw [he] at hk; cases hk
          exact ⟨hc, o, c, by rw [hget]; simp, ho⟩
        · intro j y hj
          rw [hget] at hj
          rw [he, hc]
          split at hj
          · cases hj
            exact ⟨nofun, nofun, fun c' e => by cases e; exact ⟨(hs.skipC i _ (Or.inl hp)).1, rfl⟩, nofun⟩
          · exact (hs.task hj).mono (.inr rfl) fun _ => rfl
        · intro _
          rw [hx]
          cases o with
          | ok => exact absurd rfl ho
          | fail => exact Or.inr ⟨i, c, by rw [hget]; simp⟩
          | skip =>
            refine (hs.why (hs.skipC i c (Or.inl hp)).2).imp_right fun ⟨j, c', hj⟩ => ⟨j, c', ?_⟩
            rw [hget, if_neg]
            · exact hj
            · intro e; rw [e, hp] at hj; cases hj
  · exact ⟨hs.errSome, hs.errNone, hs.skipC, hs.dropC, hs.why, hs.extC⟩
  · exact .of_tasks (fun k hk => ⟨rfl, (hs.errSome k hk).2⟩) (fun j p hj => (hs.task hj).mono (.inl rfl) fun _ => rfl)
      (fun _ => Or.inl rfl) fun _ => rfl

theorem reach_einv {cap : Nat} {s u : CS} (hs : EInv s) (h : Reach cap s u) : EInv u :=
  h.invariant step_einv hs

theorem step_cgErr {cap : Nat} {s u : CS} {a : Act} {i : Nat} (h : step cap s a = some u) (he : s.cgErr = some i) :
    u.cgErr = some i := by
  rcases step_cases h with ⟨j, p, x, r, ht⟩ | ⟨_, rfl⟩ | ⟨_, rfl⟩
  · rw [ht.cgErr]
    cases ht.move with
    | finishErr o c _ hn => rw [hn] at he; cases he
    | _ => exact he
  · exact he
  · exact he

theorem reach_cgErr {cap : Nat} {s u : CS} {i : Nat} (h : Reach cap s u) (he : s.cgErr = some i) : u.cgErr = some i :=
  h.invariant (fun ih hst => step_cgErr hst ih) he

theorem wait_some {s : CS} {r : WaitRes} (h : wait s = some r) :
    s.pcs.all PC.done = true ∧ (r = WaitRes.nil ↔ s.cgErr = none ∧ s.cancelled = false) := by
  unfold wait at h
  split at h
  · next hd => cases h; exact ⟨hd, by cases s.cgErr <;> cases s.cancelled <;> simp⟩
  · cases h

theorem PC.done_cases {p : PC} (h : p.done = true) : p = PC.dropped ∨ ∃ o c, p = PC.finished o c := by
  cases p <;> simp [PC.done] at h ⊢

theorem PC.quiet_cases {p : PC} (h : p.quiet = true) : p = PC.dropped ∨ ∃ o, p = PC.finished o true := by
  cases p with
  | dropped => exact .inl rfl
  | finished o c =>
    cases c with
    | true => exact .inr ⟨o, rfl⟩
    | false => cases h
  | _ => cases h

theorem step_len {cap : Nat} {s u : CS} {a : Act} (h : step cap s a = some u) : u.pcs.length = s.pcs.length := by
  rcases step_cases h with ⟨j, p, x, r, ht⟩ | ⟨_, rfl⟩ | ⟨_, rfl⟩
  · rw [ht.pcs, List.length_set]
  · rfl
  · rfl

theorem reach_len {cap : Nat} {s u : CS} (h : Reach cap s u) : u.pcs.length = s.pcs.length :=
  h.invariant (P := fun t => t.pcs.length = s.pcs.length) (fun ih hst => (step_len hst).trans ih) rfl

theorem nHold_of_done {l : List PC} (h : l.all PC.done = true) : nHold l = 0 :=
  nHold_eq_zero.mpr fun p hp => by
    rcases PC.done_cases (List.all_eq_true.mp h p hp) with rfl | ⟨o, c, rfl⟩ <;> rfl

end ArvVerif.C09.Conc
