/-
C10 — lists of bytes: `strings.Split` / `strings.Join` on one separator byte (`splitOn`, `joinWith`: the library's
`List.splitOn` and `intercalate`), `takeWhile` runs, how `ParseUint`/`ParseInt`/`SplitN` read a string of
digits, and `mapOpt`. Nothing here knows the manifest grammar.
-/
import ArvVerif.Model.C10_Go
import ArvVerif.Proofs.Lib_Split
namespace ArvVerif.C10

theorem splitOn_eq (sep : UInt8) (s : Bytes) : splitOn sep s = s.splitOn sep := by
  induction s with
  | nil => rfl
  | cons c cs ih =>
    rw [splitOn, ih, List.splitOn_cons_eq_if_modifyHead]
    cases h : cs.splitOn sep <;> simp_all

theorem joinWith_eq (sep : UInt8) (ps : List Bytes) : joinWith sep ps = [sep].intercalate ps := by
  fun_induction joinWith sep ps <;> simp_all

theorem splitOn_ne_nil (sep : UInt8) (s : Bytes) : splitOn sep s ≠ [] :=
  splitOn_eq sep s ▸ List.splitOn_ne_nil _ _

theorem splitOn_cons_sep (sep : UInt8) (r : Bytes) : splitOn sep (sep :: r) = [] :: splitOn sep r := by
  simp [splitOn]

theorem splitOn_of_no_sep (sep : UInt8) (s : Bytes) (h : sep ∉ s) : splitOn sep s = [s] := by
  rw [splitOn_eq, List.splitOn_eq_singleton h]

theorem splitOn_append_sep_gen (sep : UInt8) (a b : Bytes) :
    splitOn sep (a ++ sep :: b) = splitOn sep a ++ splitOn sep b := by
  simp only [splitOn_eq, List.splitOn_append_cons_self]

theorem splitOn_append_sep (sep : UInt8) (a rest : Bytes) (h : sep ∉ a) :
    splitOn sep (a ++ sep :: rest) = a :: splitOn sep rest := by
  simp only [splitOn_eq, List.splitOn_append_cons_self_of_not_mem h]

theorem joinWith_splitOn (sep : UInt8) (s : Bytes) : joinWith sep (splitOn sep s) = s := by
  rw [joinWith_eq, splitOn_eq, List.intercalate_splitOn]

theorem splitOn_no_sep (sep : UInt8) (s : Bytes) : ∀ p ∈ splitOn sep s, sep ∉ p :=
  splitOn_eq sep s ▸ Lib.not_mem_of_mem_splitOn s

theorem splitOn_joinWith (sep : UInt8) (ps : List Bytes) (hne : ps ≠ []) (h : ∀ p ∈ ps, sep ∉ p) :
    splitOn sep (joinWith sep ps) = ps := by
  rw [joinWith_eq, splitOn_eq, List.splitOn_intercalate _ h hne]

theorem joinWith_cons_cons (sep : UInt8) (p q : Bytes) (rest : List Bytes) :
    joinWith sep (p :: q :: rest) = p ++ sep :: joinWith sep (q :: rest) := rfl

theorem joinWith_append (sep : UInt8) : ∀ (a b : List Bytes), a ≠ [] → b ≠ [] →
    joinWith sep (a ++ b) = joinWith sep a ++ sep :: joinWith sep b
  | [], _, h, _ => absurd rfl h
  | [p], b, _, hb => by
    obtain ⟨q, rest, rfl⟩ := List.exists_cons_of_ne_nil hb
    rfl
  | p :: q :: rest, b, _, hb => by
    have := joinWith_append sep (q :: rest) b (by simp) hb
    simp only [List.cons_append] at this ⊢
    rw [joinWith_cons_cons, this, joinWith_cons_cons]
    simp

theorem splitOn_lines (sep : UInt8) : ∀ (lines : List Bytes), (∀ l ∈ lines, sep ∉ l) →
    splitOn sep (lines.flatMap (· ++ [sep])) = lines ++ [[]]
  | [], _ => by simp [splitOn]
  | l :: rest, h => by
    obtain ⟨hl, hr⟩ := List.forall_mem_cons.mp h
    rw [List.flatMap_cons, List.append_assoc, List.singleton_append, splitOn_append_sep sep l _ hl,
      splitOn_lines sep rest hr]
    rfl

theorem not_mem_joinWith {sep c : UInt8} (hc : c ≠ sep) (ps : List Bytes) (h : ∀ p ∈ ps, c ∉ p) :
    c ∉ joinWith sep ps :=
  joinWith_eq sep ps ▸ Lib.not_mem_intercalate hc h

theorem line_split {toks : List Bytes} (hne : toks ≠ []) (h : ∀ t ∈ toks, bSpace ∉ t ∧ bNL ∉ t) :
    splitOn bSpace (joinWith bSpace toks) = toks ∧ bNL ∉ joinWith bSpace toks :=
  ⟨splitOn_joinWith bSpace toks hne fun t ht => (h t ht).1,
    not_mem_joinWith (by decide) toks fun t ht => (h t ht).2⟩

theorem getLast?_append_ne (a b : Bytes) (hb : b ≠ []) : (a ++ b).getLast? = b.getLast? := by
  rw [List.getLast?_append]
  cases h : b.getLast? with
  | none => exact absurd (List.getLast?_eq_none_iff.mp h) hb
  | some x => rfl

theorem joinWith_getLast (sep : UInt8) : ∀ (ps : List Bytes) (q : Bytes), ps.getLast? = some q → q ≠ [] →
    (joinWith sep ps).getLast? = q.getLast?
  | [], q, h, _ => by simp at h
  | [p], q, h, _ => by simp at h; subst h; rfl
  | p :: p' :: rest, q, h, hq => by
    rw [List.getLast?_cons_cons] at h
    have ih := joinWith_getLast sep (p' :: rest) q h hq
    have hne : joinWith sep (p' :: rest) ≠ [] := by
      intro he; rw [he] at ih
      exact hq (List.getLast?_eq_none_iff.mp ih.symm)
    rw [joinWith_cons_cons, List.append_cons, getLast?_append_ne _ _ hne, ih]

theorem splitN3_three (sep : UInt8) (a b c : Bytes) (ha : sep ∉ a) (hb : sep ∉ b) :
    splitN3 sep (a ++ sep :: (b ++ sep :: c)) = [a, b, c] := by
  unfold splitN3
  rw [splitOn_append_sep sep a _ ha, splitOn_append_sep sep b _ hb]
  obtain ⟨x, xs, hs⟩ := List.exists_cons_of_ne_nil (splitOn_ne_nil sep c)
  rw [hs]
  simp only []
  rw [← hs, joinWith_splitOn]

theorem dropWhile_head (p : UInt8 → Bool) : ∀ (l : Bytes) (c : UInt8) (r : Bytes),
    l.dropWhile p = c :: r → p c = false := by
  intro l c r h
  simpa [h] using List.head_dropWhile_not p (l := l) (by simp [h])

theorem not_mem_of_all {p : UInt8 → Bool} {l : Bytes} {c : UInt8} (h : l.all p = true) (hc : p c = false) :
    c ∉ l := by
  intro hm
  have := List.all_eq_true.mp h c hm
  rw [hc] at this; cases this

theorem parseNat?_digits (ds : Bytes) (h1 : ds ≠ []) (h2 : ds.all isDigit = true) :
    parseNat? ds = some (natOfDigits ds) := by
  unfold parseNat?
  rw [if_pos ⟨h1, h2⟩]

theorem parseUint64_digits (ds : Bytes) (h1 : ds ≠ []) (h2 : ds.all isDigit = true)
    (h3 : natOfDigits ds < two64) : parseUint64 ds = some (natOfDigits ds) := by
  unfold parseUint64
  rw [parseNat?_digits ds h1 h2]
  simp [h3]

theorem parseIntBits_digits (bits : Nat) (ds : Bytes) (h1 : ds ≠ []) (h2 : ds.all isDigit = true) :
    parseIntBits bits ds = if natOfDigits ds < 2 ^ (bits - 1) then some (natOfDigits ds : Int) else none := by
  cases ds with
  | nil => exact absurd rfl h1
  | cons c rest =>
    have hc : isDigit c = true := List.all_eq_true.mp h2 c (by simp)
    have h43 : c ≠ 43 := by rintro rfl; revert hc; decide
    have h45 : c ≠ 45 := by rintro rfl; revert hc; decide
    simp [parseIntBits, h43, h45, parseNat?_digits (c :: rest) h1 h2]

theorem colon_not_digit : isDigit bColon = false := by decide

theorem plus_not_digit : isDigit bPlus = false := by decide

theorem mapOpt_cons_some {α β : Type} (f : α → Option β) (a : α) (as : List α) (r : List β)
    (h : mapOpt f (a :: as) = some r) : ∃ b bs, f a = some b ∧ mapOpt f as = some bs ∧ r = b :: bs := by
  unfold mapOpt at h
  split at h
  · cases h; exact ⟨_, _, ‹_›, ‹_›, rfl⟩
  · cases h

theorem mapOpt_map {α β γ : Type} {f : α → Option β} {g : α → γ} {k : β → γ} : ∀ {as : List α} {bs : List β},
    mapOpt f as = some bs → (∀ a b, f a = some b → b ∈ bs → g a = k b) → as.map g = bs.map k
  | [], bs, h, _ => by simp [mapOpt] at h; subst h; rfl
  | a :: as, bs, h, hg => by
    obtain ⟨b, bs', h1, h2, rfl⟩ := mapOpt_cons_some f a as bs h
    rw [List.map_cons, List.map_cons, hg a b h1 List.mem_cons_self,
      mapOpt_map h2 fun a' b' h' hm => hg a' b' h' (List.mem_cons_of_mem _ hm)]

/-- the form in which the package's parser takes a parsed token list (`pkgFileToks_ok`, `pkgParseStream_toks`) -/
theorem mapOpt_some {α β : Type} {f : α → Option β} {as : List α} {bs : List β} (h : mapOpt f as = some bs) :
    as.map f = bs.map some :=
  mapOpt_map h fun _ _ hab _ => hab

theorem mapOpt_mem {α β : Type} (f : α → Option β) (as : List α) (r : List β) (h : mapOpt f as = some r) :
    ∀ b ∈ r, ∃ a ∈ as, f a = some b :=
  fun _ hb => List.mem_map.mp (mapOpt_some h ▸ List.mem_map_of_mem hb)

theorem mapOpt_length {α β : Type} (f : α → Option β) (as : List α) (r : List β)
    (h : mapOpt f as = some r) : r.length = as.length := by
  simpa using (congrArg List.length (mapOpt_some h)).symm

theorem mapOpt_isSome {α β : Type} (f : α → Option β) (as : List α) (r : List β) (h : mapOpt f as = some r) :
    ∀ a ∈ as, ∃ b, f a = some b := fun a ha => by
  obtain ⟨b, _, hb⟩ := List.mem_map.mp (mapOpt_some h ▸ List.mem_map_of_mem (f := f) ha)
  exact ⟨b, hb.symm⟩

end ArvVerif.C10
