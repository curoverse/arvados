/-
C10 — decimal rendering (`%d`) and `strconv.ParseUint` are inverse, hence a file token written with
`fmt.Sprintf("%d:%d:%s", pos, len, EscapeName(name))` is read back by `parseFileStreamSegment` as the same
span and the same (unescaped) file name.
-/
import ArvVerif.Proofs.C10_Text
import ArvVerif.Proofs.C10_Escape
namespace ArvVerif.C10

theorem digit_byte : ∀ d < 10, isDigit (UInt8.ofNat (Nat.digitChar d).toNat) = true ∧
    (UInt8.ofNat (Nat.digitChar d).toNat).toNat - 48 = d := by decide +kernel

theorem natToDec_eq (n : Nat) : natToDec n =
    if n < 10 then [UInt8.ofNat (Nat.digitChar n).toNat]
    else natToDec (n / 10) ++ [UInt8.ofNat (Nat.digitChar (n % 10)).toNat] := by
  unfold natToDec
  rw [Nat.toDigits_eq_if (by decide)]
  split <;> simp

theorem natOfDigits_snoc (a : Bytes) (c : UInt8) : natOfDigits (a ++ [c]) = natOfDigits a * 10 + (c.toNat - 48) := by
  simp [natOfDigits, List.foldl_append]

theorem natToDec_spec : ∀ n : Nat, natToDec n ≠ [] ∧ (natToDec n).all isDigit = true ∧ natOfDigits (natToDec n) = n := by
  intro n
  induction n using Nat.strongRecOn with
  | _ n ih =>
    rw [natToDec_eq]
    split
    · obtain ⟨d1, d2⟩ := digit_byte n ‹_›
      exact ⟨by simp, by simp [d1], by simpa [natOfDigits] using d2⟩
    · obtain ⟨_, i2, i3⟩ := ih (n / 10) (by omega)
      obtain ⟨d1, d2⟩ := digit_byte (n % 10) (Nat.mod_lt _ (by decide))
      refine ⟨by simp, by simp [i2, d1], ?_⟩
      rw [natOfDigits_snoc, i3, d2]
      omega

theorem parseUint64_natToDec (n : Nat) (h : n < two64) : parseUint64 (natToDec n) = some n := by
  obtain ⟨h1, h2, h3⟩ := natToDec_spec n
  rw [parseUint64_digits _ h1 h2 (h3.symm ▸ h), h3]

theorem pkgUnescape_escape (s : Bytes) : pkgUnescape (pkgEscape s) = s :=
  goUnescape_escapeWith isDigit _ isOctDigit_isDigit (by decide) s

theorem fileTokText_nat (a l : Nat) (e : Bytes) :
    fileTokText (a : Int) (l : Int) e = natToDec a ++ bColon :: natToDec l ++ bColon :: e := by
  simp [fileTokText, Int.not_lt.mpr (Int.natCast_nonneg _)]

/-- the token is `fmt.Sprintf("%d:%d:%s", pos, len, EscapeName(name))`, read by `parseFileStreamSegment` -/
theorem pkgFileTok_rendered (a l : Nat) (fn : Bytes) (ha : a < two64) (hl : l < two64) :
    pkgFileTok (fileTokText (a : Int) (l : Int) (pkgEscape fn)) = some ⟨a, l, fn⟩ := by
  have hd := fun n => not_mem_of_all (natToDec_spec n).2.1 colon_not_digit
  unfold pkgFileTok
  rw [fileTokText_nat, List.append_assoc, List.cons_append, splitN3_three bColon _ _ _ (hd a) (hd l)]
  simp only [parseUint64_natToDec a ha, parseUint64_natToDec l hl, pkgUnescape_escape]

end ArvVerif.C10
