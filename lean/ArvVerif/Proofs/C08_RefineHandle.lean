/-
C08: per-operation refinement, the operations through a handle other than reads.
-/
import ArvVerif.Proofs.C08_AbsFS
import ArvVerif.Proofs.C08_Write
namespace ArvVerif.C08

variable {max : Nat} {hash : Bytes → Loc}

theorem step_close {s : CFS} (hinv : Inv max hash s) (h : Nat) : StepRef max hash s (Op.close h) := by
  unfold StepRef step
  simp only [getHandle_abs]
  cases getHandle s h with
  | none => exact Ref3.same hinv _
  | some hd =>
    simp only [Option.map_some]
    refine ⟨rfl, ?_, hinv.closeHandle h⟩
    simp only [absFS, absHandles, List.filter_map]
    rfl

theorem step_hstat {s : CFS} (hinv : Inv max hash s) (h : Nat) : StepRef max hash s (Op.hstat h) := by
  unfold StepRef step
  simp only [getHandle_abs]
  cases getHandle s h with
  | none => exact Ref3.same hinv _
  | some hd =>
    simp only [Option.map_some, absH_node, infoOf_abs hinv]
    exact Ref3.same hinv _

theorem step_hreaddir {s : CFS} (hinv : Inv max hash s) (h : Nat) : StepRef max hash s (Op.hreaddir h) := by
  unfold StepRef step
  simp only [getHandle_abs]
  cases getHandle s h with
  | none => exact Ref3.same hinv _
  | some hd =>
    simp only [Option.map_some, absH_node]
    cases hd.node with
    | file f => exact Ref3.same hinv _
    | dir d =>
      simp only [listingOf_abs hinv]
      exact Ref3.same hinv _

theorem step_trunc (hmax : 1 ≤ max) {s : CFS} (hinv : Inv max hash s) (h size : Nat) :
    StepRef max hash s (Op.trunc h size) := by
  unfold StepRef step
  simp only [getHandle_abs]
  cases getHandle s h with
  | none => exact Ref3.same hinv _
  | some hd =>
    simp only [Option.map_some, absH_node]
    cases hd.node with
    | dir d => exact Ref3.same hinv _
    | file f =>
      simp only [absFS_files, absFiles_get]
      cases hf : s.files[f]? with
      | none => exact Ref3.same hinv _
      | some nf =>
        obtain ⟨c', t1, r1, r2⟩ := setFile_trunc_ref hmax hinv hf size
        simp only [Option.map_some, t1]
        exact ⟨rfl, r1, r2⟩

theorem step_seek {s : CFS} (hinv : Inv max hash s) (h : Nat) (off : Int) (whence : Nat) :
    StepRef max hash s (Op.seek h off whence) := by
  unfold StepRef step
  simp only [getHandle_abs]
  cases hg : getHandle s h with
  | none => exact Ref3.same hinv _
  | some hd =>
    simp only [Option.map_some, absH_node, nodeSize_abs hinv]
    dsimp only [specImpl, concImpl, absH]
    refine ite_rel (Ref3.same hinv _) ?_
    refine ⟨rfl, ?_, ?_⟩
    · rw [setHandle_abs]
      congr 1
      simp only [absH]
      congr 1
      exact seekTo_off _ _
    · apply hinv.setHandle
      intro f hf
      obtain ⟨e, he, rfl⟩ := getHandle_mem hg
      obtain ⟨nf, hnf, hp⟩ := hinv.handles e he f hf
      exact ⟨nf, hnf, seekTo_ok (hinv.files nf (List.mem_of_getElem? hnf)).2 hp _⟩

/-- `filehandle.Write` through handle `h` on file `f`, for any outcome `w` of the file layer that meets
the contract of `filenode.Write` (in `step`: after the background flushes have settled): storing it back
gives the plain model's state after the write. -/
theorem handleWrite_ref {s : CFS} (hinv : Inv max hash s) {h f : Nat} {hd : Handle Ptr} {nf : String × FileNode}
    (hnode : hd.node = Node.file f) (hf : s.files[f]? = some nf) {data : Bytes} {w : WState}
    (hw : WriteOK max hash s.world nf.2 (if hd.app = true then appendPtr nf.2 else hd.ptr) data w) :
    absFS (setHandle (setFile { s with world := w.st } f w.fn) h { hd with ptr := w.ptr }) =
      setHandle (setFile (absFS s) f (specWrite (abs s.world nf.2)
        (if hd.app = true then (abs s.world nf.2).length else hd.ptr.off) data)) h
        ⟨hd.node, (if hd.app = true then (abs s.world nf.2).length else hd.ptr.off) + data.length, hd.app, hd.rd, hd.wr⟩ ∧
    Inv max hash (setHandle (setFile { s with world := w.st } f w.fn) h { hd with ptr := w.ptr }) := by
  obtain ⟨hwf, _⟩ := hinv.files nf (List.mem_of_getElem? hf)
  have hoff : (if hd.app = true then (abs s.world nf.2).length else hd.ptr.off) =
      (if hd.app = true then appendPtr nf.2 else hd.ptr).off := by
    rw [apply_ite Ptr.off, hwf.abs_length]; rfl
  have hf1 : ({ s with world := w.st } : CFS).files[f]? = some nf := hf
  have hinv2 : Inv max hash (setFile { s with world := w.st } f w.fn) :=
    (hinv.ext_world hw.ext hw.ok).setFile hf1 _ hw.wf hw.rep hw.others
  refine ⟨?_, hinv2.setHandle h _ fun f' hf' => ?_⟩
  · rw [setHandle_abs, setFile_abs, absFS_ext_world hinv hw.ext, hoff]
    show setHandle (setFile (absFS s) f (abs w.st w.fn)) h _ = _
    rw [hw.abs_eq]
    congr 1
    simp only [absH, hw.off]
  · cases hnode.symm.trans hf'
    exact ⟨_, setFile_get hf1 _, hw.ptr_ok⟩

theorem step_write (hinj : Function.Injective hash) (hmax : 1 ≤ max) {s : CFS} (hinv : Inv max hash s)
    (h : Nat) (data : Bytes) : StepRef max hash s (Op.write h data) := by
  unfold StepRef step
  simp only [getHandle_abs]
  cases hg : getHandle s h with
  | none => exact Ref3.same hinv _
  | some hd =>
    simp only [Option.map_some, absH]
    refine ite_rel (Ref3.same hinv _) ?_
    cases hnode : hd.node with
    | dir d =>
      exact ⟨rfl, by rw [setHandle_abs]; rfl, hinv.setHandle h _ nofun⟩
    | file f =>
      simp only [absFS_files, absFiles_get]
      cases hf : s.files[f]? with
      | none => exact Ref3.same hinv _
      | some nf =>
        obtain ⟨hwf, hrep⟩ := hinv.files nf (List.mem_of_getElem? hf)
        obtain ⟨w, hw1, hw2⟩ := write_spec (ptr := if hd.app = true then appendPtr nf.2 else hd.ptr) hinj hmax hinv.ok
          hwf hrep (ite_pred (appendPtr_ok _) (hinv.handle_ptr hg hnode hf)) data
        obtain ⟨sk, ss⟩ := settle_key hw2.wf
        obtain ⟨r1, r2⟩ := handleWrite_ref (h := h) hinv hnode hf (hw2.key sk ss)
        rw [hnode] at r1 r2
        dsimp only [Option.map_some, concImpl, specImpl, absH]
        rw [hw1]
        exact ⟨rfl, r1, r2⟩

end ArvVerif.C08
