/-
C02 helper lemmas: one `WriteBlock` run — the temp file accumulates the chunks, nothing but
the final rename touches the block path.
-/
import ArvVerif.Proofs.C02
import ArvVerif.Proofs.C02_Names
namespace ArvVerif.C02

theorem get_run_appends {p : Path} (cs : List Bytes) (fs : FS) (f : File) (h : fs.get p = some f) :
    (run fs (appends p cs)).get p = some ⟨f.data ++ cs.flatten, f.mtime⟩ := by
  induction cs generalizing fs f with
  | nil => simpa [appends] using h
  | cons c rest ih =>
    rw [appends, List.map_cons, run_cons, ← appends, ih _ ⟨f.data ++ c, f.mtime⟩ (by simp [get_apply, h])]
    simp

theorem appends_local (p : Path) (cs : List Bytes) : ∀ e ∈ appends p cs, LocalAt p e.eff := by
  intro e he
  obtain ⟨c, _, rfl⟩ := List.mem_map.1 he
  rfl

theorem wbPre_local (w : WBIn) : ∀ e ∈ wbPre w, LocalAt (tmpPath w.h w.sfx) e.eff := by
  simp [wbPre, LocalAt]

theorem wbTail_local (w : WBIn) : ∀ e ∈ wbTail w, LocalAt (tmpPath w.h w.sfx) e.eff := by
  unfold wbTail
  split <;> simp [LocalAt]

theorem local_copy_then (w : WBIn) (cs : List Bytes) {tl : List Ev}
    (h : ∀ e ∈ tl, LocalAt (tmpPath w.h w.sfx) e.eff) :
    ∀ e ∈ wbPre w ++ appends (tmpPath w.h w.sfx) cs ++ tl, LocalAt (tmpPath w.h w.sfx) e.eff :=
  List.forall_mem_append.2 ⟨List.forall_mem_append.2 ⟨wbPre_local w, appends_local _ _⟩, h⟩

/-- everything before the rename of a successful run -/
def wbBody (w : WBIn) : List Ev := wbPre w ++ appends (tmpPath w.h w.sfx) w.chunks ++ wbTail w

theorem wbBody_local (w : WBIn) : ∀ e ∈ wbBody w, LocalAt (tmpPath w.h w.sfx) e.eff :=
  local_copy_then w _ (wbTail_local w)

theorem wb_shape (w : WBIn) :
    ((writeBlockEvs w).2 = false ∧ ∀ e ∈ (writeBlockEvs w).1, LocalAt (tmpPath w.h w.sfx) e.eff) ∨
    ((writeBlockEvs w).2 = true ∧ w.rend = .eof ∧ w.fail = .none ∧
      (writeBlockEvs w).1 = wbBody w ++ [⟨wbPt 13, .rename (tmpPath w.h w.sfx) (blockPath w.h)⟩]) := by
  unfold writeBlockEvs
  -- the cases of `writeBlockEvs`, in its order: the last but one is the run that returns nil
  split
  · exact .inl ⟨rfl, by simp [LocalAt]⟩
  · exact .inl ⟨rfl, by simp [LocalAt]⟩
  · exact .inl ⟨rfl, local_copy_then w _ (by simp [LocalAt])⟩
  · exact .inl ⟨rfl, local_copy_then w _ (by simp [LocalAt])⟩
  · exact .inl ⟨rfl, local_copy_then w _ (by simp [LocalAt])⟩
  · exact .inl ⟨rfl, local_copy_then w _ (by simp [LocalAt])⟩
  · exact .inl ⟨rfl, List.forall_mem_append.2 ⟨wbBody_local w, by simp [LocalAt]⟩⟩
  · next hf hr => exact .inr ⟨rfl, hr, hf, rfl⟩
  · exact .inl ⟨rfl, local_copy_then w _ (by simp [LocalAt])⟩

theorem wb_forall {P : Step → Prop} (w : WBIn) (hloc : ∀ s, LocalAt (tmpPath w.h w.sfx) s → P s)
    (hren : P (.rename (tmpPath w.h w.sfx) (blockPath w.h))) : ∀ e ∈ (writeBlockEvs w).1, P e.eff := by
  rcases wb_shape w with ⟨_, hl⟩ | ⟨_, _, _, he⟩
  · exact fun e he => hloc _ (hl e he)
  · rw [he]
    exact List.forall_mem_append.2 ⟨fun e hm => hloc _ (wbBody_local w e hm),
      fun e hm => by rw [List.mem_singleton.1 hm]; exact hren⟩

theorem get_tmp_after_body (fs : FS) (w : WBIn) :
    (run fs (wbBody w)).get (tmpPath w.h w.sfx) = some ⟨w.chunks.flatten, w.now⟩ := by
  unfold wbBody
  rw [run_append, run_append]
  have h0 : (run fs (wbPre w)).get (tmpPath w.h w.sfx) = some ⟨[], w.now⟩ := by
    simp [wbPre, get_apply]
  have h1 := get_run_appends w.chunks _ _ h0
  unfold wbTail
  split <;> simp [get_apply, h1]

theorem wb_success (fs : FS) (w : WBIn) (h : (writeBlockEvs w).2 = true) :
    w.rend = .eof ∧ w.fail = .none ∧
    (run fs (writeBlockEvs w).1).get (blockPath w.h) = some ⟨w.chunks.flatten, w.now⟩ := by
  rcases wb_shape w with ⟨h2, _⟩ | ⟨_, hr, hf, he⟩
  · rw [h] at h2; cases h2
  · refine ⟨hr, hf, ?_⟩
    rw [he, run_append]
    simp [get_apply, get_tmp_after_body fs w]

theorem wb_crash_atomic (fs : FS) (w : WBIn) (k : Nat) :
    (run fs ((writeBlockEvs w).1.take k)).get (blockPath w.h) = fs.get (blockPath w.h) ∨
    ((run fs ((writeBlockEvs w).1.take k)).get (blockPath w.h) = some ⟨w.chunks.flatten, w.now⟩ ∧
      w.rend = .eof ∧ w.fail = .none ∧ (writeBlockEvs w).2 = true ∧ (writeBlockEvs w).1.length ≤ k) := by
  have hne := tmpPath_ne_blockPath w.h w.sfx
  rcases wb_shape w with ⟨_, hl⟩ | ⟨h2, hr, hf, he⟩
  · exact .inl (avoids_always (fun e he => local_avoids hne (hl e he)) fs k)
  · by_cases hk : (writeBlockEvs w).1.length ≤ k
    · rw [List.take_of_length_le hk]
      exact .inr ⟨(wb_success fs w h2).2.2, hr, hf, h2, hk⟩
    · -- the rename is the last event; before it the block path is as it was
      rw [he] at hk ⊢
      rw [List.take_append_of_le_length (by simp at hk; omega)]
      exact .inl (avoids_always (fun e he => local_avoids hne (wbBody_local w e he)) fs k)

end ArvVerif.C02
