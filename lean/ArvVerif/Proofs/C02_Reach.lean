/-
C02 helper lemmas: histories with crashes. Every step of every operation is one the environment may
take (`envOk`), except the rename at the end of a `WriteBlock` run; so what those two respect holds over
every history (`Respects`). `Intact` is such a relation. Over histories that do not trash `h`
(`ReachKeep`) a file stays at `h`'s block path, and on an intact volume `GetBlock` serves it.
-/
import ArvVerif.Proofs.C02_Ops
namespace ArvVerif.C02

variable {fs : FS} {h : Name} {evs : List Ev} {s : Step}

variable (hash : Bytes → Name)

theorem intact_erase {q : Path} (hi : Intact hash fs) : Intact hash (fs.erase q) :=
  fun e he => hi e (mem_erase he).1

theorem intact_set {q : Path} {g : File} (hi : Intact hash fs)
    (hg : ∀ h, owner q.name = some h → hash g.data = h) : Intact hash (fs.set q g) := by
  intro e he
  rcases mem_set he with rfl | ⟨h1, _⟩
  · exact hg
  · exact hi e h1

theorem intact_rename {a b : Path} {f : File} (hi : Intact hash fs) (hf : fs.get a = some f)
    (hb : ∀ h, owner b.name = some h → hash f.data = h) : Intact hash ((Step.rename a b).apply fs) := by
  simp only [Step.apply, hf]
  exact intact_set hash (intact_erase hash hi) hb

theorem intact_env (hs : envOk s) (hi : Intact hash fs) : Intact hash (s.apply fs) := by
  cases s with
  | nop => exact hi
  | mkdirAll d => simp only [Step.apply]; split <;> exact hi
  | createTemp p t =>
    exact intact_set hash hi fun _ hh => nomatch (hs : owner p.name = none).symm.trans hh
  | append p c =>
    simp only [Step.apply]; split
    · exact intact_set hash hi fun _ hh => nomatch (hs : owner p.name = none).symm.trans hh
    · exact hi
  | chtimes p t =>
    simp only [Step.apply]; split
    · rename_i f hf
      exact intact_set hash hi (hi _ (get_some_mem hf))
    · exact hi
  | rename a b =>
    cases hf : fs.get a with
    | none => simp only [Step.apply, hf]; exact hi
    | some f =>
      -- the new name has no owner, or the owner the old name had
      refine intact_rename hash hi hf fun h hh => ?_
      rcases hs with hs | hs <;> rw [hs] at hh
      · cases hh
      · exact hi _ (get_some_mem hf) h hh
  | remove p => exact intact_erase hash hi

theorem envOk_of_local {p : Path} (hp : owner p.name = none) (h : LocalAt p s) : envOk s := by
  cases s <;> simp_all [LocalAt, envOk]

theorem wb_intact {w : WBIn} (hw : (Op.writeBlock w).valid hash) :
    Always (fun a b => Intact hash a → Intact hash b) (writeBlockEvs w).1 := by
  have env : ∀ {evs : List Ev}, (∀ e ∈ evs, LocalAt (tmpPath w.h w.sfx) e.eff) →
      Always (fun a b => Intact hash a → Intact hash b) evs := fun hl =>
    .of_steps (fun _ => id) (fun _ _ _ f g => g ∘ f) (fun _ _ => intact_env hash)
      fun e he => envOk_of_local (p := tmpPath w.h w.sfx) (owner_tmp w.h w.sfx) (hl e he)
  rcases wb_shape w with ⟨_, hl⟩ | ⟨_, hr, _, he⟩
  · exact env hl
  · intro fs k hi
    rw [he]
    by_cases hk : k ≤ (wbBody w).length
    · rw [List.take_append_of_le_length hk]
      exact env (wbBody_local w) fs k hi
    · -- the rename publishes the temp file, which holds all chunks
      rw [List.take_of_length_le (by simp; omega), run_append, run_cons, run_nil]
      refine intact_rename hash ((env (wbBody_local w)).run fs hi) (get_tmp_after_body fs w) fun h hh => ?_
      simp only [blockPath, owner_block hw.1, Option.some.injEq] at hh
      subst hh
      exact hw.2 hr

theorem looks_envOk {l : List Ev} (hl : Looks h l) : ∀ e ∈ l, envOk e.eff :=
  hl.forall trivial fun _ => trivial

theorem valid_of_writes {body : Bytes} (hb : isBlockName h = true) (hh : hash body = h)
    {w : WBIn} (hw : w.writes h body) : (Op.writeBlock w).valid hash := by
  obtain ⟨rfl, hv⟩ := hw
  exact ⟨hb, fun he => by rw [hv he, hh]⟩

/-- `Reach hash` is the least such relation (`respects_reach`, `Respects.reach`). -/
structure Respects (R : FS → FS → Prop) : Prop where
  refl : ∀ a, R a a
  trans : ∀ a b c, R a b → R b c → R a c
  env : ∀ fs s, envOk s → R fs (s.apply fs)
  wb : ∀ w, (Op.writeBlock w).valid hash → Always R (writeBlockEvs w).1

section
variable {hash} {R : FS → FS → Prop} (hR : Respects hash R)
include hR

theorem Respects.envs (h : ∀ e ∈ evs, envOk e.eff) : Always R evs :=
  .of_steps hR.refl hR.trans hR.env h

theorem Respects.putEvs {W : WBIn → Prop} (hW : ∀ w, W w → (Op.writeBlock w).valid hash) (hs : PutEvs h W evs) :
    Always R evs :=
  hs.always hR.trans (fun hl => hR.envs (looks_envOk hl)) fun hw => hR.wb _ (hW _ hw)

theorem Respects.op (op : Op) (hv : op.valid hash) (fs : FS) (k : Nat) :
    R fs (run fs ((op.evs hash fs).take k)) := by
  cases op with
  | put p =>
    rcases (handlePut_spec hash fs p).1 with h | ⟨hb, hh, hs⟩
    · rw [Op.evs, h, List.take_nil]; exact hR.refl _
    · exact hR.putEvs (fun w hw => valid_of_writes hash hb hh (hv w hw)) hs fs k
  | writeBlock w => exact hR.wb w hv fs k
  | touch h now fail => exact hR.envs (touch_forall hash trivial fun _ _ => trivial) fs k
  | trash cfg h =>
    exact hR.envs (trash_forall hash trivial (fun _ => trivial) fun hb _ =>
      .inr (by rw [trashPath, blockPath, owner_trashName hb, owner_block hb])) fs k
  | untrash h now =>
    exact hR.envs (untrash_forall hash trivial (fun _ => trivial) fun hb _ =>
      .inr (by rw [blockPath, owner_trashPrefixed hb, owner_block hb])) fs k
  | emptyTrash now => exact hR.envs (emptyTrash_forall hash fun _ _ => trivial) fs k
  | env s => exact hR.envs (evs := [⟨none, s⟩]) (List.forall_mem_singleton.2 hv) fs k

theorem Respects.reach {a b : FS} (hr : Reach hash a b) : R a b := by
  induction hr with
  | init => exact hR.refl _
  | step op k _ hv ih => exact hR.trans _ _ _ ih (hR.op op hv _ k)

end

theorem reach_trans {fs0 fs1 fs2 : FS} (h1 : Reach hash fs0 fs1) (h2 : Reach hash fs1 fs2) : Reach hash fs0 fs2 := by
  induction h2 with
  | init => exact h1
  | step op k _ hv ih => exact Reach.step op k ih hv

theorem respects_reach : Respects hash (Reach hash) :=
  ⟨fun _ => .init, fun _ _ _ => reach_trans hash, fun _ s hs => Reach.step (.env s) 1 .init hs,
    fun w hw _ k => Reach.step (.writeBlock w) k .init hw⟩

theorem respects_intact : Respects hash fun a b => Intact hash a → Intact hash b :=
  ⟨fun _ => id, fun _ _ _ f g => g ∘ f, fun _ _ => intact_env hash, fun _ => wb_intact hash⟩

theorem intact_reach {fs0 fs : FS} (hi : Intact hash fs0) (hr : Reach hash fs0 fs) : Intact hash fs :=
  (respects_intact hash).reach hr hi

theorem wf_reach {fs0 fs : FS} (hw : WF fs0) (hr : Reach hash fs0 fs) : WF fs := by
  induction hr with
  | init => exact hw
  | step op k _ _ ih => exact wf_run ih _

inductive ReachKeep (h : Name) (fs0 : FS) : FS → Prop where
  | init : ReachKeep h fs0 fs0
  | step {fs : FS} (op : Op) (k : Nat) : ReachKeep h fs0 fs → op.valid hash → op.keeps h →
      ReachKeep h fs0 (run fs ((op.evs hash fs).take k))

theorem reachKeep_reach {fs0 fs : FS} (hr : ReachKeep hash h fs0 fs) : Reach hash fs0 fs := by
  induction hr with
  | init => exact .init
  | step op k _ hv _ ih => exact .step op k ih hv

theorem present_reachKeep (hb : isBlockName h = true) {fs0 fs : FS} (hr : ReachKeep hash h fs0 fs)
    (hp : (fs0.get (blockPath h)).isSome) : (fs.get (blockPath h)).isSome := by
  induction hr with
  | init => exact hp
  | step op k _ _ hk ih =>
    exact noLoss_always (op_noLoss hash _ op hb hk) _ k ih

theorem getBlock_of_intact (hb : isBlockName h = true) (hi : Intact hash fs)
    (hp : (fs.get (blockPath h)).isSome) : ∃ b, getBlock hash fs h = .ok b := by
  obtain ⟨f, hf⟩ := Option.isSome_iff_exists.1 hp
  exact ⟨f.data, getBlock_of_data (data_of_get hf) (hi _ (get_some_mem hf) h (owner_block hb))⟩

theorem present_of_getBlock (hg : ∃ b, getBlock hash fs h = .ok b) : (fs.get (blockPath h)).isSome := by
  obtain ⟨b, hb⟩ := hg
  cases hf : fs.get (blockPath h) with
  | none => simp [getBlock, hf] at hb
  | some f => rfl

end ArvVerif.C02
