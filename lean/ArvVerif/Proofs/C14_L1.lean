/-
C14 layer L1 (one scheduler pass): where a call that acts on a container's lock sits in a pass — one
statement, repeated at each level from `startAttempt` to `runQueue` (`runQueue_guarded`) — and the
invariant of the per-container operation latch (`LInv`).
-/
import ArvVerif.Model.C14
namespace ArvVerif.C14

/-- The calls that act on a container's lock: `StartContainer` and `go lockContainer`. -/
def Call.guarded : Call → Bool
  | .start .. | .goLock _ => true
  | _ => false

/-- What a pass has seen of entry `e` when it makes the start or lock call for it. -/
def Ent.Permits (e : Ent) (running : Uuid → Bool) : Call → Prop
  | .start t u _ => e.uuid = u ∧ e.itype = t ∧ e.state = .locked ∧ 1 ≤ e.prio ∧ running u = false
  | .goLock u => e.uuid = u ∧ e.state = .queued ∧ 1 ≤ e.prio ∧ running u = false
  | _ => False

variable {running : Uuid → Bool} {e : Ent} {un : Unalloc} {dont : List IType} {script : List Bool}
  {c : Call}

theorem startAttempt_guarded {pre : List Call} (hpre : ∀ c ∈ pre, c.guarded = false) (hg : c.guarded = true)
    (h : c ∈ (startAttempt e un dont script pre).calls) :
    (∃ a, c = .start e.itype e.uuid a) ∧
      [.kill e.uuid false, c] <:+ (startAttempt e un dont script pre).calls := by
  unfold startAttempt at h ⊢
  grind [Call.guarded, List.suffix_append]

theorem iter_guarded (hg : c.guarded = true)
    (h : c ∈ (iter running e un dont script).calls) :
    e.Permits running c ∧ [.kill e.uuid false, c] <:+: (iter running e un dont script).calls := by
  unfold iter at h ⊢
  -- the skip test is split by hand, and the start attempt is a lemma: the whole decision tree
  -- at once needs more case splits than `grind` makes by default
  split at h
  · cases h
  · grind [Call.guarded, Ent.Permits, startAttempt_guarded, List.suffix_append,
      List.IsSuffix.isInfix]

theorem tryrun_guarded {es : List Ent} (hg : c.guarded = true)
    (h : c ∈ (tryrun running es un dont script).calls) :
    ∃ e ∈ es, e.Permits running c ∧
      [.kill e.uuid false, c] <:+: (tryrun running es un dont script).calls := by
  induction es generalizing un dont script with
  | nil => cases h
  | cons e rest ih =>
    have hi := @iter_guarded running e un dont script c hg
    unfold tryrun at h ⊢
    grind [List.infix_append_of_infix_left, List.infix_append_of_infix_right]

theorem runQueue_guarded {sorted : List Ent} (hg : c.guarded = true)
    (h : c ∈ runQueue sorted running un script) :
    ∃ e ∈ sorted, e.Permits running c ∧
      [.kill e.uuid false, c] <:+: runQueue sorted running un script := by
  unfold runQueue overquotaUnlocks at h ⊢
  grind [Call.guarded, tryrun_guarded, List.infix_append_of_infix_left]

theorem held_cons (l : Latch) (u v : Uuid) (op : Op) :
    Latch.held ((u, op) :: l) v = (decide (u = v) || l.held v) := by
  grind [Latch.held]

theorem uuidLock_fst (l : Latch) (u : Uuid) (op : Op) : (uuidLock l u op).1 = !l.held u := by
  unfold uuidLock
  grind

theorem held_uuidLock (l : Latch) (u v : Uuid) (op : Op) :
    (uuidLock l u op).2.held v = (l.held v || decide (v = u)) := by
  unfold uuidLock
  grind [held_cons]

theorem held_uuidUnlock (l : Latch) (u v : Uuid) :
    (uuidUnlock l u).held v = (l.held v && decide (v ≠ u)) := by
  unfold uuidUnlock Latch.held
  induction l <;> grind

/-- The latch is held for `u` exactly when one goroutine is performing an operation on `u`. -/
def LInv (s : LSys) : Prop :=
  ∀ u, inFlight s u = if s.latch.held u then 1 else 0

theorem LInv_step {s t : LSys} (hinv : LInv s) (hst : LStep s t) : LInv t := by
  intro v
  have hv := hinv v
  -- a step adds a pending goroutine or changes one in the middle of the list
  cases hst <;> simp only [inFlight, List.countP_append, List.countP_cons] at hv ⊢ <;>
    grind [uuidLock_fst, held_uuidLock, held_uuidUnlock]

theorem LInv_reach {s : LSys} (h : LReach s) : LInv s := by
  induction h with
  | init => exact fun _ => rfl
  | step _ hst ih => exact LInv_step ih hst

end ArvVerif.C14
