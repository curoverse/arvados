/-
C07: the locator grammar and the hand-written matcher for `SignedLocatorRe`, sound and complete for
the grammar (`matchSigned_iff`).
-/
import ArvVerif.Proofs.C07_Fields
namespace ArvVerif.C07

/-- the signature hint without its leading `+` -/
def sigField (sig exp : Str) : Str := 'A' :: (sig ++ '@' :: exp)

/-- The grammar of `SignedLocatorRe`, spelled out: 32 hex digits, an optional decimal size,
hints `[B-Z][A-Za-z0-9@_-]*`, one `A<40 hex>@<8 hex>`, more hints; every field preceded by `+`. -/
def IsSignedLocator (s hash sig exp : Str) : Prop :=
  ∃ (size hs1 hs2 : List Str),
    s = hash ++ hints (size ++ hs1 ++ sigField sig exp :: hs2) ∧
    hash.length = 32 ∧ hash.all isXDigit = true ∧
    (size = [] ∨ ∃ d, size = [d] ∧ isSizeField d = true) ∧
    (∀ f ∈ hs1, isOtherHint f = true) ∧
    sig.length = 40 ∧ sig.all isXDigit = true ∧
    exp.length = 8 ∧ exp.all isXDigit = true ∧
    (∀ f ∈ hs2, isOtherHint f = true)

theorem IsSignedLocator.expiry {s hash sig exp : Str} (h : IsSignedLocator s hash sig exp) :
    exp.length = 8 ∧ exp.all isXDigit = true := by
  obtain ⟨_, _, _, _, _, _, _, _, _, _, el, ex, _⟩ := h
  exact ⟨el, ex⟩

/-- The grammar up to the signature hint: what `SignLocator` is given. -/
def IsUnsignedLocator (loc hash : Str) : Prop :=
  ∃ (size hs : List Str),
    loc = hash ++ hints (size ++ hs) ∧ hash.length = 32 ∧ hash.all isXDigit = true ∧
    (size = [] ∨ ∃ d, size = [d] ∧ isSizeField d = true) ∧ (∀ f ∈ hs, isOtherHint f = true)

/-- `IsSignedLocator` with the pieces as parameters, for statements that replace one of them:
`Parts` holds the side conditions, `assemble` is the string. -/
structure Parts (hash sig e : Str) (size hs1 hs2 : List Str) : Prop where
  hl : hash.length = 32
  hx : hash.all isXDigit = true
  hsize : size = [] ∨ ∃ d, size = [d] ∧ isSizeField d = true
  hh1 : ∀ f ∈ hs1, isOtherHint f = true
  sl : sig.length = 40
  sx : sig.all isXDigit = true
  el : e.length = 8
  ex : e.all isXDigit = true
  hh2 : ∀ f ∈ hs2, isOtherHint f = true

def assemble (hash sig e : Str) (size hs1 hs2 : List Str) : Str :=
  hash ++ hints (size ++ hs1 ++ sigField sig e :: hs2)

theorem Parts.isSigned {hash sig e : Str} {size hs1 hs2 : List Str} (p : Parts hash sig e size hs1 hs2) :
    IsSignedLocator (assemble hash sig e size hs1 hs2) hash sig e :=
  ⟨size, hs1, hs2, rfl, p.hl, p.hx, p.hsize, p.hh1, p.sl, p.sx, p.el, p.ex, p.hh2⟩

theorem free_of_isOtherHint {f : Str} (h : isOtherHint f = true) : Free '+' f := by
  cases f with
  | nil => exact free_nil _
  | cons c r =>
    simp only [isOtherHint, Bool.and_eq_true] at h
    exact free_cons.mpr ⟨fun e => by rw [e] at h; exact absurd h.1 (by decide),
      free_of_all (by decide) h.2⟩

theorem free_of_isSizeField {sep : Char} {f : Str} (hsep : isDigit sep = false)
    (h : isSizeField f = true) : Free sep f :=
  free_of_all hsep (Bool.and_eq_true_iff.mp h).2

theorem free_sigField {sig exp : Str} (h1 : Free '+' sig) (h2 : Free '+' exp) :
    Free '+' (sigField sig exp) :=
  free_cons.mpr ⟨by decide, free_append.mpr ⟨h1, free_cons.mpr ⟨by decide, h2⟩⟩⟩

theorem ne_A_of_isHintStart {c : Char} (h : isHintStart c = true) : c ≠ 'A' := by
  intro e; subst e; revert h; decide

/-- `[B-Z]` lies above `[0-9]` -/
theorem not_isSizeField_of_isOtherHint {f : Str} (h : isOtherHint f = true) : isSizeField f = false := by
  cases f with
  | nil => rfl
  | cons c r =>
    simp only [isOtherHint, isHintStart, Bool.and_eq_true, decide_eq_true_eq] at h
    have : ¬ c ≤ '9' := fun h9 => absurd (Char.le_trans h.1.1 h9) (by decide)
    simp [isSizeField, isDigit, this]

theorem not_size_not_hint_of_A {f : Str} (h : f.head? = some 'A') :
    isSizeField f = false ∧ isOtherHint f = false := by
  cases f with
  | nil => cases h
  | cons c r =>
    obtain rfl : c = 'A' := Option.some.inj h
    have h1 : isDigit 'A' = false := by decide
    have h2 : isHintStart 'A' = false := by decide
    simp [isSizeField, isOtherHint, h1, h2]

/-- What Go's matcher (`matchSigned_fields`) and blob.rb's `split('+A')` (`RbShape`) both need of the
size and hint fields around the signature hint. -/
theorem plainFields {size hs : List Str}
    (hsize : size = [] ∨ ∃ d, size = [d] ∧ isSizeField d = true)
    (hh : ∀ g ∈ hs, isOtherHint g = true) :
    ∀ g ∈ size ++ hs, Free '+' g ∧ g.head? ≠ some 'A' := by
  intro g hg
  have : isSizeField g = true ∨ isOtherHint g = true := by
    rcases List.mem_append.mp hg with hg | hg
    · rcases hsize with rfl | ⟨d, rfl, hd⟩
      · nomatch hg
      · rw [List.mem_singleton.mp hg]; exact .inl hd
    · exact .inr (hh g hg)
  exact ⟨this.elim (free_of_isSizeField (by decide)) free_of_isOtherHint,
    fun hA => by have := not_size_not_hint_of_A hA; simp_all⟩

theorem parseSigField_sigField {sig exp : Str} (hl : sig.length = 40) (el : exp.length = 8) :
    parseSigField (sigField sig exp) =
      if sig.all isXDigit = true ∧ exp.all isXDigit = true then some (sig, exp) else none := by
  have e1 : (sig ++ '@' :: exp).take 40 = sig := List.take_left' hl
  have e2 : (sig ++ '@' :: exp).drop 40 = '@' :: exp := List.drop_left' hl
  have e3 : (sig ++ '@' :: exp).drop 41 = exp := by
    rw [← List.drop_drop (i := 1) (j := 40), e2]; rfl
  simp [parseSigField, sigField, e1, e2, e3, hl, el]

theorem parseSigField_of_length {r : Str} (h : r.length ≠ 49) : parseSigField ('A' :: r) = none := by
  simp [parseSigField, h]

theorem parseSigField_some {f sig exp : Str} (h : parseSigField f = some (sig, exp)) :
    f = sigField sig exp ∧ sig.length = 40 ∧ sig.all isXDigit = true ∧
      exp.length = 8 ∧ exp.all isXDigit = true := by
  unfold parseSigField at h
  split at h
  · rename_i r
    simp only [Option.ite_none_right_eq_some, Bool.and_eq_true, decide_eq_true_eq, beq_iff_eq,
      Option.some.injEq, Prod.mk.injEq] at h
    obtain ⟨⟨⟨⟨hl, ha⟩, hat⟩, hb⟩, rfl, rfl⟩ := h
    have hd : r.drop 40 = '@' :: r.drop 41 := by
      rw [List.drop_eq_getElem_cons (by omega)]
      rw [List.head?_drop, List.getElem?_eq_getElem (by omega)] at hat
      rw [Option.some.inj hat]
    exact ⟨by rw [sigField, ← hd, List.take_append_drop], by simp [hl], ha, by simp [hl], hb⟩
  · cases h

theorem free_of_parseSigField {f : Str} {q : Str × Str} (h : parseSigField f = some q) :
    Free '+' f := by
  obtain ⟨rfl, _, sx, _, ex⟩ := parseSigField_some h
  exact free_sigField (free_of_all (by decide) sx) (free_of_all (by decide) ex)

theorem matchSigned_fields {hash : Str} {size hs1 rest : List Str}
    (hl : hash.length = 32) (hx : hash.all isXDigit = true)
    (hsize : size = [] ∨ ∃ d, size = [d] ∧ isSizeField d = true)
    (hh1 : ∀ g ∈ hs1, isOtherHint g = true) (hrest : ∀ g ∈ rest, Free '+' g)
    (hhead : ∀ f ∈ rest.head?, isSizeField f = false ∧ isOtherHint f = false) :
    matchSigned (hash ++ hints (size ++ hs1 ++ rest)) =
      match rest with
      | [] => none
      | f :: r =>
        match parseSigField f with
        | none => none
        | some (sig, e) => if r.all isOtherHint then some (hash, sig, e) else none := by
  have hfree : ∀ g ∈ size ++ hs1 ++ rest, Free '+' g := fun g hg =>
    (List.mem_append.mp hg).elim (fun hg => (plainFields hsize hh1 g hg).1) (hrest g)
  have hdrop : dropSizeField (size ++ hs1 ++ rest) = hs1 ++ rest := by
    rcases hsize with rfl | ⟨d, rfl, hd⟩
    · cases hs1 with
      | nil =>
        cases rest with
        | nil => rfl
        | cons f r => simp [dropSizeField, (hhead f rfl).1]
      | cons g gs => simp [dropSizeField, not_isSizeField_of_isOtherHint (hh1 g (List.mem_cons_self ..))]
    · simp [dropSizeField, hd]
  unfold matchSigned
  rw [splitOn_hints (free_of_all (by decide) hx) hfree]
  simp only [hl, hx, decide_true, Bool.and_self, if_true, hdrop, List.dropWhile_append_of_pos hh1]
  cases rest with
  | nil => rfl
  | cons f r =>
    rw [List.dropWhile_cons, if_neg (by simp [(hhead f rfl).2])]
    cases parseSigField f with
    | none => rfl
    | some p => rfl

theorem matchSigned_of_isSignedLocator {s hash sig exp : Str} (h : IsSignedLocator s hash sig exp) :
    matchSigned s = some (hash, sig, exp) := by
  obtain ⟨size, hs1, hs2, rfl, hl, hx, hsize, hh1, sl, sx, el, ex, hh2⟩ := h
  rw [matchSigned_fields hl hx hsize hh1 _
    (fun _ hf => by cases hf; exact not_size_not_hint_of_A rfl)]
  · simp [parseSigField_sigField sl el, sx, ex, List.all_eq_true.mpr hh2]
  · exact List.forall_mem_cons.mpr ⟨free_sigField (free_of_all (by decide) sx)
      (free_of_all (by decide) ex), fun g hg => free_of_isOtherHint (hh2 g hg)⟩

/-- Of `p` only the frame is used (hash, size, hints); `sig` and `e` are whatever made it a `Parts`.
If `x` contains a `+`, the field ends there and is too short to parse, and `A` + `x` as a whole
does not parse either. -/
theorem matchSigned_sigText {hash sig e : Str} {size hs1 hs2 : List Str}
    (p : Parts hash sig e size hs1 hs2) (x : Str) (hx : x.length = 49) :
    matchSigned (hash ++ hints (size ++ hs1 ++ ('A' :: x) :: hs2)) =
      (parseSigField ('A' :: x)).map fun q => (hash, q.1, q.2) := by
  obtain ⟨a, bs, rfl, ha, hbs⟩ := exists_fields '+' x
  have hstr : hash ++ hints (size ++ hs1 ++ ('A' :: (a ++ bs.flatMap fun f => '+' :: f)) :: hs2) =
      hash ++ hints (size ++ hs1 ++ (('A' :: a) :: (bs ++ hs2))) := by
    simp [hints]
  rw [hstr, matchSigned_fields p.hl p.hx p.hsize p.hh1 _
    (fun _ hf => by cases hf; exact not_size_not_hint_of_A rfl)]
  · cases bs with
    | nil =>
      simp only [List.flatMap_nil, List.append_nil, List.nil_append]
      cases parseSigField ('A' :: a) <;> simp [List.all_eq_true.mpr p.hh2]
    | cons b bs =>
      have h1 : parseSigField ('A' :: a) = none :=
        parseSigField_of_length (by simp at hx; omega)
      have h2 : parseSigField ('A' :: (a ++ (b :: bs).flatMap fun f => '+' :: f)) = none :=
        Option.eq_none_iff_forall_ne_some.mpr fun q h => free_of_parseSigField h '+' (by simp) rfl
      rw [h2]
      simp [h1]
  · exact List.forall_mem_cons.mpr ⟨free_cons.mpr ⟨by decide, ha⟩, fun g hg =>
      (List.mem_append.mp hg).elim (hbs g) fun h => free_of_isOtherHint (p.hh2 g h)⟩

theorem dropSizeField_spec (fs : List Str) :
    ∃ size, fs = size ++ dropSizeField fs ∧ (size = [] ∨ ∃ d, size = [d] ∧ isSizeField d = true) := by
  cases fs with
  | nil => exact ⟨[], rfl, .inl rfl⟩
  | cons f r =>
    by_cases hf : isSizeField f = true
    · exact ⟨[f], by simp [dropSizeField, hf], .inr ⟨f, rfl, hf⟩⟩
    · exact ⟨[], by simp [dropSizeField, hf], .inl rfl⟩

theorem isSignedLocator_of_matchSigned {s hash sig exp : Str}
    (h : matchSigned s = some (hash, sig, exp)) : IsSignedLocator s hash sig exp := by
  obtain ⟨h0, fs, rfl, hh0, hfs⟩ := exists_fields '+' s
  obtain ⟨size, efs, hsize⟩ := dropSizeField_spec fs
  rw [matchSigned, splitOn_join hh0 hfs] at h
  simp only [Option.ite_none_right_eq_some, Bool.and_eq_true, decide_eq_true_eq] at h
  obtain ⟨hc, h⟩ := h
  rcases hd : (dropSizeField fs).dropWhile isOtherHint with _ | ⟨f, r⟩
  · simp [hd] at h
  rcases hp : parseSigField f with _ | ⟨sig', e'⟩
  · simp [hd, hp] at h
  simp only [hd, hp, Option.ite_none_right_eq_some, Option.some.injEq, Prod.mk.injEq] at h
  obtain ⟨hr, rfl, rfl, rfl⟩ := h
  obtain ⟨rfl, sl, sx, el, ex⟩ := parseSigField_some hp
  refine ⟨size, (dropSizeField fs).takeWhile isOtherHint, r, ?_, hc.1, hc.2, hsize,
    List.all_eq_true.mp List.all_takeWhile, sl, sx, el, ex, List.all_eq_true.mp hr⟩
  rw [List.append_assoc, ← hd, List.takeWhile_append_dropWhile, ← efs]
  rfl

theorem matchSigned_iff {s hash sig exp : Str} :
    matchSigned s = some (hash, sig, exp) ↔ IsSignedLocator s hash sig exp :=
  ⟨isSignedLocator_of_matchSigned, matchSigned_of_isSignedLocator⟩

theorem hash_eq_hashPart {s hash sig exp : Str} (h : IsSignedLocator s hash sig exp) :
    hashPart s = hash := by
  obtain ⟨size, hs1, hs2, rfl, _, hx, _⟩ := h
  exact hashPart_hints _ (free_of_all (by decide) hx)

end ArvVerif.C07
