/-
Invariants about the request/answer logs of the putReplicas machine: `Trace` (who is asked when: only
writable services, and in round r+1 only after a transient answer in round r), `Complete` (the
converse: every service is asked first, every transient answer is retried) and `Acc` (enough
acceptors). The last two are stated with `pending` (the services of the round not yet answered) and
`Due`, which no transition makes false.
-/
import ArvVerif.Proofs.C11_Step
namespace ArvVerif.C11

theorem retryable_200 : retryable 200 = false := by decide

theorem retryable_iff {code : Nat} :
    retryable code = true ↔ code = 0 ∨ code = 408 ∨ code = 429 ∨ (500 ≤ code ∧ code ≠ 503) := by
  simp only [retryable, Bool.or_eq_true, Bool.and_eq_true, beq_iff_eq, decide_eq_true_eq, bne_iff_ne,
    ne_eq, or_assoc]

def Transient (c : Cfg) (log : List (Srv × Nat)) (x : Srv) (r : Nat) : Prop :=
  (x, r) ∈ log ∧ retryable (c.script x r).code = true

/-- What the theorems of Props/C11 read off are `reqSub`, `respReq`, `reqPrev` (a request of round r+1 follows
a transient answer of round r) and `reqLe`; the other fields make `reqPrev` inductive: a new request
goes to a service of `sv` in the current round (`svPrev`), and the next round's `sv` is this round's
`retrySv` (`retryNow`). -/
structure Trace (c : Cfg) (sv0 : List Srv) (s : St) : Prop where
  svSub : ∀ x ∈ s.sv, x ∈ sv0
  activeReq : ∀ x ∈ s.active, (x, s.round) ∈ s.reqLog
  reqSub : ∀ e ∈ s.reqLog, e.1 ∈ sv0
  respReq : ∀ e ∈ s.respLog, e ∈ s.reqLog
  svPrev : ∀ x ∈ s.sv, ∀ r, s.round = r + 1 → Transient c s.respLog x r
  retryNow : ∀ x ∈ s.retrySv, Transient c s.respLog x s.round
  reqPrev : ∀ e ∈ s.reqLog, ∀ r, e.2 = r + 1 → Transient c s.respLog e.1 r
  reqLe : ∀ e ∈ s.reqLog, e.2 ≤ s.round

theorem trace_init (c : Cfg) (sv : List Srv) : Trace c sv (init c sv) := by
  refine ⟨?_, ?_, ?_, ?_, ?_, ?_, ?_, ?_⟩ <;> simp [init]

theorem trace_preserved (c : Cfg) (sv0 : List Srv) : Preserved c (Trace c sv0) where
  start s h ht := by
    have hx : s.sv[s.next] ∈ s.sv := List.getElem_mem h
    refine ⟨ht.svSub, ?_, ?_, fun e he => List.mem_cons_of_mem _ (ht.respReq e he), ht.svPrev,
      ht.retryNow, List.forall_mem_cons.mpr ⟨ht.svPrev _ hx, ht.reqPrev⟩,
      List.forall_mem_cons.mpr ⟨Nat.le_refl _, ht.reqLe⟩⟩
    · exact List.forall_mem_append.mpr ⟨fun x hx => List.mem_cons_of_mem _ (ht.activeReq x hx),
        List.forall_mem_singleton.mpr List.mem_cons_self⟩
    · exact List.forall_mem_cons.mpr ⟨ht.svSub _ hx, ht.reqSub⟩
  recv s srv hm ht := by
    have old : ∀ {x r}, Transient c s.respLog x r → Transient c ((srv, s.round) :: s.respLog) x r :=
      And.imp_left (List.mem_cons_of_mem _)
    rw [receive_eq]
    refine ⟨ht.svSub, fun x hx => ht.activeReq x (List.mem_of_mem_erase hx), ht.reqSub,
      List.forall_mem_cons.mpr ⟨ht.activeReq _ hm, ht.respReq⟩, fun x hx r hr => old (ht.svPrev x hx r hr),
      ?_, fun e he r hr => old (ht.reqPrev e he r hr), ht.reqLe⟩
    dsimp only
    split
    · exact List.forall_mem_append.mpr ⟨fun x hx => old (ht.retryNow x hx),
        List.forall_mem_singleton.mpr ⟨List.mem_cons_self, ‹_›⟩⟩
    · exact fun x hx => old (ht.retryNow x hx)
  round s hact _ _ _ ht := by
    refine ⟨?_, ?_, ht.reqSub, ht.respReq, ?_, ?_, ht.reqPrev,
      fun e he => Nat.le_succ_of_le (ht.reqLe e he)⟩
    · exact fun x hx => ht.reqSub _ (ht.respReq _ (ht.retryNow x hx).1)
    · intro x hx; rw [show (nextRound s).active = [] from hact] at hx; cases hx
    · intro x hx r hr
      cases Nat.succ.inj hr
      exact ht.retryNow x hx
    · intro x hx; cases hx

theorem put_trace {c : Cfg} {sv : List Srv} {picks : List Nat} {r : Res} {s : St}
    (h : put c sv picks = some (r, s)) : Trace c sv s :=
  put_preserved (trace_preserved c sv) (trace_init c sv) h

def pending (s : St) : List Srv := s.sv.drop s.next ++ s.active

theorem pending_startOne {s : St} (h : s.next < s.sv.length) :
    (pending (startOne s h)).Perm (pending s) := by
  show (s.sv.drop (s.next + 1) ++ (s.active ++ [s.sv[s.next]])).Perm (s.sv.drop s.next ++ s.active)
  rw [List.drop_eq_getElem_cons h, ← List.append_assoc]
  exact List.perm_append_singleton _ _

theorem pending_receive (c : Cfg) {s : St} {srv : Srv} (h : srv ∈ s.active) :
    (pending s).Perm (srv :: pending (receive c s srv)) := by
  simp only [pending, receive_eq]
  exact ((List.perm_cons_erase h).append_left _).trans List.perm_middle

theorem pending_nil {s : St} (hact : s.active = []) (hnext : s.sv.length ≤ s.next) :
    pending s = [] := by
  rw [pending, hact, List.drop_eq_nil_of_le hnext]; rfl

def Due (s : St) (x : Srv) (k : Nat) : Prop :=
  (x, k) ∈ s.respLog ∨ (k = s.round ∧ x ∈ pending s) ∨ (k = s.round + 1 ∧ x ∈ s.retrySv)

section
variable {s : St} {x : Srv} {k : Nat}

theorem Due.start (h : s.next < s.sv.length) :
    Due s x k → Due (startOne s h) x k :=
  Or.imp_right (Or.imp_left fun ⟨h1, h2⟩ => ⟨h1, (pending_startOne h).mem_iff.mpr h2⟩)

theorem Due.recv {srv : Srv} (c : Cfg) (hm : srv ∈ s.active)
    (hd : Due s x k) : Due (receive c s srv) x k := by
  have hp := (pending_receive c hm).mem_iff (a := x)
  rw [receive_eq] at hp ⊢
  rcases hd with h1 | ⟨h1, h2⟩ | ⟨h1, h2⟩
  · exact Or.inl (List.mem_cons_of_mem _ h1)
  · rcases List.mem_cons.mp (hp.mp h2) with h2 | h2
    · rw [h1, h2]; exact Or.inl List.mem_cons_self
    · exact Or.inr (Or.inl ⟨h1, h2⟩)
  · refine Or.inr (Or.inr ⟨h1, ?_⟩)
    dsimp only
    split
    · exact List.mem_append_left _ h2
    · exact h2

theorem Due.round (hact : s.active = [])
    (hnext : s.sv.length ≤ s.next) : Due s x k → Due (nextRound s) x k
  | .inl h => Or.inl h
  | .inr (.inl ⟨_, h⟩) => by rw [pending_nil hact hnext] at h; cases h
  | .inr (.inr ⟨h1, h2⟩) => Or.inr (Or.inl ⟨h1, List.mem_append_left _ h2⟩)

theorem Due.answered (hact : s.active = [])
    (hnext : s.sv.length ≤ s.next) (hk : k ≤ s.round) : Due s x k → (x, k) ∈ s.respLog
  | .inl h => h
  | .inr (.inl ⟨_, h⟩) => by rw [pending_nil hact hnext] at h; cases h
  | .inr (.inr ⟨h, _⟩) => by omega

end

structure Complete (c : Cfg) (sv0 : List Srv) (s : St) : Prop where
  first : ∀ x ∈ sv0, Due s x 0
  retried : ∀ x r, Transient c s.respLog x r → Due s x (r + 1)

theorem complete_init (c : Cfg) (sv : List Srv) : Complete c sv (init c sv) :=
  ⟨fun _ hx => Or.inr (Or.inl ⟨rfl, List.mem_append_left _ hx⟩), fun _ _ h => nomatch h.1⟩

theorem complete_preserved (c : Cfg) (sv0 : List Srv) : Preserved c (Complete c sv0) where
  start s h hc :=
    ⟨fun x hx => (hc.first x hx).start h, fun x r ht => (hc.retried x r ht).start h⟩
  recv s srv hm hc := by
    refine ⟨fun x hx => (hc.first x hx).recv c hm, fun x r ⟨hxr, hret⟩ => ?_⟩
    simp only [receive_eq] at hxr
    rcases List.mem_cons.mp hxr with hxr | hxr
    · -- the answer just processed: transient, so its service goes on the retry list
      cases hxr
      rw [receive_eq]
      refine Or.inr (Or.inr ⟨rfl, ?_⟩)
      dsimp only
      rw [if_pos hret]
      exact List.mem_append_right _ (List.mem_singleton_self srv)
    · exact (hc.retried x r ⟨hxr, hret⟩).recv c hm
  round s hact hnext _ _ hc :=
    ⟨fun x hx => (hc.first x hx).round hact hnext,
      fun x r ht => (hc.retried x r ht).round hact hnext⟩

/-- `K` acceptors exist among the writable services; each one not yet answered is still pending
in this round. -/
def Acc (acc : Srv → Bool) (K : Nat) (s : St) : Prop :=
  (K : Int) ≤ s.done + ((pending s).countP acc : Nat)

theorem acc_init (c : Cfg) (acc : Srv → Bool) (sv : List Srv) :
    Acc acc (sv.countP acc) (init c sv) := by
  simp [Acc, pending, init]

theorem acc_preserved (c : Cfg) (acc : Srv → Bool) (K : Nat)
    (hacc : ∀ x r, acc x = true → (c.script x r).code = 200 ∧ 1 ≤ (c.script x r).rep)
    (hnn : ∀ x r, (c.script x r).code = 200 → 0 ≤ (c.script x r).rep) :
    Preserved c (Acc acc K) where
  start s h ha := by
    unfold Acc
    rw [(pending_startOne h).countP_eq]
    exact ha
  recv s srv hm ha := by
    unfold Acc at ha ⊢
    rw [(pending_receive c hm).countP_eq, List.countP_cons] at ha
    generalize (pending (receive c s srv)).countP acc = n at ha ⊢
    simp only [receive_eq]
    by_cases hs : acc srv = true
    · have h := hacc srv s.round hs
      rw [if_pos hs] at ha
      rw [if_pos h.1]
      omega
    · rw [if_neg hs] at ha
      split
      · have := hnn srv s.round ‹_›
        omega
      · exact ha
  round s hact hnext _ _ ha := by
    unfold Acc at ha ⊢
    rw [pending_nil hact hnext] at ha
    have : s.done = (nextRound s).done := rfl
    simp only [List.countP_nil] at ha
    omega

end ArvVerif.C11
