/-
The notions in which the PUT theorems are stated (`Pointwise`, `Frame`, `PutSpec`) and the PUT path past its early
exits. What `handlePUT` guarantees (`HandlePutSpec`, `handlePut_spec`) comes from the model with faults,
Proofs/C01_FaultCalm.lean.
-/
import ArvVerif.Model.C01
namespace ArvVerif.C01
set_option linter.unusedSectionVars false

section
variable {δ β : Type} [DecidableEq δ] [DecidableEq β]

theorem exists_mem_tail {α : Type} {p : α → Prop} {a : α} {l : List α} : (∃ x ∈ l, p x) → ∃ x ∈ a :: l, p x
  | ⟨x, hx, hp⟩ => ⟨x, List.mem_cons_of_mem a hx, hp⟩

/-- Element-wise relation between two lists of the same length (core has no `Forall₂`). -/
inductive Pointwise {α : Type} (R : α → α → Prop) : List α → List α → Prop
  | nil : Pointwise R [] []
  | cons {a b : α} {l l' : List α} : R a b → Pointwise R l l' → Pointwise R (a :: l) (b :: l')

theorem Pointwise.getElem? {α : Type} {R : α → α → Prop} :
    ∀ {l l' : List α}, Pointwise R l l' → ∀ (i : Nat) (a : α), l[i]? = some a →
      ∃ b, l'[i]? = some b ∧ R a b := by
  intro l l' hf
  induction hf with
  | nil => intro i a ha; cases ha
  | cons hab _ ih =>
    intro i a ha
    cases i with
    | zero => exact ⟨_, rfl, Option.some.inj ha ▸ hab⟩
    | succ i => exact ih i a ha

theorem Pointwise.refl {α : Type} {R : α → α → Prop} (hR : ∀ a, R a a) : ∀ (l : List α), Pointwise R l l
  | [] => .nil
  | a :: l => .cons (hR a) (Pointwise.refl hR l)

theorem pointwise_iff_map_eq {α γ : Type} {R : α → α → Prop} {f : α → γ} (hf : ∀ a b, f a = f b ↔ R a b) :
    ∀ {l l' : List α}, l.map f = l'.map f ↔ Pointwise R l l'
  | [], [] => ⟨fun _ => .nil, fun _ => rfl⟩
  | [], _ :: _ => ⟨nofun, nofun⟩
  | _ :: _, [] => ⟨nofun, nofun⟩
  | a :: l, b :: l' => by
    rw [List.map_cons, List.map_cons, List.cons.injEq, hf, pointwise_iff_map_eq hf]
    exact ⟨fun ⟨h1, h2⟩ => .cons h1 h2, fun | .cons h1 h2 => ⟨h1, h2⟩⟩

def Frame (h : δ) (body : β) (v v' : Vol δ β) : Prop :=
  v' = v ∨ (v.ro = false ∧ v.full = false ∧ v' = { v with files := update v.files h body })

theorem volWrite_fst (v : Vol δ β) (h : δ) (body : β) :
    volWrite v h body = ((volWrite v h body).1, (volWrite v h body).2) := rfl

theorem volWrite_ro (v : Vol δ β) (h : δ) (body : β) : (volWrite v h body).2.ro = v.ro := by
  obtain ⟨ro, full, _, _⟩ := v
  cases ro <;> cases full <;> rfl

theorem volWrite_ok {v v' : Vol δ β} {h : δ} {body : β} (hw : volWrite v h body = (.ok, v')) : v.ro = false := by
  unfold volWrite at hw
  cases hro : v.ro with
  | false => rfl
  | true => rw [hro] at hw; cases hw

/-- What `PutBlock` guarantees about its result, whatever branch was taken. -/
structure PutSpec (hash : β → δ) (h : δ) (body : β) (vols : List (Vol δ β))
    (res : PutOutcome × List (Vol δ β) × Nat) : Prop where
  frame : Pointwise (Frame h body) vols res.2.1
  stored : ∀ r, res.1 = .ok r → ∃ v' ∈ res.2.1, v'.ro = false ∧ v'.files h = some body
  unchanged : (∀ r, res.1 ≠ .ok r) → res.2.1 = vols

/-- `handlePUT`'s answer to an outcome of `PutBlock`. -/
def putResp : PutOutcome → PutResp
  | .ok n => { status := 200, replicas := some n }
  | o => { status := putStatus o, replicas := none }

theorem putResp_status (o : PutOutcome) : (putResp o).status = putStatus o := by
  cases o <;> rfl

theorem putStatus_eq_200 {o : PutOutcome} : putStatus o = 200 ↔ ∃ n, o = .ok n := by
  cases o <;> simp [putStatus]

theorem putStatus_eq_500 {o : PutOutcome} : putStatus o = 500 ↔ o = .collision ∨ o = .generic := by
  cases o <;> simp [putStatus]

section
variable (hash : β → δ) (size : β → Nat) (vols : List (Vol δ β)) (rr : Nat) (h : δ) (body : β)

theorem frame_refl {h : δ} {body : β} (vols : List (Vol δ β)) : Pointwise (Frame h body) vols vols :=
  .refl (fun _ => .inl rfl) vols

theorem volCompare_spec (v : Vol δ β) :
    (volCompare hash size v h body = .same → v.files h = some body ∧ size body ≤ blockSize) ∧
    (volCompare hash size v h body = .collision → ∃ f, v.files h = some f ∧ f ≠ body ∧ hash f = h) := by
  unfold volCompare collisionOrCorrupt
  cases v.files h with
  | none => exact ⟨nofun, nofun⟩
  | some f =>
    by_cases hs : size f > blockSize
    · simp only [if_pos hs]; exact ⟨nofun, nofun⟩
    by_cases he : f = body
    · simp only [if_neg hs, if_pos he]; exact ⟨fun _ => he ▸ ⟨rfl, Nat.le_of_not_gt hs⟩, nofun⟩
    by_cases hh : hash f = h
    · simp only [if_neg hs, if_neg he, if_pos hh]; exact ⟨nofun, fun _ => ⟨f, rfl, he, hh⟩⟩
    · simp only [if_neg hs, if_neg he, if_neg hh]; exact ⟨nofun, nofun⟩

theorem handlePut_eq {cl : Bool} (hcl : cl = true) (hsz : size body ≤ blockSize)
    (hw : (allWritable vols).length ≠ 0) :
    handlePut hash size vols rr h body cl =
      (putResp (putBlock hash size vols rr h body).1, (putBlock hash size vols rr h body).2.1,
        (putBlock hash size vols rr h body).2.2) := by
  simp only [handlePut, hcl, Bool.not_true, Bool.false_eq_true, if_false, Nat.not_lt.mpr hsz, hw]
  cases (putBlock hash size vols rr h body).1 <;> rfl

theorem putBlock_eq (hh : hash body = h) :
    putBlock hash size vols rr h body =
      match compareAndTouch hash size h body vols with
      | .touched r => (.ok r, vols, rr)
      | .collision => (.collision, vols, rr)
      | .miss => putNew h body vols rr := by
  rw [putBlock, if_neg (not_not_intro hh)]
  rfl

/-- the write loop's result when mount `v` was passed over -/
def PutLoopResult.keep (v : Vol δ β) : PutLoopResult δ β → PutLoopResult δ β
  | .ok r vs => .ok r (v :: vs)
  | .allFull => .allFull
  | .failed => .failed

theorem putLoop_cons (v : Vol δ β) (rest : List (Vol δ β)) :
    putLoop h body (v :: rest) =
      if v.ro = true ∨ v.full = true then (putLoop h body rest).keep v
      else .ok (effRepl v) ({ v with files := update v.files h body } :: rest) := by
  rw [putLoop, volWrite]
  cases v.ro with
  | true => cases putLoop h body rest <;> rfl
  | false =>
    cases v.full with
    | true => cases putLoop h body rest <;> rfl
    | false => rfl

end

theorem handlePutEnv_cases (hash : β → δ) (size : β → Nat) (env : PutEnv) (vols : List (Vol δ β)) (rr : Nat)
    (h : δ) (body : β) (cl : Bool) {res : PutResp × List (Vol δ β) × Nat}
    (hres : handlePutEnv hash size env vols rr h body cl = res) :
    res = handlePut hash size vols rr h body cl ∨
      ((env.bufOk = false ∨ env.bodyOk = false ∨ env.gone ≠ .never) ∧ res.1.status ≠ 200 ∧
        (res.2.1 = vols ∨
          env.gone = .duringWrite true ∧ res.2.1 = (handlePut hash size vols rr h body cl).2.1)) := by
  unfold handlePutEnv at hres
  by_cases hcl : (!cl) = true
  · exact .inl (by rw [← hres, handlePut, if_pos hcl, if_pos hcl])
  by_cases hsz : size body > blockSize
  · exact .inl (by rw [← hres, handlePut, if_neg hcl, if_neg hcl, if_pos hsz, if_pos hsz])
  by_cases hw : (allWritable vols).length = 0
  · exact .inl (by rw [← hres, handlePut, if_neg hcl, if_neg hcl, if_neg hsz, if_neg hsz, if_pos hw, if_pos hw])
  rw [if_neg hcl, if_neg hsz, if_neg hw] at hres
  have hput := handlePut_eq hash size vols rr h body (by simpa using hcl) (Nat.le_of_not_gt hsz) hw
  by_cases hbuf : (!env.bufOk) = true
  · rw [if_pos hbuf] at hres; exact .inr (hres ▸ ⟨.inl (Bool.not_eq_true' _ ▸ hbuf), nofun, .inl rfl⟩)
  by_cases hbody : (!env.bodyOk) = true
  · rw [if_neg hbuf, if_pos hbody] at hres
    exact .inr (hres ▸ ⟨.inr (.inl (Bool.not_eq_true' _ ▸ hbody)), nofun, .inl rfl⟩)
  rw [if_neg hbuf, if_neg hbody] at hres
  cases hgone : env.gone with
  | never => rw [hgone] at hres; exact .inl hres.symm
  | beforeWrite =>
    simp only [hgone] at hres
    by_cases hh : hash body ≠ h
    · rw [if_pos hh] at hres; exact .inr (hres ▸ ⟨.inr (.inr nofun), nofun, .inl rfl⟩)
    · rw [if_neg hh] at hres; exact .inr (hres ▸ ⟨.inr (.inr nofun), nofun, .inl rfl⟩)
  | duringWrite landed =>
    simp only [hgone] at hres
    by_cases hh : hash body ≠ h
    · rw [if_pos hh] at hres; exact .inr (hres ▸ ⟨.inr (.inr nofun), nofun, .inl rfl⟩)
    · rw [if_neg hh] at hres
      rw [putBlock_eq hash size vols rr h body (Decidable.not_not.mp hh)] at hput
      cases hc : compareAndTouch hash size h body vols with
      | touched r => rw [hc] at hres hput; exact .inl (hres ▸ hput.symm)
      | collision => rw [hc] at hres hput; exact .inl (hres ▸ hput.symm)
      | miss =>
        rw [hc] at hres hput
        refine .inr (hres ▸ ⟨.inr (.inr nofun), nofun, ?_⟩)
        cases landed with
        | false => exact .inl rfl
        | true => exact .inr ⟨rfl, by rw [hput]; rfl⟩

end

end ArvVerif.C01
