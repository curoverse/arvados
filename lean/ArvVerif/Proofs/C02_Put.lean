/-
C02 helper lemmas: PutBlock on one volume. Whatever a request does to the volume is a
sequence of Compare / Touch runs, which only look or set the block file's timestamp (`Looks`), and
`WriteBlock` runs (`PutEvs`); a property of every crash prefix that composes (`Always`) therefore
only has to be shown for these two kinds of run. Then: what an acknowledgement implies.
-/
import ArvVerif.Proofs.C02_Write
namespace ArvVerif.C02

variable {fs : FS} {h : Name} {W : WBIn → Prop} {body : Bytes} {evs : List Ev} {l : List Ev} {w : WBIn}

def LooksAt (h : Name) (s : Step) : Prop := s = .nop ∨ ∃ t, s = .chtimes (blockPath h) t

def Looks (h : Name) (l : List Ev) : Prop := ∀ e ∈ l, LooksAt h e.eff

theorem looks_nil (h : Name) : Looks h [] := fun _ he => nomatch he

theorem Looks.forall {P : Step → Prop} (hl : Looks h l) (hnop : P .nop)
    (hch : ∀ t, P (.chtimes (blockPath h) t)) : ∀ e ∈ l, P e.eff := by
  intro e he
  rcases hl e he with h0 | ⟨t, h0⟩ <;> rw [h0]
  · exact hnop
  · exact hch t

theorem compare_looks (fs : FS) (h : Name) : Looks h (compareEvs fs h) := by
  unfold Looks compareEvs
  split <;> simp [LooksAt]

theorem touch_looks (fs : FS) (h : Name) (now : Nat) (fail : Option Nat) :
    Looks h (touchEvs fs h now fail).1 := by
  unfold Looks touchEvs
  split
  · simp [LooksAt]
  · split <;> simp [LooksAt]

theorem looks_data (hl : Looks h l) : Always (fun a b => ∀ p, b.data p = a.data p) l :=
  .of_steps (fun _ _ => rfl) (fun _ _ _ h1 h2 p => (h2 p).trans (h1 p))
    (fun _ _ hs _ => by
      rcases hs with rfl | ⟨t, rfl⟩
      · rfl
      · exact data_chtimes ..) hl

/-- `h` constrains the `Looks` parts only; that a run `w` writes `h` is for `W` to say (`WBIn.writes`). -/
inductive PutEvs (h : Name) (W : WBIn → Prop) : List Ev → Prop where
  | looks {l : List Ev} : Looks h l → PutEvs h W l
  | write {w : WBIn} : W w → PutEvs h W (writeBlockEvs w).1
  | append {a b : List Ev} : PutEvs h W a → PutEvs h W b → PutEvs h W (a ++ b)

theorem PutEvs.always {R : FS → FS → Prop}
    (trans : ∀ a b c, R a b → R b c → R a c) (hl : ∀ {l}, Looks h l → Always R l)
    (hw : ∀ {w}, W w → Always R (writeBlockEvs w).1) (hs : PutEvs h W evs) :
    Always R evs := by
  induction hs with
  | looks h => exact hl h
  | write h => exact hw h
  | append _ _ iha ihb => exact always_append trans iha ihb

theorem PutEvs.forall {P : Step → Prop} (hnop : P .nop)
    (hch : ∀ t, P (.chtimes (blockPath h) t)) (hw : ∀ {w}, W w → ∀ e ∈ (writeBlockEvs w).1, P e.eff)
    (hs : PutEvs h W evs) : ∀ e ∈ evs, P e.eff := by
  induction hs with
  | looks hl => exact hl.forall hnop hch
  | write h => exact hw h
  | append _ _ iha ihb => exact List.forall_mem_append.2 ⟨iha, ihb⟩

theorem PutEvs.looks_of_no_write (hW : ∀ w, ¬ W w)
    (hs : PutEvs h W l) : Looks h l :=
  hs.forall (P := LooksAt h) (.inl rfl) (fun t => .inr ⟨t, rfl⟩)
    fun hw => absurd hw (hW _)

/-- What `Op.valid (.put p)` and `MPutIn.valid` ask of every `WriteBlock` run of a request: it writes the request's
hash and sees EOF only after the whole body (the second half of `WBValid body w.chunks w.rend`). -/
def WBIn.writes (w : WBIn) (h : Name) (body : Bytes) : Prop :=
  w.h = h ∧ (w.rend = .eof → w.chunks.flatten = body)

def OldOrNew (h : Name) (body : Bytes) (fs fs' : FS) : Prop :=
  fs'.data (blockPath h) = fs.data (blockPath h) ∨ fs'.data (blockPath h) = some body

theorem PutEvs.oldOrNew (hW : ∀ w, W w → w.writes h body)
    (hs : PutEvs h W evs) : Always (OldOrNew h body) evs := by
  refine hs.always ?_ ?_ ?_
  · intro a b c h1 h2
    rcases h2 with h2 | h2
    · exact h1.imp h2.trans h2.trans
    · exact .inr h2
  · exact fun hl fs k => .inl (looks_data hl fs k _)
  · intro w hw fs k
    obtain ⟨rfl, hv⟩ := hW w hw
    rcases wb_crash_atomic fs w k with h1 | ⟨h1, h2, _⟩
    · exact .inl (congrArg (Option.map File.data) h1)
    · exact .inr (by rw [data_of_get h1, hv h2])

/-- From *any* state the list leaves `body` at `h`'s block path: whatever ran before, the last run that succeeded
decides (`acks_append_right`). -/
def Acks (h : Name) (body : Bytes) (evs : List Ev) : Prop :=
  ∀ fs : FS, (run fs evs).data (blockPath h) = some body

theorem acks_append_right {a b : List Ev} (hb : Acks h body b) :
    Acks h body (a ++ b) := by
  intro fs
  rw [run_append]
  exact hb _

theorem acks_wb (hw : w.writes h body)
    (hok : (writeBlockEvs w).2 = true) : Acks h body (writeBlockEvs w).1 := by
  intro fs
  obtain ⟨h1, _, h3⟩ := wb_success fs w hok
  obtain ⟨rfl, hv⟩ := hw
  rw [data_of_get h3, hv h1]

theorem attempts_spec :
    ∀ {ws : List WBIn}, (∀ w ∈ ws, W w) → PutEvs h W (attemptsEvs ws).1 ∧
      ((∀ w, W w → w.writes h body) → (attemptsEvs ws).2 = true → Acks h body (attemptsEvs ws).1)
  | [], _ => ⟨.looks (looks_nil h), fun _ hs => nomatch hs⟩
  | w :: rest, hws => by
    obtain ⟨hw, hrest⟩ := List.forall_mem_cons.1 hws
    obtain ⟨hr, ar⟩ := attempts_spec hrest
    simp only [attemptsEvs]
    split
    · next hok => exact ⟨.write hw, fun hv _ => acks_wb (hv w hw) hok⟩
    · exact ⟨(PutEvs.write hw).append hr, fun hv hs => acks_append_right (ar hv hs)⟩

theorem mem_effAttempts {p : PutIn} (hw : w ∈ p.effAttempts) : w ∈ p.attempts := by
  unfold PutIn.effAttempts at hw
  split at hw
  · cases hw
  · exact hw

section
variable (hash : Bytes → Name) (fs : FS) (p : PutIn)

/-- `putCore` looks at `fs`, but its events run after Compare's: on any `fs'` with the same bytes at the block path. -/
theorem putCore_spec :
    PutEvs p.h (· ∈ p.attempts) (putCore hash fs p).1 ∧
    ((∀ w ∈ p.attempts, w.writes p.h p.body) → (putCore hash fs p).2 = .ok200 →
      ∀ fs' : FS, fs'.data (blockPath p.h) = fs.data (blockPath p.h) →
        (run fs' (putCore hash fs p).1).data (blockPath p.h) = some p.body) := by
  obtain ⟨ha, aa⟩ := attempts_spec (h := p.h) (body := p.body) (W := (· ∈ p.attempts))
    (ws := p.effAttempts) fun _ => mem_effAttempts
  have write : ∀ {pre : List Ev}, Looks p.h pre →
      PutEvs p.h (· ∈ p.attempts) (pre ++ (attemptsEvs p.effAttempts).1) ∧
      ((∀ w ∈ p.attempts, w.writes p.h p.body) →
        (if p.cancelled then Resp.disconnect else if (attemptsEvs p.effAttempts).2 then .ok200
          else if p.volumeFull then .full else .fail) = .ok200 →
        ∀ fs' : FS, fs'.data (blockPath p.h) = fs.data (blockPath p.h) →
          (run fs' (pre ++ (attemptsEvs p.effAttempts).1)).data (blockPath p.h) = some p.body) := by
    refine fun hl => ⟨(PutEvs.looks hl).append ha, fun hv h fs' _ => acks_append_right (aa hv ?_) fs'⟩
    split at h
    · cases h
    · split at h
      · assumption
      · split at h <;> cases h
  generalize hr : putCore hash fs p = r
  unfold putCore at hr
  cases hg : fs.get (blockPath p.h) with
  | none => rw [hg] at hr; subst hr; exact write (looks_nil _)
  | some f =>
    simp only [hg] at hr
    by_cases hd : f.data = p.body
    · have hl := touch_looks fs p.h p.now p.touchFail
      by_cases ht : (touchEvs fs p.h p.now p.touchFail).2 = .ok
      · rw [if_pos hd, if_pos ht] at hr; subst hr
        exact ⟨.looks hl, fun _ _ fs' h' => by rw [(looks_data hl).run, h', data_of_get hg, hd]⟩
      · rw [if_pos hd, if_neg ht] at hr; subst hr; exact write hl
    · by_cases hc : hash f.data = p.h
      · rw [if_neg hd, if_pos hc] at hr; subst hr; exact ⟨.looks (looks_nil _), fun _ h => nomatch h⟩
      · rw [if_neg hd, if_neg hc] at hr; subst hr; exact write (looks_nil _)

theorem handlePut_spec :
    ((handlePut hash fs p).1 = [] ∨ (isBlockName p.h = true ∧ hash p.body = p.h ∧
      PutEvs p.h (· ∈ p.attempts) (handlePut hash fs p).1)) ∧
    ((∀ w ∈ p.attempts, w.writes p.h p.body) → (handlePut hash fs p).2 = .ok200 →
      hash p.body = p.h ∧ (run fs (handlePut hash fs p).1).data (blockPath p.h) = some p.body) := by
  obtain ⟨hc, ac⟩ := putCore_spec hash fs p
  have hcmp := PutEvs.looks (W := (· ∈ p.attempts)) (compare_looks fs p.h)
  generalize hr : handlePut hash fs p = r
  simp only [handlePut] at hr
  split at hr
  · subst hr; exact ⟨.inl rfl, fun _ h => nomatch h⟩
  · next hb =>
    split at hr
    · subst hr; exact ⟨.inl rfl, fun _ h => nomatch h⟩
    · next hh =>
      have hb' : isBlockName p.h = true := by simpa using hb
      have hh' : hash p.body = p.h := by simpa using hh
      split at hr <;> subst hr
      · exact ⟨.inr ⟨hb', hh', hcmp⟩, fun _ h => nomatch h⟩
      · refine ⟨.inr ⟨hb', hh', hcmp.append hc⟩, fun hv h => ⟨hh', ?_⟩⟩
        rw [run_append]
        exact ac hv h _ ((looks_data (compare_looks fs p.h)).run fs _)

theorem put_crash_atomic (hv : ∀ w ∈ p.attempts, w.writes p.h p.body) (k : Nat) :
    (run fs ((handlePut hash fs p).1.take k)).data (blockPath p.h) = fs.data (blockPath p.h) ∨
    ((run fs ((handlePut hash fs p).1.take k)).data (blockPath p.h) = some p.body ∧ hash p.body = p.h) := by
  rcases (handlePut_spec hash fs p).1 with h | ⟨_, hh, hs⟩
  · rw [h, List.take_nil]; exact .inl rfl
  · exact (hs.oldOrNew hv fs k).imp_right (⟨·, hh⟩)

theorem put_getBlock (hv : ∀ w ∈ p.attempts, w.writes p.h p.body) (k : Nat) :
    getBlock hash (run fs ((handlePut hash fs p).1.take k)) p.h = getBlock hash fs p.h ∨
    getBlock hash (run fs ((handlePut hash fs p).1.take k)) p.h = .ok p.body :=
  (put_crash_atomic hash fs p hv k).imp getBlock_congr_data fun h => getBlock_of_data h.1 h.2

end

end ArvVerif.C02
