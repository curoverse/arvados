/-
C17 — the output collection as a flat map: `get`/`set`, what a successful `mkdirs` / `copyFiles`
leaves whatever was there before, and that `copyFiles` succeeds on free, distinct destinations.
-/
import ArvVerif.Model.C17
namespace ArvVerif.C17

theorem Tree.get_nil (t : Tree) : t.get [] = some .dir := by simp [Tree.get]

/-- replacing the entry for `p` keeps every key, so a lookup finds the same position -/
theorem find_map_replace (t : Tree) (p q : Path) (e : Ent) :
    ((t.map fun x => if x.1 = p then (p, e) else x).find? (·.1 = q)).map (·.2) =
      (t.find? (·.1 = q)).map fun x => if q = p then e else x.2 := by
  induction t with
  | nil => rfl
  | cons x xs ih =>
    simp only [List.map_cons, List.find?_cons]
    by_cases hx : x.1 = p <;> by_cases hq : q = p <;> grind

theorem Tree.get_set (t : Tree) (p q : Path) (e : Ent) (hp : p ≠ []) :
    (t.set p e).get q = if q = p then some e else t.get q := by
  unfold Tree.get Tree.set
  by_cases hq0 : q = []
  · simp [hq0, Ne.symm hp]
  · rw [if_neg hq0, if_neg hq0, ← List.isSome_find?]
    cases hf : t.find? (·.1 = p) with
    | none =>
      rw [if_neg nofun, List.find?_append]
      by_cases hqp : q = p
      · simp [hqp, hf]
      · cases t.find? (·.1 = q) <;> simp [hqp, Ne.symm hqp]
    | some x =>
      rw [Option.isSome_some, if_pos rfl, find_map_replace]
      by_cases hqp : q = p
      · simp [hqp, hf]
      · simp [hqp]

theorem mkdir_ok_spec {t t' : Tree} {d : Path} (hd : d ≠ []) (h : mkdir t d = some t') (x : Path) :
    t'.get x = if x = d ∧ t.get x = none then some .dir else t.get x := by
  unfold mkdir at h
  split at h
  · split at h
    · rename_i hnone
      cases h
      rw [Tree.get_set t d x .dir hd]
      by_cases hx : x = d
      · simp [hx, hnone]
      · simp [hx]
    · rename_i e he
      cases h
      by_cases hx : x = d
      · simp [hx, he]
      · simp [hx]
  · cases h

/-- `Mkdir` on a path that exists (as a file or a directory) changes nothing -/
theorem mkdirs_ok_spec : ∀ (ds : List Path) (t t' : Tree), (∀ d ∈ ds, d ≠ []) → mkdirs t ds = some t' →
    ∀ x, t'.get x = if x ∈ ds ∧ t.get x = none then some .dir else t.get x := by
  intro ds
  induction ds with
  | nil => intro t t' _ h x; cases h; simp
  | cons d ds ih =>
    intro t t' hne h x
    obtain ⟨t1, h1, h⟩ := Option.bind_eq_some_iff.mp h
    rw [ih t1 t' (fun z hz => hne z (List.mem_cons_of_mem _ hz)) h x,
      mkdir_ok_spec (hne d (List.mem_cons_self ..)) h1 x]
    by_cases hxd : x = d
    · by_cases hn : t.get d = none <;> simp [hxd, hn]
    · simp [hxd]

/-- what `copyFile` leaves at the destination: the new bytes, followed by the tail of a longer file
that was there (no truncation); an existing directory stays (possible only for an empty source) -/
def overlay (old : Option Ent) (c : Bytes) : Option Ent :=
  match old with
  | none => some (.file c)
  | some (.file o) => some (.file (c ++ o.drop c.length))
  | some .dir => some .dir

theorem copyFile_ok_spec (t t' : Tree) (dst : Path) (c : Bytes) (hd : dst ≠ []) (h : copyFile t dst c = some t') :
    (∀ x, t'.get x = if x = dst then overlay (t.get dst) c else t.get x) ∧ (t.get dst = some .dir → c = []) := by
  unfold copyFile at h
  split at h
  · split at h
    · rename_i hnone
      cases h
      exact ⟨fun x => by rw [Tree.get_set t dst x _ hd, hnone]; rfl, fun hh => by rw [hnone] at hh; cases hh⟩
    · rename_i old hold
      cases h
      exact ⟨fun x => by rw [Tree.get_set t dst x _ hd, hold]; rfl, fun hh => by rw [hold] at hh; cases hh⟩
    · rename_i hdir
      split at h
      · rename_i hc
        cases h
        refine ⟨fun x => ?_, fun _ => hc⟩
        split
        · rename_i hx; rw [hx, hdir]; rfl
        · rfl
      · cases h
  · cases h

def planned (h : Host) (fs : List (Path × Option Path)) (x : Path) : Option Bytes :=
  (fs.find? (·.1 = x)).map fun f => srcContent h f.2

theorem planned_cons (h : Host) (f : Path × Option Path) (fs : List (Path × Option Path)) (x : Path) :
    planned h (f :: fs) x = if f.1 = x then some (srcContent h f.2) else planned h fs x := by
  unfold planned
  rw [List.find?_cons]
  by_cases hx : f.1 = x <;> simp [hx]

theorem planned_none_of_not_mem (h : Host) (fs : List (Path × Option Path)) (x : Path)
    (hx : x ∉ fs.map (·.1)) : planned h fs x = none := by
  induction fs with
  | nil => rfl
  | cons g gs ih =>
    rw [List.map_cons, List.mem_cons, not_or] at hx
    rw [planned_cons, if_neg (Ne.symm hx.1), ih hx.2]

theorem planned_of_mem (h : Host) (fs : List (Path × Option Path)) (hnd : (fs.map (·.1)).Nodup)
    (f : Path × Option Path) (hf : f ∈ fs) : planned h fs f.1 = some (srcContent h f.2) := by
  induction fs with
  | nil => cases hf
  | cons g gs ih =>
    obtain ⟨hng, hnd⟩ := List.nodup_cons.mp hnd
    rw [planned_cons]
    rcases List.mem_cons.mp hf with rfl | hm
    · rw [if_pos rfl]
    · rw [if_neg fun heq => hng (List.mem_map.mpr ⟨f, hm, heq.symm⟩), ih hnd hm]

theorem planned_some (h : Host) (fs : List (Path × Option Path)) (x : Path) (c : Bytes)
    (hp : planned h fs x = some c) : ∃ f ∈ fs, f.1 = x ∧ srcContent h f.2 = c := by
  obtain ⟨f, hf, hc⟩ := Option.map_eq_some_iff.mp hp
  exact ⟨f, List.mem_of_find?_eq_some hf, by simpa using List.find?_some hf, hc⟩

theorem copyFiles_spec (h : Host) : ∀ (fs : List (Path × Option Path)) (t : Tree),
    (fs.map (·.1)).Nodup →
    (∀ f ∈ fs, f.1 ≠ [] ∧ t.get f.1.dropLast = some .dir ∧ t.get f.1 = none) →
    ∃ t', copyFiles h t fs = some t' ∧
      ∀ x, t'.get x = match planned h fs x with
        | some c => some (.file c)
        | none => t.get x := by
  intro fs
  induction fs with
  | nil => intro t _ _; exact ⟨t, rfl, fun x => rfl⟩
  | cons f fs ih =>
    intro t hnd hall
    obtain ⟨hne, hpar, hfree⟩ := hall f (List.mem_cons_self ..)
    obtain ⟨hnf, hnd⟩ := List.nodup_cons.mp hnd
    have h1 : copyFile t f.1 (srcContent h f.2) = some (t.set f.1 (.file (srcContent h f.2))) := by
      unfold copyFile; rw [hpar, hfree]
    have hg1 := fun x => Tree.get_set t f.1 x (.file (srcContent h f.2)) hne
    obtain ⟨t', h2, hg2⟩ := ih _ hnd fun g hg => by
      obtain ⟨gne, gpar, gfree⟩ := hall g (List.mem_cons_of_mem _ hg)
      refine ⟨gne, ?_, ?_⟩
      · rw [hg1, if_neg fun hx => by rw [hx, hfree] at gpar; cases gpar]; exact gpar
      · rw [hg1, if_neg fun hx => hnf (List.mem_map.mpr ⟨g, hg, hx⟩)]; exact gfree
    refine ⟨t', by simp [copyFiles, h1, h2], fun x => ?_⟩
    rw [hg2, planned_cons]
    by_cases hx : f.1 = x
    · subst hx
      rw [if_pos rfl, planned_none_of_not_mem h fs _ hnf]
      simp [hg1]
    · rw [if_neg hx, hg1, if_neg (Ne.symm hx)]

theorem copyFiles_ok_spec (h : Host) : ∀ (fs : List (Path × Option Path)) (t t' : Tree),
    (fs.map (·.1)).Nodup → (∀ f ∈ fs, f.1 ≠ []) → copyFiles h t fs = some t' →
    ∀ x, (t'.get x = match planned h fs x with
        | some c => overlay (t.get x) c
        | none => t.get x) ∧
      (∀ c, planned h fs x = some c → t.get x = some .dir → c = []) := by
  intro fs
  induction fs with
  | nil => intro t t' _ _ hc x; cases hc; simp [planned]
  | cons f fs ih =>
    intro t t' hnd hne hc x
    obtain ⟨t1, h1, hc⟩ := Option.bind_eq_some_iff.mp hc
    obtain ⟨hnf, hnd⟩ := List.nodup_cons.mp hnd
    obtain ⟨hg1, hdir1⟩ := copyFile_ok_spec t t1 f.1 _ (hne f (List.mem_cons_self ..)) h1
    obtain ⟨hg2, hdir2⟩ := ih t1 t' hnd (fun g hg => hne g (List.mem_cons_of_mem _ hg)) hc x
    rw [planned_cons]
    by_cases hx : f.1 = x
    · -- no later file has this destination
      subst hx
      rw [planned_none_of_not_mem h fs f.1 hnf, hg1, if_pos rfl] at hg2
      rw [if_pos rfl]
      exact ⟨hg2, fun c hc' hdir => by cases hc'; exact hdir1 hdir⟩
    · rw [if_neg hx]
      rw [hg1, if_neg (Ne.symm hx)] at hg2 hdir2
      exact ⟨hg2, hdir2⟩

end ArvVerif.C17
