/-
C20 model: federated list-by-UUID (lib/controller/federation/list.go `splitListRequest` and the
`generated_*List` merge callback, lib/controller/federation/generated.go; backend selection as in
conn.go).

What the Go code does, and how it is modelled
* Go maps (`matchAllFilters`, `todoByRemote`, `todo`) are duplicate-free lists here; Go's random
  map iteration order only permutes the batch sent to a backend. A backend is an arbitrary function
  of (forwarded options, call index), so every theorem below that quantifies over all backends
  covers every iteration order.
* One goroutine per cluster: the goroutines share nothing but the merged result (under a mutex)
  and the error channel; each one talks to its own backend and keeps its own `todo`. The model runs
  them one after the other; the merged result is re-sorted by the code when two or more non-empty
  pages arrived (`needSort`), and is a single page (or empty) otherwise, so it does not depend on
  the interleaving (up to ties in `modified_at`, which the unstable `sort.Slice` may order either
  way).
* `firstErr` is whichever failing goroutine reports first: the model returns the list of all
  cluster errors (`Outcome.err`), Go returns one of them.
* The model describes the code after fix d542fa4 (F10): a returned uuid that is not in `todo` any
  more (already delivered, second copy in the page, never requested) makes the cluster fail with 502
  (`accepts`).
* The per-cluster loop is modelled with fuel `|todo|`; `loop_run` (Proofs/C20_Loop) and `Loop.ends`
  (Proofs/C20_LoopResult) show this fuel is never exhausted (`Stop.starved` is unreachable), which
  is the termination argument.
Text is `List Char` throughout so that the kernel can evaluate the model (`decide`).
-/
namespace ArvVerif.C20

abbrev Str := List Char
abbrev Uuid := Str
abbrev ClusterId := Str

def sUuid : Str := ['u', 'u', 'i', 'd']
def sEq : Str := ['=']
def sIn : Str := ['i', 'n']
def sNone : Str := ['n', 'o', 'n', 'e']

/-- A listed object: only its uuid and `modified_at` (as a number) matter to the merge. -/
structure Obj where
  uuid : Uuid
  ts : Nat
deriving DecidableEq, Repr

/-- The dynamic type of a filter operand, as far as `splitListRequest` looks at it. -/
inductive Operand where
  | str (s : Uuid)                    -- string
  | ilist (xs : List (Option Uuid))   -- []interface{}; `none` = an element that is not a string
  | slist (xs : List Uuid)            -- []string
  | other                             -- anything else
deriving DecidableEq, Repr

structure Filter where
  attr : Str
  op : Str
  operand : Operand
deriving DecidableEq, Repr

/-- The part of `arvados.ListOptions` that the code reads or forwards. -/
structure Opts where
  filters : List Filter
  count : Str
  limit : Int
  offset : Int
  order : List Str
  select : Option (List Str)   -- nil vs non-nil slice
  bypass : Bool
  fwd : Str
  -- forwarded untouched; never read by splitListRequest
  includeTrash : Bool := false
  includeOldVersions : Bool := false
  distinct : Bool := false
  whereKV : Str := []      -- `Where` (rendered "key=value"; [] = nil map)
  includeS : Str := []     -- `Include`
  clusterId : Str := []    -- `ClusterID`
deriving DecidableEq, Repr

/-- Answer of one backend call. `error 0` is an error without an HTTP status. -/
inductive Resp where
  | error (status : Nat)
  | page (items : List Obj)
deriving DecidableEq, Repr

/-- A backend: any function from the forwarded options and the index of the call (0, 1, …, per
cluster and per request) to an answer. -/
abbrev Backend := Opts → Nat → Resp

structure Cfg where
  localId : ClusterId
  maxItems : Int                         -- cluster.API.MaxItemsPerResponse
  localB : Backend                       -- conn.local
  remotes : ClusterId → Option Backend   -- conn.remotes

def pageUuids (items : List Obj) : List Uuid := items.map (·.uuid)

/-! ### filter scan (list.go:117-164) -/

/-- keys of a Go `map[string]bool` filled from a list: no duplicates -/
def dedup : List Str → List Str
  | [] => []
  | x :: xs => if x ∈ dedup xs then dedup xs else x :: dedup xs

inductive FilterKind where
  | notSplittable              -- attr ≠ "uuid", or an operator other than "=" / "in": `cannotSplit`
  | bad                        -- invalid operand type: 400 at once
  | set (us : List Uuid)       -- the uuids this filter can match
deriving DecidableEq, Repr

def classifyFilter (f : Filter) : FilterKind :=
  if f.attr ≠ sUuid then .notSplittable
  else if f.op = sEq then
    match f.operand with
    | .str s => .set [s]
    | _ => .bad
  else if f.op = sIn then
    match f.operand with
    | .ilist xs => .set (xs.filterMap id)
    | .slist xs => .set xs
    | _ => .bad
  else .notSplittable

structure Scan where
  cannotSplit : Bool
  matchAll : Option (List Uuid)   -- `matchAllFilters` (nil = no uuid filter seen)
deriving DecidableEq, Repr

/-- `none` = "invalid operand type" (400). -/
def scanFilters : List Filter → Scan → Option Scan
  | [], s => some s
  | f :: fs, s =>
    match classifyFilter f with
    | .notSplittable => scanFilters fs { s with cannotSplit := true }
    | .bad => none
    | .set us =>
      match s.matchAll with
      | none => scanFilters fs { s with matchAll := some (dedup us) }
      | some m => scanFilters fs { s with matchAll := some (m.filter (fun u => decide (u ∈ us))) }

/-! ### grouping by home cluster (list.go:178-190) -/

def uuidLen : Nat := 27
def prefixLen : Nat := 5
def statusBadRequest : Nat := 400
def statusNotFound : Nat := 404
def statusBadGateway : Nat := 502

/-- `len(uuid) != 27`: "Cannot match anything, just drop it" -/
def wellFormed (u : Uuid) : Bool := u.length == uuidLen
/-- `uuid[:5]` -/
def home (u : Uuid) : ClusterId := u.take prefixLen

def clusterIds (us : List Uuid) : List ClusterId := dedup (us.map home)

/-- `todoByRemote` -/
def groups (us : List Uuid) : List (ClusterId × List Uuid) :=
  (clusterIds us).map (fun c => (c, us.filter (fun u => decide (home u = c))))

/-! ### what to do with the request (list.go:111-213) -/

inductive Plan where
  | reject (status : Nat)      -- error before any backend call
  | passLocal                  -- one call to the local backend, options unchanged
  | empty                      -- empty result, no backend call
  | split (gs : List (ClusterId × List Uuid))
deriving DecidableEq, Repr

def plan (localId : ClusterId) (maxItems : Int) (o : Opts) : Plan :=
  if o.bypass = true ∨ o.fwd ≠ [] then .passLocal else
  match scanFilters o.filters ⟨false, none⟩ with
  | none => .reject 400
  | some ⟨_, none⟩ => .passLocal
  | some ⟨cs, some m⟩ =>
    let m27 := m.filter wellFormed
    let gs := groups m27
    if gs = [] then .empty
    else if gs.length = 1 ∧ localId ∈ gs.map (·.1) then .passLocal
    else if cs = true then .reject 400
    else if o.count ≠ sNone then .reject 400
    else if o.limit ≥ 0 ∨ o.offset ≠ 0 ∨ o.order ≠ [] then .reject 400
    else if (m27.length : Int) > maxItems then .reject 400
    else .split gs

/-! ### the per-cluster loop (list.go:219-274) -/

def batchFilter (batch : List Uuid) : Filter := ⟨sUuid, sIn, .slist batch⟩

/-- the request sent for one batch: `remoteOpts.Filters = []arvados.Filter{{"uuid", "in", batch}}` -/
def batchReq (ropts : Opts) (batch : List Uuid) : Opts := { ropts with filters := [batchFilter batch] }

/-- what the merge callback does to the options of every call (list.go:30) -/
def forwarded (localId : ClusterId) (o : Opts) : Opts :=
  { o with fwd := localId ++ ['-'] ++ o.fwd }

/-- `remoteOpts` of the split path (list.go:234-240) after the callback's ForwardedFor update -/
def remoteOpts (localId : ClusterId) (o : Opts) : Opts :=
  forwarded localId { o with select := o.select.map (fun s => sUuid :: s) }

inductive Stop where
  | done
  | failed (status : Nat)
  | starved                     -- fuel exhausted: proved unreachable
deriving DecidableEq, Repr

structure CRes where
  pages : List (List Obj)         -- every page handed to the merge callback, in call order
  log : List (Opts × Resp)        -- every backend call with its answer, in call order
  stop : Stop
deriving DecidableEq, Repr

def CRes.push (req : Opts) (resp : Resp) (items : List Obj) (r : CRes) : CRes :=
  ⟨items :: r.pages, (req, resp) :: r.log, r.stop⟩

/-- uuids still wanted after a page: `delete(todo, uuid)` for every returned uuid -/
def remaining (todo : List Uuid) (items : List Obj) : List Uuid :=
  todo.filter (fun u => decide (u ∉ pageUuids items))

/-- The `for _, uuid := range done` loop of list.go (after fix d542fa4): every returned uuid must
still be in `todo` when it is reached — it is deleted then, so a second copy in the same page, an
already delivered uuid and a never requested one all make the cluster fail. -/
def accepts : List Uuid → List Uuid → Bool
  | _, [] => true
  | todo, u :: us => decide (u ∈ todo) && accepts (todo.filter (fun v => decide (v ≠ u))) us

def clusterLoop (B : Backend) (ropts : Opts) : Nat → List Uuid → Nat → CRes
  | 0, todo, _ => if todo = [] then ⟨[], [], .done⟩ else ⟨[], [], .starved⟩
  | fuel + 1, todo, idx =>
    if todo = [] then ⟨[], [], .done⟩ else
    -- batch = todo: the batch is rebuilt from todo whenever todo shrank (list.go:242-248)
    let req := batchReq ropts todo
    match B req idx with
    | .error s => ⟨[], [(req, .error s)], .failed 502⟩
    | .page items =>
      let todo' := remaining todo items
      if items = [] then ⟨[[]], [(req, .page [])], .done⟩
      -- an item that was not requested or was already returned: 502 (the page was merged already)
      else if accepts todo (pageUuids items) = false then ⟨[items], [(req, .page items)], .failed 502⟩
      -- "cannot make progress" (unreachable for an accepted non-empty page, kept as in the code)
      else if todo'.length = todo.length then ⟨[items], [(req, .page items)], .failed 502⟩
      else (clusterLoop B ropts fuel todo' (idx + 1)).push req (.page items) items

/-- The loop exactly as written in Go, with the separate `batch` variable: `batch` starts as all of
`todo` and is rebuilt from `todo` only `if len(batch) > len(todo)` (list.go:242-248).
`loopGo_eq` (Proofs/C20_Loop) shows that the batch sent always equals `todo`, i.e. this is
`clusterLoop`. -/
def clusterLoopGo (B : Backend) (ropts : Opts) : Nat → List Uuid → List Uuid → Nat → CRes
  | 0, _, todo, _ => if todo = [] then ⟨[], [], .done⟩ else ⟨[], [], .starved⟩
  | fuel + 1, batch, todo, idx =>
    if todo = [] then ⟨[], [], .done⟩ else
    let batch' := if batch.length > todo.length then todo else batch
    let req := batchReq ropts batch'
    match B req idx with
    | .error s => ⟨[], [(req, .error s)], .failed 502⟩
    | .page items =>
      let todo' := remaining todo items
      if items = [] then ⟨[[]], [(req, .page [])], .done⟩
      else if accepts todo (pageUuids items) = false then ⟨[items], [(req, .page items)], .failed 502⟩
      else if todo'.length = todo.length then ⟨[items], [(req, .page items)], .failed 502⟩
      else (clusterLoopGo B ropts fuel batch' todo' (idx + 1)).push req (.page items) items

/-- backend selection of the list path (list.go:227-233) -/
def backendFor (cfg : Cfg) (c : ClusterId) : Option Backend :=
  if c = cfg.localId then some cfg.localB else cfg.remotes c

def runCluster (cfg : Cfg) (o : Opts) (c : ClusterId) (todo : List Uuid) : CRes :=
  match backendFor cfg c with
  | none => ⟨[], [], .failed 404⟩
  | some B => clusterLoop B (remoteOpts cfg.localId o) todo.length todo 0

/-! ### merge (list.go:24-63) -/

def tsGe (a b : Obj) : Bool := decide (b.ts ≤ a.ts)

/-- `merged = cl` for the first non-empty page, `append` + `needSort` for every later non-empty
one, then "modified_at desc" if `needSort`. -/
def mergePages (pages : List (List Obj)) : List Obj :=
  let ne := pages.filter (fun p => decide (p ≠ []))
  if 2 ≤ ne.length then ne.flatten.mergeSort tsGe else ne.flatten

inductive Outcome where
  | ok (items : List Obj)
  | err (statuses : List Nat)   -- Go returns the error of whichever failing cluster reports first
deriving DecidableEq, Repr

structure Run where
  out : Outcome
  log : List (ClusterId × List (Opts × Resp))
deriving DecidableEq, Repr

def Stop.status? : Stop → Option Nat
  | .done => none
  | .failed s => some s
  | .starved => some 0

def splitResults (cfg : Cfg) (o : Opts) (gs : List (ClusterId × List Uuid)) : List (ClusterId × CRes) :=
  gs.map (fun g => (g.1, runCluster cfg o g.1 g.2))

def run (cfg : Cfg) (o : Opts) : Run :=
  match plan cfg.localId cfg.maxItems o with
  | .reject s => ⟨.err [s], []⟩
  | .empty => ⟨.ok [], []⟩
  | .passLocal =>
    let req := forwarded cfg.localId o
    match cfg.localB req 0 with
    | .error s => ⟨.err [s], [(cfg.localId, [(req, .error s)])]⟩
    | .page items => ⟨.ok items, [(cfg.localId, [(req, .page items)])]⟩
  | .split gs =>
    let rs := splitResults cfg o gs
    let errs := rs.filterMap (fun r => r.2.stop.status?)
    let log := rs.map (fun r => (r.1, r.2.log))
    if errs = [] then ⟨.ok (mergePages (rs.flatMap (fun r => r.2.pages))), log⟩
    else ⟨.err errs, log⟩

/-! ### context cancellation after the first error (list.go:215-216, 279-287)

The collector calls `cancel()` when it receives the first non-nil error. A backend that honours its
context (the RPC client does) then fails every later call of the other goroutines; those goroutines
report 502 — but after the first error, so their reports are never the one returned. `cut c = some k`
says: cluster `c`'s calls with index ≥ k see a cancelled context. -/

/-- a backend whose calls from index `k` on fail because the context was cancelled -/
def cutBackend (B : Backend) : Option Nat → Backend
  | none => B
  | some k => fun req idx => if k ≤ idx then .error 0 else B req idx

def runClusterCut (cfg : Cfg) (o : Opts) (c : ClusterId) (todo : List Uuid) (cut : Option Nat) : CRes :=
  match backendFor cfg c with
  | none => ⟨[], [], .failed 404⟩
  | some B => clusterLoop (cutBackend B cut) (remoteOpts cfg.localId o) todo.length todo 0

/-- the cancellation reaches cluster `g` before its loop has ended by itself -/
def affected (cfg : Cfg) (o : Opts) (cut : ClusterId → Option Nat) (g : ClusterId × List Uuid) : Bool :=
  match cut g.1 with
  | none => false
  | some k => decide (k < (runCluster cfg o g.1 g.2).log.length)

/-- The request under a cancellation schedule. `external = true`: the *caller's* context ended (client
gone, request timeout) — then there need not be any failing cluster, and the 502 of a cluster reached
by the cancellation can be the first error. `external = false`: only the collector's own `cancel()`
after a first error. The error returned by Go is the first one received: that of a cluster that
failed by itself (not `affected`), or — external only — the 502 of an affected one. An empty list
with failing clusters means the schedule is impossible (internal cancellation without a cause). -/
def runCancel (cfg : Cfg) (o : Opts) (cut : ClusterId → Option Nat) (external : Bool := false) : Run :=
  match plan cfg.localId cfg.maxItems o with
  | .split gs =>
    let rs := gs.map (fun g => (g.1, runClusterCut cfg o g.1 g.2 (cut g.1)))
    let log := rs.map (fun r => (r.1, r.2.log))
    if rs.filterMap (fun r => r.2.stop.status?) = [] then
      ⟨.ok (mergePages (rs.flatMap (fun r => r.2.pages))), log⟩
    else
      ⟨.err ((gs.filter (fun g => !affected cfg o cut g)).filterMap
          (fun g => (runCluster cfg o g.1 g.2).stop.status?) ++
        (if external then (gs.filter (fun g => affected cfg o cut g)).map (fun _ => 502) else [])), log⟩
  | _ => run cfg o

/-! ### conn.go chooseBackend (single-object requests), for comparison with `backendFor` -/

def chooseBackend (cfg : Cfg) (id : Str) : Backend :=
  let c : Option ClusterId :=
    if id.length = 27 then some (id.take 5) else if id.length ≠ 5 then none else some id
  match c with
  | none => cfg.localB
  | some c =>
    if c = cfg.localId then cfg.localB
    else match cfg.remotes c with
      | some b => b
      | none => cfg.localB

/-! ### conn.go UserList: the LoginCluster detour (conn.go:544-557) and batchUpdateUsers (483-542)

With `Login.LoginCluster` set to another cluster (and no bypass) a user list request never reaches
`generated_UserList`: it is handed, unchanged, to `chooseBackend(LoginCluster)` (the local backend
if that cluster has no proxy), and the returned users whose uuid starts with the LoginCluster id are
cached locally through `conn.local.UserBatchUpdate` (only uuids matter here). -/

def userListDetour (localId login : ClusterId) (o : Opts) : Bool :=
  decide (login ≠ []) && decide (login ≠ localId) && !o.bypass

/-- `strings.HasPrefix(user.UUID, id)` -/
def hasPrefix (pre s : Str) : Bool := s.take pre.length == pre

structure URun where
  out : Outcome
  /-- the list calls made: the generated path's log, or the single detour call -/
  log : List (ClusterId × List (Opts × Resp))
  /-- detour only: the one request/answer handed to chooseBackend(LoginCluster) -/
  detour : Option (Opts × Resp)
  /-- uuids passed to local.UserBatchUpdate (`none` = not called) and whether it failed -/
  update : Option (List Uuid × Bool)
deriving Repr

def runUserList (cfg : Cfg) (login : ClusterId) (updateFails : Bool) (o : Opts) : URun :=
  if userListDetour cfg.localId login o then
    match chooseBackend cfg login o 0 with
    | .error s => ⟨.err [s], [], some (o, .error s), none⟩
    | .page items =>
      let upd := dedup ((pageUuids items).filter (hasPrefix login))
      if upd = [] then ⟨.ok items, [], some (o, .page items), none⟩
      else if updateFails then ⟨.err [0], [], some (o, .page items), some (upd, true)⟩
      else ⟨.ok items, [], some (o, .page items), some (upd, false)⟩
  else
    let r := run cfg o
    ⟨r.out, r.log, none, none⟩

end ArvVerif.C20
