/-
C04, interleaving layer: a small-step model of two keepstore goroutines working on ONE block path
`p = <root>/<h[:3]>/<h>` of one Directory volume:

  P : a TOUCH request (UnixVolume.Touch) or a PUT request (handlePUT → PutBlock →
      CompareAndTouch [Compare = stat + getFunc(lock, open, read), Touch] → on any failure
      NextWritable().Put = WriteBlock, which since fix 7e105eb opens the file it is about to
      replace and takes its flock before the rename)
  T : a DELETE request (handleDELETE → UnixVolume.Trash), one trash-list item
      (TrashItem = Mtime, then Trash), or one untrash request (UnixVolume.Untrash: ReadDir, Rename of
      the trashed copy `x` onto the block path, Chtimes; it takes neither lock)

One micro-step = the code between two consecutive `verifPoint`s of the instrumented
unix_volume.go (one filesystem / lock call each); its `label` is the point's "<Func>:<callee>".
Filesystem: at most three inodes exist for `p`: `a` (the copy present before the race), `b` (the temp
file WriteBlock creates and renames to `p`) and, when T is an untrash, `x` (an old intact copy in the trash). flock(2) is a per-inode mutex; the optional
`Serialize` volume mutex is `mutex`. Time does not advance during the race: an inode is either
`fresh` (mtime younger than BlobSigningTTL) or not; Touch/WriteBlock stamp "now", which is fresh
(BlobSigningTTL > 0).
-/
namespace ArvVerif.C04.Race

inductive Pre | absent | good | corrupt deriving DecidableEq, Repr
inductive POp | touch | put deriving DecidableEq, Repr
inductive TOp | del | ti | untrash deriving DecidableEq, Repr

structure Cfg where
  serialize : Bool
  life0 : Bool      -- BlobTrashLifetime == 0: Trash removes instead of renaming
  pre : Pre
  ageOld : Bool     -- the pre-existing copy's mtime is at least BlobSigningTTL in the past
  pop : POp
  top : TOp
deriving DecidableEq, Repr

inductive Ino | a | b | x deriving DecidableEq, Repr
inductive Loc | none | blk | tmp | trash | gone deriving DecidableEq, Repr
inductive Thr | p | t deriving DecidableEq, Repr

inductive PPC
  | cStat | cLock | cOpen | cRead
  | tOpen | tLock | tFlock | tChtimes
  | wMkdir | wTemp | wLock | wCopy | wClose | wChtimes | wOpenOld | wFlockOld | wRename
  | done
deriving DecidableEq, Repr

inductive TPC | iMtime | dLock | dOpen | dFlock | dStat | dRemove | dRename | uReadDir | uRename | uChtimes | done
deriving DecidableEq, Repr

inductive PRes | none | okTouch | okWrite | notFound deriving DecidableEq, Repr
inductive TRes | none | skipped | notFound | kept | trashed | failed | restored deriving DecidableEq, Repr

structure St where
  cfg : Cfg
  pcP : PPC
  pcT : TPC
  locA : Loc
  locB : Loc
  locX : Loc
  aTouched : Bool
  xTouched : Bool
  fdP : Option Ino
  fdT : Option Ino
  flockA : Option Thr
  flockB : Option Thr
  flockX : Option Thr
  mutex : Option Thr
  waitP : Bool
  waitT : Bool
  resP : PRes
  resT : TRes
deriving DecidableEq, Repr

/-- the inode currently linked at the block path -/
def St.blk (s : St) : Option Ino :=
  if s.locB = .blk then some .b else if s.locX = .blk then some .x else if s.locA = .blk then some .a else none

def St.fresh (s : St) : Ino → Bool
  | .a => !s.cfg.ageOld || s.aTouched
  | .b => true
  | .x => s.xTouched       -- the trashed copy is old until someone stamps it

def St.good (s : St) : Ino → Bool
  | .a => s.cfg.pre = .good
  | .b => true
  | .x => true            -- the trashed copy of this model is intact (a corrupt one: Props, C04_put_readable_*)

def St.flock (s : St) : Ino → Option Thr
  | .a => s.flockA
  | .b => s.flockB
  | .x => s.flockX

def St.setFlock (s : St) (i : Ino) (v : Option Thr) : St :=
  match i with
  | .a => { s with flockA := v }
  | .b => { s with flockB := v }
  | .x => { s with flockX := v }

def St.setLoc (s : St) (i : Ino) (l : Loc) : St :=
  match i with
  | .a => { s with locA := l }
  | .b => { s with locB := l }
  | .x => { s with locX := l }

/-- a rename onto the block path unlinks whatever was there -/
def St.unlinkBlk (s : St) : St :=
  match s.blk with
  | some i => s.setLoc i .gone
  | none => s

/-- utimes(now) on inode i -/
def St.stamp (s : St) : Ino → St
  | .a => { s with aTouched := true }
  | .b => s
  | .x => { s with xTouched := true }

def init (c : Cfg) : St :=
  { cfg := c
    pcP := match c.pop with | .touch => .tOpen | .put => .cStat
    pcT := match c.top with
      | .del => .dLock
      -- TrashItem returns before any filesystem call when the request's mtime is younger than the TTL
      | .ti => if c.pre ≠ .absent ∧ !c.ageOld then .done else .iMtime
      | .untrash => .uReadDir
    locA := if c.pre = .absent then .none else .blk
    locX := if c.top = .untrash then .trash else .none
    xTouched := false
    locB := .none
    aTouched := false
    fdP := none, fdT := none, flockA := none, flockB := none, flockX := none, mutex := none
    waitP := false, waitT := false
    resP := .none
    resT := match c.top with
      | .del => .none
      | .ti => if c.pre ≠ .absent ∧ !c.ageOld then .skipped else .none
      | .untrash => .none }

/-- can thread `x` take the Serialize mutex now? (always, when Serialize is off) -/
def St.mutexFree (s : St) : Bool := !s.cfg.serialize || s.mutex.isNone

def St.takeMutex (s : St) (x : Thr) : St := if s.cfg.serialize then { s with mutex := some x } else s
def St.dropMutex (s : St) : St := { s with mutex := none }

/-- release every flock held by thread x -/
def St.dropFlocks (s : St) (x : Thr) : St :=
  { s with flockA := if s.flockA = some x then none else s.flockA
           flockB := if s.flockB = some x then none else s.flockB
           flockX := if s.flockX = some x then none else s.flockX }

def St.blockP (s : St) : St := { s with waitP := true }
def St.blockT (s : St) : St := { s with waitT := true }

/-- after a failed compare / touch the PUT handler writes a new copy; a TOUCH request fails -/
def St.pFail (s : St) : St :=
  match s.cfg.pop with
  | .touch => { s with pcP := .done, resP := .notFound }
  | .put => { s with pcP := .wMkdir }

/-- one micro-step of P (a stutter when P is finished or its lock is taken) -/
def stepP (s0 : St) : St :=
  let s := { s0 with waitP := false }
  match s.pcP with
  | .cStat =>                                   -- UnixVolume.stat(path)
    if s.blk.isSome then { s with pcP := .cLock } else { s with pcP := .wMkdir }
  | .cLock =>                                   -- getFunc: v.lock
    if s.mutexFree then { s.takeMutex .p with pcP := .cOpen } else s.blockP
  | .cOpen =>                                   -- getFunc: v.os.Open(path)
    match s.blk with
    | some i => { s with pcP := .cRead, fdP := some i }
    | none => { s.dropMutex with pcP := .wMkdir }
  | .cRead =>                                   -- compareReaderWithBuf on the open file
    match s.fdP with
    | some i =>
      if s.good i then { s.dropMutex with pcP := .tOpen, fdP := none }
      else { s.dropMutex with pcP := .wMkdir, fdP := none }
    | none => { s.dropMutex with pcP := .wMkdir }
  | .tOpen =>                                   -- Touch: v.os.OpenFile(p)
    match s.blk with
    | some i => { s with pcP := .tLock, fdP := some i }
    | none => s.pFail
  | .tLock =>                                   -- Touch: v.lock
    if s.mutexFree then { s.takeMutex .p with pcP := .tFlock } else s.blockP
  | .tFlock =>                                  -- Touch: v.lockfile(f)
    match s.fdP with
    | some i => if (s.flock i).isNone then { s.setFlock i (some .p) with pcP := .tChtimes } else s.blockP
    | none => { s with pcP := .tChtimes }
  | .tChtimes =>                                -- Touch: os.Chtimes(p) BY PATH, then unlockfile, unlock, Close
    let r := ((s.dropFlocks .p).dropMutex)
    match s.blk with
    | some i =>
      { r.stamp i with pcP := .done, fdP := none, resP := .okTouch }
    | none => { r with fdP := none }.pFail
  | .wMkdir => { s with pcP := .wTemp }         -- WriteBlock: os.MkdirAll
  | .wTemp => { s with pcP := .wLock, locB := .tmp }   -- v.os.TempFile
  | .wLock =>                                   -- WriteBlock: v.lock
    if s.mutexFree then { s.takeMutex .p with pcP := .wCopy } else s.blockP
  | .wCopy => { s with pcP := .wClose }         -- io.Copy
  | .wClose => { s with pcP := .wChtimes }      -- tmpfile.Close
  | .wChtimes => { s with pcP := .wOpenOld }    -- os.Chtimes(tmp)
  | .wOpenOld =>                                -- v.os.OpenFile(bpath): the file about to be replaced, if any (fix 7e105eb)
    match s.blk with
    | some i => { s with pcP := .wFlockOld, fdP := some i }
    | none => { s with pcP := .wRename }
  | .wFlockOld =>                               -- v.lockfile(oldf): the flock Touch and Trash use
    match s.fdP with
    | some i => if (s.flock i).isNone then { s.setFlock i (some .p) with pcP := .wRename } else s.blockP
    | none => { s with pcP := .wRename }
  | .wRename =>                                 -- v.os.Rename(tmp, p): replaces whatever is linked at p
    let s1 := s.unlinkBlk
    { (s1.dropFlocks .p).dropMutex with pcP := .done, locB := .blk, fdP := none, resP := .okWrite }
  | .done => s0

/-- Trash's return: unlockfile, Close, unlock -/
def St.tReturn (s : St) (r : TRes) : St :=
  { (s.dropFlocks .t).dropMutex with pcT := .done, fdT := none, resT := r }

def stepT (s0 : St) : St :=
  let s := { s0 with waitT := false }
  match s.pcT with
  | .iMtime =>                                  -- TrashItem: volume.Mtime(loc) and the mtime match
    match s.blk with
    | some .a => if s.aTouched then { s with pcT := .done, resT := .skipped } else { s with pcT := .dLock }
    | _ => { s with pcT := .done, resT := .skipped }
  | .dLock =>                                   -- Trash: v.lock
    if s.mutexFree then { s.takeMutex .t with pcT := .dOpen } else s.blockT
  | .dOpen =>                                   -- Trash: v.os.OpenFile(p)
    match s.blk with
    | some i => { s with pcT := .dFlock, fdT := some i }
    | none => s.tReturn .notFound
  | .dFlock =>                                  -- Trash: v.lockfile(f)
    match s.fdT with
    | some i => if (s.flock i).isNone then { s.setFlock i (some .t) with pcT := .dStat } else s.blockT
    | none => { s with pcT := .dStat }
  | .dStat =>                                   -- Trash: v.os.Stat(p) BY PATH and the TTL comparison
    match s.blk with
    | some i =>
      if s.fresh i then s.tReturn .kept
      else if s.cfg.life0 then { s with pcT := .dRemove } else { s with pcT := .dRename }
    | none => s.tReturn .failed
  | .dRemove =>                                 -- Trash: v.os.Remove(p)
    match s.blk with
    | some i => (s.setLoc i .gone).tReturn .trashed
    | none => s.tReturn .failed
  | .dRename =>                                 -- Trash: v.os.Rename(p, p.trash.<deadline>)
    match s.blk with
    | some i => (s.setLoc i .trash).tReturn .trashed
    | none => s.tReturn .failed
  /- T = one untrash request (handleUntrash → UnixVolume.Untrash): no Serialize lock, no flock -/
  | .uReadDir =>                                -- ioutil.ReadDir(blockDir): is there a <h>.trash.* name?
    if s.locX = .trash then { s with pcT := .uRename } else { s with pcT := .done, resT := .notFound }
  | .uRename =>                                 -- v.os.Rename(<h>.trash.<d>, p): replaces whatever is linked at p
    { s.unlinkBlk with locX := .blk, pcT := .uChtimes }
  | .uChtimes =>                                -- os.Chtimes(p, now) BY PATH (fix f7a86a4)
    match s.blk with
    | some i => { s.stamp i with pcT := .done, resT := .restored }
    | none => { s with pcT := .done, resT := .restored }
  | .done => s0

/-- scheduler letter: `true` = P, `false` = T -/
def step (x : Bool) (s : St) : St := if x then stepP s else stepT s

/-- the pure interleaving semantics: the scheduler is an arbitrary list of turns; a turn given to a
finished or lock-waiting thread is a stutter -/
def run : List Bool → St → St
  | [], s => s
  | x :: xs, s => run xs (step x s)

/-! ### The executable runner used by the correspondence check

The real goroutine, once released into `flock`/`Lock`, completes that call as soon as the holder
lets go — without another turn from the controller. `runE` mirrors this ("eager wake") and records
the trace the Go controller records. `Proofs/C04_RaceSteps.lean` shows every `runE` result is a `run`
result of a longer schedule, so the theorems about `run` cover it. -/

def labelP : PPC → String
  | .cStat => "stat:v.os.Stat" | .cLock => "getFunc:v.lock" | .cOpen => "getFunc:v.os.Open"
  | .cRead => "getFunc:ioutil.NopCloser"
  | .tOpen => "Touch:v.os.OpenFile" | .tLock => "Touch:v.lock" | .tFlock => "Touch:v.lockfile"
  | .tChtimes => "Touch:os.Chtimes"
  | .wMkdir => "WriteBlock:os.MkdirAll" | .wTemp => "WriteBlock:v.os.TempFile" | .wLock => "WriteBlock:v.lock"
  | .wCopy => "WriteBlock:io.Copy" | .wClose => "WriteBlock:tmpfile.Close" | .wChtimes => "WriteBlock:os.Chtimes"
  | .wOpenOld => "WriteBlock:v.os.OpenFile" | .wFlockOld => "WriteBlock:v.lockfile"
  | .wRename => "WriteBlock:v.os.Rename" | .done => "-"

def labelT : TPC → String
  | .iMtime => "Mtime:v.os.Stat" | .dLock => "Trash:v.lock" | .dOpen => "Trash:v.os.OpenFile"
  | .dFlock => "Trash:v.lockfile" | .dStat => "Trash:v.os.Stat" | .dRemove => "Trash:v.os.Remove"
  | .dRename => "Trash:v.os.Rename"
  | .uReadDir => "Untrash:ioutil.ReadDir" | .uRename => "Untrash:v.os.Rename" | .uChtimes => "Untrash:os.Chtimes"
  | .done => "-"

def St.wait (s : St) (x : Bool) : Bool := if x then s.waitP else s.waitT
def St.finished (s : St) (x : Bool) : Bool := if x then s.pcP = .done else s.pcT = .done

/-- one controller turn: stutter for a finished / waiting thread; otherwise one step of x, then the
other thread completes its pending lock acquisition if that is now possible -/
def stepE (x : Bool) (s : St) : St × List String :=
  if s.finished x || s.wait x then (s, []) else
  let name := if x then "P:" ++ labelP s.pcP else "T:" ++ labelT s.pcT
  let s1 := step x s
  let ev := if s1.wait x then name ++ "!" else name
  if s1.wait (!x) then
    let s2 := step (!x) s1
    if s2.wait (!x) then (s1, [ev]) else (s2, [ev, (if x then "T~" else "P~")])
  else (s1, [ev])

def runE : List Bool → St → List String → St × List String
  | [], s, tr => (s, tr)
  | x :: xs, s, tr => let (s', ev) := stepE x s; runE xs s' (tr ++ ev)

end ArvVerif.C04.Race
