/-
C15 — every runnable container reaches a final state; idle instances are released.
Part (i): the *response* theorems. No fairness and no environment assumption: in every snapshot /
(state, timer) configuration the periodic dispatcher action does what the property needs. Timers
are explicit elapsed durations compared with `Timeouts` with the strictness of the Go code.
The models are C14's L1/L2 (imported) and Model/C15.lean; the differential driver runs the real
functions in the same configurations. Convergence (ii) and restart (iii): Props/C15_Live.lean.
-/
import ArvVerif.Proofs.C15
import ArvVerif.Props.C14_L2
namespace ArvVerif.C15
open ArvVerif.C14

/-! ### scheduler: `sync` -/

/-- **Running container whose process vanished ⇒ cancel.** If the queue shows a container Running,
`Running()` does not report it and no worker is Unknown, the pass spawns `cancel` for it; so it
does when the pool recorded the process's exit before the last queue update. The goroutine calls
`queue.Cancel` — unless another operation on the container holds the latch, in which case it does
nothing and the scheduler's wake-up timer is armed so that the next pass retries. -/
theorem C15_resp_cancel (anyUnknown : Bool) (qUpdated : Nat) (entries : List Ent) (runKeys : List Uuid)
    (rv : Uuid → RunView) (e : Ent) (he : e ∈ entries) (hs : e.state = .running)
    (hr : (rv e.uuid = none ∧ anyUnknown = false) ∨ ∃ t, rv e.uuid = some (some t) ∧ t < qUpdated) :
    SyncAct.goCancel e.uuid ∈ syncPass anyUnknown qUpdated entries runKeys rv ∧
    (∀ st, asyncEffectW false st .cancel e.uuid = ([.queueCancel e.uuid], false)) ∧
    (∀ st, asyncEffectW true st .cancel e.uuid = ([], true)) := by
  refine ⟨?_, fun _ => rfl, fun _ => rfl⟩
  unfold syncPass
  refine List.mem_append_left _ (List.mem_filterMap.mpr ⟨e, he, ?_⟩)
  rcases hr with ⟨h1, h2⟩ | ⟨t, h1, h2⟩
  · simp [syncEntry, hs, h1, h2]
  · simp [syncEntry, hs, h1, exitedBefore, h2]

example : SyncAct.goCancel 1 ∈ syncPass false 5 [⟨1, .running, 1, 1⟩] [] (fun _ => none) := by decide

/-- … and with an Unknown worker around the pass does *not* cancel (the process may be on it). -/
theorem C15_resp_cancel_waits (qUpdated : Nat) (rv : RunView) (e : Ent) (hs : e.state = .running) (hr : rv = none) :
    syncEntry true qUpdated rv e = none := by
  simp [syncEntry, hs, hr]

/-- **Locked container whose process exited ⇒ requeue** (`queue.Unlock`), whatever its priority,
once the queue has been updated after the exit was recorded. -/
theorem C15_resp_requeue (anyUnknown : Bool) (qUpdated : Nat) (entries : List Ent) (runKeys : List Uuid)
    (rv : Uuid → RunView) (e : Ent) (he : e ∈ entries) (hs : e.state = .locked) (t : Nat)
    (hr : rv e.uuid = some (some t)) (ht : t < qUpdated) :
    SyncAct.goRequeue e.uuid ∈ syncPass anyUnknown qUpdated entries runKeys rv ∧
    (∀ st, asyncEffectW false st .requeue e.uuid = ([.queueUnlock e.uuid], false)) ∧
    (∀ st, asyncEffectW true st .requeue e.uuid = ([], true)) := by
  refine ⟨?_, fun _ => rfl, fun _ => rfl⟩
  unfold syncPass
  refine List.mem_append_left _ (List.mem_filterMap.mpr ⟨e, he, ?_⟩)
  simp [syncEntry, hs, hr, exitedBefore, ht]

example : SyncAct.goRequeue 1 ∈ syncPass true 5 [⟨1, .locked, 3, 1⟩] [1] (fun _ => some (some 2)) := by decide

/-! ### scheduler: `fixStaleLocks` -/

/-- **fixStaleLocks returns** as soon as it looks at a pool without Unknown workers, or its timeout
fires (it also returns when it finds no stale lock). -/
theorem C15_resp_stale_returns (script : List (FslSnap × Wake)) (stale : List Uuid)
    (h : ∃ x ∈ script, x.1.anyUnknown = false ∨ x.2 = .timeout) : (fslRun script stale).isSome = true := by
  obtain ⟨x, hx, hp⟩ := h
  refine Option.isSome_iff_ne_none.mpr fun hn => ?_
  obtain ⟨h1, h2⟩ := (fslRun_spec script stale).1 hn x hx
  rcases hp with hp | hp
  · rw [h1] at hp; cases hp
  · rw [h2] at hp; cases hp

/-- **Stale lock ⇒ unlocked.** A container that is Locked and not reported by `Running()` every
time fixStaleLocks looks while some worker is Unknown is among those it unlocks when it stops
waiting (no Unknown worker left, or timeout) after at least one look. -/
theorem C15_resp_stale_unlock (script : List (FslSnap × Wake)) (us : List Uuid) (u : Uuid)
    (hall : ∀ x ∈ script, x.1.anyUnknown = true → u ∈ staleLocks x.1.entries x.1.running)
    (hfirst : ∃ x, script.head? = some x ∧ x.1.anyUnknown = true)
    (h : fslRun script [] = some us) : u ∈ us :=
  (fslRun_spec script []).2 us h u hall (Or.inr hfirst)

/-- On timeout exactly the stale locks of that moment are released. -/
theorem C15_resp_stale_timeout (s : FslSnap) (rest : List (FslSnap × Wake)) (stale : List Uuid)
    (h : s.anyUnknown = true) :
    fslRun ((s, .timeout) :: rest) stale = some (staleLocks s.entries s.running) := by
  unfold fslRun
  simp only [h, Bool.not_true, Bool.false_eq_true, if_false]
  split
  · rename_i he
    rw [List.isEmpty_iff] at he
    rw [he]
  · rfl

/-- With no Unknown worker at the outset nothing is unlocked: inherited locks are then used by
`runQueue` (a Locked container that is not running is started). -/
theorem C15_resp_stale_none (s : FslSnap) (wk : Wake) (rest : List (FslSnap × Wake)) (h : s.anyUnknown = false) :
    fslRun ((s, wk) :: rest) [] = some [] := by
  simp [fslRun, h]

example : fslRun [(⟨true, [⟨1, .locked, 1, 1⟩], fun _ => false⟩, .notify),
                  (⟨false, [⟨1, .locked, 1, 1⟩], fun _ => false⟩, .notify)] [] = some [1] := by decide

/-! ### worker: boot / probe timeouts -/

/-- **Failed probes past the timeout ⇒ shutdown.** A worker that is not held, whose probe fails
(`crunch-run --list` did not succeed, or nothing booted, nothing seen, nothing tracked) and whose
last success lies `timeoutBooting` (Unknown/Booting) resp. `timeoutProbe` (Idle/Running) or more
before the start of this probe is shut down by this very probe (`Destroy` issued). -/
theorem C15_resp_probe_timeout (w : Worker) (T : Timeouts) (gu : List Uuid) (pi : ProbeIn) (now : Nat)
    (hs : w.state ≠ .shutdown) (hh : w.idleB ≠ .hold)
    (hf : (w.drainStep (mkProbe w T gu pi) now).probeFailed (mkProbe w T gu pi) = true)
    (ht : brokenThreshold w T ≤ pi.dur) :
    (probeAndUpdate w T gu pi now).1.state = .shutdown := by
  rw [probeAndUpdate_of_ne hs]
  exact probeApply_timeout w _ now hh hf (by simp [mkProbe, ht])

/-- Booting worker that never boots: shut down once `timeoutBooting` has passed. -/
theorem C15_resp_boot_timeout (w : Worker) (T : Timeouts) (gu : List Uuid) (pi : ProbeIn) (now : Nat)
    (hs : w.state = .booting) (hh : w.idleB ≠ .hold) (hb : pi.bootOk = false) (ht : T.booting ≤ pi.dur) :
    (probeAndUpdate w T gu pi now).1.state = .shutdown := by
  apply C15_resp_probe_timeout w T gu pi now (by rw [hs]; decide) hh
  · have hnb : (mkProbe w T gu pi).ok = false := by simp [mkProbe, hs, hb]
    simp [Worker.probeFailed, hnb]
  · simpa [brokenThreshold, hs] using ht

/-- Unreachable / broken instance (the run probe fails) in service: shut down once `timeoutProbe`
has passed. -/
theorem C15_resp_unreachable_timeout (w : Worker) (T : Timeouts) (gu : List Uuid) (pi : ProbeIn) (now : Nat)
    (hs : w.state = .idle ∨ w.state = .running) (hh : w.idleB ≠ .hold) (hl : pi.listOk = false)
    (ht : T.probe ≤ pi.dur) :
    (probeAndUpdate w T gu pi now).1.state = .shutdown := by
  apply C15_resp_probe_timeout w T gu pi now (by rcases hs with h | h <;> (rw [h]; decide)) hh
  · have hnb : (mkProbe w T gu pi).ok = false := by simp [mkProbe, hl]
    simp [Worker.probeFailed, hnb]
  · rcases hs with h | h <;> simpa [brokenThreshold, h] using ht

example : (probeAndUpdate ⟨1, 1, .booting, .run, [], [], 500, 500, 500⟩ ⟨60, 60, 180, 60, 60, 60⟩ []
    ⟨false, false, [], false, false, none, 60⟩ 1000).1.state = .shutdown := by decide
example : (probeAndUpdate ⟨1, 1, .booting, .run, [], [], 500, 500, 500⟩ ⟨60, 60, 180, 60, 60, 60⟩ []
    ⟨false, false, [], false, false, none, 59⟩ 1000).1.state = .booting := by decide

/-- `shutdownIfBroken` in isolation, both directions: shutdown iff not held and `dur ≥ threshold`. -/
theorem C15_resp_shutdownIfBroken (w : Worker) (T : Timeouts) (dur now : Nat) :
    ((shutdownIfBroken w T dur now).2 = true ↔ w.idleB ≠ .hold ∧ brokenThreshold w T ≤ dur) ∧
    ((shutdownIfBroken w T dur now).2 = true → (shutdownIfBroken w T dur now).1.state = .shutdown) ∧
    ((shutdownIfBroken w T dur now).2 = false → (shutdownIfBroken w T dur now).1 = w) := by
  unfold shutdownIfBroken
  by_cases h1 : w.idleB = .hold
  · simp [h1]
  · have : (w.idleB == .hold) = false := by simpa using h1
    simp only [this, Bool.false_eq_true, if_false]
    by_cases h2 : dur < brokenThreshold w T
    · simp [h2, h1] <;> omega
    · simp [h2, h1] <;> omega

/-! ### worker: broken ⇒ drain, drain ⇒ shutdown, idle timeout -/

/-- **"broken" reported with IdleBehavior run ⇒ drain.** Also when the report comes from stale run
locks seen for longer than `timeoutStaleRunLock`. -/
theorem C15_resp_broken_drain (w : Worker) (T : Timeouts) (gu : List Uuid) (pi : ProbeIn) (now : Nat)
    (hs : w.state ≠ .shutdown) (hb : w.idleB = .run) (hp : (mkProbe w T gu pi).broken = true) :
    (probeAndUpdate w T gu pi now).1.idleB = .drain := by
  rw [probeAndUpdate_of_ne hs, Worker.probeApply_idleB]
  simp [hp, hb]

/-- When the probe of an instance in service answers, the report is believed. -/
theorem C15_resp_broken_report (w : Worker) (T : Timeouts) (gu : List Uuid) (pi : ProbeIn)
    (hs : w.state = .idle ∨ w.state = .running ∨ w.state = .unknown) (hl : pi.listOk = true)
    (hb : pi.saysBroken = true ∨ (pi.staleLine = true ∧ ∃ d, pi.staleFor = some d ∧ T.staleRunLock < d)) :
    (mkProbe w T gu pi).broken = true := by
  have hran : (((w.state == .idle || w.state == .running) || pi.bootOk) || w.state == .unknown) = true := by
    rcases hs with h | h | h <;> simp [h]
  rcases hb with h | ⟨h1, d, h2, h3⟩
  · simp [mkProbe, hran, hl, h]
  · simp [mkProbe, hran, hl, staleBroken, h1, h2, h3]

example : (probeAndUpdate ⟨1, 1, .running, .run, [], [4], 500, 500, 500⟩ ⟨60, 60, 180, 60, 60, 60⟩ []
    ⟨true, true, [4], true, false, none, 0⟩ 1000).1.idleB = .drain := by decide

/-- **Draining worker with no live runner ⇒ shutdown** at its next turn in `runProbes`: Booting or
Idle at once, Running once every remaining runner has given up. (A held worker never; a worker
still Unknown not before its first successful probe.) -/
theorem C15_resp_drain_shutdown (w : Worker) (T : Timeouts) (gu : List Uuid) (sinceBusy now : Nat)
    (hd : w.idleB = .drain)
    (hs : w.state = .booting ∨ w.state = .idle ∨ (w.state = .running ∧ allGivenUp w gu = true)) :
    (probeTick w T gu sinceBusy now).1.state = .shutdown ∧ (probeTick w T gu sinceBusy now).2 = false := by
  unfold probeTick Worker.eligibleForShutdown
  rcases hs with h | h | ⟨h, hg⟩
  · simp [h, hd]
  · simp [h, hd]
  · simp [h, hd, hg]

/-- **Idle worker past timeoutIdle ⇒ shutdown** (run mode; `≥`). -/
theorem C15_resp_idle_timeout (w : Worker) (T : Timeouts) (gu : List Uuid) (sinceBusy now : Nat)
    (hs : w.state = .idle) (hb : w.idleB = .run) (ht : T.idle ≤ sinceBusy) :
    (probeTick w T gu sinceBusy now).1.state = .shutdown ∧ (probeTick w T gu sinceBusy now).2 = false := by
  unfold probeTick Worker.eligibleForShutdown idleTimedOut
  simp [hs, hb, ht]

/-- … and only then: a run-mode worker that is busy, booting, unknown, or idle for less than
`timeoutIdle` is left alone and probed; a held worker is never shut down here. -/
theorem C15_resp_no_early_shutdown (w : Worker) (T : Timeouts) (gu : List Uuid) (sinceBusy now : Nat)
    (h : w.idleB = .hold ∨ (w.idleB = .run ∧ (w.state ≠ .idle ∨ sinceBusy < T.idle))) :
    (probeTick w T gu sinceBusy now).1 = w := by
  have he : w.eligibleForShutdown (idleTimedOut T sinceBusy) (allGivenUp w gu) = false := by
    unfold Worker.eligibleForShutdown idleTimedOut
    rcases h with h | ⟨h, h'⟩
    · rw [h]; rfl
    · rw [h]
      cases hs : w.state <;> try rfl
      rcases h' with h' | h'
      · exact absurd hs h'
      · exact decide_eq_false (by omega)
  unfold probeTick
  rw [he]
  split <;> rfl

example : (probeTick ⟨1, 1, .idle, .run, [], [], 0, 0, 0⟩ ⟨60, 60, 180, 60, 60, 60⟩ [] 60 1000).1.state = .shutdown := by
  decide
example : (probeTick ⟨1, 1, .running, .drain, [], [3], 0, 0, 0⟩ ⟨60, 60, 180, 60, 60, 60⟩ [3] 0 1000).1.state = .shutdown := by
  decide

/-! ### pool: Destroy retried -/

/-- **Shutdown worker still listed after timeoutShutdown ⇒ Destroy re-issued**, and the worker is
kept (in StateShutdown) for the next sync. For any instance list in which the instance occurs
(ids of the listed instances pairwise distinct, as they are keys of the cloud's list). -/
theorem C15_resp_destroy_retry (p : Pool) (threshold now : Nat) (listed : List Pool.Listed)
    (T : Timeouts) (sinceDestroyed : Nat → Nat) (l : Pool.Listed) (w : Worker)
    (hl : l ∈ listed) (hd : listed.Pairwise (fun a b => a.id ≠ b.id))
    (hf : p.find l.id = some w) (hs : w.state = .shutdown) (ht : T.shutdown < sinceDestroyed l.id)
    (hnow : threshold < now) :
    l.id ∈ (poolSync p threshold listed (retryOf T sinceDestroyed) now).2 ∧
    ∃ w' ∈ (poolSync p threshold listed (retryOf T sinceDestroyed) now).1.workers,
      w'.id = l.id ∧ w'.state = .shutdown := by
  have hr : retryOf T sinceDestroyed l.id = true := by simp [retryOf, ht]
  -- split the list at `l`: the instances before and after it leave its worker alone
  obtain ⟨pre, post, rfl⟩ := List.append_of_mem hl
  obtain ⟨-, hpost, hpre⟩ := List.pairwise_append.mp hd
  unfold poolSync
  dsimp only
  rw [List.foldl_append, List.foldl_cons]
  obtain ⟨hin, hw'⟩ := syncStep_retry (retryOf T sinceDestroyed) now _ l w
    ((fold_other (retryOf T sinceDestroyed) now _ pre (p, []) fun x hx => hpre x hx l List.mem_cons_self).trans hf) hs hr
  have hpost' := (fold_other (retryOf T sinceDestroyed) now _ post _ fun x hx e => List.rel_of_pairwise_cons hpost hx e.symm).trans hw'
  exact ⟨fold_mono _ _ post _ _ hin, _,
    List.mem_filter.mpr ⟨List.mem_of_find?_eq_some hpost', by simp [hnow]⟩, (Pool.mem_of_find hf).2, rfl⟩

example : (poolSync ⟨[⟨1, 1, .shutdown, .run, [], [], 100, 100, 100⟩], []⟩ 500
    [⟨1, 1, none, false⟩] (retryOf ⟨60, 60, 180, 60, 60, 60⟩ (fun _ => 120)) 1000).2 = [1] := by decide
example : (poolSync ⟨[⟨1, 1, .shutdown, .run, [], [], 100, 100, 100⟩], []⟩ 500
    [⟨1, 1, none, false⟩] (retryOf ⟨60, 60, 180, 60, 60, 60⟩ (fun _ => 60)) 1000).2 = [] := by decide

/-- The pool that `poolSync` leaves is exactly C14's `Pool.sync` (so C14's L2 theorems apply). -/
theorem C15_poolSync_is_C14_sync (p : Pool) (threshold : Nat) (listed : List Pool.Listed) (retry : Nat → Bool)
    (now : Nat) : (poolSync p threshold listed retry now).1 = p.sync threshold listed retry now :=
  poolSync_fst p threshold listed retry now

/-! ### pool: a Create call that has returned is no longer pending -/

/-- **Create settles.** Whatever the cloud answers — instance, quota error, rate-limit error, other
error — the call leaves `wp.creating` when it returns, so `Unallocated()` counts it afterwards only
if a worker was really added; a quota error switches `Create` off until quotaErrorTTL has passed and
a rate-limit error until its retry time, and in both cases later calls are refused without being
registered. -/
theorem C15_resp_create_settles (p : CPool) (r : CreateRes) (h : 0 < p.creating) :
    (p.ret r).creating = p.creating - 1 ∧
    (p.ret r).unallocated = p.unallocated - (if r = .ok then 0 else 1) ∧
    (r = .quota → (p.ret r).atQuota = true) ∧ (r = .rateLimit → (p.ret r).throttled = true) ∧
    ((p.ret r).atQuota = true ∨ (p.ret r).throttled = true → (p.ret r).call = none) := by
  refine ⟨rfl, ?_, ?_, ?_, ?_⟩
  · unfold CPool.ret CPool.unallocated
    obtain ⟨n, hn⟩ := Nat.exists_eq_succ_of_ne_zero (Nat.ne_of_gt h)
    rw [hn]
    cases r
    · exact (Nat.add_assoc n p.booting 1).symm.trans (Nat.add_right_comm n p.booting 1)
    all_goals
      show n + p.booting = n + 1 + p.booting - 1
      rw [Nat.add_right_comm n 1]; rfl
  · intro e; simp [CPool.ret, e]
  · intro e; simp [CPool.ret, e]
  · intro hq
    unfold CPool.call
    rcases hq with hq | hq <;> simp [hq]

/-- After any sequence of completed `Create` calls (and back-off expiries) nothing is pending and
`Unallocated()` is exactly the number of workers that were added. -/
theorem C15_resp_create_no_phantom (script : List (Option CreateRes)) (p : CPool) (h : p.creating = 0) :
    let q := script.foldl (fun p s => match s with
      | some r => (p.create r).1
      | none => { p with atQuota := false, throttled := false }) p
    q.creating = 0 ∧ q.unallocated = q.booting := by
  induction script generalizing p with
  | nil => exact ⟨h, by simp [CPool.unallocated, h]⟩
  | cons s rest ih =>
    simp only [List.foldl_cons]
    apply ih
    cases s with
    | none => exact h
    | some r =>
      show (p.create r).1.creating = 0
      unfold CPool.create CPool.call
      by_cases hc : (p.atQuota || p.throttled) = true
      · simp [hc, h]
      · simp [hc, h, CPool.ret]

example : ((⟨0, 0, false, false⟩ : CPool).create .quota).1 = ⟨0, 0, true, false⟩ := by decide
example : ((⟨0, 0, false, false⟩ : CPool).create .ok).1.unallocated = 1 := by decide

/-! ### pool: the sync loop keeps going -/

/-- **Every iteration of `runSync` re-arms its timer**, whether the listing succeeded or failed (cloud
error, rate limit, throttle hold-off): as many re-arms as listings, each listing directly followed by
one, so the loop is never left waiting on a dead timer. -/
theorem C15_resp_sync_rearmed (rs : List ListRes) :
    (runSync rs).count .rearm = rs.length ∧
    (∀ pre post r, runSync rs = pre ++ .list r :: post → ∃ post', post = .rearm :: post') ∧
    (rs ≠ [] → (runSync rs).getLast? = some .rearm) := by
  induction rs with
  | nil => exact ⟨rfl, fun pre post r h => (by cases pre <;> cases h), fun h => absurd rfl h⟩
  | cons x rest ih =>
    obtain ⟨h1, h2, h3⟩ := ih
    rw [runSync_cons]
    refine ⟨by rw [List.count_cons, List.count_cons, h1]; rfl, fun pre post r h => ?_, fun _ => ?_⟩
    · match pre, h with
      | [], h => exact ⟨_, (List.cons.inj h).2.symm⟩
      | [_], h => cases (List.cons.inj (List.cons.inj h).2).1
      | _ :: _ :: pre, h => exact h2 pre post r (List.cons.inj (List.cons.inj h).2).2
    · rw [List.getLast?_cons_cons, List.getLast?_cons]
      cases rest with
      | nil => rfl
      | cons y ys => rw [h3 (List.cons_ne_nil _ _)]; rfl

example : runSync [.err, .ok] = [.list .err, .rearm, .list .ok, .rearm] := by decide

/-! ### worker: tags are merged, the executor is closed outside the pool mutex -/

theorem Tags.get_set_same (t : Tags) (k v : String) : (t.set k v).get k = some v := by
  induction t with
  | nil => simp [Tags.set, Tags.get]
  | cons p rest ih =>
    unfold Tags.set
    by_cases h : (p.1 == k) = true
    · simp [h, Tags.get]
    · simp only [h, Bool.false_eq_true, if_false]
      unfold Tags.get at ih ⊢
      simp only [List.find?_cons, h]
      exact ih

theorem Tags.get_set_other (t : Tags) (k k' v : String) (hne : k' ≠ k) : (t.set k v).get k' = t.get k' := by
  induction t with
  | nil => simp [Tags.set, Tags.get, Ne.symm hne]
  | cons p rest ih =>
    unfold Tags.set
    split
    · rename_i h
      have hk : p.1 = k := by simpa using h
      simp [Tags.get, hk, Ne.symm hne]
    · unfold Tags.get at ih ⊢
      rw [List.find?_cons, List.find?_cons]
      split
      · rfl
      · exact ih

/-- **saveTags keeps every other tag.** Whenever it writes, the set it writes carries the worker's
instance type and idle behaviour and, unchanged, every other tag the instance had — in particular
the InstanceSetID tag by which the pool finds its instances again. -/
theorem C15_resp_saveTags_merges (tags t' : Tags) (kType kIdle itName ib : String) (hk : kType ≠ kIdle)
    (h : saveTags tags kType kIdle itName ib = some t') :
    t'.get kType = some itName ∧ t'.get kIdle = some ib ∧
    ∀ k, k ≠ kType → k ≠ kIdle → t'.get k = tags.get k := by
  unfold saveTags at h
  split at h
  · cases h
  · simp only [Option.some.injEq] at h
    subst h
    refine ⟨?_, Tags.get_set_same _ _ _, ?_⟩
    · rw [Tags.get_set_other _ _ _ _ hk]; exact Tags.get_set_same _ _ _
    · intro k h1 h2
      rw [Tags.get_set_other _ _ _ _ h2, Tags.get_set_other _ _ _ _ h1]

/-- … and it writes nothing only when both are already there. -/
theorem C15_resp_saveTags_none (tags : Tags) (kType kIdle itName ib : String)
    (h : saveTags tags kType kIdle itName ib = none) :
    tags.get kType = some itName ∧ tags.get kIdle = some ib := by
  unfold saveTags at h
  split at h
  · rename_i hc
    simpa using hc
  · cases h

example : saveTags [("InstanceSetID", "s"), ("IdleBehavior", "run"), ("InstanceType", "t")] "InstanceType" "IdleBehavior"
    "t" "drain" = some [("InstanceSetID", "s"), ("IdleBehavior", "drain"), ("InstanceType", "t")] := by decide +kernel

/-- **`worker.Close()` closes the executor only after releasing the pool mutex.** -/
theorem C15_resp_close_outside_lock :
    ∃ pre post, workerClose = pre ++ .unlock :: post ∧ CloseEv.executorClose ∈ post ∧
      CloseEv.executorClose ∉ pre ∧ CloseEv.lock ∈ pre :=
  ⟨[.lock, .abandonRunners], [.executorClose], rfl, by decide, by decide, by decide⟩

/-! ### runner: Kill gives up -/

/-- **Unkillable process past timeoutTERM ⇒ worker set to drain.** The Kill goroutine ends as soon
as a tick comes strictly after the TERM deadline (if not before: runner closed); if no kill command
ever succeeds and the runner stays tracked it ends by giving up; giving up marks the runner
`givenup` and sets the worker to drain — a held worker is left alone — and a worker all of whose
runners have given up is shut down in the same step. -/
theorem C15_resp_unkillable (T : Timeouts) (u : Uuid) (now : Nat) (script : List KTick) (s : KState)
    (hexp : ∃ t ∈ script, T.term < t.elapsed) :
    (killRun T u now script s).2 ≠ .waiting ∧
    (tracked s.w u = true → (∀ t ∈ script, t.sigOk = false) → (killRun T u now script s).2 = .gaveUp) ∧
    (∀ s', killRun T u now script s = (s', .gaveUp) →
      u ∈ s'.gu ∧ (s.w.idleB = .hold → s'.w.idleB = .hold) ∧ (s.w.idleB ≠ .hold → s'.w.idleB = .drain)) := by
  obtain ⟨hw, hc, hg⟩ := killRun_spec T u now script s
  have hnw : (killRun T u now script s).2 ≠ .waiting := fun h =>
    let ⟨t, ht, hlt⟩ := hexp; Nat.not_le_of_lt hlt (hw h t ht)
  refine ⟨hnw, fun htr hall => ?_, fun s' h => ?_⟩
  · -- neither still ticking nor closed: the runner is tracked and no kill command succeeds
    cases he : (killRun T u now script s).2 with
    | waiting => exact absurd he hnw
    | gaveUp => rfl
    | closed =>
      rcases hc he with h | ⟨t, ht, h⟩
      · rw [htr] at h; cases h
      · rw [hall t ht] at h; cases h
  · rw [h] at hg
    obtain ⟨h1, h2⟩ := hg rfl
    exact ⟨h1, fun hh => h2.trans (if_pos hh), fun hh => h2.trans (if_neg hh)⟩

/-- `onUnkillable`: drain unless held; shutdown at once when every runner has given up. -/
theorem C15_resp_onUnkillable (w : Worker) (gu : List Uuid) (now : Nat) :
    (w.idleB = .hold → onUnkillable w gu now = w) ∧
    (w.idleB ≠ .hold → (onUnkillable w gu now).idleB = .drain) ∧
    (w.idleB ≠ .hold → w.state = .running → allGivenUp w gu = true → (onUnkillable w gu now).state = .shutdown) := by
  refine ⟨fun h => by simp [onUnkillable, h], fun h => by rw [onUnkillable_idleB, if_neg h], fun h hs hg => ?_⟩
  have : (w.idleB == .hold) = false := by simpa using h
  simp [onUnkillable, this, Worker.setIdleBehavior, Worker.shutdownIfIdle, Worker.eligibleForShutdown, hs, hg, Worker.shutdown]

example : (killRun ⟨60, 60, 180, 60, 60, 60⟩ 3 1000 [⟨1, false⟩, ⟨2, false⟩, ⟨61, false⟩]
    ⟨⟨1, 1, .running, .run, [], [3], 0, 0, 0⟩, [], []⟩).2 = .gaveUp := by decide
example : (killRun ⟨60, 60, 180, 60, 60, 60⟩ 3 1000 [⟨1, false⟩, ⟨60, false⟩]
    ⟨⟨1, 1, .running, .run, [], [3], 0, 0, 0⟩, [], []⟩).2 = .waiting := by decide

/-! ### no work for bad workers -/

/-- **A draining, held, booting, unknown, running or shut-down worker never receives
`StartContainer`**: the chosen worker is Idle in run mode (C14 L2 `C14_start_needs_idle_run`,
restated by contraposition). -/
theorem C15_resp_no_start_on_bad (p p' : Pool) (hwf : p.WF) (it : IType) (u : Uuid) (w : Worker)
    (hw : w ∈ p.workers) (hbad : w.idleB ≠ .run ∨ w.state ≠ .idle)
    (h : p.startContainer it u w.id = some p') : False := by
  obtain ⟨w', hw', hid, _, hst, hib, _⟩ := C14_start_needs_idle_run p p' hwf it u w.id h
  obtain rfl : w' = w :=
    Option.some.inj ((Pool.find_of_mem hwf hw').symm.trans (hid ▸ Pool.find_of_mem hwf hw))
  exact hbad.elim (· hib) (· hst)

example : Pool.startCandidates ⟨[⟨1, 1, .idle, .drain, [], [], 0, 0, 0⟩, ⟨2, 1, .booting, .run, [], [], 0, 0, 0⟩,
    ⟨3, 1, .idle, .hold, [], [], 0, 0, 0⟩, ⟨4, 1, .shutdown, .run, [], [], 0, 0, 0⟩,
    ⟨5, 1, .unknown, .run, [], [], 0, 0, 0⟩], []⟩ 1 = [] := by decide

end ArvVerif.C15
