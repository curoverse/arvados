/-
C17 — a container's saved output is exactly what it left in its output directory.
Property theorems about the model of `lib/crunchrun/copier.go` (Model/C17.lean).

Vocabulary (all defined in the model / proof files):
 * `scan h cfg fuel`  — the plan (`cp.dirs`, `cp.files`, `cp.manifest`) or the error of `walkMount("", outputPath, …)`;
   `copy` = `scan` followed by `runPlan` (`Mkdir`, `copyFile`, `MarshalManifest`).
 * `Shows h cfg d s`  — the specification: the output path `d` shows the container path `s`
   (root; entries of real directories that are not secret mounts / mount points; link targets that
   land inside the output directory's mount).
 * `Direct h cfg`     — every link whose target lies at or below the output path has a *canonical* target:
   absolute targets are path-cleaned and no target passes through a symlinked directory. Then the
   copier's textual path arithmetic agrees with what the host filesystem resolves (`namei`).
   Without it the statements are false of the current code: findings F17a / F17b.
 * `Visible h cfg src p rel node` — `rel` leads from the directory `p` through real directories that
   are neither secret mounts nor mount points to the entry `node`.
 * `FragsCompat fs` — no two items of manifest text contradict each other (a file's path is a prefix
   of another item's path only if that item is the same file named again); `Site h cfg D y` — the
   places where the specification has a mounted collection extracted; `SpecCompat` — the items the
   specification names are pairwise compatible; `CollsWF`, `SitesApart` — every mounted collection
   is a tree, and contributing sites do not overlap (Proofs/C17_Load.lean, C17_Frags.lean, C17_Sites.lean).
-/
import ArvVerif.Proofs.C17_Term
import ArvVerif.Proofs.C17_Fail
import ArvVerif.Proofs.C17_NoCollide
import ArvVerif.Proofs.C17_Sites
namespace ArvVerif.C17

theorem runPlan_total (h : Host) (p : Plan) : (∃ t, runPlan h p = .ok t) ∨ ∃ e, runPlan h p = .err e := by
  unfold runPlan
  split
  · exact .inr ⟨_, rfl⟩
  · split
    · exact .inr ⟨_, rfl⟩
    · split
      · exact .inr ⟨_, rfl⟩
      · exact .inl ⟨_, rfl⟩

/-- **termination**, at full strength: for every well-formed host tree and every configuration the
driver runs (`runnable`: the only `tmp` mount is the output directory, no writable collection
mount — wherever the collections are mounted, above the output path included), `Copy` ends — with a
collection or an error — within an explicit number of nested calls, however the links are
arranged (cycles included). (Finding F17c: false of the code before /repo commit f009595 for a
collection mounted above the output path.) -/
theorem C17_terminates (h : Host) (cfg : Cfg) (wf : HostWF h) (hs : runnable cfg = true)
    (fuel : Nat) (hf : fuelBound h cfg ≤ fuel) :
    (∃ t, copy h cfg fuel = .ok t) ∨ (∃ e, copy h cfg fuel = .err e) := by
  unfold copy
  cases hsc : scan h cfg fuel with
  | fuel => exact absurd hsc (scan_ne_fuel h cfg wf fuel hf)
  | unmodelled => exact absurd hsc (walk_ne_unmodelled h cfg hs _ _ _)
  | err e => exact .inr ⟨e, rfl⟩
  | ok p => exact runPlan_total h p

/-- the walk itself never runs out of fuel, whatever the configuration -/
theorem C17_terminates_walk (h : Host) (cfg : Cfg) (wf : HostWF h) (fuel : Nat) (hf : fuelBound h cfg ≤ fuel) :
    scan h cfg fuel ≠ .fuel := scan_ne_fuel h cfg wf fuel hf

theorem copy_err_of_scan_not_ok (h : Host) (cfg : Cfg) (wf : HostWF h) (hs : supported cfg = true)
    (fuel : Nat) (hf : fuelBound h cfg ≤ fuel) (hno : ∀ plan, scan h cfg fuel ≠ .ok plan) :
    ∃ e, copy h cfg fuel = .err e := by
  rcases C17_terminates h cfg wf (runnable_of_supported cfg hs) fuel hf with ⟨t, ht⟩ | he
  · obtain ⟨p, hp, _⟩ := bind_eq_ok _ _ _ ht
    exact absurd hp (hno p)
  · exact he

/-! ### finding F17c (fixed in /repo by f009595): the witness -/

/-- a read-only collection mounted at `/c`, the output directory at `/c/out`, and `l -> ..` -/
def wH3 : Host := [(["o"], .dir), (["o", "l"], .link false [".."])]
def wC3 : Cfg := { ctrOut := ["c", "out"], hostOut := ["o"],
                   mounts := [(["c"], { kind := "collection", coll := some [] }), (["c", "out"], { kind := "tmp" })],
                   secrets := [] }

/-- the cycle through the collection above the output path ends with "too many symlinks": every
re-entry of the output directory costs a follow (in the code before f009595 it did not, and the walk
never ended) -/
theorem w3_fails : scan wH3 wC3 (fuelBound wH3 wC3) = .err .symlinks := by
  have hb : fuelBound wH3 wC3 = 220 := by decide +kernel
  rw [hb]
  simp [scan, walk, namei, wH3, wC3, Host.get, srcMount, underSecret, rootLen, Res.bind, Host.children, sortNames,
    insertName, skipMount, Cfg.mount, copyRegular, Plan.addDir, Plan.addFrags, cleanAbs, cleanAbsStep, extract, cleanRel,
    belowMaxSymlinks, limitFollowSymlinks]

example : runnable wC3 = true ∧ supported wC3 = false := by decide +kernel

/-- **special files**: a device, FIFO or socket that is visible below the output directory makes
`Copy` return an error. -/
theorem C17_special_files_fail (h : Host) (cfg : Cfg) (wf : HostWF h) (hs : supported cfg = true)
    (hx : InOut cfg cfg.ctrOut) (hreal : OutDirReal h cfg) (rel : Path) (hne : rel ≠ [])
    (hv : Visible h cfg cfg.ctrOut cfg.hostOut rel .special)
    (fuel : Nat) (hf : fuelBound h cfg ≤ fuel) : ∃ e, copy h cfg fuel = .err e :=
  copy_err_of_scan_not_ok h cfg wf hs fuel hf (special_fails wf hx hreal hne hv fuel)

/-- **links that leave every mount**: a visible link whose target (as the copier computes it) lies
in no mount and under no secret mount makes `Copy` return an error — it is not skipped. -/
theorem C17_bad_links_fail (h : Host) (cfg : Cfg) (wf : HostWF h) (hs : supported cfg = true)
    (hx : InOut cfg cfg.ctrOut) (hreal : OutDirReal h cfg) (rel : Path) (hne : rel ≠ [])
    (abs : Bool) (t : Path) (hv : Visible h cfg cfg.ctrOut cfg.hostOut rel (.link abs t))
    (hout : Outside cfg (linkTarget (cfg.ctrOut ++ rel) abs t))
    (fuel : Nat) (hf : fuelBound h cfg ≤ fuel) : ∃ e, copy h cfg fuel = .err e :=
  copy_err_of_scan_not_ok h cfg wf hs fuel hf (link_outside_fails wf hx hreal hne hv hout fuel)

/-- **cycles**: a visible link (at `out/rel0/rel`) that leads back to itself (`rel = []`) or to a
directory above it (`out/rel0`) makes `Copy` return an error: it is neither followed forever
(`C17_terminates`) nor dropped. -/
theorem C17_bad_links_fail_cycle (h : Host) (cfg : Cfg) (wf : HostWF h) (hs : supported cfg = true)
    (hx : InOut cfg cfg.ctrOut) (hreal : OutDirReal h cfg) (rel0 rel : Path) (abs : Bool) (t : Path)
    (hxin : InOut cfg (cfg.ctrOut ++ rel0))
    (h0 : rel0 = [] ∨ Visible h cfg cfg.ctrOut cfg.hostOut rel0 (if rel = [] then .link abs t else .dir))
    (hrel : rel = [] ∨ Visible h cfg (cfg.ctrOut ++ rel0) (cfg.hostOut ++ rel0) rel (.link abs t))
    (hnot : ¬ (rel0 = [] ∧ rel = []))
    (hback : linkTarget (cfg.ctrOut ++ rel0 ++ rel) abs t = cfg.ctrOut ++ rel0)
    (fuel : Nat) (hf : fuelBound h cfg ≤ fuel) : ∃ e, copy h cfg fuel = .err e :=
  copy_err_of_scan_not_ok h cfg wf hs fuel hf
    (cycle_fails wf hx hreal rel0 rel abs t hxin h0 hrel hnot hback fuel)

/-- a link met when no follow is left is an error (`errTooManySymlinks`): chains longer than
`limitFollowSymlinks + 1` cannot be followed -/
theorem C17_bad_links_fail_budget (h : Host) (cfg : Cfg) (dest src p : Path) (fuel : Nat) (inc : Bool)
    (st st' : Plan) (abs : Bool) (t : Path)
    (hd : namei h [] (hostPath cfg src) 0 = .found p (.link abs t)) :
    walk h cfg fuel (.host dest src 0 inc) st ≠ .ok st' :=
  fun hw => ((Run.of_walk hw).of_link hd).1 rfl

/-- the full statement: no file planned by a successful scan is read from (below) the host file of a
secret mount — for *every* host tree -/
def C17_secrets_absent_Full : Prop :=
  ∀ (h : Host) (cfg : Cfg) (fuel : Nat) (plan : Plan), HostWF h → CfgWF h cfg →
    h.get cfg.hostOut = some .dir → supported cfg = true → scan h cfg fuel = .ok plan →
    ∀ f ∈ plan.files, ∀ p, f.2 = some p → ¬ SecretHost cfg p

/-- **secrets** (partial): under `Direct` the statement holds. -/
theorem C17_secrets_absent_partial (h : Host) (cfg : Cfg) (hwf : HostWF h) (wf : CfgWF h cfg)
    (hout : h.get cfg.hostOut = some .dir) (hs : supported cfg = true) (hdirect : Direct h cfg)
    (fuel : Nat) (plan : Plan) (hscan : scan h cfg fuel = .ok plan) :
    ∀ f ∈ plan.files, ∀ p, f.2 = some p → ¬ SecretHost cfg p :=
  scan_no_secret h cfg hwf wf hs hdirect fuel plan hscan

/-- what the output path `d` shows never lies at or below a secret mount -/
theorem C17_secrets_absent_spec (h : Host) (cfg : Cfg) (wf : CfgWF h cfg) (d s : Path)
    (hsh : Shows h cfg d s) : ∀ x ∈ cfg.secrets, x.isPrefixOf s = false :=
  shows_noSecret h cfg wf d s hsh

/-! ### witnesses of the findings -/

/-- F17a: output dir with the secret mount `/out/s`, a directory `d` and `l -> /out/d/../s` -/
def wA : Host := [(["o"], .dir), (["o", "s"], .file [115]), (["o", "d"], .dir),
                  (["o", "l"], .link true ["out", "d", "..", "s"])]
/-- F17b: secret mount `/out/d/s`, `l1 -> d`, `l4 -> l1/s` -/
def wB : Host := [(["o"], .dir), (["o", "d"], .dir), (["o", "d", "s"], .file [115]),
                  (["o", "l1"], .link false ["d"]), (["o", "l4"], .link false ["l1", "s"])]
def wCfgA : Cfg := { ctrOut := ["out"], hostOut := ["o"], mounts := [(["out"], { kind := "tmp" })],
                     secrets := [["out", "s"]] }
def wCfgB : Cfg := { wCfgA with secrets := [["out", "d", "s"]] }

theorem wA_scan : scan wA wCfgA 50 =
    .ok { dirs := [["d"]], files := [(["d", ".keep"], none), (["l"], some ["o", "s"])], frags := [] } := by
  simp [scan, walk, namei, wA, wCfgA, Host.get, srcMount, underSecret, rootLen, limitFollowSymlinks, Res.bind,
    Host.children, sortNames, insertName, skipMount, Cfg.mount, copyRegular, Plan.addDir, Plan.addKeep, Plan.addFile]

theorem wB_scan : scan wB wCfgB 50 =
    .ok { dirs := [["d"], ["l1"]], files := [(["l4"], some ["o", "d", "s"])], frags := [] } := by
  simp [scan, walk, namei, wB, wCfgB, wCfgA, Host.get, maxHostLinks, srcMount, underSecret, rootLen, limitFollowSymlinks,
    Res.bind, Host.children, sortNames, insertName, skipMount, Cfg.mount, copyRegular, Plan.addDir, Plan.addFile,
    cleanAbs, cleanAbsStep]

theorem wA_wf : HostWF wA := ⟨by decide +kernel, by decide +kernel, by decide +kernel⟩
theorem wB_wf : HostWF wB := ⟨by decide +kernel, by decide +kernel, by decide +kernel⟩

theorem wA_cfg : CfgWF wA wCfgA :=
  ⟨by decide +kernel, by simp [OutDirReal, namei, wA, wCfgA, Host.get], by decide +kernel⟩
theorem wB_cfg : CfgWF wB wCfgB :=
  ⟨by decide +kernel, by simp [OutDirReal, namei, wB, wCfgB, wCfgA, Host.get], by decide +kernel⟩

/-- the full statement is false of the current code: F17a (absolute target that is not cleaned) -/
theorem C17_secrets_absent_full_fails : ¬ C17_secrets_absent_Full := by
  intro hfull
  exact hfull wA wCfgA 50 _ wA_wf wA_cfg (by decide +kernel) (by decide +kernel) wA_scan
    (["l"], some ["o", "s"]) (.tail _ (.head _)) _ rfl ⟨["out", "s"], .head _, rfl, rfl⟩

/-- … and F17b (relative targets only: a path through a symlinked directory) -/
theorem C17_secrets_absent_full_fails_indirect : ¬ C17_secrets_absent_Full := by
  intro hfull
  exact hfull wB wCfgB 50 _ wB_wf wB_cfg (by decide +kernel) (by decide +kernel) wB_scan
    (["l4"], some ["o", "d", "s"]) (.head _) _ rfl ⟨["out", "d", "s"], .head _, rfl, rfl⟩

/-- Conclusion of the equality theorem for a plan and the tree loaded from its manifest fragments:
`Copy` succeeds, and the saved collection `tree`
 (1) has every regular file that `Shows` derives, with the bytes of the host file;
 (2) has every directory that `Shows` derives, and `dir/.keep` (empty) for those without entries;
 (3) has nothing else: a file is either planned-and-justified by `Shows` (regular file with its
     bytes, or the empty `.keep` of an empty directory) or comes from a mounted collection (`t0`);
     a directory is justified by `Shows` or comes from a mounted collection. -/
structure OutputEqualsTree (h : Host) (cfg : Cfg) (fuel : Nat) (t0 : Tree) : Prop where
  ok : ∃ tree, copy h cfg fuel = .ok tree ∧
    (∀ d s c, Shows h cfg d s → nodeAt h cfg s = some (.file c) → tree.get d = some (.file c)) ∧
    (∀ d s, Shows h cfg d s → nodeAt h cfg s = some .dir → d ≠ [] →
      tree.get d = some .dir ∧
      (h.children (hostPath cfg s) = [] → tree.get (d ++ [".keep"]) = some (.file []))) ∧
    (∀ x c, tree.get x = some (.file c) →
      (∃ s, Shows h cfg x s ∧ nodeAt h cfg s = some (.file c)) ∨
      (c = [] ∧ ∃ d s, x = d ++ [".keep"] ∧ Shows h cfg d s ∧ nodeAt h cfg s = some .dir ∧
        h.children (hostPath cfg s) = []) ∨
      t0.get x = some (.file c)) ∧
    (∀ x, tree.get x = some .dir →
      (∃ s, Shows h cfg x s ∧ nodeAt h cfg s = some .dir) ∨ t0.get x = some .dir)

/-- **output equals tree** (partial): for a well-formed host tree and configuration in which every
link has a canonical target (`Direct`) and mounted content does not claim a path that host content
claims (`NoCollide`): if the scan succeeds then `Copy` succeeds and the saved collection is
exactly what `Shows` derives from the output directory, plus the content of the mounted collections. -/
theorem C17_output_equals_tree_partial (h : Host) (cfg : Cfg) (hwf : HostWF h) (wf : CfgWF h cfg)
    (hout : h.get cfg.hostOut = some .dir) (hs : supported cfg = true) (hx : InOut cfg cfg.ctrOut)
    (hdirect : Direct h cfg) (fuel : Nat) (plan : Plan) (hscan : scan h cfg fuel = .ok plan)
    (t0 : Tree) (hload : loadFrags [] plan.frags = some t0) (hnc : NoCollide t0 plan) :
    OutputEqualsTree h cfg fuel t0 := by
  have hsh := scan_shape h cfg hwf hs wf.real fuel plan hscan
  have hfile := scan_planned h cfg hwf wf hs hx hdirect fuel plan hscan
  have hdirs := scan_dirs h cfg hwf wf hs hx hdirect fuel plan hscan
  obtain ⟨tree, hrun, hget⟩ := runPlan_spec h plan hsh t0 hload hnc
  refine ⟨tree, by unfold copy; rw [hscan]; exact hrun, ?_, ?_, ?_, ?_⟩
  · intro d s c hshow hnode
    rw [hget, (hfile d c).mpr (Or.inl ⟨s, hshow, hnode⟩)]
  · intro d s hshow hnode hne
    have hd := (hdirs d).mpr ⟨hne, s, hshow, hnode⟩
    constructor
    · rw [hget, planned_none_of_not_mem h plan.files d (hsh.disjoint d hd)]
      simp [hd]
    · intro hempty
      rw [hget, (hfile _ []).mpr (Or.inr ⟨rfl, d, s, rfl, hne, hshow, hnode, hempty⟩)]
  · intro x c hx
    rw [hget] at hx
    split at hx
    · next hp =>
      cases hx
      rcases (hfile x c).mp hp with hf | ⟨hc, d, s, hxd, _, hrest⟩
      · exact .inl hf
      · exact .inr (.inl ⟨hc, d, s, hxd, hrest⟩)
    · split at hx
      · cases hx
      · exact .inr (.inr hx)
  · intro x hx
    rw [hget] at hx
    split at hx
    · cases hx
    · split at hx
      · next hmem => exact .inl ((hdirs x).mp hmem).2
      · exact .inr hx

/-- **mounted collections** (partial; the hypotheses about the scan only, nothing about loading or
`NoCollide`): the manifest text a successful scan hands to
the collection filesystem consists exactly (as a set of items) of the extracts the specification
names — for the output root and for the target of every link that `Shows` reaches (`Jumps`): the
read-only collection containing it, relocated to the link's output path (`fragOf`), and, unless a
secret mount hides it, every collection mounted beneath it at the corresponding path (`belowFrags`).
These items reach the saved collection through `loadFrags` (the `t0` of
`C17_output_equals_tree_partial`); no byte of them is read or written. -/
theorem C17_mount_content_partial (h : Host) (cfg : Cfg) (hwf : HostWF h) (wf : CfgWF h cfg)
    (hout : h.get cfg.hostOut = some .dir) (hs : supported cfg = true) (hx : InOut cfg cfg.ctrOut)
    (hdirect : Direct h cfg) (fuel : Nat) (plan : Plan) (hscan : scan h cfg fuel = .ok plan) :
    (∀ f ∈ plan.frags, ∃ d x, Jumps h cfg d x ∧
      (f ∈ fragOf cfg d x ∨ (notSecret cfg x ∧ f ∈ belowFrags cfg d x))) ∧
    (∀ d x, Jumps h cfg d x →
      (∀ f ∈ fragOf cfg d x, f ∈ plan.frags) ∧
      (notSecret cfg x → ∀ f ∈ belowFrags cfg d x, f ∈ plan.frags)) :=
  ⟨scan_frags_sound h cfg hwf wf hout hs hdirect fuel plan hscan,
   fun d x hj => scan_frags_complete h cfg hwf wf hout hs hdirect hx fuel plan hscan d x hj⟩

/-- bytes written to Keep by `Copy` are the bytes of the planned host files only -/
theorem C17_put_bytes (h : Host) (p : Plan) :
    putBytes h p = (p.files.map fun f => (srcContent h f.2).length).sum := rfl

/-- **output equals tree, with hypotheses a real container satisfies** (`NoCollide` derived): if
every mount beneath the output path is a mount point the entry loop skips and it and the directories
above it exist on the host (`MountsReal` — otherwise the mount could not have been made), then for
every tree whose links have canonical targets (`Direct`), a successful scan whose fragments load
gives a successful `Copy` that saves exactly what `Shows` derives from the output directory plus the
content of the mounted collections: mounted content and host content never claim the same output
path (`scan_nocollide`: determinism of `Shows` per output path, coverage of `loadFrags`). -/
theorem C17_output_equals_tree_mounts_real (h : Host) (cfg : Cfg) (hwf : HostWF h) (wf : CfgWF h cfg)
    (hout : h.get cfg.hostOut = some .dir) (hs : supported cfg = true) (hx : InOut cfg cfg.ctrOut)
    (hdirect : Direct h cfg) (mr : MountsReal h cfg) (fuel : Nat) (plan : Plan)
    (hscan : scan h cfg fuel = .ok plan) (t0 : Tree) (hload : loadFrags [] plan.frags = some t0) :
    OutputEqualsTree h cfg fuel t0 :=
  C17_output_equals_tree_partial h cfg hwf wf hout hs hx hdirect fuel plan hscan t0 hload
    (scan_nocollide h cfg hwf wf hout hs hx hdirect mr fuel plan hscan t0 hload)

/-- **output equals tree, without `NoCollide`** — what exactly `Copy` saves when mounted content and
host content claim the same output path. Under the other hypotheses, whenever `Copy` succeeds there
are the scan's plan and the tree `t0` of the mounted content (the loaded manifest fragments,
characterised by `C17_mount_content_partial`) such that
 (1) every regular file `Shows` derives at `d` with host bytes `c` is saved at `d` as
     `overlay (t0.get d) c`: `c` itself if the mounted content has nothing at `d`; `c` followed by
     the tail of the longer mounted file if it has a file there (the copier opens the destination
     without truncation); the mounted directory if it has a directory there, which happens only
     for `c = []`;
 (2) every directory `Shows` derives at `d ≠ []` exists unless the mounted content has a *file* at
     `d` (then that file stays), and an empty one gets `d/.keep = overlay (t0.get (d/.keep)) []`;
 (3) everything else in the saved tree is what the mounted content has there. -/
theorem C17_output_equals_tree_general (h : Host) (cfg : Cfg) (hwf : HostWF h) (wf : CfgWF h cfg)
    (hout : h.get cfg.hostOut = some .dir) (hs : supported cfg = true) (hx : InOut cfg cfg.ctrOut)
    (hdirect : Direct h cfg) (fuel : Nat) (tree : Tree) (hcopy : copy h cfg fuel = .ok tree) :
    ∃ plan t0, scan h cfg fuel = .ok plan ∧ loadFrags [] plan.frags = some t0 ∧
      (∀ d s c, Shows h cfg d s → nodeAt h cfg s = some (.file c) →
        tree.get d = overlay (t0.get d) c ∧ (t0.get d = some .dir → c = [])) ∧
      (∀ d s, Shows h cfg d s → nodeAt h cfg s = some .dir → d ≠ [] →
        tree.get d = (if t0.get d = none then some .dir else t0.get d) ∧
        (h.children (hostPath cfg s) = [] → tree.get (d ++ [".keep"]) = overlay (t0.get (d ++ [".keep"])) [])) ∧
      (∀ x e, tree.get x = some e →
        (∃ c, planned h plan.files x = some c) ∨ (x ∈ plan.dirs ∧ t0.get x = none ∧ e = .dir) ∨ t0.get x = some e) := by
  unfold copy at hcopy
  obtain ⟨plan, hscan, hrun⟩ := bind_eq_ok _ _ _ hcopy
  have hsh := scan_shape h cfg hwf hs wf.real fuel plan hscan
  have hfile := scan_planned h cfg hwf wf hs hx hdirect fuel plan hscan
  have hdirs := scan_dirs h cfg hwf wf hs hx hdirect fuel plan hscan
  obtain ⟨t0, hload, hget⟩ := runPlan_ok_spec h plan hsh tree hrun
  refine ⟨plan, t0, hscan, hload, ?_, ?_, ?_⟩
  · intro d s c hshow hnode
    have hp := (hfile d c).mpr (.inl ⟨s, hshow, hnode⟩)
    exact ⟨by rw [(hget d).1, hp], (hget d).2 c hp⟩
  · intro d s hshow hnode hne
    have hd := (hdirs d).mpr ⟨hne, s, hshow, hnode⟩
    constructor
    · rw [(hget d).1, planned_none_of_not_mem h plan.files d (hsh.disjoint d hd)]
      simp only [hd, true_and]
    · intro hempty
      rw [(hget _).1, (hfile _ []).mpr (.inr ⟨rfl, d, s, rfl, hne, hshow, hnode, hempty⟩)]
  · intro x e hx'
    rw [(hget x).1] at hx'
    split at hx'
    · next c hp => exact .inl ⟨c, hp⟩
    · split at hx'
      · next hc =>
        cases hx'
        exact .inr (.inl ⟨hc.1, hc.2, rfl⟩)
      · exact .inr (.inr hx')

/-! ## when the mounted content loads (the hypothesis `loadFrags … = some t0`) -/

/-- **`loadManifest` characterised**: manifest text loads into an empty collection exactly when no
two of its items contradict each other — a file item whose path is a proper prefix of another
item's path, or a file item and a directory marker at the same path; the same file named twice is
fine (its segments are appended) -/
theorem C17_manifest_loads_iff (fs : List Frag) : (∃ t0, loadFrags [] fs = some t0) ↔ FragsCompat fs :=
  loadFrags_iff fs

/-- **the collected manifest text loads exactly when the specification's items are compatible**:
for a successful scan, the hypothesis `loadFrags [] plan.frags = some t0` of the equality theorems
is equivalent to a statement about the specification alone (`Shows`, the mounts and their
collections) — neither the plan nor the order of the items appears in it -/
theorem C17_frags_load_iff (h : Host) (cfg : Cfg) (hwf : HostWF h) (wf : CfgWF h cfg)
    (hout : h.get cfg.hostOut = some .dir) (hs : supported cfg = true) (hx : InOut cfg cfg.ctrOut)
    (hdirect : Direct h cfg) (fuel : Nat) (plan : Plan) (hscan : scan h cfg fuel = .ok plan) :
    (∃ t0, loadFrags [] plan.frags = some t0) ↔ SpecCompat h cfg :=
  scan_load_iff h cfg hwf wf hout hs hx hdirect fuel plan hscan

/-- … which holds when every mounted collection is a tree (`CollsWF`: no path is both a file and a
directory — what the API server accepts) and the mounts do not overlap (`SitesApart`) -/
theorem C17_frags_load_apart (h : Host) (cfg : Cfg) (hwf : HostWF h) (wf : CfgWF h cfg)
    (hout : h.get cfg.hostOut = some .dir) (hs : supported cfg = true) (hx : InOut cfg cfg.ctrOut)
    (hdirect : Direct h cfg) (hc : CollsWF cfg) (ha : SitesApart h cfg)
    (fuel : Nat) (plan : Plan) (hscan : scan h cfg fuel = .ok plan) :
    ∃ t0, loadFrags [] plan.frags = some t0 :=
  (scan_load_iff h cfg hwf wf hout hs hx hdirect fuel plan hscan).mpr (specCompat_of_apart h cfg hc ha)

/-- **output equals tree for mounts that do not overlap** — no hypothesis about loading is left:
well-formed tree and configuration, canonical link targets (`Direct`), real mount points
(`MountsReal`), tree-shaped collections, non-overlapping sites: whenever the scan succeeds, `Copy`
succeeds and saves exactly what `Shows` derives plus the content `t0` of the mounted collections
(which items: `C17_mount_content_partial`) -/
theorem C17_output_equals_tree_apart (h : Host) (cfg : Cfg) (hwf : HostWF h) (wf : CfgWF h cfg)
    (hout : h.get cfg.hostOut = some .dir) (hs : supported cfg = true) (hx : InOut cfg cfg.ctrOut)
    (hdirect : Direct h cfg) (mr : MountsReal h cfg) (hc : CollsWF cfg) (ha : SitesApart h cfg)
    (fuel : Nat) (plan : Plan) (hscan : scan h cfg fuel = .ok plan) :
    ∃ t0, loadFrags [] plan.frags = some t0 ∧ OutputEqualsTree h cfg fuel t0 := by
  obtain ⟨t0, hl⟩ := C17_frags_load_apart h cfg hwf wf hout hs hx hdirect hc ha fuel plan hscan
  exact ⟨t0, hl, C17_output_equals_tree_mounts_real h cfg hwf wf hout hs hx hdirect mr fuel plan hscan t0 hl⟩

/-- conversely, when the items the specification names contradict each other (two overlapping
mounts with a file of one where the other has a directory), `Copy` fails with the collection
filesystem's error: nothing is saved, nothing is dropped silently -/
theorem C17_frags_conflict_fails (h : Host) (cfg : Cfg) (hwf : HostWF h) (wf : CfgWF h cfg)
    (hout : h.get cfg.hostOut = some .dir) (hs : supported cfg = true) (hx : InOut cfg cfg.ctrOut)
    (hdirect : Direct h cfg) (hnc : ¬ SpecCompat h cfg)
    (fuel : Nat) (plan : Plan) (hscan : scan h cfg fuel = .ok plan) : copy h cfg fuel = .err .fs := by
  have hno : loadFrags [] plan.frags = none :=
    Option.eq_none_iff_forall_ne_some.mpr fun t0 hl =>
      hnc ((scan_load_iff h cfg hwf wf hout hs hx hdirect fuel plan hscan).mp ⟨t0, hl⟩)
  unfold copy
  rw [hscan]
  simp [Res.bind, runPlan, hno]

/-! ## nested mounts (finding F17d) -/

/-- the full statement: every item of mounted content that the specification names (and that a
successful scan therefore saves, `C17_mount_content_partial`) is what the container sees at the path
it was taken from — no deeper mount hides it -/
def C17_mounted_view_Full : Prop :=
  ∀ (h : Host) (cfg : Cfg) (D y : Path), Site h cfg D y → ∀ f ∈ fragOf cfg D y, Unshadowed cfg D y f

/-- collection A `{g, sub/f}` mounted at `/out/m`, collection B `{f}` mounted on A's directory `sub` -/
def wCfgD : Cfg :=
  { ctrOut := ["out"], hostOut := ["o"],
    mounts := [(["out"], { kind := "tmp" }),
               (["out", "m"], { kind := "collection", coll := some [([], "g", [7]), (["sub"], "f", [1, 2, 3])] }),
               (["out", "m", "sub"], { kind := "collection", coll := some [([], "f", [4, 5, 6, 7, 8])] })],
    secrets := [] }

/-- A's `sub/f` and B's `f` are both extracted, at the same output path,
which `loadManifest` accepts (`FragsCompat`: the same file named again) and appends -/
theorem C17_mounted_view_merge :
    (["m", "sub", "f"], some [1, 2, 3]) ∈ fragOf wCfgD ["m"] ["out", "m"] ∧
    (["m", "sub", "f"], some [4, 5, 6, 7, 8]) ∈ fragOf wCfgD ["m", "sub"] ["out", "m", "sub"] ∧
    loadFrags [] [(["m", "sub", "f"], some [1, 2, 3]), (["m", "sub", "f"], some [4, 5, 6, 7, 8])] =
      some [(["m"], .dir), (["m", "sub"], .dir), (["m", "sub", "f"], .file [1, 2, 3, 4, 5, 6, 7, 8])] := by
  decide +kernel

/-- the full statement is false of the current code (F17d): A's `sub/f`, which the container cannot
see (B is mounted on `sub`), is an item of the extract for `/out/m` (`C17_mounted_view_merge`) -/
theorem C17_mounted_view_full_fails : ¬ C17_mounted_view_Full := by
  intro hfull
  have s1 : Site [] wCfgD ["m"] ["out", "m"] :=
    .inr ⟨[], ["out"], .root, by unfold notSecret; decide +kernel, _, .tail _ (.head _),
      by decide +kernel, by decide +kernel, by decide +kernel, rfl⟩
  exact absurd (hfull [] wCfgD _ _ s1 _ C17_mounted_view_merge.1) (by unfold Unshadowed; decide +kernel)

/-- **mounted content is the container's view** (partial): when no mount point lies strictly below
a collection's mount point (`NoNestedMounts`), every item of manifest text that a successful scan
collects was extracted at a site the specification names and is not hidden by a deeper mount -/
theorem C17_mounted_view_partial (h : Host) (cfg : Cfg) (hwf : HostWF h) (wf : CfgWF h cfg)
    (hout : h.get cfg.hostOut = some .dir) (hs : supported cfg = true) (hdirect : Direct h cfg)
    (hn : NoNestedMounts cfg) (fuel : Nat) (plan : Plan) (hscan : scan h cfg fuel = .ok plan) :
    ∀ f ∈ plan.frags, ∃ D y, Site h cfg D y ∧ f ∈ fragOf cfg D y ∧ Unshadowed cfg D y f := by
  intro f hf
  obtain ⟨D, y, hsite, hmem⟩ :=
    fragJust_site h cfg plan (scan_frags_sound h cfg hwf wf hout hs hdirect fuel plan hscan) f hf
  exact ⟨D, y, hsite, hmem, fragOf_unshadowed cfg hn D y f hmem⟩

/-- the full statement: the same for every host tree, without `Direct` -/
def C17_output_equals_tree_Full : Prop :=
  ∀ (h : Host) (cfg : Cfg) (fuel : Nat) (plan : Plan) (t0 : Tree), HostWF h → CfgWF h cfg →
    h.get cfg.hostOut = some .dir → supported cfg = true → InOut cfg cfg.ctrOut →
    scan h cfg fuel = .ok plan → loadFrags [] plan.frags = some t0 → NoCollide t0 plan →
    OutputEqualsTree h cfg fuel t0

theorem wA_copy : copy wA wCfgA 50 =
    .ok [(["d"], .dir), (["d", ".keep"], .file []), (["l"], .file [115])] := by
  unfold copy
  rw [wA_scan]
  decide +kernel

/-- the full statement is false of the current code (F17a): the saved collection of witness `wA` has
the file `/l` with the secret's bytes, which nothing in the output directory justifies -/
theorem C17_output_equals_tree_full_fails : ¬ C17_output_equals_tree_Full := by
  intro hfull
  have hin : InOut wCfgA wCfgA.ctrOut := ⟨by decide +kernel, _, rfl, rfl, rfl⟩
  obtain ⟨tree, hc, _, _, h3, _⟩ := (hfull wA wCfgA 50 _ [] wA_wf wA_cfg (by decide +kernel) (by decide +kernel) hin wA_scan
    (by decide +kernel) ⟨by decide +kernel, by decide +kernel⟩).ok
  cases wA_copy.symm.trans hc
  rcases h3 ["l"] [115] (by decide +kernel) with ⟨s, hshow, hnode⟩ | ⟨hc0, _⟩ | ht0
  · -- the only host file with these bytes is the secret's, and `Shows` never shows a secret
    have hpre := prefix_append_drop _ _ (shows_pre wA wCfgA _ s hshow)
    have hns := shows_noSecret wA wCfgA wA_cfg _ s hshow ["out", "s"] (by decide +kernel)
    have hs : s.drop 1 = ["s"] := by simpa [wA] using mem_of_get wA (["o"] ++ s.drop 1) _ (by simp) hnode
    rw [← hpre, show wCfgA.ctrOut.length = 1 from rfl, hs] at hns
    cases hns
  · cases hc0
  · simp [Tree.get] at ht0

end ArvVerif.C17
