/-
C10 — property theorems about content (the bytes the codecs recover) and about `Extract`.
-/
import ArvVerif.Props.C10
import ArvVerif.Proofs.C10_Normalize
import ArvVerif.Proofs.C10_SizedDigests
import ArvVerif.Proofs.C10_Reparse
namespace ArvVerif.C10

/-- **C10_resolve_bytes.** `resolve` is the document's semantics: for block contents `blk` of the
declared sizes, the bytes of a path's segments are, token by token in manifest order, bytes
`position … position+size` of the logical concatenation of the token's stream. -/
theorem C10_resolve_bytes (blk : Bytes → Bytes) (M : Manifest) (p : Bytes)
    (hsz : ∀ s ∈ M, ∀ b ∈ s.blocks, (blk b.text).length = b.size) :
    segBytes blk (resolve M p) = fileContent blk M p :=
  resolve_bytes blk M p hsz

/-- hence the Go manifest package recovers exactly the document's bytes for every path … -/
theorem C10_pkg_bytes (blk : Bytes → Bytes) (txt : Bytes) (M : Manifest) (hvalid : parseSpec txt = some M)
    (hfit : ∀ s ∈ M, FitsGo s) (hsz : ∀ s ∈ M, ∀ b ∈ s.blocks, (blk b.text).length = b.size) :
    ∃ m, pkgSegment txt = .ok m ∧
      ∀ sn fn : Bytes, segBytes blk (segLookup m (splitPath (pathOf sn fn))) = fileContent blk M (pathOf sn fn) := by
  obtain ⟨m, h1, h2⟩ := C10_pkg_agrees txt M hvalid hfit
  exact ⟨m, h1, fun sn fn => by rw [(h2 sn fn).1, resolve_bytes blk M _ hsz]⟩

/-- … and so does the collection filesystem loader (as far as its stored segments go; reading them
is C03/C08's subject and is checked on the real `filenode.Read` by the correspondence oracle). -/
theorem C10_fs_bytes (blk : Bytes → Bytes) (txt : Bytes) (M : Manifest) (hvalid : parseSpec txt = some M)
    (hfit : ∀ s ∈ M, FitsFs s) (htree : TreeConsistent M)
    (hsz : ∀ s ∈ M, ∀ b ∈ s.blocks, (blk b.text).length = b.size) :
    ∃ t, fsLoad txt = some t ∧
      ∀ p ∈ pathsOf M, (fsSegsOf t p).map (segBytes blk) = some (fileContent blk M p) := by
  obtain ⟨t, h1, h2, _⟩ := C10_fs_agrees txt M hvalid hfit htree
  exact ⟨t, h1, fun p hp => by rw [(h2 p hp).1, Option.map_some, resolve_bytes blk M _ hsz]⟩

example : fileContent (fun l => if l.head? = some 97 then [1, 2, 3] else if l.head? = some 98 then [4, 5, 6, 7, 8] else [])
    wF3M [46, 47, 102] = [3, 4, 5, 6] := by decide +kernel

/-- **C10_normalize_preserves_partial.** The kernel shared by `segmentedStream.normalizedText`
(Go) and `normalize_stream` (Python): list every digest once (first pass), collapse each file's
segments into stream spans (second pass). For contents and sizes that are a function of the digest
and segments inside their blocks, the spans of every file, cut out of the concatenation of the
listed blocks, are exactly the bytes of that file's segments.

*Partial*: this is the byte-preservation core at the level of segment lists. Rendering the result
as text and re-parsing it (decimal formatting; name escaping is `C10_escape_roundtrip`),
`sort.Strings`, and `manifestTextForPath`'s selection/relocation of streams and files are the
subject of the `C10_extract_*` theorems below; they are also exercised for every (srcpath, relocate)
pair by the correspondence check, whose oracle re-interprets the output with the reference
interpreter. -/
theorem C10_normalize_preserves_partial (blk : Bytes → Bytes) (files : List (List Seg))
    (hc : DigestConsistent blk files.flatten) :
    let r := normBlocks files.flatten [] [] 0
    let S := streamBytes blk (r.2.1.map fun t => ⟨t, locSize t⟩)
    ∀ segs ∈ files, (normSpansS r.1 segs none).flatMap (spanSlice S) = segBytes blk segs :=
  normalize_preserves_bytes blk files hc

/-- the text tokens `normalizedText` emits for a file are the rendering of these spans -/
theorem C10_normalize_tokens (tbl : List (Bytes × Nat)) (fout : Bytes) (segs : List Seg) :
    normSpans tbl fout segs none = (normSpansS tbl segs none).map (spanTok fout) :=
  normSpans_eq tbl fout segs none (by intro a b h; cases h)

/-- **C10_total, hang clause for the searches**: on *every* offsets array (sorted or not, wrapped or
not) and for either version of the comparison, the loop of `manifest.firstBlock` / Python
`first_block` exits. (All other loops of the three codecs are bounded `for` loops over tokens or
blocks; their models are structurally recursive.) -/
theorem C10_firstBlock_terminates (g : Nat → Nat → Nat → Bool) (offs : List Nat) (rs : List PyRange) (start : Nat) :
    firstBlockWith g offs start ≠ .outOfFuel ∧ pyFirstBlockWith g rs start ≠ .outOfFuel :=
  ⟨firstBlockWith_terminates g offs start, pyFirstBlockWith_terminates g rs start⟩

/-- **C10_sized_digests.** For every text inside the grammar `Collection.SizedDigests` returns no
error and, in manifest order, the hash+size part of every block locator (all hints dropped). -/
theorem C10_sized_digests (txt : Bytes) (M : Manifest) (hvalid : parseSpec txt = some M) :
    sizedDigests txt = some (M.flatMap fun s => s.blocks.map fun b => stripLoc b.text) :=
  sizedDigests_valid txt M hvalid

example : sizedDigests wF3 = some (wF3M.flatMap fun s => s.blocks.map fun b => stripLoc b.text) :=
  C10_sized_digests wF3 wF3M wF3_valid

/-- **C10_extract_text.** `Manifest.Extract(srcpath, relocate)` is `segment()` followed by
`normalizedText` of every selected stream (`extractS`), in sorted order; an error (and no text) if
`segment()` fails; never a panic (`C10_pkg_no_panic`). -/
theorem C10_extract_text (txt srcpath relocate : Bytes) :
    (∃ m, pkgSegment txt = .ok m ∧
      pkgExtract txt srcpath relocate = .ok ((extractS m srcpath relocate).flatMap fun x => normalizedText x.1 x.2)) ∨
    (pkgSegment txt = .err ∧ pkgExtract txt srcpath relocate = .err) := by
  have he : pkgExtract txt srcpath relocate =
      (pkgSegment txt).bind fun m => .ok (manifestTextForPath m srcpath relocate) := rfl
  rw [he]
  cases h : pkgSegment txt with
  | ok m => exact Or.inl ⟨m, rfl, congrArg Res.ok (manifestTextForPath_eq m srcpath relocate)⟩
  | err => exact Or.inr ⟨rfl, rfl⟩
  | panic => exact absurd h (C10_pkg_no_panic txt)

/-- **C10_extract_stream_test.** The stream test of `manifestTextForPath`
(`k == srcpath || HasPrefix(k, srcpath+"/")`) holds exactly when the path components of `srcpath`
are a prefix of those of `k`: the stream *is* `srcpath` or lies *below* it — `./ab` is not below
`./a`. (Seeded change C10-c dropped the `/`; this theorem is what it violates.) -/
theorem C10_extract_stream_test (src k : Bytes) :
    (k = src ∨ (src ++ [bSlash]).isPrefixOf k = true) ↔ splitOn bSlash src <+: splitOn bSlash k :=
  selected_iff_components src k

example : ¬ (splitOn bSlash [46, 47, 97] <+: splitOn bSlash [46, 47, 97, 98]) := by decide

/-- **C10_extract_selects_dir.** When `srcpath` is not a file of the manifest, the streams handed to
`normalizedText` are exactly the streams at or below `srcpath`, each renamed to
`relocate ++ (name minus srcpath)`, with all its files and their segment lists unchanged. -/
theorem C10_extract_selects_dir (m : SegMap) (srcpath relocate : Bytes)
    (hnofile : m.find? (·.1 = ((splitPath (fixStreamName srcpath)).1, (splitPath (fixStreamName srcpath)).2)) = none)
    (out : Bytes × List (Bytes × List Seg)) :
    out ∈ extractS m srcpath relocate ↔
      ∃ k ∈ streamNames m, splitOn bSlash (fixStreamName srcpath) <+: splitOn bSlash k ∧
        out = ((let rel := fixStreamName relocate ++ (if relocate.getLast? = some bSlash then [bSlash] else [])
                if rel.getLast? = some bSlash then rel.dropLast else rel) ++ k.drop (fixStreamName srcpath).length,
               streamFiles m k) := by
  unfold extractS
  simp only [hnofile, List.mem_filterMap, (sortBytes_perm _).mem_iff, ← selected_iff_components,
    Option.ite_none_right_eq_some, Option.some.injEq, or_comm, @eq_comm _ out]

/-- **C10_extract_selects_file.** When `srcpath` names a file, the result is that file alone, with its
segment list, in the stream `relocate` denotes, renamed to `relocate`'s last component unless that
is empty (`relocate` is `.` or ends in `/`). -/
theorem C10_extract_selects_file (m : SegMap) (srcpath relocate : Bytes) (e : (Bytes × Bytes) × List Seg)
    (hfile : m.find? (·.1 = ((splitPath (fixStreamName srcpath)).1, (splitPath (fixStreamName srcpath)).2)) = some e) :
    extractS m srcpath relocate =
      (let rel := fixStreamName relocate ++ (if relocate.getLast? = some bSlash then [bSlash] else [])
       [((splitPath rel).1,
         [(if (splitPath rel).2 = [] then (splitPath (fixStreamName srcpath)).2 else (splitPath rel).2, e.2)])]) := by
  unfold extractS
  simp only [hfile]

/-- **C10_normalize_preserves (stream level).** What `normalizedText` renders for a stream: escaped
name, each digest once (or the empty-block locator), for every file in sorted order the rendering of
its spans (or `0:0:name`); and those spans, cut out of the concatenation of the listed blocks, are
exactly the bytes of the file's segments, for every file of the stream.

That the rendered text, parsed again, yields these very tokens is `C10_rendered_file_parses` and
`C10_extract_reparses` below. The correspondence oracle re-parses every `Extract` output with the
reference interpreter. -/
theorem C10_normalize_preserves (blk : Bytes → Bytes) (name : Bytes) (files : List (Bytes × List Seg))
    (hc : DigestConsistent blk ((sortBytes (files.map (·.1))).flatMap fun fn =>
      match files.find? (·.1 = fn) with | some e => e.2 | none => [])) :
    let sorted := sortBytes (files.map (·.1))
    let segsOf := fun fn => match files.find? (·.1 = fn) with | some e => e.2 | none => []
    let r := normBlocks (sorted.flatMap segsOf) [] [] 0
    let btoks := if r.2.1 = [] then [emptyBlockLocator] else r.2.1
    let S := streamBytes blk (r.2.1.map fun t => ⟨t, locSize t⟩)
    normalizedText name files =
      joinWith bSpace (pkgEscape name :: btoks ++ sorted.flatMap fun fn => normFileToks r.1 fn (segsOf fn)) ++ [bNL] ∧
    (∀ fn, fn ∈ sorted ↔ fn ∈ files.map (·.1)) ∧
    ∀ fn ∈ sorted, (normSpansS r.1 (segsOf fn) none).flatMap (spanSlice S) = segBytes blk (segsOf fn) := by
  intro sorted segsOf r btoks S
  exact ⟨normalizedText_eq name files, fun fn => (sortBytes_perm _).mem_iff, normalizedText_bytes blk files hc⟩

/-- **C10_rendered_token_parses.** Text rendering and re-parsing of one file token are inverse: what
`normalizedText` writes with `fmt.Sprintf("%d:%d:%s", pos, len, EscapeName(name))` is read back by
`parseFileStreamSegment` (`SplitN`, `ParseUint`, `UnescapeName`) as exactly (pos, len, name), for
every name (any bytes, colons included) and every pos, len below 2^64; hence all tokens of a file
in `normalizedText`'s output parse back to its spans and its name. -/
theorem C10_rendered_token_parses (a l : Nat) (fn : Bytes) (ha : a < two64) (hl : l < two64) :
    pkgFileTok (fileTokText (a : Int) (l : Int) (pkgEscape fn)) = some ⟨a, l, fn⟩ :=
  pkgFileTok_rendered a l fn ha hl

theorem C10_rendered_file_parses (tbl : List (Bytes × Nat)) (fn : Bytes) (segs : List Seg)
    (hb : ∀ p ∈ normSpansS tbl segs none, p.1 < two64 ∧ p.2 < two64) :
    (normFileToks tbl fn segs).map pkgFileTok =
      ((normSpansS tbl segs none).map fun p => some (⟨p.1, p.2, fn⟩ : FTok)) ++
        (if segs.isEmpty then [some ⟨0, 0, fn⟩] else []) := by
  rw [normFileToks_parse tbl fn segs, fileSpans, List.map_append]
  · split <;> rfl
  · intro p hp
    rcases mem_fileSpans hp with hp | rfl
    · exact hb p hp
    · decide

example : pkgFileTok (fileTokText 12 345 (pkgEscape [97, 32, 58, 92])) = some ⟨12, 345, [97, 32, 58, 92]⟩ :=
  C10_rendered_token_parses 12 345 _ (by decide) (by decide)

/-- **C10_extract_reparses.** Text level, end to end: if `segment()` of the input succeeds and every
stream `Extract(srcpath, relocate)` selects satisfies `RenderOk` — its relocated name is `.` or starts
with `./`, every relocated path is canonical (this is the explicit hypothesis on `relocate`), its
segments are what `segment()` produces (`SegOk`), contents/sizes are a function of the digest, and the
normalized stream is shorter than 2^64 bytes — then `Extract` returns a text that the package parses
again without error, stream by stream into exactly the streams it rendered (`normStream`: blocks of
pass 1, spans of pass 2), and `segment()` of that text resolves every path over these streams. -/
theorem C10_extract_reparses (blk : Bytes → Bytes) (txt srcpath relocate : Bytes) (m : SegMap)
    (hm : pkgSegment txt = .ok m) (hok : ∀ o ∈ extractS m srcpath relocate, RenderOk blk o.1 o.2) :
    ∃ out m', pkgExtract txt srcpath relocate = .ok out ∧
      pkgStreams out = (extractS m srcpath relocate).map (fun o => toPStream (normStream o.1 o.2)) ∧
      pkgSegment out = .ok m' ∧
      ∀ a b : Bytes, segLookup m' (splitPath (pathOf a b)) =
        resolve ((extractS m srcpath relocate).map fun o => normStream o.1 o.2) (pathOf a b) := by
  rcases C10_extract_text txt srcpath relocate with ⟨m0, h0, hext⟩ | ⟨h0, _⟩
  · rw [hm] at h0; cases h0
    have hstreams := pkgStreams_rendered blk _ hok
    obtain ⟨m', h1, h3⟩ := pkgSegment_of_streams (Ss := (extractS m srcpath relocate).map fun o => normStream o.1 o.2)
      (by rw [hstreams, List.map_map]; rfl)
    exact ⟨_, m', hext, hstreams, h1, h3⟩
  · rw [hm] at h0; cases h0

/-- **C10_extract_preserves — text level, end to end.** Under the hypotheses of `C10_extract_reparses`
(in particular: every relocated path canonical), parse `Extract(srcpath, relocate)`'s output text
again with the package: for *every* combined path `p`, the bytes of the segments `segment()` gives
for `p` in the output are the concatenation, over the selected streams and their files in sorted
order, of the bytes of the *source* segment lists of exactly those files whose relocated path is
`p`. With `C10_extract_selects_dir/_file` (which streams/files are selected and how they are
renamed) and `C10_pkg_bytes` (source segment lists = the document's bytes) this is: extracting
preserves every file's byte sequence under its relocated, unescaped name, and nothing else appears. -/
theorem C10_extract_preserves (blk : Bytes → Bytes) (txt srcpath relocate : Bytes) (m : SegMap)
    (hm : pkgSegment txt = .ok m) (hok : ∀ o ∈ extractS m srcpath relocate, RenderOk blk o.1 o.2) :
    ∃ out m', pkgExtract txt srcpath relocate = .ok out ∧ pkgSegment out = .ok m' ∧
      ∀ a b : Bytes, segBytes blk (segLookup m' (splitPath (pathOf a b))) =
        (extractS m srcpath relocate).flatMap fun o => (sortBytes (o.2.map (·.1))).flatMap fun fn =>
          if pathOf o.1 fn = pathOf a b then segBytes blk (segsOfFiles o.2 fn) else [] := by
  obtain ⟨out, m', h1, _, h3, h4⟩ := C10_extract_reparses blk txt srcpath relocate m hm hok
  refine ⟨out, m', h1, h3, fun a b => ?_⟩
  rw [h4 a b, outs_bytes blk _ (fun o ho => (hok o ho).consistent)]

/-- the hypotheses of `C10_extract_reparses` / `C10_extract_preserves` are satisfiable: stream `.` with
one file `f` of three bytes -/
def wLoc : Bytes := [97, 97, 97, 97, 97, 97, 97, 97, 97, 97, 97, 97, 97, 97, 97, 97, 97, 97, 97, 97, 97, 97, 97, 97, 97, 97, 97, 97, 97, 97, 97, 97, 43, 51]
def wFiles : List (Bytes × List Seg) := [([102], [⟨wLoc, 0, 3⟩])]

set_option maxRecDepth 100000 in
example : RenderOk (fun _ => [1, 2, 3]) [46] wFiles := by
  have hsegs : ∀ s ∈ allSegs wFiles, isGoLocator s.loc = true ∧ locSize s.loc < two63 ∧
      s.off + s.len ≤ locSize s.loc ∧ 0 < s.len ∧ locSize s.loc = 3 := by decide +kernel
  refine ⟨Or.inl rfl, by decide, fun s hs => ?_, ⟨fun s hs => ?_, fun _ _ _ _ _ => rfl, fun s hs => ?_⟩,
    by decide +kernel, by decide +kernel⟩
  · obtain ⟨h1, h2, h3, h4, _⟩ := hsegs s hs
    exact ⟨h1, h2, h3, h4⟩
  · exact (hsegs s hs).2.2.2.2.symm
  · exact (hsegs s hs).2.2.1

end ArvVerif.C10
