/-
C11 — the Keep client reports a successful write only when enough replicas are confirmed.

All theorems are about `put c sv picks` (Model/C11.lean): `putReplicas` run with the writable
services in probe order `sv` (any list), for every configuration `c` (want, replicasPerService,
retries, and every answer script `c.script service round`) and every completion order `picks`.
`s` is the state at the return; `s.reqLog` / `s.respLog` are the requests sent and the answers
processed, as (service, round) pairs; `is200 c e` says the answer to request `e` had status 200 and
`repSum c l` adds up the X-Keep-Replicas-Stored values of the answers to the requests in `l`.
-/
import ArvVerif.Proofs.C11_Result
import ArvVerif.Proofs.C11_Termination
import ArvVerif.Proofs.C11_Order
import ArvVerif.Proofs.C11_Load
import ArvVerif.Proofs.C11_Wire
import ArvVerif.Proofs.C11_Upload
namespace ArvVerif.C11

/-- A nil error comes only with at least `want` replicas confirmed by the 200 answers that were
processed; the count returned is exactly their sum; and (for want > 0) the locator returned is the
trimmed body of one of those 200 answers. -/
theorem C11_ok_sound (c : Cfg) (sv : List Srv) (picks : List Nat) (loc : List Nat) (n : Int) (s : St)
    (h : put c sv picks = some (.ok loc n, s)) :
    (c.want : Int) ≤ n ∧ n = repSum c (s.respLog.filter (is200 c)) ∧
    (∀ e ∈ s.respLog, e ∈ s.reqLog) ∧
    (0 < c.want → ∃ e ∈ s.respLog, is200 c e = true ∧ loc = (c.script e.1 e.2).body) := by
  have hr := put_result h
  split at hr
  next hge =>
    cases hr
    refine ⟨hge, rfl, (put_trace h).respReq, fun hw => ?_⟩
    -- a positive count needs a processed 200 answer; the newest one gave the locator
    cases hl : s.respLog.filter (is200 c) with
    | nil =>
      rw [hl] at hge
      have : (c.want : Int) ≤ 0 := hge
      omega
    | cons e t =>
      obtain ⟨h1, h2⟩ := List.mem_filter.mp (hl ▸ List.mem_cons_self : e ∈ s.respLog.filter (is200 c))
      exact ⟨e, h1, h2, rfl⟩
  next => cases hr

/-- With services that answer 200 only with the locator `L` they issue for this hash and size
(honest services), a successful write of want > 0 replicas returns exactly `L`. -/
theorem C11_locator_issued (c : Cfg) (sv : List Srv) (picks : List Nat) (loc L : List Nat) (n : Int)
    (s : St) (honest : ∀ x k, (c.script x k).code = 200 → (c.script x k).body = L)
    (hw : 0 < c.want) (h : put c sv picks = some (.ok loc n, s)) : loc = L := by
  obtain ⟨e, _, h200, hloc⟩ := (C11_ok_sound c sv picks loc n s h).2.2.2 hw
  rw [hloc]
  exact honest e.1 e.2 (is200_iff.mp h200)

/-- What the client does with 200 bodies: the locator returned (with or without error) is, verbatim,
the trimmed body of the most recently processed 200 answer ("" if there was none). It is not
parsed and not compared with the hash or size that was sent. -/
theorem C11_locator_verbatim (c : Cfg) (sv : List Srv) (picks : List Nat) (r : Res) (s : St)
    (h : put c sv picks = some (r, s)) :
    (match r with | .ok loc _ => loc | .insufficient loc _ => loc) =
      lastBody c (s.respLog.filter (is200 c)) := by
  have hr := put_result h
  split at hr <;> subst hr <;> rfl

/-- a service that answers 200 with the locator "b+3", whatever it is sent -/
def cLie : Cfg := { want := 1, rps := 1, retries := 0, script := fun _ _ => ⟨200, 1, [98, 43, 51]⟩ }

theorem cLie_run : ∃ s, put cLie [0] [] = some (.ok [98, 43, 51] 1, s) := ⟨_, rfl⟩

/-- the hash part of a locator: the bytes before the first '+' -/
def locHash (loc : List Nat) : List Nat := loc.takeWhile (· != 43)

/-- "The locator returned names the hash that was written" without assuming honest services … -/
def C11_locator_names_hash_Full : Prop :=
  ∀ (c : Cfg) (sv : List Srv) (picks : List Nat) (hash loc : List Nat) (n : Int) (s : St),
    0 < c.want → put c sv picks = some (.ok loc n, s) → locHash loc = hash

/-- … is false: a service that answers 200 with a locator for another hash is believed (the client
has no check). With honest services `C11_locator_issued` gives the clause. -/
theorem C11_locator_names_hash_full_fails : ¬ C11_locator_names_hash_Full := by
  intro hfull
  obtain ⟨s, hp⟩ := cLie_run
  exact absurd (hfull cLie [0] [] [97] _ 1 s (by decide) hp) (by decide)

/-- Otherwise the result is the insufficient-replicas error (the only other result the machine
has), and the count returned is the number confirmed by the processed 200 answers, which is less
than `want`. -/
theorem C11_err_reports_count (c : Cfg) (sv : List Srv) (picks : List Nat) (loc : List Nat) (n : Int)
    (s : St) (h : put c sv picks = some (.insufficient loc n, s)) :
    n < (c.want : Int) ∧ n = repSum c (s.respLog.filter (is200 c)) := by
  have hr := put_result h
  split at hr
  · cases hr
  next hlt =>
    cases hr
    exact ⟨Int.not_le.mp hlt, rfl⟩

/-- Every request goes to a service of the writable probe list. -/
theorem C11_only_writable (c : Cfg) (sv : List Srv) (picks : List Nat) (r : Res) (s : St)
    (h : put c sv picks = some (r, s)) : ∀ e ∈ s.reqLog, e.1 ∈ sv :=
  (put_trace h).reqSub

/-- ... and `loadKeepServers` puts a root into the writable map only for a listed service that is
not read-only (whatever `foundNonDiskSvc` was before). -/
theorem C11_writable_map_sound (nd0 : Bool) (l : List Svc) :
    ∀ e ∈ (load nd0 l).writable, ∃ s ∈ l, s.uuid = e.1 ∧ s.url = e.2 ∧ s.ro = false :=
  load_writable nd0 l

/-- A long-lived client that is given service lists one after the other (second
`LoadKeepServicesFromJSON`, refreshed discovery answer) holds, after the last one, exactly the maps
and `replicasPerService` a fresh client would build from that last list: nothing of an earlier
list survives (a service that turned read-only is no longer writable, one that turned writable is).
In particular the writable map is sound for the last list. -/
theorem C11_reload_last_wins (nd0 : Bool) (ls : List (List Svc)) (l : List Svc) :
    (reload nd0 (ls ++ [l])).core = (load false l).core ∧
    (∀ e ∈ (reload nd0 (ls ++ [l])).writable, ∃ s ∈ l, s.uuid = e.1 ∧ s.url = e.2 ∧ s.ro = false) := by
  have h := reload_last nd0 ls l
  refine ⟨h, ?_⟩
  rw [show (reload nd0 (ls ++ [l])).writable = (load false l).writable from
    congrArg (·.2.2.1) h]
  exact load_writable false l

/-- The requests to one service are its attempts 0, 1, 2, … without gaps: a request in round k
means a request in every earlier round (so "round" is "attempt number of that service"). -/
theorem C11_attempts_contiguous (c : Cfg) (sv : List Srv) (picks : List Nat) (r : Res) (s : St)
    (h : put c sv picks = some (r, s)) :
    ∀ k x, (x, k) ∈ s.reqLog → ∀ j, j ≤ k → (x, j) ∈ s.reqLog := by
  have ht := put_trace h
  intro k x hm j hj
  induction hj with
  | refl => exact hm
  | step _ ih => exact ih (ht.respReq _ (ht.reqPrev _ hm _ rfl).1)

/-- **The k-th request a service receives is its round-k request.** With distinct services, the
rounds of the requests sent to a service `x`, listed in the order the requests were sent
(`roundsOf`), are exactly 0, 1, …, n-1 where n is the number of requests to `x`. So a scripted
service that answers "my k-th request" (the correspondence driver, and the property's "per-attempt
outcome") and the model's `script x k` (answer to the round-k request) are the same thing, and
"attempt" in the property text can be read either way. -/
theorem C11_kth_request (c : Cfg) (sv : List Srv) (picks : List Nat) (r : Res) (s : St)
    (hnd : sv.Nodup) (h : put c sv picks = some (r, s)) (x : Srv) :
    roundsOf s.reqLog x = List.range (reqCount s.reqLog x) ∧
    (∀ (k : Nat) (e : Srv × Nat), (s.reqLog.reverse.filter (fun e => e.1 == x))[k]? = some e → e = (x, k)) := by
  have ho := put_ordered hnd h
  have hc := C11_attempts_contiguous c sv picks r s h
  have h1 := roundsOf_eq_range ho.sorted ho.nodup (hc · x)
  refine ⟨h1, ?_⟩
  intro k e he
  have hx : e.1 = x := beq_iff_eq.mp (List.mem_filter.mp (List.mem_of_getElem? he)).2
  have h2 : (roundsOf s.reqLog x)[k]? = some e.2 := by
    unfold roundsOf; rw [List.getElem?_map, he]; rfl
  rw [h1] at h2
  obtain ⟨_, hv⟩ := List.getElem?_eq_some_iff.mp h2
  exact Prod.ext hx (hv.symm.trans (List.getElem_range _))

/-- The retry rule. (a) a service is asked in round k+1 only if its round-k answer was processed
and was transient (connection error, 408, 429, 5xx other than 503) — so 400/403/503/200 answers are
never retried; (b) no request is made after round `Retries`; (c) with distinct services, no service
is asked more than 1+Retries times. -/
theorem C11_retry_rule (c : Cfg) (sv : List Srv) (picks : List Nat) (r : Res) (s : St)
    (hnd : sv.Nodup) (h : put c sv picks = some (r, s)) :
    (∀ x k, (x, k + 1) ∈ s.reqLog → (x, k) ∈ s.respLog ∧
      ((c.script x k).code = 0 ∨ (c.script x k).code = 408 ∨ (c.script x k).code = 429 ∨
       (500 ≤ (c.script x k).code ∧ (c.script x k).code ≠ 503))) ∧
    (∀ e ∈ s.reqLog, e.2 ≤ c.retries) ∧
    (∀ x, reqCount s.reqLog x ≤ c.retries + 1) := by
  have hb : ∀ e ∈ s.reqLog, e.2 ≤ c.retries := fun e he => by
    have := (put_trace h).reqLe e he
    have := (put_bound h).rounds
    omega
  refine ⟨fun x k hm => And.imp_right retryable_iff.mp ((put_trace h).reqPrev _ hm k rfl), hb, fun x => ?_⟩
  -- the requests to `x` are its rounds 0 … n-1, so with more of them round `Retries`+1 is among them
  refine Nat.le_of_not_lt fun hlt => ?_
  have hm : c.retries + 1 ∈ roundsOf s.reqLog x := by
    rw [(C11_kth_request c sv picks r s hnd h x).1]
    exact List.mem_range.mpr hlt
  exact absurd (hb _ (mem_roundsOf.mp hm)) (Nat.not_succ_le_self _)

/-- When the client gives up, it has asked every writable service, and every service that gave a
transient answer has been asked again until the retry limit. -/
theorem C11_retry_complete (c : Cfg) (sv : List Srv) (picks : List Nat) (loc : List Nat) (n : Int)
    (s : St) (h : put c sv picks = some (.insufficient loc n, s)) :
    (∀ x ∈ sv, (x, 0) ∈ s.respLog) ∧
    (∀ x k, (x, k) ∈ s.respLog → retryable (c.script x k).code = true → k < c.retries →
      (x, k + 1) ∈ s.respLog) := by
  have hc := put_preserved (complete_preserved c sv) (complete_init c sv) h
  obtain ⟨_, _, _, hact, hrr, hnext⟩ : FailAt s loc n := put_resAt h
  have hrounds := (put_bound h).rounds
  exact ⟨fun x hx => (hc.first x hx).answered hact hnext (Nat.zero_le _),
    fun x k hm hret hk => (hc.retried x k ⟨hm, hret⟩).answered hact hnext (by omega)⟩

/-- If at least `want` of the writable services (counted by position in `sv`) answer 200 with at
least one replica on every attempt, the write succeeds — whatever the other services answer (as
long as no 200 answer carries a negative replica count), for every completion order. -/
theorem C11_enough_acceptors_partial (c : Cfg) (sv : List Srv) (picks : List Nat) (acc : Srv → Bool)
    (hacc : ∀ x k, acc x = true → (c.script x k).code = 200 ∧ 1 ≤ (c.script x k).rep)
    (hnn : ∀ x k, (c.script x k).code = 200 → 0 ≤ (c.script x k).rep)
    (hcount : c.want ≤ sv.countP acc) :
    ∃ loc n s, put c sv picks = some (.ok loc n, s) := by
  obtain ⟨⟨r, s⟩, h⟩ := put_terminates c sv picks
  cases r with
  | ok loc n => exact ⟨loc, n, s, h⟩
  | insufficient loc n =>
    exfalso
    have ha : Acc acc _ s :=
      put_preserved (acc_preserved c acc (sv.countP acc) hacc hnn) (acc_init c acc sv) h
    obtain ⟨_, _, htodo, hact, _, hnext⟩ : FailAt s loc n := put_resAt h
    rw [Acc, pending_nil hact hnext, List.countP_nil] at ha
    have hbal := (put_inv h).bal
    omega

/-- **Full strength for the property's answer alphabet.** Let every answer of every service be
one of the alphabet (`InAlphabet`: connection error, or a response with any status whose
X-Keep-Replicas-Stored is absent, "1" or "2"), as extracted by `uploadToKeepServer` (`upload`). If
at least `want` of the writable services (positions of `sv` marked by `acc`) answer 200 on every
attempt, the write succeeds — whatever the other services answer, for every completion order,
every `replicasPerService` and every retry limit. No hypothesis on integers is left. -/
theorem C11_enough_acceptors (want rps retries : Nat) (http : Srv → Nat → Http) (sv : List Srv)
    (picks : List Nat) (acc : Srv → Bool)
    (halpha : ∀ x k, InAlphabet (http x k))
    (hacc : ∀ x k, acc x = true → ∃ hdr body be, http x k = .resp 200 hdr body be)
    (hcount : want ≤ sv.countP acc) :
    ∃ loc n s, put { want := want, rps := rps, retries := retries,
                     script := fun x k => upload (http x k) } sv picks = some (.ok loc n, s) := by
  apply C11_enough_acceptors_partial _ sv picks acc
  · intro x k hx
    obtain ⟨hdr, body, be, he⟩ := hacc x k hx
    have ha := halpha x k
    simp only [he] at ha ⊢
    exact ⟨rfl, upload_rep_pos ha⟩
  · exact fun x k _ => upload_rep_nonneg (halpha x k)
  · exact hcount

/-- The version without the side condition on other services' replica counts is false: a 200
answer with a negative X-Keep-Replicas-Stored is believed and pushes the target away. (Such an
answer is outside the property's alphabet; recorded so that the hypothesis is not silently assumed.) -/
def C11_enough_acceptors_Full : Prop :=
  ∀ (c : Cfg) (sv : List Srv) (picks : List Nat) (acc : Srv → Bool),
    (∀ x k, acc x = true → (c.script x k).code = 200 ∧ 1 ≤ (c.script x k).rep) →
    c.want ≤ sv.countP acc → ∃ loc n s, put c sv picks = some (.ok loc n, s)

/-- service 0 answers 200 with a replica count of -1, service 1 is an honest acceptor -/
def cNeg : Cfg := { want := 1, rps := 1, retries := 0,
                    script := fun x _ => if x = 0 then ⟨200, -1, []⟩ else ⟨200, 1, [7]⟩ }

theorem C11_enough_acceptors_full_fails : ¬ C11_enough_acceptors_Full := by
  intro hfull
  obtain ⟨loc, n, s, h⟩ := hfull cNeg [0, 1] [] (fun x => x == 1)
    (by intro x k hx; obtain rfl : x = 1 := beq_iff_eq.mp hx
        simp [cNeg])
    (by decide)
  -- the run evaluates to `.insufficient [7] 0`
  cases h

/-- Puts issued one after the other on the same client: the client keeps nothing from one call
that enters the next, so a sequence is modelled as the independent puts. -/
def putSeq (l : List (Cfg × List Srv × List Nat)) : List (Option (Res × St)) :=
  l.map fun x => put x.1 x.2.1 x.2.2

/-- Each Put of a sequence is decided by its own services, answers and completion order alone —
whatever the earlier Puts on that client were and whatever their services answered (503, errors,
…). In particular a later Put whose services accept it succeeds although the same services refused
an earlier one. (The correspondence check runs such sequences on one real `KeepClient`.) -/
theorem C11_seq_independent (l : List (Cfg × List Srv × List Nat)) (i : Nat) (c : Cfg)
    (sv : List Srv) (picks : List Nat) (h : l[i]? = some (c, sv, picks)) :
    (putSeq l)[i]? = some (put c sv picks) ∧
    ((∃ acc : Srv → Bool,
        (∀ x k, acc x = true → (c.script x k).code = 200 ∧ 1 ≤ (c.script x k).rep) ∧
        (∀ x k, (c.script x k).code = 200 → 0 ≤ (c.script x k).rep) ∧
        c.want ≤ sv.countP acc) →
      ∃ loc n s, (putSeq l)[i]? = some (some (.ok loc n, s))) := by
  have h1 : (putSeq l)[i]? = some (put c sv picks) := by
    simp [putSeq, List.getElem?_map, h]
  refine ⟨h1, ?_⟩
  rintro ⟨acc, hacc, hnn, hcount⟩
  obtain ⟨loc, n, s, hp⟩ := C11_enough_acceptors_partial c sv picks acc hacc hnn hcount
  exact ⟨loc, n, s, by rw [h1, hp]⟩

/-! ### What reaches the services (PutHR's stream check, PutHB, PutB) -/

/-- Whatever a service receives completely from `PutHR(hash, r, n)`: with n > 0 it is the whole
stream, the stream ended with EOF, its MD5 is `hash` and its length is `n` (the client-side check of
`HashCheckingReader` through the asyncbuf); with n ≤ 0 no body is attached at all, whatever the
stream holds. The URL carries `hash`, and n ≤ BLOCKSIZE. -/
theorem C11_puthr_delivered (md5hex : List Nat → List Char) (hash : List Char) (st : Stream)
    (n : Int) (w : Wire) (b : List Nat) (hw : putHRWire md5hex hash st n = some w)
    (hd : w.delivered = some b) :
    w.hash = hash ∧ n ≤ blockSize ∧
    ((0 < n ∧ b = st.data ∧ st.fin = .eof ∧ md5hex b = hash ∧ (b.length : Int) = n) ∨
     (n ≤ 0 ∧ b = [] ∧ w.body = none)) := by
  unfold putHRWire at hw
  split at hw
  · cases hw
  next p hp =>
    cases hw
    obtain ⟨rfl, hle⟩ := putHR_call hp
    refine ⟨rfl, hle, ?_⟩
    rcases delivered_wireOf hd with ⟨hb, rfl⟩ | ⟨hb, rfl, he, hl⟩
    · exact Or.inr ⟨Int.not_lt.mp (of_decide_eq_false hb), rfl, if_neg (Bool.eq_false_iff.mp hb)⟩
    · obtain ⟨hf, hm⟩ := bufferEnd_eof he
      exact Or.inl ⟨of_decide_eq_true hb, rfl, hf, hm, hl⟩

/-- `PutB` sends the buffer under its own MD5; `PutHB` sends the buffer under the caller's hash,
unchecked. Both requests are always complete. -/
theorem C11_putb_delivered (md5hex : List Nat → List Char) (hash : List Char) (buf : List Nat) :
    (putBWire md5hex buf).delivered = some buf ∧ (putBWire md5hex buf).hash = md5hex buf ∧
    (putHBWire hash buf).delivered = some buf ∧ (putHBWire hash buf).hash = hash := by
  have key : ∀ h : List Char, (putHBWire h buf).delivered = some buf ∧ (putHBWire h buf).hash = h := by
    intro h
    cases buf with
    | nil => exact ⟨rfl, rfl⟩
    | cons a t => simp [putHBWire, putHB, wireOf, Wire.delivered]
  exact ⟨(key _).1, (key _).2, (key _).1, (key _).2⟩

/-- If no service answers 200 (e.g. because no request can be delivered: wrong hash, short or
failing stream), a Put of want > 0 fails with zero replicas. -/
theorem C11_no_200_fails (c : Cfg) (sv : List Srv) (picks : List Nat) (r : Res) (s : St)
    (hno : ∀ x k, (c.script x k).code ≠ 200) (hw : 0 < c.want)
    (h : put c sv picks = some (r, s)) : ∃ loc, r = .insufficient loc 0 := by
  -- none of the processed answers is a 200, so the count is the empty sum
  have hnil : s.respLog.filter (is200 c) = [] :=
    List.filter_eq_nil_iff.mpr fun e _ => mt is200_iff.mp (hno e.1 e.2)
  have hlt : ¬ (c.want : Int) ≤ repSum c [] := Int.not_le.mpr (Int.natCast_pos.mpr hw)
  rw [put_result h, hnil, if_neg hlt]
  exact ⟨_, rfl⟩

/-- **An acknowledged `PutHR` (declared size n > 0) was checked by the client**: if a 200 only ever
answers a request that was delivered completely (any service, honest about content or not), then
a nil error for want > 0 implies that the stream ended normally, has length n and has MD5 `hash`. -/
theorem C11_puthr_ack_checked (md5hex : List Nat → List Char) (hash : List Char) (st : Stream)
    (n : Int) (w : Wire) (c : Cfg) (sv : List Srv) (picks : List Nat) (loc : List Nat) (k : Int) (s : St)
    (hw : putHRWire md5hex hash st n = some w) (hn : 0 < n)
    (hrec : ∀ x r, (c.script x r).code = 200 → ∃ b, w.delivered = some b)
    (hwant : 0 < c.want) (h : put c sv picks = some (.ok loc k, s)) :
    md5hex st.data = hash ∧ st.fin = .eof ∧ (st.data.length : Int) = n := by
  obtain ⟨e, _, h200, _⟩ := (C11_ok_sound c sv picks loc k s h).2.2.2 hwant
  obtain ⟨b, hb⟩ := hrec e.1 e.2 (is200_iff.mp h200)
  rcases (C11_puthr_delivered md5hex hash st n w b hw hb).2.2 with ⟨_, h1, h2, h3, h4⟩ | ⟨h1, _, _⟩
  · subst h1; exact ⟨h3, h2, h4⟩
  · omega

/-- Without n > 0 this is false: `PutHR(hash, r, 0)` attaches no body and checks nothing the
services see, so services that do not verify content acknowledge it whatever `r` holds. (An honest
store compares the MD5 of the empty body with the URL hash and refuses; the correspondence check
runs both kinds.) -/
def C11_puthr_ack_checked_Full : Prop :=
  ∀ (md5hex : List Nat → List Char) (hash : List Char) (st : Stream) (n : Int) (w : Wire) (c : Cfg)
    (sv : List Srv) (picks : List Nat) (loc : List Nat) (k : Int) (s : St),
    putHRWire md5hex hash st n = some w →
    (∀ x r, (c.script x r).code = 200 → ∃ b, w.delivered = some b) →
    0 < c.want → put c sv picks = some (.ok loc k, s) → md5hex st.data = hash

theorem C11_puthr_ack_checked_full_fails : ¬ C11_puthr_ack_checked_Full := by
  intro hfull
  obtain ⟨s, hp⟩ := cLie_run
  exact absurd (hfull (fun _ => ['y']) ['x'] ⟨[1], .eof⟩ 0 _ cLie [0] [] _ 1 s rfl
    (fun _ _ _ => ⟨[], rfl⟩) (by decide) hp) (by decide)

/-- `putReplicas` always returns, after processing at most (1+Retries)·|sv| answers (and sending
at most that many requests). -/
theorem C11_terminates (c : Cfg) (sv : List Srv) (picks : List Nat) :
    ∃ r s, put c sv picks = some (r, s) ∧
      s.respLog.length ≤ (c.retries + 1) * sv.length ∧
      s.reqLog.length ≤ (c.retries + 1) * sv.length := by
  obtain ⟨⟨r, s⟩, h⟩ := put_terminates c sv picks
  refine ⟨r, s, h, ?_⟩
  obtain ⟨_, h3, h4, h5, h1, h2⟩ := put_bound h
  have h6 : s.round * sv.length ≤ c.retries * sv.length := Nat.mul_le_mul_right _ (by omega)
  rw [Nat.add_mul, Nat.one_mul]
  omega

/-- `PutHR` refuses a declared size above BLOCKSIZE without calling `putReplicas`, and otherwise
passes the given hash and size on; `PutHB`/`PutB` have no size check. -/
theorem C11_oversize (hash : List Char) (n : Int) :
    (putHR hash n = .oversize ↔ blockSize < n) ∧
    (∀ p, putHR hash n = .call p → p.hash = hash ∧ p.expectedLength = n ∧ n ≤ blockSize) ∧
    (∀ len, putHB hash len ≠ .oversize ∧ putB hash len ≠ .oversize) := by
  refine ⟨?_, ?_, ?_⟩
  · unfold putHR blockSize
    split <;> simp <;> omega
  · intro p hp
    obtain ⟨rfl, hle⟩ := putHR_call hp
    exact ⟨rfl, rfl, hle⟩
  · intro len
    exact ⟨by simp [putHB], by simp [putB, putHB]⟩

/-- What `uploadToKeepServer` reports: a failed exchange has status 0 (which the retry rule treats
as transient); a response keeps its status code; without the header one replica is assumed. -/
theorem C11_upload_status (code : Nat) (hdr : Option (List Char)) (body : List Nat) (be : Bool) :
    (upload .connErr).code = 0 ∧ retryable (upload .connErr).code = true ∧
    (upload (.resp code hdr body be)).code = code ∧
    (upload (.resp code none body be)).rep = 1 ∧
    (upload (.resp code hdr body be)).body = trimSpace (body.take bodyLimit) :=
  ⟨rfl, rfl, rfl, rfl, rfl⟩

/-! ### Non-vacuity: concrete runs -/

namespace Examples

/-- service 0 fails transiently in round 0 and accepts in round 1; service 1 refuses (403);
service 2 accepts with 2 replicas -/
def script1 : Srv → Nat → Up := fun x k =>
  if x = 0 then (if k = 0 then ⟨500, 1, []⟩ else ⟨200, 1, [65]⟩)
  else if x = 1 then ⟨403, 1, []⟩
  else ⟨200, 2, [66]⟩

def c2 : Cfg := { want := 2, rps := 1, retries := 1, script := script1 }
def c3 : Cfg := { c2 with want := 1 }
def cAllFail : Cfg := { want := 2, rps := 0, retries := 2, script := fun _ _ => ⟨0, 0, []⟩ }

/-- a failing write with one replica stored after a retry (0 retried after its 500, 1 refuses);
a successful one when service 2 is there -/
example : (put c2 [0, 1] [1, 0]).map (·.1) = some (.insufficient [65] 1) := by decide +kernel
example : (put c2 [0, 2, 1] [0, 0]).map (·.1) = some (.ok [66] 2) := by decide +kernel
example : (put c2 [0, 1, 2] [1, 0, 0]).map (fun r => (r.1, r.2.reqLog.reverse)) =
    some (.ok [66] 2, [(0, 0), (1, 0), (2, 0)]) := by decide +kernel
/-- `C11_enough_acceptors_partial`'s hypotheses are satisfiable (service 2 is the acceptor), and so is
`C11_ok_sound`'s with want > 0 -/
example : ∃ loc n s, put c3 [0, 2, 1] [0, 0] = some (.ok loc n, s) ∧ 0 < c3.want := by
  obtain ⟨loc, n, s, h⟩ := C11_enough_acceptors_partial c3 [0, 2, 1] [0, 0] (fun x => x == 2)
    (by intro x k hx; obtain rfl : x = 2 := beq_iff_eq.mp hx
        simp [c3, c2, script1])
    (by intro x k; simp only [c3, c2, script1]; split
        · split <;> simp
        · split <;> simp)
    (by decide)
  exact ⟨loc, n, s, h, by decide⟩
/-- `C11_err_reports_count` / `C11_retry_complete`: a failing run in which every service is asked
1+Retries times -/
example : (put cAllFail [0, 1] []).map (fun r => (r.1, r.2.reqLog.length, reqCount r.2.reqLog 0)) =
    some (.insufficient [] 0, 6, 3) := by decide +kernel
/-- `C11_retry_rule`: a run with a second-round request, on a duplicate-free service list -/
example : [0, 1].Nodup ∧ (put c2 [0, 1] [1, 0]).map (fun r => r.2.reqLog) =
    some [(0, 1), (1, 0), (0, 0)] := by decide +kernel
/-- `C11_kth_request`: service 0 is asked in rounds 0 and 1, in that order -/
example : [0, 1].Nodup ∧ (put c2 [0, 1] [1, 0]).map (fun r => (roundsOf r.2.reqLog 0, roundsOf r.2.reqLog 1)) =
    some ([0, 1], [0]) := by decide +kernel
/-- `C11_writable_map_sound`: a list with a read-only and a writable service -/
example : (load false [⟨['a'], ['h'], 1, false, "disk".toList, true⟩,
                       ⟨['b'], ['g'], 2, true, "proxy".toList, false⟩]).writable =
    [(['b'], "https://g:2".toList)] := by
  -- the kernel is slow at `toList` of a string literal, not at the list of its characters
  repeat rw [String.toList_ofList]
  decide +kernel
/-- an alphabet script: service 1 always accepts (two replicas), the others answer 503, then fail -/
def httpEx : Srv → Nat → Http := fun x k =>
  if x = 1 then .resp 200 (some ['2']) [76] false
  else if k = 0 then .resp 503 none [] false else .connErr

/-- `C11_enough_acceptors`: its hypotheses are satisfiable -/
example : ∃ loc n s, put { want := 1, rps := 0, retries := 1, script := fun x k => upload (httpEx x k) }
      [0, 1] [] = some (.ok loc n, s) :=
  C11_enough_acceptors 1 0 1 httpEx [0, 1] [] (fun x => x == 1)
    (by intro x k; unfold httpEx; split
        · exact Or.inr (Or.inr rfl)
        · split
          · exact Or.inl rfl
          · trivial)
    (by intro x k hx; obtain rfl : x = 1 := beq_iff_eq.mp hx
        exact ⟨_, _, _, rfl⟩)
    (by decide)
/-- `C11_reload_last_wins`: service a turns read-only, service b turns into a writable proxy -/
example : (reload false [[⟨['a'], ['h'], 1, false, "disk".toList, false⟩, ⟨['b'], ['g'], 1, false, "disk".toList, true⟩],
                         [⟨['a'], ['h'], 1, false, "disk".toList, true⟩, ⟨['b'], ['g'], 1, false, "proxy".toList, false⟩]]).writable
    = [(['b'], "http://g:1".toList)] := by
  repeat rw [String.toList_ofList]
  decide +kernel
/-- `C11_seq_independent`: service 1 refuses the first put with 503 and accepts the second -/
example : (putSeq [({ want := 1, rps := 1, retries := 0, script := fun _ _ => ⟨503, 1, []⟩ }, [0, 1], []),
                   (c3, [0, 2, 1], [0, 0])]).map (fun r => r.map (·.1)) =
    [some (.insufficient [] 0), some (.ok [66] 2)] := by decide +kernel
example : putHR ['x'] 67108865 = .oversize ∧ putHR ['x'] 67108864 = .call ⟨['x'], 67108864, true⟩ := by
  decide +kernel

end Examples

end ArvVerif.C11
