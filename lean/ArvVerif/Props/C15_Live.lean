/-
C15 — every runnable container reaches a final state; idle instances are released.
Parts (ii) convergence and (iii) restart, on the transition system of Model/C15_Live.lean.

Premises, all explicit in the statements:
* **P1** the cloud eventually creates a working instance of each requested type and eventually
  honours Destroy; **P2** every continuously enabled dispatcher action eventually happens — together:
  the hypothesis `hfair` (weak fairness of every `Kind`; it is assumed per *kind* of action, which is
  weaker than per container/instance);
* **P3** finitely many faults: `LState.faults`, every fault step needs and consumes one unit;
* **P4** (guard of `Step.idleTimeout`) no idle timeout while a Locked container of that type waits;
* **A1** of C14 (guard of `Step.recoveryDone`);
* "satisfiable instance type": `TypesOK` of the initial state.
An execution is a stream `run : Nat → LState` with `act n` the action taken at step `n`.
-/
import ArvVerif.Proofs.C15_LiveProgress
import ArvVerif.Props.C15
namespace ArvVerif.C15
open ArvVerif.C14 (Uuid IType)

/-- **The variant never increases**: whatever happens (dispatcher action, cloud, crunch-run, fault,
restart, nothing), the lexicographic variant (fault budget, quota back-off, recovery, work left in
containers, workers to request, life left in instances) stays or goes down. -/
theorem C15_variant_monotone {s t : LState} {a : Act} (h : Step s a t) : (mu t).le (mu s) := step_le h

/-- **Every fair action decreases it** strictly — scheduler pass actions, probes, timeouts, pool sync,
queue-driven actions, the cloud's and crunch-run's progress — and so does every fault (budget). -/
theorem C15_variant_decreases {s t : LState} (k : Kind) (h : Step s (.fair k) t) : (mu t).lt (mu s) := step_fair h

theorem C15_variant_fault {s t : LState} (h : Step s .fault t) : (mu t).lt (mu s) := step_fault h

/-- The order of the variant is well founded. -/
theorem C15_variant_wf : WellFounded Mu.lt := Mu.lt_wf

/-- **Progress**: as long as some container is not final or some instance still exists, a fair
action is enabled (in any state whatsoever whose types are satisfiable — in particular in whatever
state faults and restarts leave behind). -/
theorem C15_progress (s : LState) (hT : TypesOK s) (hg : ¬ (AllFinal s ∧ NoInstances s)) : ∃ k, Enabled k s := by
  obtain ⟨k, hk, _⟩ := progress s hT hg
  exact ⟨k, hk⟩

/-- "Every container is Complete or Cancelled" is stable: no step, fault or restart undoes it. -/
theorem C15_final_stable {s t : LState} {a : Act} (h : Step s a t) (hA : AllFinal s) : AllFinal t :=
  allFinal_step h hA

/-- **Convergence.** Every weakly fair execution reaches a state in which every container is
Complete or Cancelled — and stays so — and then a state with no instances. -/
theorem C15_converges (run : Nat → LState) (act : Nat → Act)
    (hstep : ∀ n, Step (run n) (act n) (run (n + 1)))
    (htypes : TypesOK (run 0))
    (hfair : ∀ k n, (∀ m, n ≤ m → Enabled k (run m)) → ∃ m, n ≤ m ∧ act m = .fair k) :
    ∃ n, AllFinal (run n) ∧ (∀ m, n ≤ m → AllFinal (run m)) ∧ ∃ m, n ≤ m ∧ NoInstances (run m) := by
  have hT := holds_from (fun n => typesOK_step (hstep n)) htypes
  obtain ⟨n, _, hA, hN⟩ := converge_fair mu (fun s => AllFinal s ∧ NoInstances s) Stable run (fun n => (act n).kind?)
    (fun n => step_le (hstep n)) (fun n k => step_kind (hstep n))
    (fun n hg => progress (run n) (hT n (Nat.zero_le n)) hg) (fun n k hs he => stable_keep (hstep n) he hs)
    (fun k n hall => (hfair k n (fun m hm => (hall m hm).1)).imp fun m hm => ⟨hm.1, by rw [hm.2]; rfl⟩) 0
  exact ⟨n, hA, holds_from (fun m => allFinal_step (hstep m)) hA, n, Nat.le_refl _, hN⟩

/-- **Restart safe.** A dispatcher restart consumes one fault and therefore lowers the variant,
whatever it does to the rest of it; afterwards every surviving instance is Unknown (to be probed:
adopted with its processes, or shut down after the boot timeout), no free container is in a state
that needs the lost pool bookkeeping (Locked ones carry inherited locks, to be unlocked or used
once fixStaleLocks returns), nothing that was final is lost, types stay satisfiable — so progress
and convergence apply to the restarted system as they are. -/
theorem C15_restart_safe (s : LState) (h0 : 0 < s.faults) :
    let t : LState := { s with faults := s.faults - 1, recovering := true,
                               ctrs := s.ctrs.map restartCtr, insts := s.insts.map restartInst }
    Step s .fault t ∧ (mu t).lt (mu s) ∧
    (∀ i ∈ t.insts, i.ph = .gone ∨ ∃ j, i.ph = .unknown j) ∧
    (∀ c ∈ t.ctrs, c.ph = .queued ∨ c.ph = .lockedStale ∨ c.ph = .lostR ∨ c.ph = .fin) ∧
    (∀ i ∈ s.insts, ∃ i' ∈ t.insts, i'.ph.job = i.ph.job ∧ i'.ty = i.ty ∧ i'.health = i.health) ∧
    (AllFinal s → AllFinal t) ∧ (TypesOK s → TypesOK t) := by
  intro t
  have hst : Step s .fault t := Step.restart s h0
  refine ⟨hst, step_fault hst, ?_, ?_, ?_, allFinal_step hst, typesOK_step hst⟩
  · intro i hi
    obtain ⟨i0, _, rfl⟩ := List.mem_map.mp hi
    unfold restartInst
    cases hp : i0.ph <;> simp [hp]
  · intro c hc
    obtain ⟨c0, _, rfl⟩ := List.mem_map.mp hc
    unfold restartCtr
    cases hp : c0.ph <;> simp [hp]
  · intro i hi
    refine ⟨restartInst i, List.mem_map.mpr ⟨i, hi, rfl⟩, restartInst_job i, restartInst_ty i, ?_⟩
    unfold restartInst
    split <;> rfl

/-! ### the pool steps of the liveness system are the L2 responses

`IPh.wstate`/`Health.idleB` say which `worker.State` / `IdleBehavior` a phase of the liveness system
stands for (a broken instance looks like any other to the dispatcher until its probes time out).
Each dispatcher-side pool step of `Step` maps, under this reading, to the response proved for the
L2 worker model in Props/C15.lean. -/

def IPh.wstate : IPh → Option C14.WState
  | .creating | .gone => none
  | .booting => some .booting
  | .unknown _ => some .unknown
  | .up none => some .idle
  | .up (some _) => some .running
  | .shutP _ | .shutF _ => some .shutdown

def Health.idleB : Health → C14.IdleB
  | .ok | .broken => .run
  | .drain => .drain

/-- `idleTimeout`, `drainShutdown`, `brokenTimeout` (boot and probe variants), `destroyRetry` and the
absence of `start` on anything but `up none`/`ok`, read as statements about a C14 `Worker` in the
corresponding state. -/
theorem C15_live_pool_steps_match_responses (w : C14.Worker) (T : Timeouts) (gu : List Uuid) (now : Nat) :
    -- idleTimeout: up none / ok  →  shutP
    (some w.state = (IPh.up none).wstate → w.idleB = Health.ok.idleB → ∀ d, T.idle ≤ d →
      some (probeTick w T gu d now).1.state = (IPh.shutP none).wstate) ∧
    -- drainShutdown: booting or up none / drain  →  shutP
    ((some w.state = IPh.booting.wstate ∨ some w.state = (IPh.up none).wstate) → w.idleB = Health.drain.idleB →
      ∀ d, some (probeTick w T gu d now).1.state = (IPh.shutP none).wstate) ∧
    -- brokenTimeout: booting / broken (boot probe keeps failing)  →  shutP
    (some w.state = IPh.booting.wstate → w.idleB = Health.broken.idleB → ∀ pi : ProbeIn, pi.bootOk = false →
      T.booting ≤ pi.dur → some (probeAndUpdate w T gu pi now).1.state = (IPh.shutP none).wstate) ∧
    -- brokenTimeout: up j / broken (run probe keeps failing)  →  shutP j
    (∀ j, some w.state = (IPh.up j).wstate → w.idleB = Health.broken.idleB → ∀ pi : ProbeIn, pi.listOk = false →
      T.probe ≤ pi.dur → some (probeAndUpdate w T gu pi now).1.state = (IPh.shutP j).wstate) := by
  refine ⟨fun hs hb d hd => ?_, fun hs hb d => ?_, fun hs hb pi hboot hd => ?_, fun j hs hb pi hl hd => ?_⟩
  · rw [(C15_resp_idle_timeout w T gu d now (Option.some.inj hs) hb hd).1]; rfl
  · rw [(C15_resp_drain_shutdown w T gu d now hb
      (hs.elim (fun h => .inl (Option.some.inj h)) (fun h => .inr (.inl (Option.some.inj h))))).1]; rfl
  · rw [C15_resp_boot_timeout w T gu pi now (Option.some.inj hs) (by rw [hb]; decide) hboot hd]; rfl
  · rw [C15_resp_unreachable_timeout w T gu pi now
      (match j, hs with
        | none, hs => .inl (Option.some.inj hs)
        | some _, hs => .inr (Option.some.inj hs)) (by rw [hb]; decide) hl hd]; rfl

/-! ### non-vacuity: a fair execution in which a container is locked, gets an instance created,
runs, completes, and the instance is shut down for idleness and destroyed -/

namespace Example

def st (cs : List Ctr) (is : List Inst) : LState := ⟨0, false, false, [1], cs, is⟩
def up (j : JPh) : Inst := ⟨1, .ok, .up (some ⟨7, j⟩)⟩

def run : Nat → LState
  | 0 => st [⟨7, 1, .queued⟩] []
  | 1 => st [⟨7, 1, .locked⟩] []
  | 2 => st [⟨7, 1, .locked⟩] [⟨1, .ok, .creating⟩]
  | 3 => st [⟨7, 1, .locked⟩] [⟨1, .ok, .booting⟩]
  | 4 => st [⟨7, 1, .locked⟩] [⟨1, .ok, .up none⟩]
  | 5 => st [] [up .starting]
  | 6 => st [] [up .runL]
  | 7 => st [] [up .runR]
  | 8 => st [⟨7, 1, .fin⟩] [up .done]
  | 9 => st [⟨7, 1, .fin⟩] [⟨1, .ok, .up none⟩]
  | 10 => st [⟨7, 1, .fin⟩] [⟨1, .ok, .shutP none⟩]
  | _ => st [⟨7, 1, .fin⟩] [⟨1, .ok, .gone⟩]

def act : Nat → Act
  | 0 => .fair .lock | 1 => .fair .create | 2 => .fair .createDone | 3 => .fair .boot | 4 => .fair .start
  | 5 => .fair .exec | 6 => .fair .apiRun | 7 => .fair .complete | 8 => .fair .jobGone
  | 9 => .fair .idleTimeout | 10 => .fair .destroyOk | _ => .idle

theorem steps : ∀ n, Step (run n) (act n) (run (n + 1))
  | 0 => Step.lock (run 0) [] [] ⟨7, 1, .queued⟩ rfl rfl rfl rfl
  | 1 => Step.create (run 1) 1 rfl rfl (by decide) (by decide)
  | 2 => Step.createDone (run 2) [] [] ⟨1, .ok, .creating⟩ rfl rfl
  | 3 => Step.boot (run 3) [] [] ⟨1, .ok, .booting⟩ rfl rfl (by decide)
  | 4 => Step.start (run 4) [] [] ⟨7, 1, .locked⟩ [] [] ⟨1, .ok, .up none⟩ rfl rfl rfl rfl rfl rfl rfl
  | 5 => Step.exec (run 5) [] [] (up .starting) ⟨7, .starting⟩ rfl (Or.inr rfl) (by decide) rfl
  | 6 => Step.apiRun (run 6) [] [] (up .runL) ⟨7, .runL⟩ rfl rfl rfl
  | 7 => Step.complete (run 7) [] [] (up .runR) ⟨7, .runR⟩ rfl rfl rfl
  | 8 => Step.jobGone (run 8) [] [] (up .done) ⟨7, .done⟩ false rfl rfl (by decide) rfl
  | 9 => Step.idleTimeout (run 9) [] [] ⟨1, .ok, .up none⟩ rfl rfl rfl (Or.inr (by decide))
  | 10 => Step.destroyOk (run 10) [] [] ⟨1, .ok, .shutP none⟩ none rfl rfl
  | (n + 11) => Step.idle _

theorem quiescent (k : Kind) : ¬ Enabled k (run 11) :=
  not_enabled_at_rest (run 11) rfl rfl (by decide) (by unfold NoInstances; decide) k

theorem run_ge (m : Nat) (h : 11 ≤ m) : run m = run 11 := by
  obtain ⟨d, rfl⟩ := Nat.exists_eq_add_of_le h
  rw [Nat.add_comm]
  rfl

theorem fair (k : Kind) (n : Nat) (h : ∀ m, n ≤ m → Enabled k (run m)) : ∃ m, n ≤ m ∧ act m = .fair k := by
  have := h (n + 11) (by omega)
  rw [run_ge (n + 11) (by omega)] at this
  exact absurd this (quiescent k)

theorem types0 : TypesOK (run 0) := by
  unfold TypesOK; decide

end Example

/-- The premises of `C15_converges` are satisfied by an execution that actually runs a container. -/
example : ∃ n, AllFinal (Example.run n) ∧ (∀ m, n ≤ m → AllFinal (Example.run m)) ∧
    ∃ m, n ≤ m ∧ NoInstances (Example.run m) :=
  C15_converges Example.run Example.act Example.steps Example.types0 Example.fair

/-- … and a restart step with faults left exists. -/
example : (mu { (⟨1, false, false, [1], [⟨7, 1, .locked⟩], [⟨1, .ok, .up (some ⟨8, .runR⟩)⟩]⟩ : LState) with
    faults := 0, recovering := true, ctrs := [⟨7, 1, .lockedStale⟩], insts := [⟨1, .ok, .unknown (some ⟨8, .runR⟩)⟩] }).lt
    (mu ⟨1, false, false, [1], [⟨7, 1, .locked⟩], [⟨1, .ok, .up (some ⟨8, .runR⟩)⟩]⟩) :=
  (C15_restart_safe ⟨1, false, false, [1], [⟨7, 1, .locked⟩], [⟨1, .ok, .up (some ⟨8, .runR⟩)⟩]⟩ (by decide)).2.1

end ArvVerif.C15
