/-
C18 — federated collection fetches are verified and only signatures are rewritten.
Every theorem is for an arbitrary `md5`, any manifest text, any number of remotes and any completion
order.
-/
import ArvVerif.Proofs.C18_CollectionGet
import ArvVerif.Proofs.C18_Legacy
import ArvVerif.Proofs.C18_Lines
import ArvVerif.Proofs.C18_PDH
import ArvVerif.Proofs.Lib_List
namespace ArvVerif.C18

/-- A by-PDH `CollectionGet` hands a collection to the client only if it is (a) the local
cluster's answer and its manifest passed the hash test, or (b) the local cluster said 404, the
request was not forwarded, and the collection is the answer of a remote whose manifest *as
received* passed the hash test, with nothing but `rewriteManifest` applied — for every script of
answers and every completion order. -/
theorem C18_only_valid_returned (md5 : Str → Str) (s : Script) (c : Coll)
    (hlen : s.req.length ≠ 27) (h : collectionGet md5 s = .ok c) :
    (∃ lc, s.loc = .coll lc ∧ pdhOK md5 s.req lc.manifest = true ∧ c = lc) ∨
    (s.loc = .err 404 ∧ s.fwd = [] ∧
      ∃ rid rc, (rid, Answer.coll rc) ∈ s.order ∧ pdhOK md5 s.req rc.manifest = true ∧
        c = (if rid = [] then rc else { rc with manifest := rewriteManifest rc.manifest rid })) := by
  rcases (collectionGet_eq_ok_iff hlen).mp h with hl | ⟨h1, h2, h3⟩
  · exact Or.inl hl
  · exact Or.inr ⟨h1, h2, accept_mem_delivered.mp (firstAccept_mem h3)⟩

/-- Under the sized-locator hypothesis the manifest handed to the client itself hashes to the
requested value (the rewrite does not disturb the portable data hash). -/
theorem C18_returned_hashes_to_requested (md5 : Str → Str) (s : Script) (c : Coll)
    (hlen : s.req.length ≠ 27) (h : collectionGet md5 s = .ok c)
    (hsz : ∀ p ∈ s.order, ∀ rc, p.2 = .coll rc → SizedLocs rc.manifest)
    (hid : ∀ p ∈ s.order, ' ' ∉ p.1) :
    pdhOK md5 s.req c.manifest = true := by
  rcases C18_only_valid_returned md5 s c hlen h with ⟨lc, _, h2, rfl⟩ | ⟨_, _, rid, rc, hm, h2, rfl⟩
  · exact h2
  · split
    · exact h2
    · rw [pdhOK, pdh_rewrite (hid _ hm) (hsz _ hm rc rfl)]
      exact h2

/-- A mismatching answer that arrives first never wins: the call returns exactly what it would
return had that answer not arrived first (any `rest`, any position by repetition). -/
theorem C18_mismatch_first_never_wins (md5 : Str → Str) (s : Script) (rid : Str) (bad c : Coll)
    (rest : List (Str × Answer)) (hlen : s.req.length ≠ 27) (hloc : s.loc = .err 404) (hfwd : s.fwd = [])
    (hord : s.order = (rid, .coll bad) :: rest) (hbad : pdhOK md5 s.req bad.manifest = false) :
    collectionGet md5 s = .ok c ↔ firstAccept (delivered md5 s.req rest) = some c := by
  have hdel : delivered md5 s.req s.order = Outcome.fail 502 :: delivered md5 s.req rest := by
    rw [hord]; simp [delivered, fnOutcome, hbad]
  rw [collectionGet_fanOut hlen hloc hfwd, recvLoop_eq_ok_iff, hdel]
  rfl

/-- With the local cluster answering 404, an unforwarded request and at least one remote whose
answer passes the hash test — wherever it sits in the completion order, whatever the others do
(mismatch, 404, 5xx, hang) — the call succeeds. -/
theorem C18_honest_remote_succeeds (md5 : Str → Str) (s : Script) (rid : Str) (rc : Coll)
    (hlen : s.req.length ≠ 27) (hloc : s.loc = .err 404) (hfwd : s.fwd = [])
    (hm : (rid, Answer.coll rc) ∈ s.order) (hok : pdhOK md5 s.req rc.manifest = true) :
    ∃ c, collectionGet md5 s = .ok c := by
  have hacc := accept_mem_delivered.mpr ⟨rid, rc, hm, hok, rfl⟩
  cases hfa : firstAccept (delivered md5 s.req s.order) with
  | none => exact absurd hacc (firstAccept_eq_none_iff.mp hfa _)
  | some c => exact ⟨c, (collectionGet_eq_ok_iff hlen).mpr (Or.inr ⟨hloc, hfwd, hfa⟩)⟩

/-- If every remote answer mismatches or errs (or hangs), the call is an error: 404 exactly when
all configured remotes delivered an answer and every one was a 404, otherwise 502. -/
theorem C18_mismatch_is_error (md5 : Str → Str) (s : Script)
    (hlen : s.req.length ≠ 27) (hloc : s.loc = .err 404) (hfwd : s.fwd = [])
    (hall : ∀ p ∈ s.order, ∀ rc, p.2 = .coll rc → pdhOK md5 s.req rc.manifest = false) :
    ∃ st, collectionGet md5 s = .error st ∧ (st = 404 ∨ st = 502) ∧
      (st = 404 ↔ (s.remotes.length ≤ (delivered md5 s.req s.order).length ∧
                   ∀ o ∈ delivered md5 s.req s.order, o = Outcome.fail 404)) := by
  have hnone : firstAccept (delivered md5 s.req s.order) = none := by
    rw [firstAccept_eq_none_iff]
    intro c hc
    obtain ⟨rid, rc, hm, hok, _⟩ := accept_mem_delivered.mp hc
    rw [hall _ hm rc rfl] at hok
    cases hok
  rw [collectionGet_fanOut hlen hloc hfwd]
  simp only [recvLoop, hnone, List.all_eq_true, isFail404_iff]
  split
  · rename_i hc
    exact ⟨404, rfl, Or.inl rfl, iff_of_true rfl ⟨by omega, hc.2⟩⟩
  · rename_i hc
    exact ⟨502, rfl, Or.inr rfl, iff_of_false (by omega) fun h => hc ⟨by omega, h.2⟩⟩

/-- A local answer that fails the hash test is a 502; the remotes are not consulted. -/
theorem C18_local_mismatch_is_error (md5 : Str → Str) (s : Script) (lc : Coll)
    (hlen : s.req.length ≠ 27) (hloc : s.loc = .coll lc) (hbad : pdhOK md5 s.req lc.manifest = false) :
    collectionGet md5 s = .error 502 := by
  simp [collectionGet, if_neg hlen, getByPDH, hloc, fnOutcome, hbad]

/-- A forwarded request (ForwardedFor set) never fans out: only the local answer counts. -/
theorem C18_forwarded_local_only (md5 : Str → Str) (s : Script) (st : Nat)
    (hlen : s.req.length ≠ 27) (hloc : s.loc = .err st) (hfwd : s.fwd ≠ []) :
    collectionGet md5 s = .error st := by
  simp [collectionGet, if_neg hlen, getByPDH, hloc, fnOutcome, hfwd]

/-- Acceptance pins the manifest down to its hints: if `md5` digests have a fixed length and no
other text collides with the genuine hashed text, every manifest accepted for `pdh g` has the
same hashed text (hash+size of every block token, every other byte) as `g`. -/
theorem C18_accepted_equals_genuine_modulo_hints (md5 : Str → Str) (g m : Str)
    (hl : ∀ x, (md5 x).length = 32)
    (hnc : ∀ x, md5 x = md5 (pdhText g) → x = pdhText g)
    (h : pdhOK md5 (pdh md5 g) m = true) : pdhText m = pdhText g := by
  apply hnc
  simp only [pdhOK, Bool.or_eq_true, beq_iff_eq, List.isPrefixOf_iff_prefix] at h
  -- either way `pdh m` is a prefix of `pdh g`, and digests have one length
  obtain ⟨z, hz⟩ : pdh md5 m <+: pdh md5 g :=
    h.elim (fun e => e ▸ List.prefix_refl _) fun p => (List.prefix_append _ _).trans p
  simp only [pdh, List.append_assoc] at hz
  exact (List.append_inj hz (by rw [hl, hl])).1

/-- The answer to a request does not depend on what the same `Conn` served before: in every
history, the k-th result is `collectionGet` of the k-th script alone. In particular
`C18_only_valid_returned` holds for every request of every history — an answer is hash-tested
however often the same backend has answered the same request correctly before. -/
theorem C18_history_independent (md5 : Str → Str) (history : List Script) (k : Nat) (s : Script)
    (hk : history[k]? = some s) :
    (collectionGetSeq md5 history)[k]? = some (collectionGet md5 s) := by
  simp [collectionGetSeq, List.getElem?_map, hk]

theorem C18_only_valid_returned_in_history (md5 : Str → Str) (history : List Script) (k : Nat)
    (s : Script) (c : Coll) (hk : history[k]? = some s) (hlen : s.req.length ≠ 27)
    (h : (collectionGetSeq md5 history)[k]? = some (.ok c)) :
    (∃ lc, s.loc = .coll lc ∧ pdhOK md5 s.req lc.manifest = true ∧ c = lc) ∨
    (s.loc = .err 404 ∧ s.fwd = [] ∧
      ∃ rid rc, (rid, Answer.coll rc) ∈ s.order ∧ pdhOK md5 s.req rc.manifest = true ∧
        c = (if rid = [] then rc else { rc with manifest := rewriteManifest rc.manifest rid })) := by
  rw [C18_history_independent md5 history k s hk] at h
  exact C18_only_valid_returned md5 s c hlen (Option.some.inj h)

/-- `collectionGetAnyOrder` is exactly the set of results over all completion orders: `r` is in it
iff `r` is the result for some permutation of the answering remotes. -/
theorem C18_any_order_is_all_orders (md5 : Str → Str) (s : Script) (r : Result) :
    r ∈ collectionGetAnyOrder md5 s ↔
      ∃ o : List (Str × Answer), o.Perm s.order ∧ collectionGet md5 { s with order := o } = r := by
  simp only [collectionGetAnyOrder, List.mem_map, mem_perms_iff]

/-- Whatever the interleaving of answers that arrive together, a collection handed to the client
is one remote's answer that passed the hash test **as received**, rewritten with the id of the
very remote that sent it (never with another remote's id), or the local cluster's verified answer. -/
theorem C18_any_order_only_valid (md5 : Str → Str) (s : Script) (c : Coll)
    (hlen : s.req.length ≠ 27) (h : Result.ok c ∈ collectionGetAnyOrder md5 s) :
    (∃ lc, s.loc = .coll lc ∧ pdhOK md5 s.req lc.manifest = true ∧ c = lc) ∨
    (s.loc = .err 404 ∧ s.fwd = [] ∧
      ∃ rid rc, (rid, Answer.coll rc) ∈ s.order ∧ pdhOK md5 s.req rc.manifest = true ∧
        c = (if rid = [] then rc else { rc with manifest := rewriteManifest rc.manifest rid })) := by
  obtain ⟨o, hperm, hget⟩ := (C18_any_order_is_all_orders md5 s _).mp h
  exact (C18_only_valid_returned md5 { s with order := o } c hlen hget).imp_right
    fun ⟨h1, h2, rid, rc, hm, h3⟩ => ⟨h1, h2, rid, rc, hperm.subset hm, h3⟩

/-- With the local cluster answering 404, an unforwarded request and an honest remote among those
answering together, every interleaving ends in success. -/
theorem C18_any_order_honest_succeeds (md5 : Str → Str) (s : Script) (rid : Str) (rc : Coll)
    (hlen : s.req.length ≠ 27) (hloc : s.loc = .err 404) (hfwd : s.fwd = [])
    (hm : (rid, Answer.coll rc) ∈ s.order) (hok : pdhOK md5 s.req rc.manifest = true) :
    ∀ r ∈ collectionGetAnyOrder md5 s, ∃ c, r = .ok c := by
  intro r hr
  obtain ⟨o, hperm, rfl⟩ := (C18_any_order_is_all_orders md5 s _).mp hr
  exact C18_honest_remote_succeeds md5 { s with order := o } rid rc hlen hloc hfwd
    (hperm.symm.subset hm) hok

/-- A by-UUID request returns the chosen backend's collection; its manifest is rewritten with the
UUID's cluster prefix exactly when that prefix is not the local cluster id. -/
theorem C18_by_uuid_relay (md5 : Str → Str) (s : Script) (c : Coll)
    (hlen : s.req.length = 27) (h : collectionGet md5 s = .ok c) :
    ∃ rc, chooseBackend s.clusterID s.loc s.remotes s.req = .coll rc ∧
      c = (if s.req.take 5 ≠ s.clusterID then { rc with manifest := rewriteManifest rc.manifest (s.req.take 5) } else rc) := by
  simp only [collectionGet, if_pos hlen, getByUUID] at h
  split at h <;> cases h
  exact ⟨_, ‹_›, rfl⟩

/-- what `rewriteManifest` may do to a token: in a block token, the part before the first newline
is rewritten hint by hint; everything from the first newline on is kept -/
def specTok (id t : Str) : Str :=
  if locPrefix t then joinWith '+' (mapTail (specHint id) (splitOn '+' (linePart t))) ++ restPart t else t

/-- For every manifest text and cluster id: the relayed text consists of the same number of
space-delimited tokens joined by the same single spaces; the first token (the first stream name)
and every token that does not begin with 32 hex digits and `+` (file tokens, and with them the
newline and stream name that follow a file token) are byte-identical; in a block token
everything from its first newline on is byte-identical, and before it the part before the first
`+` (the hash) and every `+`-separated field that does not begin with `A` (size, other hints) are
byte-identical and in place, and each field `A…` has become `R<id>-…`. If every block token
carries a size the portable data hash is unchanged. -/
theorem C18_rewrite_only_signatures (mt id : Str) (hid : ' ' ∉ id) :
    rewriteManifest mt id = joinWith ' ' (splitOn ' ' (rewriteManifest mt id)) ∧
    splitOn ' ' (rewriteManifest mt id) = mapTail (specTok id) (splitOn ' ' mt) ∧
    (splitOn ' ' (rewriteManifest mt id)).length = (splitOn ' ' mt).length ∧
    (∀ md5 : Str → Str, SizedLocs mt → pdh md5 (rewriteManifest mt id) = pdh md5 mt) := by
  refine ⟨(joinWith_splitOn _).symm, ?_, ?_, fun md5 h => pdh_rewrite hid h md5⟩
  · rw [rewriteManifest_tokens mt hid]
    congr 1
    funext t
    simp only [rewriteTok, specTok, replaceSig_eq_hints]
  · rw [rewriteManifest_tokens mt hid, mapTail_length]

/-- A token without `+A` before its first newline is relayed unchanged, whatever it is. -/
theorem C18_rewrite_fixes_tokens_without_sig (id t : Str)
    (h : ∀ f ∈ (splitOn '+' (linePart t)).tail, f.head? ≠ some 'A') : specTok id t = t := by
  unfold specTok
  split
  · rw [mapTail_eq_self fun f hf => specHint_of_head_ne id (h f hf), joinWith_splitOn,
      linePart_append_restPart]
  · rfl

/-- "Stream names are unchanged", at full strength: whatever a space-delimited token carries from
its first newline on — the stream name of the next line (a stream name never follows a space) — is
byte-identical in the relayed text, for every manifest text. Together with the first token being
identical this covers every stream name. (False before fix d80c6cd: F18a.) -/
def C18_rewrite_only_signatures_Full : Prop :=
  ∀ mt id : Str, ' ' ∉ id → '\n' ∉ id → ∀ (i : Nat) (t : Str), (splitOn ' ' mt)[i]? = some t →
    ∃ t', (splitOn ' ' (rewriteManifest mt id))[i]? = some t' ∧ restPart t' = restPart t

theorem C18_rewrite_only_signatures_full : C18_rewrite_only_signatures_Full := by
  intro mt id hid hnl i t ht
  rw [rewriteManifest_tokens mt hid, mapTail_getElem?]
  split
  · exact ⟨t, ht, rfl⟩
  · refine ⟨rewriteTok id t, by rw [ht]; rfl, ?_⟩
    -- the rewritten line part contains no newline, so the rest part starts where it did
    rw [rewriteTok_eq,
      restPart_append _ (not_mem_rwTok1 (not_nl_mem_linePart t) hnl (by decide) (by decide)),
      restPart_restPart]

def f18aManifest : Str :=
  ". 0123456789abcdef0123456789abcdef+3\n./x+Ay 0123456789abcdef0123456789abcdef+3 0:3:f\n".toList

/-- the former F18a witness: the stream name `./x+Ay` after a line-final block locator survives,
while a signature on that locator is still rewritten -/
example : rewriteManifest f18aManifest "zzzzz".toList = f18aManifest := by
  unfold f18aManifest
  repeat rw [String.toList_ofList]
  decide +kernel
example : rewriteManifest ". 0123456789abcdef0123456789abcdef+3+Afoo\n./x+Ay 0:3:f\n".toList "zzzzz".toList
    = ". 0123456789abcdef0123456789abcdef+3+Rzzzzz-foo\n./x+Ay 0:3:f\n".toList := by
  repeat rw [String.toList_ofList]
  decide +kernel

/-- what happens to one token of one line (no newline inside): a block token is rewritten hint
by hint, anything else is kept -/
def specTok1 (id t : Str) : Str :=
  if locPrefix t then joinWith '+' (mapTail (specHint id) (splitOn '+' t)) else t

/-- **Only signatures are rewritten, in the manifest format's own terms, for every text.**
The relayed text has the same lines (split on `\n`) in the same order; every line has the same
tokens (split on single spaces) in the same order; the first token of every line — the stream
name — is byte-identical; every later token that does not begin with 32 hex digits and `+` (file
tokens) is byte-identical; in a block token the hash, the size and every hint that does not begin
with `A` are byte-identical and in place, and each hint `A…` has become `R<id>-…`. No hypothesis
on the text (lines may end in a block locator: since fix d80c6cd that changes nothing). -/
theorem C18_rewrite_only_signatures_lines (mt id : Str) (hsp : ' ' ∉ id) (hnl : '\n' ∉ id) :
    rewriteManifest mt id = joinWith '\n' (splitOn '\n' (rewriteManifest mt id)) ∧
    (splitOn '\n' (rewriteManifest mt id)).length = (splitOn '\n' mt).length ∧
    (∀ (k : Nat) (l : Str), (splitOn '\n' mt)[k]? = some l →
      ∃ l', (splitOn '\n' (rewriteManifest mt id))[k]? = some l' ∧
        l' = joinWith ' ' (splitOn ' ' l') ∧
        splitOn ' ' l' = mapTail (specTok1 id) (splitOn ' ' l) ∧
        (splitOn ' ' l').head? = (splitOn ' ' l).head?) := by
  refine ⟨(joinWith_splitOn _).symm, ?_, ?_⟩
  · rw [lines_rewriteManifest mt hnl, List.length_map]
  · intro k l hk
    refine ⟨rwLine id l, ?_, (joinWith_splitOn _).symm, ?_, ?_⟩
    · rw [lines_rewriteManifest mt hnl, List.getElem?_map, hk]; rfl
    · rw [tokens_rwLine l hsp]
      congr 1
      funext t
      simp only [rwTok1, specTok1, replaceSig_eq_hints]
    · rw [tokens_rwLine l hsp, head?_mapTail]

/-- The text-level form of the same statement, without any hypothesis at all (not even on the id):
`rewriteManifest` *is* the line-by-line, token-by-token rewrite. -/
theorem C18_rewrite_is_line_by_line (mt id : Str) :
    rewriteManifest mt id =
      joinWith '\n' ((splitOn '\n' mt).map (fun l => joinWith ' ' (mapTail (rwTok1 id) (splitOn ' ' l)))) :=
  rewriteManifest_eq_byLines mt id

/-- By-UUID fetches relay with the same guarantee as by-PDH fetches: the collection handed to the
client is the chosen backend's, byte-identical for the own cluster, and otherwise its manifest is
the line-by-line, token-by-token signature rewrite of what that backend sent (nothing else
changes); the difference to by-PDH is only that no hash test is applied. -/
theorem C18_by_uuid_only_signatures (md5 : Str → Str) (s : Script) (c : Coll)
    (hlen : s.req.length = 27) (h : collectionGet md5 s = .ok c) :
    ∃ rc, chooseBackend s.clusterID s.loc s.remotes s.req = .coll rc ∧ c.uuid = rc.uuid ∧
      ((s.req.take 5 = s.clusterID ∧ c.manifest = rc.manifest) ∨
       (s.req.take 5 ≠ s.clusterID ∧ c.manifest = rewriteByLines rc.manifest (s.req.take 5))) := by
  obtain ⟨rc, h1, rfl⟩ := C18_by_uuid_relay md5 s c hlen h
  refine ⟨rc, h1, ?_⟩
  by_cases hp : s.req.take 5 = s.clusterID <;> simp [hp, rewriteManifest_eq_byLines]

def isWS (c : Char) : Bool := c == '\n' || c == '\r' || c == '\t' || c.toNat == 11 || c.toNat == 12

/-- `(\+[^+\s]*)*` on what follows hash+size: nothing, or `+…` without whitespace -/
def wfHints (r : Str) : Bool := r.isEmpty || (r.head? == some '+' && r.all (fun c => !isWS c))

/-- the published definition: a block locator `<hash>+<size>(+<hint>)*` is reduced to hash+size -/
def specStripTok (t : Str) : Str :=
  match sizedLen t with
  | some n => if wfHints (t.drop n) then t.take n else t
  | none => t

def specText (mt : Str) : Str := joinWith ' ' (mapTail specStripTok (splitOn ' ' mt))

/-- Full strength: the text that is hashed is the manifest with every *well-formed* block locator
reduced to hash+size and nothing else removed. -/
def C18_pdh_is_spec_Full : Prop := ∀ mt : Str, pdhText mt = specText mt

/-- F18b: bytes glued to hash+size that are not hints are dropped from the hash as well. -/
theorem C18_pdh_is_spec_full_fails : ¬ C18_pdh_is_spec_Full := by
  intro h
  have := h ". 0123456789abcdef0123456789abcdef+3x 0:3:f\n".toList
  rw [String.toList_ofList] at this
  revert this
  decide +kernel

/-- the same for a newline and the following stream name -/
example : pdhText ". 0123456789abcdef0123456789abcdef+3\n./evil 0:3:f\n".toList
    = pdhText ". 0123456789abcdef0123456789abcdef+3 0:3:f\n".toList := by
  repeat rw [String.toList_ofList]
  decide +kernel

/-- on one token the code and the published definition agree exactly when what follows hash+size
is well-formed hints (if it is not, it is non-empty, and the code drops it) -/
theorem stripTok_eq_specStripTok_iff (t : Str) :
    stripTok t = specStripTok t ↔ ∀ n, sizedLen t = some n → wfHints (t.drop n) = true := by
  unfold stripTok specStripTok
  cases sizedLen t with
  | none => simp
  | some n =>
    cases hw : wfHints (t.drop n) with
    | true => simp [hw]
    | false =>
      have hne : t.drop n ≠ [] := fun e => by simp [wfHints, e] at hw
      simpa [hw] using fun e : t.take n = t => hne (List.drop_eq_nil_of_le (e ▸ List.length_take_le n t))

/-- …and it holds whenever every sized block token continues with well-formed hints only. -/
theorem C18_pdh_is_spec_partial (mt : Str)
    (hwf : ∀ t ∈ (splitOn ' ' mt).tail, ∀ n, sizedLen t = some n → wfHints (t.drop n) = true) :
    pdhText mt = specText mt := by
  unfold pdhText specText
  congr 1
  exact mapTail_eq_mapTail_iff.mpr fun t ht => (stripTok_eq_specStripTok_iff t).mpr (hwf t ht)

/-- no token has anything but well-formed hints glued to its hash+size — the exact complement of
the F18b witness shape (`_glued` in the plugin) -/
def NoGlued (mt : Str) : Prop :=
  ∀ t ∈ (splitOn ' ' mt).tail, ∀ n, sizedLen t = some n → wfHints (t.drop n) = true

theorem stripTok_no_space (t : Str) (h : ' ' ∉ t) : ' ' ∉ stripTok t := by
  unfold stripTok
  split
  · exact fun hm => h (List.mem_of_mem_take hm)
  · exact h

theorem specStripTok_no_space (t : Str) (h : ' ' ∉ t) : ' ' ∉ specStripTok t := by
  unfold specStripTok
  split
  · split
    · exact fun hm => h (List.mem_of_mem_take hm)
    · exact h
  · exact h

/-- F18b characterised exactly: the text PortableDataHash hashes is the published one **iff** no
token has non-hint bytes glued to its hash+size. So the finding's witness shape is precisely the
set of texts on which the code deviates, and `C18_pdh_is_spec_partial`'s hypothesis cannot be
weakened. -/
theorem C18_pdh_is_spec_exact (mt : Str) : pdhText mt = specText mt ↔ NoGlued mt := by
  refine ⟨fun heq t ht => ?_, C18_pdh_is_spec_partial mt⟩
  -- both texts split back into their tokens, so equal texts have equal tokens
  have := congrArg (splitOn ' ') heq
  rw [pdhText, specText, splitOn_joinWith_mapTail stripTok_no_space,
    splitOn_joinWith_mapTail specStripTok_no_space, mapTail_eq_mapTail_iff] at this
  exact (stripTok_eq_specStripTok_iff t).mp (this t ht)

/-- `rewriteSignatures` returns a response only if the expected hash (when given) equals the
record's own `portable_data_hash`, every line has at least three tokens, and the MD5 and length
it accumulated over the scanned lines — hash(+size) of every token matching SignedLocatorRe, all
other tokens verbatim, single spaces, a newline per line — equal the expected hash; the manifest
it relays is the same lines with the signed locators rewritten. -/
theorem C18_legacy_checks_hash (md5 : Str → Str) (id expect mt field out : Str)
    (h : rewriteSignatures md5 id expect mt field = .ok out) :
    (expect = [] ∨ expect = field) ∧
    (∀ l ∈ scanLines mt, 3 ≤ (splitOn ' ' l).length) ∧
    out = (scanLines mt).flatMap (fun l => lineOf (legacyOutTok id) (splitOn ' ' l)) ∧
    (let hashed := (scanLines mt).flatMap (fun l => lineOf legacyHashTok (splitOn ' ' l))
     md5 hashed ++ '+' :: natToDec hashed.length = (if expect = [] then field else expect)) := by
  unfold rewriteSignatures at h
  rw [legacyScan_eq] at h
  by_cases h3 : ∀ l ∈ scanLines mt, 3 ≤ (splitOn ' ' l).length
  · rw [if_pos h3] at h
    obtain ⟨h1, h⟩ := Lib.ite_eq_of_ne h nofun
    obtain ⟨h2, h⟩ := Lib.ite_eq_of_ne h nofun
    cases h
    exact ⟨(Decidable.not_and_iff_not_or_not.mp h1).imp Decidable.not_not.mp Decidable.not_not.mp,
      h3, rfl, Decidable.not_not.mp h2⟩
  · rw [if_neg h3] at h
    cases h

/-- In the relayed legacy manifest a token is changed only if SignedLocatorRe accepts it, and then
exactly as `rewriteManifest` would change it (`+A` → `+R<id>-`); what is hashed for such a token
is its hash(+size). -/
theorem C18_legacy_only_signatures (id t : Str) :
    (parseSigned t = none → legacyOutTok id t = t ∧ legacyHashTok t = t) ∧
    (∀ p, parseSigned t = some p →
      legacyOutTok id t = replaceSig id t ∧ legacyHashTok t = p.hashSize ∧ splitOn '+' t = p.parts) := by
  constructor
  · intro h; simp [legacyOutTok, legacyHashTok, h]
  · intro p h
    exact ⟨legacyOutTok_signed id h, by simp [legacyHashTok, h], (parseSigned_some h).1⟩

/-- Tampering is an error on the legacy path: with fixed-length digests and no collision with the
genuine hashed text `g`, whatever is accepted for `md5 g + "+" + |g|` hashed to exactly `g`. -/
theorem C18_legacy_mismatch_is_error (md5 : Str → Str) (id mt field out g : Str)
    (hl : ∀ x, (md5 x).length = 32) (hnc : ∀ x, md5 x = md5 g → x = g)
    (h : rewriteSignatures md5 id (md5 g ++ '+' :: natToDec g.length) mt field = .ok out) :
    (scanLines mt).flatMap (fun l => lineOf legacyHashTok (splitOn ' ' l)) = g := by
  obtain ⟨_, _, _, h4⟩ := C18_legacy_checks_hash md5 id _ mt field out h
  rw [if_neg (by simp)] at h4
  exact hnc _ (List.append_inj h4 (by rw [hl, hl])).1

/-- The legacy fan-out forwards a remote's response only if `rewriteSignatures` accepted it for
the requested hash; if no remote's response is accepted the result is an error (404 exactly when
every collected error is an HTTP 404) — for every completion order. -/
theorem C18_legacy_fanout_checked (md5 : Str → Str) (pdhReq : Str) (order : List (Str × LegacyReply)) :
    (∀ m, legacyFanOut md5 pdhReq order = .ok m →
      ∃ rid mt f, (rid, LegacyReply.record mt f) ∈ order ∧ rewriteSignatures md5 rid pdhReq mt f = .ok m) ∧
    ((∀ p ∈ order, ∀ mt f, p.2 = .record mt f → ∀ m, rewriteSignatures md5 p.1 pdhReq mt f ≠ .ok m) →
      legacyFanOut md5 pdhReq order = .error 404 ∨ legacyFanOut md5 pdhReq order = .error 502) := by
  simp only [legacyFanOut]
  split
  · -- the first success is some remote's accepted record
    rename_i m hf
    obtain ⟨p, hp, hpo⟩ := List.mem_map.mp (legacyFirst_mem hf)
    obtain ⟨mt, f, hr, hok⟩ := legacyOutcome_success hpo
    refine ⟨fun m' h => ?_, fun hall => absurd hok (hall p hp mt f hr m)⟩
    cases h
    exact ⟨p.1, mt, f, hr ▸ hp, hok⟩
  · refine ⟨fun m h => ?_, fun _ => ?_⟩
    · split at h <;> cases h
    · split <;> simp

/-- The whole legacy delegate `fetchRemoteCollectionByPDH`: a response that did not come from the
local cluster is forwarded only after a local 404 and only if it is some remote's 200 response that
`rewriteSignatures` accepted for exactly the requested hash (so `C18_legacy_checks_hash` applies
to it); a local 200 is forwarded as it is, without a hash test (old behaviour, stated here, outside
the property's "fetched from a remote cluster"); everything else is an error or a verbatim local
status. For every completion order. -/
theorem C18_legacy_fetch_checked (md5 : Str → Str) (req : Str) (loc : LegacyLocal)
    (order : List (Str × LegacyReply)) :
    (∀ m, legacyFetchByPDH md5 req loc order = .ok m →
      loc = .reply (.status 404) ∧
      ∃ rid mt f, (rid, LegacyReply.record mt f) ∈ order ∧ rewriteSignatures md5 rid req mt f = .ok m) ∧
    (∀ mt f, legacyFetchByPDH md5 req loc order = .localRecord mt f → loc = .reply (.record mt f)) := by
  have hfan := (C18_legacy_fanout_checked md5 req order).1
  unfold legacyFetchByPDH
  -- every branch answers by itself except a local 404, where the result is the fan-out's
  by_cases hp : isPDHPath req <;> simp [hp]
  rcases loc with (⟨mt', f'⟩ | c | _) | _ <;> simp
  by_cases hc : c = 404 <;> simp [hc]
  cases hf : legacyFanOut md5 req order <;> simp
  simpa using hfan _ hf

/-- The legacy by-UUID delegate hands a collection to the client only for a GET of another
cluster's UUID, only the record that cluster's configured peer sent, and only after
`rewriteSignatures` accepted it with the UUID's prefix as cluster id and no expected hash: the
relayed text is the received lines re-emitted with `legacyOutTok <prefix>` (only
`SignedLocatorRe` tokens change, `+A` → `+R<prefix>-`), and the record is self-consistent (the
hashed text hashes to its own `portable_data_hash` field) — there is no requested hash to compare
with, as on the new by-UUID path (`C18_by_uuid_relay`). -/
theorem C18_legacy_by_uuid_checked (md5 : Str → Str) (cid uuid : Str) (isGet : Bool)
    (peer : Option LegacyLocal) (out : Str)
    (h : legacyFetchByUUID md5 cid uuid isGet peer = .ok out) :
    isGet = true ∧ uuid ≠ [] ∧ uuid.take 5 ≠ cid ∧
    ∃ mt f, peer = some (.reply (.record mt f)) ∧
      rewriteSignatures md5 (uuid.take 5) [] mt f = .ok out ∧
      out = (scanLines mt).flatMap (fun l => lineOf (legacyOutTok (uuid.take 5)) (splitOn ' ' l)) ∧
      (let hashed := (scanLines mt).flatMap (fun l => lineOf legacyHashTok (splitOn ' ' l))
       md5 hashed ++ '+' :: natToDec hashed.length = f) := by
  unfold legacyFetchByUUID at h
  -- past the two guards only a peer's record that `rewriteSignatures` accepts gives `.ok`
  cases isGet <;> by_cases hu : uuid = [] <;> by_cases hc : uuid.take 5 = cid <;> simp [hu, hc] at h
  refine ⟨rfl, hu, hc, ?_⟩
  rcases peer with _ | (⟨mt, f⟩ | c | _) | _ <;> simp at h
  · cases hr : rewriteSignatures md5 (uuid.take 5) [] mt f with
    | error e => simp [hr] at h
    | ok o =>
      obtain rfl : o = out := by simpa [hr] using h
      obtain ⟨_, _, h4, h5⟩ := C18_legacy_checks_hash md5 (uuid.take 5) [] mt f o hr
      exact ⟨mt, f, rfl, hr, h4, h5⟩
  · split at h <;> cases h

/-- Everything else the by-UUID delegate can answer: it declines exactly for non-GET requests,
requests without a UUID and UUIDs of the own cluster (never touching a remote), and a remote's
non-200 status is passed on unchanged. -/
theorem C18_legacy_by_uuid_declines (md5 : Str → Str) (cid uuid : Str) (isGet : Bool)
    (peer : Option LegacyLocal) :
    legacyFetchByUUID md5 cid uuid isGet peer = .unhandled ↔
      (isGet = false ∨ uuid = [] ∨ uuid.take 5 = cid) := by
  unfold legacyFetchByUUID
  -- the two guards decide; past them every branch of the relay answers something else
  cases isGet <;> by_cases hu : uuid = [] <;> by_cases hc : uuid.take 5 = cid <;> simp [hu, hc]
  rcases peer with _ | (⟨mt, f⟩ | c | _) | _ <;> simp
  · cases rewriteSignatures md5 (uuid.take 5) [] mt f <;> simp
  · by_cases h : c = 200 <;> simp [h]

/-- the remote's bytes are already in the form the scanner re-emits: LF-terminated lines, no CR
before LF -/
def LegacyNormal (mt : Str) : Prop := (scanLines mt).flatMap (fun l => l ++ ['\n']) = mt

/-- Full strength: what the legacy path accepts was received in exactly the line structure it
relays (so whitespace is unchanged and the bytes received are the bytes hashed). -/
def C18_legacy_bytes_Full : Prop :=
  ∀ (md5 : Str → Str) (id expect mt field out : Str),
    rewriteSignatures md5 id expect mt field = .ok out → LegacyNormal mt

-- for `decide` on `rewriteSignatures … = .ok …` below and in Props/C18_Examples.lean
instance {ε α : Type} [DecidableEq ε] [DecidableEq α] : DecidableEq (Except ε α) := fun a b =>
  match a, b with
  | .ok x, .ok y => if h : x = y then isTrue (by rw [h]) else isFalse (by intro e; cases e; exact h rfl)
  | .error x, .error y => if h : x = y then isTrue (by rw [h]) else isFalse (by intro e; cases e; exact h rfl)
  | .ok _, .error _ => isFalse (by intro e; cases e)
  | .error _, .ok _ => isFalse (by intro e; cases e)

def toyMd5 (s : Str) : Str :=
  let n := s.foldl (fun a c => (a * 31 + c.toNat) % 4294967291) 7
  let ds := Nat.toDigits 16 n
  List.replicate (32 - ds.length) '0' ++ ds

/-- F18c: bufio.ScanLines makes the final newline optional (and drops CR before LF); the
normalised text is what is hashed and relayed. Witness with a toy digest; the same input is
replayed against the real code with real MD5 by the correspondence check. -/
theorem C18_legacy_bytes_full_fails : ¬ C18_legacy_bytes_Full := by
  intro h
  -- a record whose only line lacks its final newline is accepted, hashed and relayed with it
  have key : ∀ x : Str, x = ". 0123456789abcdef0123456789abcdef+3 0:3:f".toList →
      ¬ LegacyNormal x ∧ rewriteSignatures toyMd5 "zzzzz".toList (toyMd5 (x ++ ['\n']) ++ "+43".toList) x
        (toyMd5 (x ++ ['\n']) ++ "+43".toList) = .ok (x ++ ['\n']) := by
    rintro x rfl
    unfold LegacyNormal
    repeat rw [String.toList_ofList]
    decide +kernel
  exact (key _ rfl).1 (h _ _ _ _ _ _ (key _ rfl).2)

/-- …and for input that is already normal, the relayed text is the received text line by line,
token by token, with only the signed locators changed. -/
theorem C18_legacy_bytes_partial (md5 : Str → Str) (id expect mt field out : Str)
    (hn : LegacyNormal mt) (h : rewriteSignatures md5 id expect mt field = .ok out) :
    mt = (scanLines mt).flatMap (fun l => joinWith ' ' (splitOn ' ' l) ++ ['\n']) ∧
    out = (scanLines mt).flatMap (fun l => joinWith ' ' (mapTail (legacyOutTok id) (splitOn ' ' l)) ++ ['\n']) := by
  obtain ⟨_, _, h3, _⟩ := C18_legacy_checks_hash md5 id expect mt field out h
  exact ⟨by simpa only [joinWith_splitOn] using hn.symm, h3⟩

end ArvVerif.C18
