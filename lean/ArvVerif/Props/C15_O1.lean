/-
C15, finding F15a (fixed in /repo 18910db): the dispatcher could kill itself. Runner objects of one
worker (Model/C15_O1.lean): `accept` (StartContainer), `probe` (a fresh successful probe),
`startDone` (the completion closure of `startContainer`). `none` = `rr.Close()` on a closed runner =
process panic ("close of closed channel").
Second part, finding F15b (fixed in /repo 847719d): `reportSSHConnected` for an instance whose worker has been dropped.
-/
import ArvVerif.Proofs.C15_O1
namespace ArvVerif.C15
open ArvVerif.C14

/-- **No self-inflicted crash.** No interleaving of starts, probes and start completions on a worker
makes `closeRunner` close a runner twice: the runner objects in `starting`/`running` stay pairwise
distinct and open (`Good`), because the completion closure only moves a runner that is still the
one in `starting`. For every script of any length over any containers. -/
theorem C15_no_self_crash (ops : List RWOp) : (RW.fresh.run ops).isSome = true :=
  run_total ops RW.fresh good_fresh

/-- … from any state that satisfies the invariant, which every step preserves. -/
theorem C15_no_self_crash_from (w : RW) (hg : Good w) (ops : List RWOp) : (w.run ops).isSome = true :=
  run_total ops w hg

/-- **Before the fix** the statement was false: start a container; a probe adopts its process while
`crunch-run --detach` is still outstanding; the next probe finds it gone and closes the runner; the
start command returns and the old closure puts the closed runner back; the next probe closes it
again. (Witness kept in corpus/C15/f15a.txt; the check fails on it if the guard disappears.) -/
theorem C15_no_self_crash_before_fix_fails :
    ¬ ∀ ops : List RWOp, (RW.fresh.runOld ops).isSome = true := by
  intro h
  have := h [.accept 7, .probe [7], .probe [], .startDone 7, .probe []]
  revert this
  decide

/-- the same script on the fixed code: the late completion finds its runner gone and does nothing -/
example : RW.fresh.run [.accept 7, .probe [7], .probe [], .startDone 7, .probe []] =
    some ⟨.idle, [], [], [0], [], [7], 1⟩ := by decide

/-- a completion that comes in time still moves the runner -/
example : (RW.fresh.run [.accept 7, .startDone 7]).map (·.running) = some [(7, 0)] := by decide

/-! ### finding F15b (fixed in /repo 847719d): `reportSSHConnected` on a dropped worker -/

/-- **A verified SSH connection never crashes the dispatcher**, whatever the pool holds: for an
instance whose worker has been dropped the call returns without touching anything. -/
theorem C15_ssh_report (workers : List Nat) (id : Nat) :
    (reportSSHConnected workers id).isSome = true ∧
    (id ∉ workers → reportSSHConnected workers id = some false) := by
  unfold reportSSHConnected
  exact ⟨by split <;> rfl, fun h => by simp [h]⟩

/-- **Before the fix** it did: the worker of the instance had been dropped meanwhile. (Witness kept in
corpus/C15/f15b.txt.) -/
theorem C15_ssh_report_before_fix_fails :
    ¬ ∀ (workers : List Nat) (id : Nat), (reportSSHConnectedOld workers id).isSome = true := by
  intro h
  have := h [] 1
  revert this
  decide

example : reportSSHConnected [1, 2] 2 = some true := by decide
example : reportSSHConnected [] 1 = some false := by decide

end ArvVerif.C15
