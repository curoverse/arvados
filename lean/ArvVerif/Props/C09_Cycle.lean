/-
C09 — property theorem `C09_load_save_load`: load a valid text, save it unchanged, load the saved text:
the same files with the same bytes, the same directories — through the real loader on both ends, without
any hypothesis about the directory list.
-/
import ArvVerif.Props.C09_Load
import ArvVerif.Props.C09_Reload
namespace ArvVerif.C09

open ArvVerif.C08 (Seg FileNode Store)
open ArvVerif.C10 (bSlash)

variable {max : Nat} {hash : Bytes → C08.Loc}

/-- **Load, save unchanged, load again.** For every text inside the published grammar whose sizes the
loader can represent, in which no path is both file and directory and whose blocks Keep holds: the first
load succeeds; saving the loaded tree (canonical directory list `groupTree`) succeeds without any Keep
write; and — if no name holds 0x7f (F9a) and the loader can represent the sizes of the saved text —
`loadManifest` accepts the saved text and builds a tree with exactly the same file keys, each file reading
exactly the bytes the ORIGINAL manifest assigns to its path, and exactly the same directories (empty ones
included). -/
theorem C09_load_save_load (hh : HashOK hash) (txt : Bytes) (M : C10.Manifest)
    (hvalid : C10.parseSpec txt = some M) (hfit : ∀ s ∈ M, C10.FitsFs s) (htree : C10.TreeConsistent M)
    (k : Keep) (hk : KeepOK hash k)
    (hblocks : ∀ s ∈ M, ∀ b ∈ s.blocks, ∃ x, k.store b.text = some x ∧ x.length = b.size) :
    ∃ tr txt', C10.fsLoad txt = some tr ∧ marshal9 hash max k (groupTree tr) = (k, groupTree tr, MRes.ok txt') ∧
      (NoDel (groupTree tr) → (∀ L, parse9 txt' = some L → ∀ s ∈ streamsOf L, C10.FitsFs s) →
        ∃ tr2, C10.fsLoad txt' = some tr2 ∧
          (∀ e ∈ tr.files, ∃ e2 ∈ tr2.files, e2.1 = e.1 ∧
            C10.segBytes (blkOf k.store) e2.2 = C10.fileContent (blkOf k.store) M (C10.pathOfKey e.1)) ∧
          (∀ e2 ∈ tr2.files, ∃ e ∈ tr.files, e2.1 = e.1) ∧
          (∀ p, p ∈ tr2.dirs ↔ p ∈ tr.dirs)) := by
  obtain ⟨tr, txt', L', hload, hrun, hL', hcont, _, hparse, hokS⟩ :=
    C09_load_marshal_total (max := max) (hash := hash) txt M hvalid hfit htree k hk hblocks
  refine ⟨tr, txt', hload, hrun, ?_⟩
  intro hnd hfit'
  obtain ⟨hw, hkp⟩ := fsLoad_inv txt tr hload
  obtain ⟨hrep, _, _, _⟩ := groupTree_ok tr hw hkp
  obtain ⟨hclosed, hclash⟩ := groupTree_closed tr hw
  -- `groupTree tr` is itself a tree of saved shape, and `txt'` parses to its lines
  obtain ⟨tr2, hload2, c1, c2, c3, c4⟩ := treeLines_fsLoad hh hokS.keep.ok hL' hokS.wf.segs hokS.shape hokS.paths hokS.names
    hclosed hclash (hparse hnd) (hfit' L' (hparse hnd))
  refine ⟨tr2, hload2, ?_, ?_, ?_⟩
  · intro e he
    obtain ⟨d, hd, f, hf, hkey⟩ := hrep.all e he
    obtain ⟨e2, he2, hk2, hb2⟩ := c1 d hd f hf
    refine ⟨e2, he2, by rw [hk2, hkey], ?_⟩
    rw [hb2, (hcont d hd f hf).2.1, pathOfKey_of_key hkey]
  · intro e2 he2
    obtain ⟨d, hd, f, hf, hk2⟩ := c2 e2 he2
    obtain ⟨e, he, hke, _⟩ := hrep.files d hd f hf
    exact ⟨e, he, by rw [hk2, hke]⟩
  · rw [dirPaths_groupTree] at c3 c4
    exact fun p => ⟨fun hp => (List.mem_cons.mp (c3 p hp)).resolve_left ((fsLoad_wf txt' tr2 hload2).dirComps p hp).1,
      fun hp => c4 p (List.mem_cons_of_mem _ hp) (hw.dirComps p hp).1⟩

/-- non-vacuity: the example text of Props/C09_Load.lean — first load, saved text, second load -/
example : (match C10.fsLoad exTxt with
    | some tr =>
      (match (marshal9 (fun _ => exLoc) 4 exKeepL (groupTree tr)).2.2 with
       | MRes.ok txt' => (C10.fsLoad txt').map (fun t2 => (t2.dirs, t2.files.map (·.1)))
       | _ => none)
    | none => none) = some ([], [[[97]], [[98]]]) := by
  rw [exTxt_loads]
  unfold exKeepL exLoc
  rw [str_ofList]
  decide +kernel

end ArvVerif.C09
