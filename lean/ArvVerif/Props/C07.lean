/-
C07 — block signatures verify only for the exact hash, token, expiry and key.
Every theorem is for an arbitrary MAC `mac : key → message → digest`; the section on HMAC-SHA1
instantiates the theorems that need a 20-byte digest with the executable `hmacSha1`, for which that
hypothesis is proved.
Time: `nowNs` is the clock (ns since the epoch) read by `VerifySignature`; an expiry of `t` whole
seconds has passed iff `t·10⁹ < nowNs` (`time.Unix(t,0).Before(now)`), so a signature is still good
*during* the whole-second instant `t·10⁹` itself and expired from the next nanosecond on.
-/
import ArvVerif.Proofs.C07_Verify
import ArvVerif.Proofs.C07_Manifest
import ArvVerif.Proofs.C07_Serve
import ArvVerif.Proofs.C07_Hmac
import ArvVerif.Proofs.C07_Ruby
namespace ArvVerif.C07
variable (mac : Str → Str → List UInt8)

/-! ### what is signed -/

/-- `SignLocator` appends `+A<sig>@<expiry>` where `<expiry>` is `%08x` of the Unix time and
`<sig>` is the lowercase hex of the MAC, under the key, of exactly
`hash@token@expiry-hex@ttl-hex` (hash = text before the first `+`; ttl = whole seconds, base 16).
Without key or token the locator is returned untouched. -/
theorem C07_message_format (loc tok key : Str) (exp ttlNs : Int) :
    signLocator mac loc tok exp ttlNs key =
      if key = [] ∨ tok = [] then loc
      else loc ++ ['+', 'A'] ++
        hexOfDigest (mac key (hashPart loc ++ ['@'] ++ tok ++ ['@'] ++ fmt08x exp ++ ['@'] ++
          intHex (ttlSeconds ttlNs))) ++ ['@'] ++ fmt08x exp := by
  cases key <;> cases tok <;>
    simp [signLocator, sigHint, makePermSignature, sigMessage, ttlHex, List.append_assoc]

/-- The signature text is 40 lowercase hex digits whenever the MAC yields 20 bytes. -/
theorem C07_signature_is_lowercase_hex (hmac : ∀ k m, (mac k m).length = 20)
    (hash tok e l key : Str) :
    (makePermSignature mac hash tok e l key).length = 40 ∧
      (makePermSignature mac hash tok e l key).all isLowerHex = true :=
  makePermSignature_shape mac hmac hash tok e l key

/-- Go and the API server (blob.rb `sign_locator`, transcribed as `Ref.signLocator`) produce the
same signed locator for every expiry from 2²⁸ (1978) on — below that Go zero-pads the expiry and
Ruby does not — and every non-negative TTL (`ttlSecs` whole seconds plus a sub-second rest). -/
theorem C07_same_as_api_server (loc tok key : Str) (exp ttlSecs frac : Nat)
    (hk : key ≠ []) (ht : tok ≠ []) (hexp : 2 ^ 28 ≤ exp) (hfrac : frac < 1000000000) :
    signLocator mac loc tok (exp : Int) ((ttlSecs : Int) * 1000000000 + frac) key =
      Ref.signLocator mac loc tok exp ttlSecs key := by
  rw [signLocator_eq_ref mac hk ht loc exp hfrac, fmt08x_eq_natHex hexp]
  rfl

example : (2 : Nat) ^ 28 ≤ 0x6ab35692 ∧ (1209600 : Int) * 1000000000 + 0 = 1209600000000000 := by decide

/-- The MAC input can be taken apart again: for 32-character hashes and 8-character expiries two
inputs are equal only if hash, token, expiry and the TTL's whole seconds are all equal (also for
tokens that contain `@` or `+`). So "changing the token, the TTL, the hash or the expiry" always
changes what is fed to the MAC. -/
theorem C07_message_injective {h h' t t' e e' : Str} {ttl ttl' : Int}
    (hh : h.length = 32) (hh' : h'.length = 32) (he : e.length = 8) (he' : e'.length = 8)
    (hm : sigMessage h t e (ttlHex ttl) = sigMessage h' t' e' (ttlHex ttl')) :
    h = h' ∧ t = t' ∧ e = e' ∧ ttlSeconds ttl = ttlSeconds ttl' := by
  obtain ⟨a, b, c, d⟩ := sigMessage_injective (hh.trans hh'.symm) (he.trans he'.symm)
    (intHex_free_at _) (intHex_free_at _) hm
  exact ⟨a, b, c, ttlHex_eq_iff.mp d⟩

example : sigMessage ['a'] ['x', '@', 'y'] ['1'] ['f'] = ['a', '@', 'x', '@', 'y', '@', '1', '@', 'f'] := by
  decide

/-! ### verification -/

/-- `VerifySignature` returns nil exactly when the string is a locator of the grammar
(hash, optional size, hints, one `+A<40 hex>@<8 hex>`, hints), its expiry has not passed, and its
signature text equals the MAC text for (hash, presented token, expiry as written, TTL, key). -/
theorem C07_verify_iff_mac (s tok key : Str) (ttlNs nowNs : Int) :
    verifySignature mac s tok ttlNs key nowNs = .ok ↔
      ∃ hash sig e, ∃ t : Nat, IsSignedLocator s hash sig e ∧ hexNat? e 0 = some t ∧
        nowNs ≤ (t : Int) * 1000000000 ∧
        sig = makePermSignature mac hash tok e (ttlHex ttlNs) key :=
  (verify_eq_iff mac s tok key ttlNs nowNs (by decide)).trans (by simp only [verdictOf_eq_ok])

/-- The three error classes. `missing` iff the grammar does not match; a well-formed locator
whose expiry has passed is `expired` whatever its signature, token or key; `invalid` iff
well-formed, unexpired and the signature text is not the MAC text. -/
theorem C07_verdict_classes (s tok key : Str) (ttlNs nowNs : Int) :
    (verifySignature mac s tok ttlNs key nowNs = .missing ↔
      ¬ ∃ hash sig e, IsSignedLocator s hash sig e) ∧
    (verifySignature mac s tok ttlNs key nowNs = .expired ↔
      ∃ hash sig e, ∃ t : Nat, IsSignedLocator s hash sig e ∧ hexNat? e 0 = some t ∧
        (t : Int) * 1000000000 < nowNs) ∧
    (verifySignature mac s tok ttlNs key nowNs = .invalid ↔
      ∃ hash sig e, ∃ t : Nat, IsSignedLocator s hash sig e ∧ hexNat? e 0 = some t ∧
        nowNs ≤ (t : Int) * 1000000000 ∧
        sig ≠ makePermSignature mac hash tok e (ttlHex ttlNs) key) :=
  ⟨verify_eq_missing_iff mac s tok key ttlNs nowNs,
    (verify_eq_iff mac s tok key ttlNs nowNs (by decide)).trans (by simp only [verdictOf_eq_expired]),
    (verify_eq_iff mac s tok key ttlNs nowNs (by decide)).trans (by simp only [verdictOf_eq_invalid])⟩

/-- Sign, then verify. For a well-formed unsigned locator (hash, optional size, hints), non-empty
key and token, an expiry in [0, 2³²) and a 20-byte MAC: the signed locator — also with further
hints appended after the signature — verifies with the same token, key and TTL (same whole
seconds) iff the expiry has not passed, and is reported as expired otherwise. -/
theorem C07_verify_sign {loc hash tok key : Str} {exp ttlNs ttlNs' nowNs : Int} {hs2 : List Str}
    (hloc : IsUnsignedLocator loc hash) (hk : key ≠ []) (ht : tok ≠ [])
    (h0 : 0 ≤ exp) (h32 : exp < 2 ^ 32) (hmac : ∀ k m, (mac k m).length = 20)
    (hh2 : ∀ f ∈ hs2, isOtherHint f = true) (httl : ttlSeconds ttlNs' = ttlSeconds ttlNs) :
    verifySignature mac (signLocator mac loc tok exp ttlNs key ++ hints hs2) tok ttlNs' key nowNs =
      if exp * 1000000000 < nowNs then .expired else .ok := by
  have hs := signed_isSignedLocator mac (ttlNs := ttlNs) hloc hk ht h0 h32 hmac hh2
  have he : expiryOf (fmt08x exp) = exp.toNat := by simp [expiryOf, (fmt08x_nonneg h0 h32).2.2]
  rw [verify_of_isSignedLocator mac hs, verdictOf, he, Int.toNat_of_nonneg h0,
    ttlHex_eq_iff.mpr httl]
  simp

/-- "At now": within the very second named by the expiry field — any instant after `exp.000000000`,
however small the sub-second part — the signature is already reported as expired; it is accepted
only up to and including the instant `exp·10⁹` itself. (`time.Unix(exp,0).Before(now)` compares
nanoseconds; comparing whole seconds instead would keep the locator valid for one more second.) -/
theorem C07_expired_within_expiry_second {loc hash tok key : Str} {exp ttlNs : Int} {hs2 : List Str}
    (hloc : IsUnsignedLocator loc hash) (hk : key ≠ []) (ht : tok ≠ [])
    (h0 : 0 ≤ exp) (h32 : exp < 2 ^ 32) (hmac : ∀ k m, (mac k m).length = 20)
    (hh2 : ∀ f ∈ hs2, isOtherHint f = true) (frac : Int) (hfrac : 0 < frac) :
    verifySignature mac (signLocator mac loc tok exp ttlNs key ++ hints hs2) tok ttlNs key
        (exp * 1000000000 + frac) = .expired ∧
    verifySignature mac (signLocator mac loc tok exp ttlNs key ++ hints hs2) tok ttlNs key
        (exp * 1000000000) = .ok := by
  constructor
  · rw [C07_verify_sign mac hloc hk ht h0 h32 hmac hh2 rfl, if_pos (by omega)]
  · rw [C07_verify_sign mac hloc hk ht h0 h32 hmac hh2 rfl, if_neg (by omega)]

example : (0 : Int) < 1 ∧ (1790138044 : Int) * 1000000000 + 1 < (1790138044 + 1) * 1000000000 := by decide

/-- non-vacuity: a concrete unsigned locator with size and a hint, a 20-byte MAC -/
example : IsUnsignedLocator ("0123456789abcdef0123456789ABCDEF".toList ++ hints [['1','2'], ['K','@','x']])
    "0123456789abcdef0123456789ABCDEF".toList := by
  rw [String.toList_ofList]
  exact ⟨[['1','2']], [['K','@','x']], rfl, by decide, by decide, Or.inr ⟨_, rfl, by decide⟩, by decide⟩
example : ∀ k m : Str, ((fun _ _ => List.replicate 20 (7 : UInt8)) k m).length = 20 := by simp

/-- An expiry of 2³² or more makes `SignLocator` write nine hex digits, which the verifier's
grammar does not accept (reported as missing): the round trip needs `exp < 2³²` (year 2106). -/
theorem C07_expiry_range_needed :
    verifySignature (fun _ _ => List.replicate 20 (0 : UInt8))
      (signLocator (fun _ _ => List.replicate 20 0) "0123456789abcdef0123456789abcdef".toList
        ['t'] (2 ^ 32) 0 ['k']) ['t'] 0 ['k'] 0 = .missing := by
  rw [String.toList_ofList]
  decide +kernel

/-- Presenting another token, TTL or key: the verdict can only stay `ok` if the MAC text for the
new parameters collides with the old one (`C07_message_injective` shows the MAC *inputs* differ
whenever token or TTL seconds differ). -/
theorem C07_other_token_ttl_key_rejected {s hash sig e tok tok' key key' : Str}
    {ttlNs ttlNs' nowNs : Int} (hs : IsSignedLocator s hash sig e)
    (hok : verifySignature mac s tok ttlNs key nowNs = .ok)
    (hdiff : makePermSignature mac hash tok' e (ttlHex ttlNs') key' ≠
      makePermSignature mac hash tok e (ttlHex ttlNs) key) :
    verifySignature mac s tok' ttlNs' key' nowNs = .invalid := by
  rw [verify_of_isSignedLocator mac hs] at hok ⊢
  obtain ⟨hne, rfl⟩ := verdictOf_eq_ok.mp hok
  exact verdictOf_eq_invalid.mpr ⟨hne, hdiff.symm⟩

/-- A locator that verifies stops verifying when its hash is replaced by another 32-hex-digit
hash, unless the MAC text for the other hash collides. -/
theorem C07_other_hash_rejected {hash hash' sig e tok key : Str} {size hs1 hs2 : List Str}
    {ttlNs nowNs : Int} (p : Parts hash sig e size hs1 hs2)
    (hl : hash'.length = 32) (hx : hash'.all isXDigit = true)
    (hok : verifySignature mac (assemble hash sig e size hs1 hs2) tok ttlNs key nowNs = .ok)
    (hdiff : makePermSignature mac hash' tok e (ttlHex ttlNs) key ≠
      makePermSignature mac hash tok e (ttlHex ttlNs) key) :
    verifySignature mac (assemble hash' sig e size hs1 hs2) tok ttlNs key nowNs = .invalid := by
  have p' : Parts hash' sig e size hs1 hs2 := { p with hl := hl, hx := hx }
  rw [verify_of_isSignedLocator mac p.isSigned] at hok
  rw [verify_of_isSignedLocator mac p'.isSigned]
  obtain ⟨hne, rfl⟩ := verdictOf_eq_ok.mp hok
  exact verdictOf_eq_invalid.mpr ⟨hne, hdiff.symm⟩

/-- Any single character of the signature replaced by a different character (no MAC hypothesis
needed): `invalid` if the new character is a hex digit (this includes changing the case of a
letter), `missing` otherwise (including `+`, which cuts the hint in two). -/
theorem C07_signature_char_changed {hash sig e tok key : Str} {size hs1 hs2 : List Str}
    {ttlNs nowNs : Int} (p : Parts hash sig e size hs1 hs2)
    (hok : verifySignature mac (assemble hash sig e size hs1 hs2) tok ttlNs key nowNs = .ok)
    (i : Nat) (c : Char) (hi : i < 40) (hc : c ≠ sig[i]'(by rw [p.sl]; exact hi)) :
    verifySignature mac (assemble hash (sig.set i c) e size hs1 hs2) tok ttlNs key nowNs =
      if isXDigit c then .invalid else .missing := by
  have hil : i < sig.length := by rw [p.sl]; exact hi
  rw [verify_of_isSignedLocator mac p.isSigned] at hok
  obtain ⟨hne, hsig⟩ := verdictOf_eq_ok.mp hok
  rw [verify_assemble mac p (by simp [p.sl]) p.el, all_set_of_all p.sx hil]
  cases isXDigit c
  · simp
  · simp only [p.ex, and_self, if_true]
    exact verdictOf_eq_invalid.mpr ⟨hne, fun h => set_ne_self hil hc (h.trans hsig.symm)⟩

/-- Any single character of the expiry field replaced: never `ok`, provided the MAC text for the
message with the new expiry is not the old signature (the message does change, by
`C07_message_injective`, also when only the case of a hex letter changes). -/
theorem C07_expiry_char_changed {hash sig e tok key : Str} {size hs1 hs2 : List Str}
    {ttlNs nowNs : Int} (p : Parts hash sig e size hs1 hs2) (i : Nat) (c : Char) (hi : i < 8)
    (hmacne : makePermSignature mac hash tok (e.set i c) (ttlHex ttlNs) key ≠ sig) :
    verifySignature mac (assemble hash sig (e.set i c) size hs1 hs2) tok ttlNs key nowNs ≠ .ok := by
  rw [verify_assemble mac p p.sl (by simp [p.el])]
  split
  · exact fun h => hmacne (verdictOf_eq_ok.mp h).2.symm
  · simp

/-- Removing the signature hint (keeping hash, size and the other hints): `missing`. -/
theorem C07_signature_removed {hash sig e tok key : Str} {size hs1 hs2 : List Str}
    {ttlNs nowNs : Int} (p : Parts hash sig e size hs1 hs2) :
    verifySignature mac (hash ++ hints (size ++ (hs1 ++ hs2))) tok ttlNs key nowNs = .missing := by
  apply verify_of_no_match
  have := matchSigned_fields p.hl p.hx p.hsize (hs1 := hs1 ++ hs2) (rest := [])
    (fun g hg => (List.mem_append.mp hg).elim (p.hh1 g) (p.hh2 g)) nofun nofun
  simpa using this

/-- non-vacuity of `Parts`: hash, size, one hint before and one after the signature -/
example : Parts "0123456789abcdef0123456789abcdef".toList (List.replicate 40 'a')
    (List.replicate 8 '9') [['3']] [['K', 'x']] [['B']] := by
  rw [String.toList_ofList]
  exact ⟨by decide, by decide, Or.inr ⟨_, rfl, by decide⟩, by decide, by decide, by decide, by decide,
    by decide, by decide⟩

/-- The expiry group always parses: `parseHexTimestamp` cannot fail on 8 hex digits, so the
"badly formatted timestamp" branch of `VerifySignature` is dead; the value is below 2³². -/
theorem C07_timestamp_always_parses {s hash sig e : Str} (h : IsSignedLocator s hash sig e) :
    ∃ t : Nat, t < 2 ^ 32 ∧ parseHexTimestamp e = some (t : Int) :=
  ⟨_, (expiryOf_spec h).1, (expiryOf_spec h).2.2⟩

/-! ### keepstore -/

/-- keepstore's error mapping: nil iff the SDK verdict is ok; ExpiredError (401) iff expired;
PermissionError (403) for missing and invalid. -/
theorem C07_error_classes (cfg : KSConfig) (loc tok : Str) (nowNs : Int) :
    (ksVerify mac cfg loc tok nowNs = none ↔
      verifySignature mac loc tok cfg.ttlNs cfg.key nowNs = .ok) ∧
    (ksVerify mac cfg loc tok nowNs = some 401 ↔
      verifySignature mac loc tok cfg.ttlNs cfg.key nowNs = .expired) ∧
    (ksVerify mac cfg loc tok nowNs = some 403 ↔
      (verifySignature mac loc tok cfg.ttlNs cfg.key nowNs = .missing ∨
       verifySignature mac loc tok cfg.ttlNs cfg.key nowNs = .invalid)) := by
  unfold ksVerify
  generalize verifySignature mac loc tok cfg.ttlNs cfg.key nowNs = v
  cases v <;> decide

/-- The route variable is the first 32 characters of the path (lowercase hex), and a routed
locator contains no `/`. -/
theorem C07_route_hash {loc h : Str} (e : routeHash loc = some h) :
    h = loc.take 32 ∧ h.length = 32 ∧ h.all isLowerHex = true ∧ ∀ c ∈ loc, c ≠ '/' := by
  unfold routeHash at e
  simp only [Option.ite_none_right_eq_some, Bool.and_eq_true, decide_eq_true_eq] at e
  obtain ⟨hc, e⟩ := e
  have hrest : loc.take 32 = h ∧ Free '/' (loc.drop 32) := by
    split at e
    · rename_i hd
      exact ⟨Option.some.inj e, hd ▸ free_nil _⟩
    · rename_i hints hd
      simp only [Option.ite_none_right_eq_some, List.all_eq_true, bne_iff_ne] at e
      exact ⟨Option.some.inj e.2, hd ▸ free_cons.mpr ⟨by decide, e.1.2⟩⟩
    · cases e
  obtain ⟨rfl, hfree⟩ := hrest
  refine ⟨rfl, hc.1, hc.2, ?_⟩
  rw [← List.take_append_drop 32 loc]
  exact free_append.mpr ⟨free_of_all (by decide) hc.2, hfree⟩

/-- With blob signing on, `handleGET` reaches a volume only after the full request locator
verified for the requesting token under the configured key and TTL at that moment; the hash it
reads is the signed hash. The only other non-error exit, the remote proxy, is taken only for
locators with `+R` and without `+A`. -/
theorem C07_get_requires_signature (cfg : KSConfig) (loc tok h : Str) (nowNs : Int)
    (hsign : cfg.blobSigning = true) :
    (handleGET mac cfg loc tok nowNs = .readVolume h →
      verifySignature mac loc tok cfg.ttlNs cfg.key nowNs = .ok ∧
      ∃ sig e, IsSignedLocator loc h sig e) ∧
    (handleGET mac cfg loc tok nowNs = .remoteProxy →
      containsSub ['+', 'R'] loc = true ∧ containsSub ['+', 'A'] loc = false) := by
  constructor
  · intro hget
    obtain ⟨hr, -, hok⟩ := (handleGET_readVolume_iff mac cfg loc tok h nowNs).mp hget
    obtain ⟨hash, sig, e, _, hs, _⟩ :=
      (C07_verify_iff_mac mac loc tok cfg.key cfg.ttlNs nowNs).mp (hok hsign)
    -- the route variable is the first 32 characters, which is the signed hash
    obtain ⟨size, hs1, hs2, rfl, hl, _⟩ := id hs
    rw [(C07_route_hash hr).1, List.take_left' hl]
    exact ⟨hok hsign, sig, e, hs⟩
  · unfold handleGET ksVerify
    cases routeHash loc <;> cases hc : containsSub ['+', 'R'] loc && !containsSub ['+', 'A'] loc <;>
      cases verifySignature mac loc tok cfg.ttlNs cfg.key nowNs <;> simp_all

/-- The gate is per token: a locator that keepstore serves to one token is refused with 403 for
any other token string — another uuid part of a `v2/uuid/secret` token, the bare secret, any
string at all — unless the MAC texts for the two tokens collide (`C07_message_injective`: the MAC
inputs differ as soon as the token strings differ). -/
theorem C07_get_other_token_denied (cfg : KSConfig) (loc tok tok' h : Str) (nowNs : Int)
    (hsign : cfg.blobSigning = true)
    (hget : handleGET mac cfg loc tok nowNs = .readVolume h)
    (hdiff : ∀ hash sig e, IsSignedLocator loc hash sig e →
      makePermSignature mac hash tok' e (ttlHex cfg.ttlNs) cfg.key ≠
      makePermSignature mac hash tok e (ttlHex cfg.ttlNs) cfg.key) :
    handleGET mac cfg loc tok' nowNs = .denied 403 := by
  obtain ⟨hok, sig, e, hs⟩ := (C07_get_requires_signature mac cfg loc tok h nowNs hsign).1 hget
  obtain ⟨hr, hrem, -⟩ := (handleGET_readVolume_iff mac cfg loc tok h nowNs).mp hget
  simp [handleGET, ksVerify, hr, hrem, hsign,
    C07_other_token_ttl_key_rejected mac hs hok (hdiff h sig e hs)]

/-- With blob signing on, anything that does not verify is answered before any volume access:
401 for an expired well-formed signature, 403 otherwise (400 if no route matches). -/
theorem C07_get_denied (cfg : KSConfig) (loc tok : Str) (nowNs : Int)
    (hsign : cfg.blobSigning = true)
    (hbad : verifySignature mac loc tok cfg.ttlNs cfg.key nowNs ≠ .ok) :
    handleGET mac cfg loc tok nowNs = .noRoute ∨ handleGET mac cfg loc tok nowNs = .remoteProxy ∨
    handleGET mac cfg loc tok nowNs =
      .denied (if verifySignature mac loc tok cfg.ttlNs cfg.key nowNs = .expired then 401 else 403) := by
  unfold handleGET ksVerify
  cases routeHash loc <;> cases containsSub ['+', 'R'] loc && !containsSub ['+', 'A'] loc <;>
    cases hv : verifySignature mac loc tok cfg.ttlNs cfg.key nowNs <;> simp_all

/-- The locator `handlePUT` returns (key configured, token presented, hash of 32 lowercase hex
digits, TTL ≥ 1 s, 20-byte MAC, now+TTL before 2³²) passes `handleGET`'s gate for the same token
at that moment. -/
theorem C07_put_reply_verifies (cfg : KSConfig) (hash tok : Str) (size : Nat) (nowNs : Int)
    (hl : hash.length = 32) (hx : hash.all isLowerHex = true)
    (hk : cfg.key ≠ []) (ht : tok ≠ []) (hmac : ∀ k m, (mac k m).length = 20)
    (hnow : 0 ≤ nowNs) (httl : 1000000000 ≤ cfg.ttlNs)
    (h32 : (nowNs + cfg.ttlNs) / 1000000000 < 2 ^ 32) :
    verifySignature mac (putReply mac cfg hash size tok nowNs) tok cfg.ttlNs cfg.key nowNs = .ok := by
  have hloc : IsUnsignedLocator (hash ++ '+' :: natDec size) hash :=
    ⟨[natDec size], [], by simp, hl, all_isXDigit_of_all_isLowerHex hx,
      Or.inr ⟨_, rfl, isSizeField_natDec size⟩, nofun⟩
  have h0 : 0 ≤ (nowNs + cfg.ttlNs) / 1000000000 := by omega
  have := C07_verify_sign mac (ttlNs := cfg.ttlNs) (ttlNs' := cfg.ttlNs) (nowNs := nowNs) (hs2 := [])
    hloc hk ht h0 h32 hmac nofun rfl
  simp only [hints_nil, List.append_nil] at this
  rw [putReply, if_pos (by simp [hk, ht]), this, if_neg]
  omega

example : ∃ cfg : KSConfig, cfg.key ≠ [] ∧ 1000000000 ≤ cfg.ttlNs ∧
    ((1790138044 : Int) * 1000000000 + cfg.ttlNs) / 1000000000 < 2 ^ 32 :=
  ⟨⟨true, 1209600 * 1000000000, ['k']⟩, by decide, by decide, by decide⟩


/-! ### keepstore: from the HTTP request to `handleGET` -/

/-- `GetAPIToken`: for `OAuth2`/`Bearer`, one or more whitespace characters, then a token that
does not itself start with whitespace and contains no newline, the token is returned exactly
(whatever else it contains: `@`, `+`, `/`, non-ASCII bytes); no header, or a header that does not
start with one of the two scheme words (case-sensitive), gives the empty token. -/
theorem C07_token_from_header :
    (∀ (scheme tok ws : Str),
      (scheme = ['O', 'A', 'u', 't', 'h', '2'] ∨ scheme = ['B', 'e', 'a', 'r', 'e', 'r']) →
      ws ≠ [] → (∀ c ∈ ws, isSpace c = true) →
      (∀ c r, tok = c :: r → isSpace c = false) → (∀ c ∈ tok, c ≠ '\n') →
      getAPIToken (some (scheme ++ ws ++ tok)) = tok) ∧
    getAPIToken none = [] ∧
    (∀ v, ['O', 'A', 'u', 't', 'h', '2'].isPrefixOf v = false →
      ['B', 'e', 'a', 'r', 'e', 'r'].isPrefixOf v = false → getAPIToken (some v) = []) := by
  refine ⟨fun scheme tok ws hs hws hwsall h1 h2 => ?_, rfl,
    fun v h1 h2 => by simp [getAPIToken, h1, h2]⟩
  cases ws with
  | nil => exact absurd rfl hws
  | cons w ws' =>
    obtain ⟨hw, hws'⟩ := List.forall_mem_cons.mp hwsall
    have hdw : (ws' ++ tok).dropWhile isSpace = tok := by
      rw [List.dropWhile_append_of_pos hws']
      cases tok with
      | nil => rfl
      | cons c r => simp [h1 c r rfl]
    have htw : tok.takeWhile (fun x => !decide (x = '\n')) = tok := by
      simpa using List.takeWhile_append_of_pos (l₂ := []) (p := fun x => !decide (x = '\n'))
        (fun c hc => by simpa using h2 c hc)
    rcases hs with rfl | rfl <;>
      simp [getAPIToken, List.isPrefixOf, hw, hdw, htw]

example : getAPIToken (some "Bearer  v2/zzzzz-gj3su-000000000000000/a@b+c".toList) =
    "v2/zzzzz-gj3su-000000000000000/a@b+c".toList ∧
    getAPIToken (some "bearer tok".toList) = [] ∧ getAPIToken (some "Bearertok".toList) = [] := by
  repeat rw [String.toList_ofList]
  decide +kernel

/-- From the request: with blob signing on, a GET reaches a volume only if the decoded URL path
is in canonical form (otherwise mux answers 301 before any route), contains no further `/`, and
its locator verifies for the token taken from the Authorization header. Dot segments, doubled or
trailing slashes and percent-escapes therefore cannot lead around the signature gate. -/
theorem C07_serve_requires_signature (cfg : KSConfig) (path : Str) (hdr : Option Str) (h : Str)
    (nowNs : Int) (hsign : cfg.blobSigning = true)
    (hserve : serveGET mac cfg path hdr nowNs = .handled (.readVolume h)) :
    cleanPath path = path ∧ (∀ c ∈ path.drop 1, c ≠ '/') ∧
    verifySignature mac (path.drop 1) (getAPIToken hdr) cfg.ttlNs cfg.key nowNs = .ok ∧
    ∃ sig e, IsSignedLocator (path.drop 1) h sig e := by
  unfold serveGET at hserve
  split at hserve
  · simp at hserve
  · rename_i hc
    simp only [ServeOutcome.handled.injEq] at hserve
    exact ⟨by simpa using hc,
      (C07_route_hash ((handleGET_readVolume_iff mac ..).mp hserve).1).2.2.2,
      (C07_get_requires_signature mac cfg _ _ h nowNs hsign).1 hserve⟩

example : cleanPath "//a/./b/../c/".toList = "/a/c/".toList ∧ cleanPath "/..".toList = ['/'] ∧
    cleanPath "/x+y".toList = "/x+y".toList ∧ pctDecode "/a%2Fb%41".toList = some "/a/bA".toList ∧
    pctDecode "/a%zz".toList = none := by
  repeat rw [String.toList_ofList]
  decide +kernel

/-- PUT then GET: the locator `handlePUT` writes back is routed, is not taken for a remote
request, passes the signature gate for the same token at that moment, and `handleGET` reads the
volume for exactly the hash that was PUT (hypotheses as in `C07_put_reply_verifies`; with blob
signing off the read happens without the gate). -/
theorem C07_put_then_get (cfg : KSConfig) (hash tok : Str) (size : Nat) (nowNs : Int)
    (hl : hash.length = 32) (hx : hash.all isLowerHex = true)
    (hk : cfg.key ≠ []) (ht : tok ≠ []) (hmac : ∀ k m, (mac k m).length = 20)
    (hnow : 0 ≤ nowNs) (httl : 1000000000 ≤ cfg.ttlNs)
    (h32 : (nowNs + cfg.ttlNs) / 1000000000 < 2 ^ 32) :
    handleGET mac cfg (putReply mac cfg hash size tok nowNs) tok nowNs = .readVolume hash := by
  have hok := C07_put_reply_verifies mac cfg hash tok size nowNs hl hx hk ht hmac hnow httl h32
  have hrep := putReply_fields mac cfg size nowNs hk ht (free_of_all (by decide) hx)
  refine (handleGET_readVolume_iff mac ..).mpr ⟨?_, ?_, fun _ => hok⟩
  · rw [hrep]
    refine routeHash_fields hl hx Nat.toDigits_ne_nil ?_
    simp only [List.mem_cons, List.not_mem_nil, or_false, forall_eq_or_imp, forall_eq]
    exact ⟨free_of_isSizeField (by decide) (isSizeField_natDec size),
      free_of_all (by decide) (sigField_hintChars _ _)⟩
  · have hA : containsSub ['+', 'A'] (putReply mac cfg hash size tok nowNs) = true := by
      rw [hrep]
      simpa [sigField] using containsSub_append ['+', 'A'] (hash ++ '+' :: natDec size) _
    simp [hA]

/-- The remote-proxy exit (`+R` without `+A`). Its outcomes are: 401 without a token; 400/500
decided locally; or one forwarded request to a *configured* remote cluster. None of them is a
local volume read (`GetOutcome.readVolume` is a different constructor of `handleGET`'s result, and
`Tie.C07.tie_remoteGetSkeleton` records that `remoteProxy.Get` contains no GetBlock call), so with
blob signing on the only way to local block data is `C07_get_requires_signature`. -/
theorem C07_remote_exit (configured : Str → Bool) (loc tok : Str) :
    (tok = [] → remoteProxyGet mac configured loc tok = .status 401) ∧
    (∀ c, remoteProxyGet mac configured loc tok = .status c → c = 401 ∨ c = 400 ∨ c = 500) ∧
    (∀ r l t, remoteProxyGet mac configured loc tok = .forward r l t → configured r = true ∧ tok ≠ []) := by
  unfold remoteProxyGet
  cases tok with
  | nil => simp
  | cons a as =>
    simp only [List.isEmpty_cons, Bool.false_eq_true, if_false, reduceCtorEq, false_implies, true_and]
    cases hs : splitOn '+' loc with
    | nil => simp
    | cons h parts =>
      have := remoteParts_ok mac configured (a :: as) parts [h] none nofun
      simp only
      exact ⟨fun c hc => by rw [hc] at this; exact .inr this,
        fun r l t hf => by rw [hf] at this; exact ⟨this, nofun⟩⟩

example : remoteProxyGet (fun _ _ => []) (fun r => r == "zremo".toList)
    "0123456789abcdef0123456789abcdef+3+Rzremo-abc@def+Kx".toList "v2/u/s".toList =
    .forward "zremo".toList "0123456789abcdef0123456789abcdef+3+Aabc@def+Kx".toList "v2/u/".toList := by
  repeat rw [String.toList_ofList]
  decide +kernel

/-- The `+R` exit as a whole, whatever the remote cluster does (data, refusal, temporary failure
on every retry, any other error): the answer does not depend on what the local volumes hold; block
data reaches the client only as the body a Keep service of a *configured* remote cluster delivered
for the forwarded locator and the caller's salted token; every failure of the remote cluster ends
in 404 or 502 without data. With `C07_get_requires_signature` this closes the GET handler: with
blob signing on, local block data is returned only behind the signature gate. -/
theorem C07_remote_never_local (configured : Str → Bool) (loc tok : Str)
    (remote : Str → Str → Str → RemoteReply) (ls ls' : Str → Option Str) :
    remoteProxyServe mac configured loc tok remote ls = remoteProxyServe mac configured loc tok remote ls' ∧
    (∀ b, (remoteProxyServe mac configured loc tok remote ls).body = some b →
      (remoteProxyServe mac configured loc tok remote ls).status = 200 ∧
      ∃ r l t, remoteProxyGet mac configured loc tok = .forward r l t ∧ configured r = true ∧ tok ≠ [] ∧
        remote r l t = .data b) ∧
    (∀ r l t, remoteProxyGet mac configured loc tok = .forward r l t → (∀ b, remote r l t ≠ .data b) →
      (remoteProxyServe mac configured loc tok remote ls).body = none ∧
      ((remoteProxyServe mac configured loc tok remote ls).status = 404 ∨
       (remoteProxyServe mac configured loc tok remote ls).status = 502)) := by
  refine ⟨rfl, ?_, ?_⟩
  · intro b hb
    unfold remoteProxyServe at hb ⊢
    cases hg : remoteProxyGet mac configured loc tok with
    | status c => rw [hg] at hb; cases hb
    | forward r l t =>
      rw [hg] at hb
      have hr := (remoteFinish_body_iff _ b).mp hb
      have hc := (C07_remote_exit mac configured loc tok).2.2 r l t hg
      simp only [hr]
      exact ⟨rfl, r, l, t, rfl, hc.1, hc.2, hr⟩
  · intro r l t hg hnd
    unfold remoteProxyServe
    rw [hg]
    exact remoteFinish_of_not_data hnd

example : remoteProxyServe (fun _ _ => []) (fun r => r == "zremo".toList)
    "0123456789abcdef0123456789abcdef+3+Rzremo-abc@def".toList "v2/u/s".toList (fun _ _ _ => .temporary)
    (fun _ => some "foo".toList) = ⟨404, none⟩ ∧ remoteRequests 2 .temporary = 3 ∧ remoteRequests 2 .notFound = 1 := by
  repeat rw [String.toList_ofList]
  decide +kernel

/-! ### Go and the API server outside the common range -/

/-- For every expiry (also before 2²⁸) Go's signed locator is the API server's algorithm applied
to the *zero-padded* timestamp text: the two implementations differ in nothing but the padding
of the expiry field — which is also part of the MAC input. -/
theorem C07_api_server_padding (loc tok key : Str) (exp ttlSecs frac : Nat)
    (hk : key ≠ []) (ht : tok ≠ []) (hfrac : frac < 1000000000) :
    signLocator mac loc tok (exp : Int) ((ttlSecs : Int) * 1000000000 + frac) key =
      Ref.signLocatorTs mac loc tok (padLeft 8 (natHex exp)) ttlSecs key ∧
    (exp < 2 ^ 28 → padLeft 8 (natHex exp) ≠ natHex exp) := by
  constructor
  · rw [signLocator_eq_ref mac hk ht loc exp hfrac]
    simp [fmt08x]
  · intro hlt h
    have h7 := (natHex_length_le_7 exp).mpr hlt
    have := congrArg List.length h
    simp [padLeft] at this
    omega

/-- Consequently a locator signed by the API server with an expiry before 2²⁸ (7 or fewer hex
digits) is not even recognised by Go's verifier: `missing`. (Irrelevant in practice — 1978 — but
it is the exact boundary of `C07_same_as_api_server`.) -/
theorem C07_go_rejects_short_expiry {loc hash sig ts tok key : Str} {ttlNs nowNs : Int}
    (hloc : IsUnsignedLocator loc hash) (hs : sig.all isXDigit = true) (hts : ts.all isXDigit = true)
    (hlen : sig.length + ts.length ≠ 48) :
    verifySignature mac (loc ++ ['+', 'A'] ++ sig ++ ['@'] ++ ts) tok ttlNs key nowNs = .missing := by
  obtain ⟨size, hs1, rfl, hl, hx, hsize, hh⟩ := hloc
  apply verify_of_no_match
  have hstr : hash ++ hints (size ++ hs1) ++ ['+', 'A'] ++ sig ++ ['@'] ++ ts =
      hash ++ hints (size ++ hs1 ++ [sigField sig ts]) := by
    simp [hints_append, sigField]
  rw [hstr, matchSigned_fields hl hx hsize hh
    (by simpa using free_sigField (free_of_all (by decide) hs) (free_of_all (by decide) hts))
    (fun _ hf => by cases hf; exact not_size_not_hint_of_A rfl)]
  have : parseSigField (sigField sig ts) = none :=
    parseSigField_of_length (by simp; omega)
  simp [this]

example : (List.replicate 40 'a').length + (natHex 0xfffffff).length ≠ 48 := by decide

/-! ### SignManifest -/

/-- `SignManifest` rewrites whitespace-free fields and nothing else. Every manifest text (any
bytes) is, in exactly the way `render` spells out, a first field followed by (whitespace
character, field) pairs; the signed manifest is the same layout with `signToken` applied to every
field: the same whitespace characters in the same places (in particular
`filter isSpace` of the text is unchanged), and the new fields are again whitespace-free. -/
theorem C07_sign_manifest_preserves (m tok key : Str) (exp ttlNs : Int) :
    ∃ f0 rest, IsLayout f0 rest ∧ m = render f0 rest ∧
      signManifest mac m tok exp ttlNs key =
        render (signToken mac tok exp ttlNs key f0)
          (rest.map (fun p => (p.1, signToken mac tok exp ttlNs key p.2))) ∧
      IsLayout (signToken mac tok exp ttlNs key f0)
        (rest.map (fun p => (p.1, signToken mac tok exp ttlNs key p.2))) ∧
      (signManifest mac m tok exp ttlNs key).filter isSpace = m.filter isSpace := by
  obtain ⟨f0, rest, hl, rfl⟩ := exists_layout m
  have hsm : signManifest mac (render f0 rest) tok exp ttlNs key =
      render (signToken mac tok exp ttlNs key f0)
        (rest.map (fun p => (p.1, signToken mac tok exp ttlNs key p.2))) := by
    simpa [signManifest] using mapFields_render (signToken mac tok exp ttlNs key) [] f0 rest hl
  have hl' := isLayout_map (fun _ => signToken_noSpace mac tok exp ttlNs key) hl
  refine ⟨f0, rest, hl, rfl, hsm, hl', ?_⟩
  rw [hsm, filter_isSpace_render hl', filter_isSpace_render hl]
  simp [List.map_map, Function.comp_def]

/-- The layout used in `C07_sign_manifest_preserves` is the only one a text has, so "the fields"
and "the whitespace" of a manifest are well defined. -/
theorem C07_layout_unique {f0 g0 : Str} {rest rest' : List (Char × Str)}
    (h1 : IsLayout f0 rest) (h2 : IsLayout g0 rest') (h : render f0 rest = render g0 rest') :
    f0 = g0 ∧ rest = rest' := by
  have := congrArg layoutOf h
  rw [layoutOf_render h1, layoutOf_render h2] at this
  exact Prod.mk.inj this

example : IsLayout ['.'] [(' ', ['a']), ('\n', [])] ∧ render ['.'] [(' ', ['a']), ('\n', [])] = ". a\n".toList := by
  rw [String.toList_ofList]
  refine ⟨⟨by unfold NoSpace; decide, by decide, by unfold NoSpace; decide⟩, by decide⟩

/-- the empty field (between two adjacent whitespace characters, or at either end) stays empty, so
applying the callback to it — which `ReplaceAllStringFunc(`\S+`)` never does — changes nothing -/
theorem C07_sign_token_empty (tok key : Str) (exp ttlNs : Int) :
    signToken mac tok exp ttlNs key [] = [] := by
  simp [signToken, isBlockToken]

/-- A field that does not begin with 32 lowercase hex digits (stream names, file tokens, anything
else) is returned byte for byte. -/
theorem C07_sign_token_other (tok key t : Str) (exp ttlNs : Int) (h : isBlockToken t = false) :
    signToken mac tok exp ttlNs key t = t := by
  simp [signToken, h]

/-- A block token `h+f₁+…+fₙ` becomes `h`, then the fields not starting with `A` unchanged and in
order (size and all other hints), then exactly one fresh signature hint for `h` — computed as in
`C07_message_format`. Without key or token the old signatures are dropped and none is added. -/
theorem C07_sign_token_block {tok key t h : Str} {fs : List Str} {exp ttlNs : Int}
    (hb : isBlockToken t = true) (e : splitOn '+' t = h :: fs) :
    (key ≠ [] → tok ≠ [] →
      signToken mac tok exp ttlNs key t =
        h ++ hints (fs.filter notPermHint ++
          [sigField (makePermSignature mac h tok (fmt08x exp) (ttlHex ttlNs) key) (fmt08x exp)])) ∧
    ((key = [] ∨ tok = []) →
      signToken mac tok exp ttlNs key t = h ++ hints (fs.filter notPermHint)) := by
  refine ⟨fun hk ht => ?_, fun h0 => ?_⟩
  · rw [signToken, if_pos hb, stripPermHints_fields e,
      signLocator_hints mac hk ht (splitOn_eq_cons e).2.1]
  · have : (key.isEmpty || tok.isEmpty) = true := by
      rcases h0 with rfl | rfl <;> simp
    simp [signToken, hb, signLocator, this, stripPermHints_fields e]

/-- Dropping all signature hints from the signed token gives the same text as dropping them from
the original token: hash, size and other hints are untouched. -/
theorem C07_sign_token_strip {tok key t : Str} {exp ttlNs : Int} (hb : isBlockToken t = true) :
    stripPermHints (signToken mac tok exp ttlNs key t) = stripPermHints t := by
  obtain ⟨fs, e⟩ := takeWhile_eq_head_splitOn '+' t
  obtain ⟨_, hh, hfs⟩ := splitOn_eq_cons e
  have hff : ∀ g ∈ fs.filter notPermHint, Free '+' g := fun g hg => hfs g (List.mem_filter.mp hg).1
  rw [stripPermHints_fields e]
  by_cases h0 : key = [] ∨ tok = []
  · rw [(C07_sign_token_block mac hb e).2 h0, stripPermHints, stripPerm_fields false hh hff,
      List.filter_filter]
    simp
  · rw [(C07_sign_token_block mac hb e).1 (fun h => h0 (.inl h)) (fun h => h0 (.inr h)),
      stripPermHints, stripPerm_fields false hh, List.filter_append, List.filter_filter]
    · simp [show ∀ x y, notPermHint (sigField x y) = false from fun _ _ => rfl]
    · intro g hg
      rcases List.mem_append.mp hg with hg | hg
      · exact hff g hg
      · rw [List.mem_singleton.mp hg]
        exact free_of_all (by decide) (sigField_hintChars _ _)

/-- Every locator of a manifest that is well-formed once its old signatures are dropped (32-digit
hash, optional size, ordinary hints) verifies after `SignManifest` for the signing token, key and
TTL until the expiry passes — whatever signatures (valid, stale or junk) it carried before. -/
theorem C07_signed_manifest_locator_verifies {tok key t h : Str} {fs size hs : List Str}
    {exp ttlNs nowNs : Int}
    (e : splitOn '+' t = h :: fs) (hl : h.length = 32) (hx : h.all isLowerHex = true)
    (hkeep : fs.filter notPermHint = size ++ hs)
    (hsize : size = [] ∨ ∃ d, size = [d] ∧ isSizeField d = true)
    (hh : ∀ f ∈ hs, isOtherHint f = true)
    (hk : key ≠ []) (ht : tok ≠ []) (h0 : 0 ≤ exp) (h32 : exp < 2 ^ 32)
    (hmac : ∀ k m, (mac k m).length = 20) :
    verifySignature mac (signToken mac tok exp ttlNs key t) tok ttlNs key nowNs =
      if exp * 1000000000 < nowNs then .expired else .ok := by
  have hb : isBlockToken t = true := by
    rw [(splitOn_eq_cons e).1]
    simp [isBlockToken, List.take_left' hl, hl, hx]
  have hloc : IsUnsignedLocator (stripPermHints t) h :=
    ⟨size, hs, by rw [stripPermHints_fields e, hkeep], hl, all_isXDigit_of_all_isLowerHex hx, hsize, hh⟩
  have := C07_verify_sign mac (ttlNs := ttlNs) (ttlNs' := ttlNs) (nowNs := nowNs) (hs2 := [])
    hloc hk ht h0 h32 hmac (by simp) rfl
  simp only [hints_nil, List.append_nil] at this
  simpa [signToken, hb] using this

example : splitOn '+' "0123456789abcdef0123456789abcdef+3+Afoo+Kx".toList =
    ["0123456789abcdef0123456789abcdef".toList, ['3'], ['A', 'f', 'o', 'o'], ['K', 'x']] ∧
    (["3".toList, "Afoo".toList, "Kx".toList].filter notPermHint = [['3']] ++ [['K', 'x']]) := by
  repeat rw [String.toList_ofList]
  decide +kernel

/-! ### the implementation's MAC: HMAC-SHA1

The theorems above that parse a signature need `∀ k m, (mac k m).length = 20`. For the MAC the
code uses — HMAC-SHA1, here the executable `hmacSha1` the Lean driver runs and the correspondence
check compares with Go's `crypto/hmac` on every case — this is a theorem, so the round-trip
statements hold for it without any MAC hypothesis. -/

/-- HMAC-SHA1 yields 20 bytes for every key and message (any lengths, any bytes). -/
theorem C07_hmac_sha1_is_20_bytes (key msg : Str) : (hmacSha1 key msg).length = 20 :=
  hmacSha1_length key msg

/-- The signature text under HMAC-SHA1 is always 40 lowercase hex digits. -/
theorem C07_hmac_signature_shape (hash tok e l key : Str) :
    (makePermSignature hmacSha1 hash tok e l key).length = 40 ∧
      (makePermSignature hmacSha1 hash tok e l key).all isLowerHex = true :=
  C07_signature_is_lowercase_hex hmacSha1 hmacSha1_length hash tok e l key

/-- `C07_verify_sign` for HMAC-SHA1, no MAC hypothesis left. -/
theorem C07_hmac_verify_sign {loc hash tok key : Str} {exp ttlNs ttlNs' nowNs : Int} {hs2 : List Str}
    (hloc : IsUnsignedLocator loc hash) (hk : key ≠ []) (ht : tok ≠ [])
    (h0 : 0 ≤ exp) (h32 : exp < 2 ^ 32)
    (hh2 : ∀ f ∈ hs2, isOtherHint f = true) (httl : ttlSeconds ttlNs' = ttlSeconds ttlNs) :
    verifySignature hmacSha1 (signLocator hmacSha1 loc tok exp ttlNs key ++ hints hs2) tok ttlNs' key nowNs =
      if exp * 1000000000 < nowNs then .expired else .ok :=
  C07_verify_sign hmacSha1 hloc hk ht h0 h32 hmacSha1_length hh2 httl

/-- `C07_put_then_get` for HMAC-SHA1: what keepstore's `handlePUT` returns is served by
`handleGET` to the same token. -/
theorem C07_hmac_put_then_get (cfg : KSConfig) (hash tok : Str) (size : Nat) (nowNs : Int)
    (hl : hash.length = 32) (hx : hash.all isLowerHex = true)
    (hk : cfg.key ≠ []) (ht : tok ≠ [])
    (hnow : 0 ≤ nowNs) (httl : 1000000000 ≤ cfg.ttlNs)
    (h32 : (nowNs + cfg.ttlNs) / 1000000000 < 2 ^ 32) :
    handleGET hmacSha1 cfg (putReply hmacSha1 cfg hash size tok nowNs) tok nowNs = .readVolume hash :=
  C07_put_then_get hmacSha1 cfg hash tok size nowNs hl hx hk ht hmacSha1_length hnow httl h32

/-- `C07_signed_manifest_locator_verifies` for HMAC-SHA1. -/
theorem C07_hmac_signed_manifest_locator_verifies {tok key t h : Str} {fs size hs : List Str}
    {exp ttlNs nowNs : Int}
    (e : splitOn '+' t = h :: fs) (hl : h.length = 32) (hx : h.all isLowerHex = true)
    (hkeep : fs.filter notPermHint = size ++ hs)
    (hsize : size = [] ∨ ∃ d, size = [d] ∧ isSizeField d = true)
    (hh : ∀ f ∈ hs, isOtherHint f = true)
    (hk : key ≠ []) (ht : tok ≠ []) (h0 : 0 ≤ exp) (h32 : exp < 2 ^ 32) :
    verifySignature hmacSha1 (signToken hmacSha1 tok exp ttlNs key t) tok ttlNs key nowNs =
      if exp * 1000000000 < nowNs then .expired else .ok :=
  C07_signed_manifest_locator_verifies hmacSha1 e hl hx hkeep hsize hh hk ht h0 h32 hmacSha1_length

/-! ### the API server's verifier (blob.rb `verify_signature!`, transcription `Ref.verifySignature`)

Ruby is not available in the sandbox: the transcription (Model/C07_Ruby.lean, Ruby's `split`,
`=~`, `to_i(16)` semantics spelled out there) is tied to the source lines but not run. -/

/-- On every string of the shape blob.rb relies on (`RbShape`: non-empty first field, exactly one
field starting with `A`, of the form `A<sig>@<ts>`; nothing required of the hash or the field
lengths) with a hex timestamp field, `verify_signature!` recovers hash, signature and timestamp,
and answers: not base 16 if the timestamp has an uppercase digit; expired if its value is below
`now` (whole seconds); invalid unless the signature text equals the HMAC hex text of
`hash@token@timestamp@ttl-hex`; otherwise true. It never raises `NoMethodError` there. -/
theorem C07_api_server_verify {s hash sig e : Str} (h : RbShape s hash sig e) (ex : e.all isXDigit = true)
    (tok key : Str) (ttlSecs : Nat) (nowSec : Int) :
    ∃ t : Nat, hexNat? e 0 = some t ∧
      Ref.verifySignature mac s tok key ttlSecs nowSec =
        if e.all isLowerHex = false then .notBase16
        else if (t : Int) < nowSec then .expired
        else if sig ≠ Ref.generateSignature mac key hash tok e (natHex ttlSecs) then .invalid
        else .ok :=
  rb_verify_of_shape mac h ex tok key ttlSecs nowSec

/-- Every string of Go's `SignedLocatorRe` grammar has that shape, with the same hash, signature
and expiry groups: the two verifiers parse it identically. -/
theorem C07_go_grammar_within_api_server_shape {s hash sig e : Str} (h : IsSignedLocator s hash sig e) :
    RbShape s hash sig e ∧ e.all isXDigit = true := by
  obtain ⟨size, hs1, hs2, rfl, hl, hx, hsize, hh1, sl, sx, el, ex, hh2⟩ := h
  exact ⟨⟨size ++ hs1, hs2, rfl, fun h0 => by simp [h0] at hl, free_of_all (by decide) hx,
    plainFields hsize hh1, plainFields (size := []) (.inl rfl) hh2,
    free_of_all (by decide) sx, free_of_all (by decide) sx,
    free_of_all (by decide) ex, free_of_all (by decide) ex, fun h0 => by simp [h0] at el⟩, ex⟩

/-- Whatever Go's `VerifySignature` accepts (for a TTL of `ttlSecs` whole seconds plus a sub-second
rest, and an expiry field in lowercase — the only form either signer produces), the API server
accepts at the same moment (`now` = the clock truncated to whole seconds). The converse fails only
in two documented ways: blob.rb compares whole seconds, so it still accepts during the second that
starts at the expiry instant (`C07_expired_within_expiry_second`), and it accepts strings outside
Go's grammar (`C07_api_server_verify` needs no 32-digit hash, no 40/8-digit fields). -/
theorem C07_api_server_accepts_what_go_accepts {s tok key : Str} {ttlSecs frac : Nat} {nowNs : Int}
    (hfrac : frac < 1000000000)
    (hlow : ∀ hash sig e, IsSignedLocator s hash sig e → e.all isLowerHex = true)
    (hok : verifySignature mac s tok ((ttlSecs : Int) * 1000000000 + frac) key nowNs = .ok) :
    Ref.verifySignature mac s tok key ttlSecs (nowNs / 1000000000) = .ok := by
  obtain ⟨hash, sig, e, t, hs, hv, hnow, hsig⟩ := (C07_verify_iff_mac mac s tok key _ nowNs).mp hok
  obtain ⟨hshape, hx⟩ := C07_go_grammar_within_api_server_shape hs
  obtain ⟨t', hv', hrb⟩ := rb_verify_of_shape mac hshape hx tok key ttlSecs (nowNs / 1000000000)
  obtain rfl : t = t' := Option.some.inj (hv.symm.trans hv')
  have hnot : ¬ ((t : Int) < nowNs / 1000000000) := by omega
  rw [hrb, hlow hash sig e hs, hsig, ttlHex_of_nat hfrac, makePermSignature_eq_ref]
  simp [hnot]

example : RbShape "ab+3+Asig@ff+Kx".toList ['a', 'b'] "sig".toList ['f', 'f'] := by
  repeat rw [String.toList_ofList]
  exact ⟨[['3']], [['K', 'x']], by decide, by decide, by decide, by decide, by decide, by decide,
    by decide, by decide, by decide, by decide⟩

end ArvVerif.C07
