/-
C08 — a collection filesystem behaves like an ordinary in-memory filesystem.
Property theorems, FILE LAYER (byte-level refinement of filenode.seek/Read/Write/truncate and of the
background flush). The directory/handle layer and the history theorem are in Props/C08_History.lean.

Every theorem holds for every block size limit `max ≥ 1`, every locator function `hash` without
collisions (`Function.Injective hash`, the explicit collision-freeness hypothesis), every Keep
store in which blocks are filed under their own locator (`StoreOK`), every well-formed file (`WF`:
size = Σ segment lengths, no zero-length segment, stored segments inside their block and the block
present in Keep, mem segments ≤ max, pending-flush snapshots in Keep) and every pointer satisfying
`PtrOK` — in particular every *stale* pointer (any segment coordinates when the `repacked` stamp
differs, which is what `filehandle.Seek` produces). Where a theorem makes or keeps pointers it also asks
`0 ≤ fn.repacked`: fresh pointers carry the stamps 0 or -1, which must not lie above the file's counter.
-/
import ArvVerif.Proofs.C08_Write
import ArvVerif.Proofs.C08_Read
namespace ArvVerif.C08

variable {max : Nat} {hash : Bytes → Loc} {st : Store}

/-- **Well-formedness is an invariant.** The empty file is well-formed; `truncate` and `Write`
(followed by the background flushes settling) keep it, keep the `repacked` counter non-negative and
keep the Keep store consistent. All four structural clauses are really maintained by the code:
size = Σ lengths, no zero-length segment, stored segments inside their (present) block, mem segments
≤ maxBlockSize. -/
theorem C08_wf_invariant (hinj : Function.Injective hash) (hmax : 1 ≤ max) :
    WF max hash st FileNode.empty ∧
    (∀ fn n, WF max hash st fn → 0 ≤ fn.repacked →
      ∃ fn', truncate max fn n = some fn' ∧ WF max hash st fn' ∧ 0 ≤ fn'.repacked) ∧
    (∀ fn ptr p, StoreOK hash st → WF max hash st fn → 0 ≤ fn.repacked → PtrOK fn ptr →
      ∃ w, write hash max st fn ptr p = WriteRes.done w p.length ∧ StoreOK hash w.st ∧ StoreExt st w.st ∧
        WF max hash w.st w.fn ∧ WF max hash w.st (settle hash w.fn) ∧ 0 ≤ (settle hash w.fn).repacked) := by
  refine ⟨WF.empty, ?_, ?_⟩
  · intro fn n hwf hrep
    obtain ⟨fn', h1, h2⟩ := truncate_spec (hash := hash) (st := st) hmax hwf hrep n
    exact ⟨fn', h1, h2.wf, h2.rep hrep⟩
  · intro fn ptr p hok hwf hrep hptr
    obtain ⟨w, h1, h2⟩ := write_spec hinj hmax hok hwf hrep hptr p
    obtain ⟨s1, _, _, s4, _⟩ := settle_spec h2.wf
    exact ⟨w, h1, h2.ok, h2.ext, h2.wf, s1, by rw [s4]; exact h2.rep⟩

/-- **seek** puts any `PtrOK` pointer (in particular any stale one) into normal form without
panicking: same offset, current stamp, and coordinates that are exactly EOF `(len, 0)` when the
offset is at/after the end, else strictly inside the segment that holds the offset. -/
theorem C08_seek_refines {fn : FileNode} {p : Ptr} (hwf : WF max hash st fn) (hp : PtrOK fn p) :
    ∃ q, seek fn p = some q ∧ q.off = p.off ∧ q.repacked = fn.repacked ∧
      ((p.off ≥ fn.size ∧ q.segIdx = fn.segs.length ∧ q.segOff = 0) ∨
       (p.off < fn.size ∧ ∃ s, fn.segs[q.segIdx]? = some s ∧ q.segOff < s.len ∧
          sumLen (fn.segs.take q.segIdx) + q.segOff = p.off)) :=
  seek_spec hwf hp

/-- **Read** (one `filenode.Read` call with a buffer of `want` bytes) never panics or fails with an
I/O error, returns exactly the file's bytes at the pointer's offset — a prefix of what the plain
model's `pread` returns, non-empty unless `want = 0` or the offset is at/after EOF —, advances the
offset by the number of bytes returned, leaves a valid pointer, and reports EOF exactly when the
offset is at/after the end or the data ran out before `want` bytes. -/
theorem C08_read_refines {fn : FileNode} {p : Ptr} (hwf : WF max hash st fn) (hp : PtrOK fn p) (want : Nat) :
    ∃ r, readAt st fn p want = some r ∧
      r.data = specRead (abs st fn) p.off r.data.length ∧ r.data.length ≤ want ∧
      r.ptr.off = p.off + r.data.length ∧ PtrOK fn r.ptr ∧ r.err ≠ IOErr.io ∧
      (r.err = IOErr.eof ↔ (p.off ≥ fn.size ∨ (p.off + r.data.length = fn.size ∧ r.data.length < want))) ∧
      (r.err = IOErr.ok → 0 < want → 0 < r.data.length) := by
  obtain ⟨r, h1, h2⟩ := readAt_spec hwf hp want
  exact ⟨r, h1, h2.data_eq, h2.len_le, h2.off_eq, h2.ptr_ok, h2.not_io, h2.eof_iff, h2.progress⟩

/-- **Read, exactly which prefix**: a `Read` call before EOF delivers the plain model's `pread` cut
at the end of the segment that holds the offset — `min want (bytes left in that segment)` bytes, no
more, no fewer. (So the short-read freedom is fully determined by the segment list.) -/
theorem C08_read_exact {fn : FileNode} {p : Ptr} (hwf : WF max hash st fn) (hp : PtrOK fn p) (want : Nat)
    (hlt : p.off < fn.size) :
    ∃ r i s o, readAt st fn p want = some r ∧ fn.segs[i]? = some s ∧ o < s.len ∧
      sumLen (fn.segs.take i) + o = p.off ∧
      r.data = specRead (abs st fn) p.off (min want (s.len - o)) := by
  obtain ⟨r, h1, h2⟩ := readAt_spec hwf hp want
  obtain ⟨i, s, o, e1, e2, e3, e4⟩ := h2.exact hlt
  exact ⟨r, i, s, o, h1, e1, e2, e3, by rw [← e4]; exact h2.data_eq⟩

/-- **truncate** equals the plain model's truncate (cut, or zero-fill when growing), for any
target size, and bumps `repacked` whenever it changes anything (so every other pointer is
revalidated). -/
theorem C08_truncate_refines {fn : FileNode} (hmax : 1 ≤ max) (hwf : WF max hash st fn)
    (hrep : 0 ≤ fn.repacked) (n : Nat) :
    ∃ fn', truncate max fn n = some fn' ∧ WF max hash st fn' ∧
      abs st fn' = specTruncate (abs st fn) n ∧ fn'.size = n ∧
      (∀ q, PtrOK fn q → PtrOK fn' q) := by
  obtain ⟨fn', h1, h2⟩ := truncate_spec (hash := hash) (st := st) hmax hwf hrep n
  exact ⟨fn', h1, h2.wf, h2.abs_eq, h2.size_eq, h2.ptrs⟩

/-- **Write** (`filenode.Write` from any `PtrOK` start pointer, data of any length, straddling any
number of segment and block boundaries, including the implicit zero-extension when the pointer is
beyond EOF) never panics or hangs, consumes all the data, produces exactly the plain model's
`pwrite` result, advances the offset by `p.length`, and keeps every other handle's pointer valid. -/
theorem C08_write_refines (hinj : Function.Injective hash) (hmax : 1 ≤ max) {fn : FileNode} {ptr : Ptr}
    (hok : StoreOK hash st) (hwf : WF max hash st fn) (hrep : 0 ≤ fn.repacked) (hptr : PtrOK fn ptr) (p : Bytes) :
    ∃ w, write hash max st fn ptr p = WriteRes.done w p.length ∧
      abs w.st w.fn = specWrite (abs st fn) ptr.off p ∧
      w.ptr.off = ptr.off + p.length ∧ PtrOK w.fn w.ptr ∧
      WF max hash w.st w.fn ∧ StoreExt st w.st ∧ StoreOK hash w.st ∧
      (∀ q, PtrOK fn q → PtrOK w.fn q) := by
  obtain ⟨w, h1, h2⟩ := write_spec hinj hmax hok hwf hrep hptr p
  exact ⟨w, h1, h2.abs_eq, h2.off, h2.ptr_ok, h2.wf, h2.ext, h2.ok, h2.others⟩

/-- O_APPEND: the repositioned pointer is valid, so an append-mode write is `pwrite` at EOF. -/
theorem C08_append_refines (hinj : Function.Injective hash) (hmax : 1 ≤ max) {fn : FileNode}
    (hok : StoreOK hash st) (hwf : WF max hash st fn) (hrep : 0 ≤ fn.repacked) (p : Bytes) :
    ∃ w, write hash max st fn (appendPtr fn) p = WriteRes.done w p.length ∧
      abs w.st w.fn = abs st fn ++ p := by
  obtain ⟨w, h1, h2⟩ := write_spec hinj hmax hok hwf hrep (appendPtr_ok fn) p
  refine ⟨w, h1, ?_⟩
  rw [h2.abs_eq]
  have hlen := hwf.abs_length
  show specWrite (abs st fn) fn.size p = _
  rw [specWrite_of_le _ _ _ (by omega), List.take_of_length_le (by omega), List.drop_of_length_le (by omega)]
  simp

/-- **Termination of the Write loop**: from a well-formed state every iteration consumes at least
one byte (`0 < k`), so `p.length` iterations always suffice — with any larger fuel the loop ends in
`done` with the same byte count, never in `hang` or `panic`. (A zero-length segment or a pointer
sitting at the end of a segment is where the real loop would spin; `WF` and `seek` exclude both.) -/
theorem C08_write_terminates (hinj : Function.Injective hash) (hmax : 1 ≤ max) {w : WState}
    (hok : StoreOK hash w.st) (hwf : WF max hash w.st w.fn) (hpos : WPos w.fn w.ptr) :
    (∀ p, p ≠ [] → ∃ w' k, writeStep hash max w p = some (w', k) ∧ 0 < k ∧ k ≤ p.length) ∧
    (∀ p fuel, p.length ≤ fuel → ∃ w', writeLoop hash max fuel w p 0 = WriteRes.done w' p.length) := by
  constructor
  · intro p hp
    obtain ⟨w', k, h1, h2⟩ := step_spec hinj hmax hp hok hwf hpos
    exact ⟨w', k, h1, h2.k_pos, h2.k_le⟩
  · intro p fuel hf
    obtain ⟨w', h1, _⟩ := loop_spec hinj hmax fuel w p 0 hf hok hwf hpos
    exact ⟨w', by rw [h1, Nat.zero_add]⟩

/-- **Flushes are invisible (1)**: replacing a mem segment by a stored segment whose block holds the
same bytes — at any index, at any time — leaves the content unchanged. -/
theorem C08_flush_invisible {segs : List Seg} {i : Nat} {buf : Bytes} {fl : Flush} {loc : Loc}
    {size off : Nat} {b : Bytes} (hseg : segs[i]? = some (Seg.mem buf fl)) (hb : st loc = some b)
    (hsame : (b.drop off).take buf.length = buf) :
    absSegs st (segs.set i (Seg.stored loc size off buf.length)) = absSegs st segs := by
  obtain ⟨pre, post, rfl, rfl⟩ := exists_split hseg
  rw [set_mid]
  simp only [absSegs_append, absSegs_cons, Seg.bytes_mem, Seg.bytes_stored hb, hsame]

/-- **Flushes are invisible (2)**: pruneMemSegments' background goroutines (`settle`, running at
any quiescent point after the writer released the lock) and the PutB calls of `pruneSegs` change
neither the content nor the size nor any pointer's validity, and keep the file well-formed. -/
theorem C08_flush_invisible_settle {fn : FileNode} (hwf : WF max hash st fn) :
    WF max hash st (settle hash fn) ∧ abs st (settle hash fn) = abs st fn ∧
    (settle hash fn).size = fn.size ∧ ∀ q, PtrOK fn q → PtrOK (settle hash fn) q := by
  obtain ⟨h1, h2, h3, _, h5⟩ := settle_spec hwf
  exact ⟨h1, h2, h3, h5⟩

/-! ### Non-vacuity: the hypotheses are satisfiable by a non-trivial instance -/

example : Function.Injective (id : Bytes → Loc) := fun _ _ h => h

/-- Keep holding one block, filed under its own locator. -/
def exStore : Store := Store.put id (fun _ => none) [1, 2, 3, 4]

example : StoreOK id exStore := Store.put_ok (fun _ _ h => by cases h) _

/-- a file of 4 bytes: two bytes of the stored block followed by a two-byte mem segment -/
def exFile : FileNode := ⟨[Seg.stored [1, 2, 3, 4] 4 1 2, Seg.mem [9, 8] Flush.none], 4, 3⟩

theorem exFile_wf : WF 2 id exStore exFile :=
  ⟨rfl, List.forall_mem_cons.mpr ⟨⟨by decide, by decide, [1, 2, 3, 4], by simp [exStore, Store.put], rfl⟩,
    List.forall_mem_cons.mpr ⟨⟨by decide, by decide, nofun⟩, nofun⟩⟩⟩

example : abs exStore exFile = [2, 3, 9, 8] := by simp [abs, absSegs, exFile, Seg.bytes, exStore, Store.put]

/-- a stale pointer (wrong stamp, nonsense coordinates) satisfies `PtrOK` -/
example : PtrOK exFile ⟨1, 17, 42, -1⟩ := ⟨by decide, fun h => by cases h⟩

/-- a current pointer into the middle of the stored segment -/
example : PtrOK exFile ⟨1, 0, 1, 3⟩ :=
  ⟨by decide, fun _ => Or.inr ⟨_, rfl, by decide, rfl⟩⟩

/-- `WPos` holds for it as well (hypothesis of `C08_write_terminates`) -/
example : WPos exFile ⟨1, 0, 1, 3⟩ := ⟨rfl, Or.inr ⟨_, rfl, by decide, rfl⟩⟩

/-- Running the model on that instance: a write of 2 bytes at offset 1 through a stale pointer with
maxBlockSize 2 splits the stored segment, fills a fresh mem segment, then overwrites the first byte
of the next mem segment; content and segment shape as expected. -/
example :
    (match write id 2 exStore exFile ⟨1, 17, 42, -1⟩ [7, 7] with
     | WriteRes.done w n => some (abs w.st w.fn, n, w.fn.segs.map Seg.len)
     | _ => none) = some ([2, 7, 7, 8], 2, [1, 1, 2]) := by decide

end ArvVerif.C08
