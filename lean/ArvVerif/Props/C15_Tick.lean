/-
C15 property theorems, part 3: the weak-fairness premise P2 of `C15_converges` derived from the
periodic loops of the dispatcher (Model/C15_Tick.lean), and the start-up / shut-down order.

What remains assumed of the dispatcher is stated per kind as `Served`: the loop that serves the kind
is driven by a wake-up stream (a ticker, or the notifications another loop sends), each of its handler
runs contains a step at which the kind is taken if its guard holds (the response theorems of
Props/C15.lean say so for the configuration in front of it), and that step is not earlier than the
run's begin in a time that never runs backwards. That the loop keeps running — that ticks dropped
while a slow handler is busy do not starve it, and how long it can take — is proved.
-/
import ArvVerif.Proofs.C15_Tick
import ArvVerif.Props.C15_Live
namespace ArvVerif.C15

/-- **A ticker loop never stalls and its period is bounded.** For the loop `for range ticker.C {
handler }` over a ticker of period `p > 0` (one-slot channel, ticks dropped while full): successive
handler runs are strictly ordered, the handler has returned before the next run begins, and the next
run begins at most `max (dur j) p` after run `j` began. -/
theorem C15_tick_loop (p : Nat) (start dur : Nat → Nat) (h : Driven (periodic p) start dur) (j : Nat) :
    start j < start (j + 1) ∧ start j + dur j ≤ start (j + 1) ∧ start (j + 1) ≤ start j + max (dur j) p :=
  ⟨driven_strict h j, driven_after_handler h j, driven_gap (periodic_gap p) h j⟩

/-- non-vacuity: a handler that takes 1, 5, 1, 1, … time units under a ticker of period 2 runs at
2, 4, 9, 10 (the tick of time 6 waited in the buffer, the one of time 8 was dropped), 12, … -/
example : max (2 + 1) ((2 / 2 + 1) * 2) = 4 ∧ max (4 + 5) ((4 / 2 + 1) * 2) = 9 ∧
    max (9 + 1) ((9 / 2 + 1) * 2) = 10 := by decide

/-- non-vacuity of `Driven`: a handler that returns at once runs at every tick -/
example (p : Nat) (hp : 0 < p) : Driven (periodic p) (periodic p) (fun _ => 0) := by
  have ht := periodic_ticks hp
  exact ⟨rfl, fun j => ⟨_, firstAfter_succ (fun i => Nat.le_of_lt (ht i)) (Nat.le_refl _) (ht j),
    (Nat.max_eq_right (Nat.le_of_lt (ht j))).symm⟩⟩

/-- such loops exist for every handler: whatever the durations, the relation `Driven` can be
continued (the loop never blocks for ever) -/
theorem C15_tick_never_blocks (ticks : Nat → Nat) (ht : Ticks ticks) (x : Nat) : ∃ t, FirstAfter ticks x t :=
  exists_firstAfter (fun i => Nat.le_of_lt (ht i)) (unbounded_of_strict ht) x

/-- **Every window contains a run.** Handler durations at most `D`, wake-up gaps at most `G`: after
the first run, every time window longer than `max D G` contains the begin of a run. -/
theorem C15_tick_window (ticks start dur : Nat → Nat) (G D : Nat) (hg : GapLe ticks G)
    (h : Driven ticks start dur) (hd : ∀ j, dur j ≤ D) (x : Nat) (hx : start 0 ≤ x) :
    ∃ j, x < start j ∧ start j ≤ x + max D G := by
  apply window (driven_strict h) _ x hx
  intro j
  have := driven_gap hg h j
  have := hd j
  omega

/-- **Loops compose.** The returns of the handler of a loop (queue poll: `queue.Update()` notifies the
scheduler when it returns) are a wake-up stream for another loop (`Scheduler.run`), with gaps at most
`G + D`; so the second loop's runs are at most `max (its own duration) (G + D)` apart. -/
theorem C15_tick_compose (ticks start dur start2 dur2 : Nat → Nat) (G D : Nat) (hg : GapLe ticks G)
    (h : Driven ticks start dur) (hd : ∀ j, dur j ≤ D) (h2 : Driven (ends start dur) start2 dur2) (j : Nat) :
    start2 j < start2 (j + 1) ∧ start2 (j + 1) ≤ start2 j + max (dur2 j) (G + D) :=
  ⟨driven_strict h2 j, driven_gap (ends_gap hg h hd) h2 j⟩

/-- `Pool.runSync`'s timer loop: the next listing begins exactly `p` after the previous one returned. -/
theorem C15_timer_loop (p : Nat) (hp : 0 < p) (start dur : Nat → Nat) (h : TimerDriven p start dur) (j : Nat) :
    start j < start (j + 1) ∧ start (j + 1) = start j + dur j + p := ⟨by rw [h j]; omega, h j⟩

/-! ### fairness from the loops -/

/-- Kind `k` is served by a loop in the timed execution `(run, act, time)`: handler runs begin at
`start j` (strictly increasing — `C15_tick_loop`, `C15_tick_compose`, `C15_timer_loop`), run `j`
contains step `looks j`, not before it began, and at that step `k` is taken if its guard holds. -/
def Served (run : Nat → LState) (act : Nat → Act) (time : Nat → Nat) (k : Kind) : Prop :=
  ∃ start looks : Nat → Nat, (∀ j, start j < start (j + 1)) ∧ (∀ j, start j ≤ time (looks j)) ∧
    ∀ j, Enabled k (run (looks j)) → act (looks j) = .fair k

/-- **Served ⇒ weakly fair.** -/
theorem C15_served_fair (run : Nat → LState) (act : Nat → Act) (time : Nat → Nat)
    (htime : ∀ n, time n ≤ time (n + 1)) (k : Kind) (h : Served run act time k) :
    ∀ n, (∀ m, n ≤ m → Enabled k (run m)) → ∃ m, n ≤ m ∧ act m = .fair k := by
  obtain ⟨start, looks, hs, hl, hact⟩ := h
  intro n hall
  -- some run begins after `time n`; its look is no earlier, so it is a later step
  obtain ⟨j, hj⟩ := unbounded_of_strict hs (time n)
  have hj := lt_of_lt htime (Nat.lt_of_lt_of_le hj (hl j))
  exact ⟨looks j, Nat.le_of_lt hj, hact j (hall _ (Nat.le_of_lt hj))⟩

/-- **Bounded response.** If moreover the runs are at most `W` apart and step `looks j` is taken
within `D` of the run's begin, then from any step `n` (after the loop's first run) a step at which `k`
is taken if enabled follows within `W + D` time units. -/
theorem C15_served_bounded (run : Nat → LState) (act : Nat → Act) (time start looks : Nat → Nat) (k : Kind)
    (W D : Nat) (htime : ∀ n, time n ≤ time (n + 1))
    (hs : ∀ j, start j < start (j + 1)) (hw : ∀ j, start (j + 1) ≤ start j + W)
    (hl : ∀ j, start j ≤ time (looks j) ∧ time (looks j) ≤ start j + D)
    (hact : ∀ j, Enabled k (run (looks j)) → act (looks j) = .fair k)
    (n : Nat) (hn : start 0 ≤ time n) :
    ∃ m, n < m ∧ time m ≤ time n + W + D ∧ (Enabled k (run m) → act m = .fair k) := by
  obtain ⟨j, hj1, hj2⟩ := window hs hw (time n) hn
  exact ⟨looks j, lt_of_lt htime (Nat.lt_of_lt_of_le hj1 (hl j).1), by have := (hl j).2; omega, hact j⟩

/-- **Convergence with P2 derived.** As `C15_converges`, but weak fairness is assumed only of the
cloud, crunch-run and the quota clock (P1); each dispatcher kind is served by a loop. -/
theorem C15_converges_ticked (run : Nat → LState) (act : Nat → Act) (time : Nat → Nat)
    (hstep : ∀ n, Step (run n) (act n) (run (n + 1)))
    (htypes : TypesOK (run 0))
    (htime : ∀ n, time n ≤ time (n + 1))
    (hserved : ∀ k, k ∈ [Kind.lock, .start, .create, .requeue, .cancel, .staleResolve, .recoveryDone, .boot,
        .probeUnknown, .noticeDead, .jobGone, .idleTimeout, .drainShutdown, .brokenTimeout, .destroyRetry] →
      Served run act time k)
    (hP1 : ∀ k, k ∈ [Kind.quotaExpire, .createDone, .exec, .apiRun, .complete, .destroyOk] →
      ∀ n, (∀ m, n ≤ m → Enabled k (run m)) → ∃ m, n ≤ m ∧ act m = .fair k) :
    ∃ n, AllFinal (run n) ∧ (∀ m, n ≤ m → AllFinal (run m)) ∧ ∃ m, n ≤ m ∧ NoInstances (run m) := by
  apply C15_converges run act hstep htypes
  intro k
  cases k
  case quotaExpire | createDone | exec | apiRun | complete | destroyOk => exact hP1 _ (by decide)
  all_goals exact C15_served_fair run act time htime _ (hserved _ (by decide))

/-- non-vacuity: the execution of Props/C15_Live.lean that runs a container to completion (one step per
time unit) satisfies the premises — every loop goes on looking after the system has come to rest -/
theorem Example.served (k : Kind) : Served Example.run Example.act (fun n => n) k :=
  ⟨fun j => 11 + j, fun j => 11 + j, fun j => by show 11 + j < 11 + (j + 1); omega, fun j => Nat.le_refl _, fun j he => by
    rw [Example.run_ge (11 + j) (by omega)] at he
    exact absurd he (Example.quiescent k)⟩

example : ∃ n, AllFinal (Example.run n) ∧ (∀ m, n ≤ m → AllFinal (Example.run m)) ∧
    ∃ m, n ≤ m ∧ NoInstances (Example.run m) :=
  C15_converges_ticked Example.run Example.act (fun n => n) Example.steps Example.types0 (fun n => by omega)
    (fun k _ => Example.served k) (fun k _ => Example.fair k)

/-! ### start-up and shut-down order -/

/-- **No pass before recovery is over.** In `Scheduler.run`, whatever the number of passes, every
`runQueue` and `sync` comes after `fixStaleLocks` has returned (the guard `recovering = false` of the
scheduler steps of the liveness system); the queue has been fetched once and the queue poll is running
before `fixStaleLocks` starts (so it sees a fresh queue while it waits). -/
theorem C15_no_pass_before_recovery (n : Nat) :
    ∃ pre post, schedRun n = pre ++ RunEv.fixStaleLocks :: post ∧
      RunEv.runQueue ∉ pre ∧ RunEv.sync ∉ pre ∧ RunEv.pollStart ∈ pre ∧ RunEv.firstUpdate ∈ pre :=
  ⟨[.firstUpdate, .pollStart], _, rfl, by simp, by simp, by simp, by simp⟩

/-- **Shut-down order.** `dispatcher.run` stops the scheduler before the pool and the pool before the
instance set, and signals `stopped` last. -/
theorem C15_shutdown_order :
    dispRun.idxOf .schedStop < dispRun.idxOf .poolStop ∧ dispRun.idxOf .poolStop < dispRun.idxOf .instanceSetStop ∧
    dispRun.idxOf .instanceSetStop < dispRun.idxOf .closeStopped ∧ dispRun.getLast? = some .closeStopped := by
  decide

end ArvVerif.C15
