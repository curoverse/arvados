/-
C14: the runner's Kill/Close state machine (Model/C14_Runner.lean).

A kill loop acts on the pool only by `closeRunner` after a `crunch-run --kill` that reported
success, or by draining the worker after giving up; it never removes another container's runner,
never touches `starting`, and each of its actions is a step of the L3 protocol model — so the
invariant behind `C14_mutual_exclusion` is preserved by any number of kill loops.
-/
import ArvVerif.Model.C14_Runner
import ArvVerif.Model.C14_Proto
import ArvVerif.Proofs.C14_L2
namespace ArvVerif.C14

/-- **At most one kill loop per runner.** `Kill` sets `stopping` and starts a loop only if it was
not set; a second `Kill` does nothing. It never closes the runner or marks it given up. -/
theorem C14_kill_starts_one_loop (r : Runner) :
    r.kill.1.stopping = true ∧ (r.kill.2 = true ↔ r.stopping = false) ∧
    r.kill.1.kill = (r.kill.1, false) ∧ r.kill.1.closed = r.closed ∧ r.kill.1.givenup = r.givenup := by
  unfold Runner.kill
  grind

example : (Runner.kill {}).2 = true ∧ ((Runner.kill {}).1.kill).2 = false := by decide

/-- The three things a tick can do to the worker. -/
theorem killTick_cases (w : Worker) (u : Uuid) (r : Runner) (pd ok g : Bool) (now : Nat) :
    ((w.killTick u r pd ok g now).1 = w ∧ (w.killTick u r pd ok g now).2.2.2 = false) ∨
    (r.closed = false ∧ pd = false ∧ ok = true ∧
      (w.killTick u r pd ok g now).1 = (w.closeRunner u now).1 ∧
      (w.killTick u r pd ok g now).2.2.2 = (w.closeRunner u now).2) ∨
    (r.closed = false ∧ pd = true ∧ w.idleB ≠ .hold ∧
      (w.killTick u r pd ok g now).1 = w.setIdleBehavior .drain false g now ∧
      (w.killTick u r pd ok g now).2.2.2 = false) := by
  -- `closed` and the deadline decide which of the three actions the tick takes
  unfold Worker.killTick Runner.tickAct
  cases r.closed <;> cases pd <;> grind [Worker.onKilled, Worker.onUnkillable]

/-- **A runner leaves `running` only when its kill succeeded.** If a tick of the kill loop of
container `u` removes some container `v` from the worker's `running`, then `v = u`, the runner was
not closed, the deadline had not passed, and `crunch-run --kill` reported success (truthful kill:
the process is gone). Nothing is ever added, and `starting` is untouched. -/
theorem C14_runner_removed_only_when_killed (w : Worker) (u : Uuid) (r : Runner) (pd ok g : Bool) (now : Nat) :
    (∀ v, v ∈ w.running → v ∉ (w.killTick u r pd ok g now).1.running →
      v = u ∧ r.closed = false ∧ pd = false ∧ ok = true) ∧
    (∀ v, v ∈ (w.killTick u r pd ok g now).1.running → v ∈ w.running) ∧
    (w.killTick u r pd ok g now).1.starting = w.starting := by
  have := killTick_cases w u r pd ok g now
  grind [Worker.closeRunner_spec, Worker.setIdleBehavior_spec]

/-- **Giving up drains, it does not forget.** When the SIGTERM deadline has passed (and the runner
is not closed) the tick marks the runner given up, ends the loop, keeps `running` and `starting`
as they are, leaves the worker in a mode other than Run (so `StartContainer` never picks it
again: `Pool.startable`), and shuts a worker that is still Running down only if every one of its
runners has given up. -/
theorem C14_giveup_drains (w : Worker) (u : Uuid) (r : Runner) (ok g : Bool) (now : Nat) (hc : r.closed = false) :
    (w.killTick u r true ok g now).2.1.givenup = true ∧ (w.killTick u r true ok g now).2.2.1 = false ∧
    (w.killTick u r true ok g now).1.running = w.running ∧
    (w.killTick u r true ok g now).1.starting = w.starting ∧
    (w.killTick u r true ok g now).1.idleB ≠ .run ∧
    ((w.killTick u r true ok g now).1.state = .shutdown →
      w.state = .shutdown ∨ w.state = .booting ∨ w.state = .idle ∨ (w.state = .running ∧ g = true)) := by
  unfold Worker.killTick Runner.tickAct Worker.onUnkillable Worker.setIdleBehavior
    Worker.shutdownIfIdle Worker.eligibleForShutdown Worker.shutdown
  grind

example : ((Worker.killTick ⟨1, 1, .running, .run, [], [7, 8], 0, 0, 0⟩ 7 {stopping := true} true false false 9).1.idleB,
    (Worker.killTick ⟨1, 1, .running, .run, [], [7, 8], 0, 0, 0⟩ 7 {stopping := true} true false false 9).1.state,
    (Worker.killTick ⟨1, 1, .running, .run, [], [7, 8], 0, 0, 0⟩ 7 {stopping := true} true false false 9).1.running)
    = (.drain, .running, [7, 8]) := by decide
example : (Worker.killTick ⟨1, 1, .running, .run, [], [7], 0, 0, 0⟩ 7 {stopping := true} true false true 9).1.state
    = .shutdown := by decide
example : ((Worker.killTick ⟨1, 1, .running, .run, [], [7, 8], 0, 0, 0⟩ 7 {stopping := true} false true false 9).1.running,
    (Worker.killTick ⟨1, 1, .running, .run, [], [7, 8], 0, 0, 0⟩ 7 {stopping := true} false true false 9).2.2.2)
    = ([8], true) := by decide

/-- **The kill loop refines the protocol model.** Under truthful kill (`crunch-run --kill` reports
success only when the process is gone: `c ∉ s.procs i`) every tick of a kill loop on worker `i`
either leaves the worker as it is or is a step of the L3 transition system (`Step.killed` or
`Step.setIdle`). Hence every state reached with any number of kill loops running is `Reach`able,
and `C14_mutual_exclusion` covers it. -/
theorem C14_kill_tick_is_step (s : PState) (i : Nat) (w : Worker) (c : Uuid) (r : Runner) (pd ok g : Bool)
    (hw : s.wk i = some w) (htruth : ok = true → c ∉ s.procs i) :
    (w.killTick c r pd ok g (s.clock + 1)).1 = w ∨
    Step s { s with wk := upd s.wk i (some (w.killTick c r pd ok g (s.clock + 1)).1), clock := s.clock + 1 } := by
  rcases killTick_cases w c r pd ok g (s.clock + 1) with ⟨h, _⟩ | ⟨_, _, hk, h, _⟩ | ⟨_, _, _, h, _⟩
  · exact Or.inl h
  · rw [h]; exact Or.inr (Step.killed s i c w hw (htruth hk))
  · rw [h]; exact Or.inr (Step.setIdle s i w .drain false g hw)

theorem C14_kill_tick_reach (s : PState) (hs : Reach s) (i : Nat) (w : Worker) (c : Uuid) (r : Runner)
    (pd ok g : Bool) (hw : s.wk i = some w) (htruth : ok = true → c ∉ s.procs i) :
    (w.killTick c r pd ok g (s.clock + 1)).1 = w ∨
    Reach { s with wk := upd s.wk i (some (w.killTick c r pd ok g (s.clock + 1)).1), clock := s.clock + 1 } :=
  (C14_kill_tick_is_step s i w c r pd ok g hw htruth).imp_right (Reach.step hs)

end ArvVerif.C14
