/-
C16 — containers get the cheapest adequate instance type and start in priority order.

Part A (ChooseInstanceType): for every table, every iteration order of the Go map (`order.Perm table`),
every outcome of the error-path sort (`IsAvail table avail`), every container and reserve.
Part B (runQueue): for every queue snapshot, every outcome of the unstable priority sort
(`IsSorted entries sorted`), every worker pool (arbitrary state machine `Pool σ`), every
iteration order `keys` of the unalloc map.
Part C (container.Queue): for every type chooser and every history of Update / Lock / Unlock / Cancel calls;
then composed with Part A for the dispatcher's chooser.
-/
import ArvVerif.Proofs.C16_Int64
import ArvVerif.Proofs.C16_Choose
import ArvVerif.Proofs.C16_RunQueue
import ArvVerif.Proofs.C16_CreateMonotone
import ArvVerif.Proofs.C16_Queue
import ArvVerif.Proofs.Lib_List
namespace ArvVerif.C16

/-! ## Part A -/

/-- the stated arithmetic range: the mathematical values of the formulas fit in int64 -/
structure InRange (reserve : Int) (c : Ctr) : Prop where
  ram : inInt64 ((c.ram + c.keepCacheRAM + reserve) * 100)
  img : inInt64 (imageSizeSpec c.image)
  tmp : inInt64 ((tmpCaps c.mounts).foldl (· + ·) 0)
  scratch : inInt64 (scratchSpec (tmpCaps c.mounts) (imageSizeSpec c.image))

/-- The int64 code computes the formulas of the property text: needRAM = (ram + keepCache + reserve)·100/95
truncated (= floor for non-negative sums), image estimate = ((n − 80)/42)·64 MiB for a well-formed PDH
with 122 ≤ n < 2⁶³ and 0 otherwise, scratch = max(Σ tmp, image) + image — whenever these values fit
in int64. The tmp sum does not depend on the order in which the mounts map is iterated. -/
theorem C16_arith (reserve : Int) (c : Ctr) (hr : InRange reserve c) :
    needOf reserve c = needSpec reserve c ∧
    (0 ≤ c.ram + c.keepCacheRAM + reserve →
      (needSpec reserve c).ram = (c.ram + c.keepCacheRAM + reserve) * 100 / 95) ∧
    (∀ n, pdhSize? c.image = some n → 122 ≤ n → (n : Int) < two63 →
      imageSizeSpec c.image = ((n : Int) - 80) / 42 * 67108864) ∧
    (∀ n, pdhSize? c.image = some n → n < 122 → imageSizeSpec c.image = 0) ∧
    (pdhSize? c.image = none → imageSizeSpec c.image = 0) ∧
    (needSpec reserve c).scratch =
      max ((tmpCaps c.mounts).foldl (· + ·) 0) (imageSizeSpec c.image) + imageSizeSpec c.image := by
  refine ⟨?_, fun h => ?_, fun n hn h1 h2 => ?_, fun n hn h1 => ?_, fun hn => ?_, ?_⟩
  · unfold needOf needSpec
    rw [needRAM64_eq _ _ _ hr.ram, imageSize64_eq _ hr.img, scratch64_eq _ _ hr.tmp hr.scratch]
  · exact Int.tdiv_eq_ediv_of_nonneg (Int.mul_nonneg h (by decide))
  · simp only [imageSizeSpec, hn, imageSizeOfLen, mib64]
    rw [if_neg (by omega), if_neg (by omega)]
    rfl
  · simp only [imageSizeSpec, hn, imageSizeOfLen, if_pos h1, ite_self]
  · simp only [imageSizeSpec, hn]
  · simp only [needSpec, scratchSpec]
    split <;> omega

/-- **Explicit bounds.** `InRange` holds for every container with
|ram + keep_cache + reserve| ≤ 92 233 720 368 547 758 (≈ 81.9 PiB; one byte more and `· 100` wraps:
`ramProduct_tight`), a PDH manifest length ≤ 42·2³⁶ + 79 (image estimate < 4 EiB) and a tmp capacity
sum within ±2⁶² — so below these bounds all of Part A holds without any arithmetic side condition. -/
theorem C16_inrange_of_bounds (reserve : Int) (c : Ctr)
    (hram : -ramSumBound ≤ c.ram + c.keepCacheRAM + reserve ∧ c.ram + c.keepCacheRAM + reserve ≤ ramSumBound)
    (himg : ∀ n, pdhSize? c.image = some n → n ≤ imageLenBound)
    (htmp : -tmpSumBound ≤ (tmpCaps c.mounts).foldl (· + ·) 0 ∧ (tmpCaps c.mounts).foldl (· + ·) 0 ≤ tmpSumBound) :
    InRange reserve c := by
  obtain ⟨hi0, hi1⟩ := imageSizeSpec_bounds c.image himg
  refine ⟨ramProduct_inRange _ hram.1 hram.2, ?_, ?_, scratchSpec_inRange _ _ htmp.1 htmp.2 hi0 hi1⟩
  · unfold inInt64 two63; omega
  · unfold inInt64 two63; unfold tmpSumBound at htmp; omega

/-- the estimate is independent of the iteration order of the mounts map -/
theorem C16_mount_order_irrelevant (ms1 ms2 : List Mount) (img : Int) (h : ms1.Perm ms2) :
    scratch64 (tmpCaps ms1) img = scratch64 (tmpCaps ms2) img := by
  have hp : (tmpCaps ms1).Perm (tmpCaps ms2) := (h.filter _).map _
  unfold scratch64
  simp only [sum64_eq, foldl_add_perm hp]

/-- **Adequate.** Whatever the map iteration order, a returned type is a configured type and satisfies
every constraint: VCPUs, RAM ≥ (ram + keepCache + reserve)·100/95, scratch ≥ max(Σ tmp, image) + image,
and the preemptible flag. -/
theorem C16_adequate (table order avail : List IType) (reserve : Int) (c : Ctr) (it : IType)
    (hperm : order.Perm table) (hr : InRange reserve c)
    (h : chooseWith order avail reserve c = .ok it) :
    it ∈ table ∧ Adequate (needSpec reserve c) it := by
  obtain ⟨hok, hbest⟩ := chooseWith_ok h
  rw [← (C16_arith reserve c hr).1]
  have := chooseLoop_ok_sound (needOf reserve c) order hok
  rw [hbest] at this
  exact ⟨hperm.mem_iff.mp this.1, this.2⟩

/-- **Tie-break.** Among equally cheap adequate types the result is one that no other is strictly
better than in RAM/VCPUs; i.e. it lies in the set `allowed` that the model driver prints. -/
theorem C16_allowed (table order avail : List IType) (reserve : Int) (c : Ctr) (it : IType)
    (hperm : order.Perm table) (hnn : ∀ x ∈ table, 0 ≤ x.ram ∧ 0 ≤ x.vcpus)
    (h : chooseWith order avail reserve c = .ok it) :
    it ∈ allowed (needOf reserve c) table := by
  obtain ⟨hok, hbest⟩ := chooseWith_ok h
  rw [← hbest, ← allowed_perm hperm]
  exact chooseLoop_allowed _ order (fun x hx => hnn x (hperm.mem_iff.mp hx)) hok

/-- **Cheapest.** No configured type that satisfies every constraint is strictly cheaper than the
returned one — for every iteration order of the table. -/
theorem C16_cheapest (table order avail : List IType) (reserve : Int) (c : Ctr) (it : IType)
    (hperm : order.Perm table) (hr : InRange reserve c)
    (hnn : ∀ x ∈ table, 0 ≤ x.ram ∧ 0 ≤ x.vcpus)
    (h : chooseWith order avail reserve c = .ok it) :
    ∀ other ∈ table, Adequate (needSpec reserve c) other → it.price ≤ other.price := by
  rw [← (C16_arith reserve c hr).1]
  exact (mem_allowed.mp (C16_allowed table order avail reserve c it hperm hnn h)).2.2.1

/-- The set `allowed` is exact: each of its members is what the loop returns for some iteration
order of the table (so the comparison "implementation result ∈ allowed" is as tight as the map
order permits). -/
theorem C16_allowed_exact (table : List IType) (reserve : Int) (c : Ctr) (x : IType)
    (hnn : ∀ y ∈ table, 0 ≤ y.ram ∧ 0 ≤ y.vcpus) (hx : x ∈ allowed (needOf reserve c) table) :
    ∃ order, order.Perm table ∧ ∀ avail, chooseWith order avail reserve c = .ok x := by
  obtain ⟨order, hp, hl⟩ := allowed_complete (needOf reserve c) table x hnn hx
  refine ⟨order, hp, fun avail => ?_⟩
  have hne : order ≠ [] := by rintro rfl; cases hl
  rw [chooseWith_eq hne, hl]
  rfl

/-- **Unsatisfiable / not configured.** An empty table gives ErrInstanceTypesNotConfigured. If no
configured type satisfies the constraints the result is the error carrying *all* configured types in
ascending price order — never a type. -/
theorem C16_unsatisfiable (table order avail : List IType) (reserve : Int) (c : Ctr)
    (hperm : order.Perm table) (hav : IsAvail table avail) (hr : InRange reserve c) :
    (table = [] → chooseWith order avail reserve c = .notConfigured) ∧
    (table ≠ [] → (∀ x ∈ table, ¬ Adequate (needSpec reserve c) x) →
      chooseWith order avail reserve c = .unsat avail ∧ avail.Perm table ∧
        avail.Pairwise (fun a b => a.price ≤ b.price)) := by
  constructor
  · rintro rfl
    rw [hperm.eq_nil]
    rfl
  · intro hne hnone
    refine ⟨?_, hav.perm, hav.sorted⟩
    have hne' : order ≠ [] := by rintro rfl; exact hne hperm.symm.eq_nil
    rw [chooseWith_eq hne', if_neg]
    intro hok
    have := chooseLoop_ok_sound (needOf reserve c) order hok
    rw [(C16_arith reserve c hr).1] at this
    exact hnone _ (hperm.mem_iff.mp this.1) this.2

/-- **Satisfiable.** Conversely, if some configured type satisfies the constraints, the result is a
type (by `C16_adequate`/`C16_cheapest` a cheapest adequate one), not an error. -/
theorem C16_satisfiable (table order avail : List IType) (reserve : Int) (c : Ctr) (x : IType)
    (hperm : order.Perm table) (hr : InRange reserve c)
    (hnn : ∀ x ∈ table, 0 ≤ x.ram ∧ 0 ≤ x.vcpus)
    (hx : x ∈ table) (hax : Adequate (needSpec reserve c) x) :
    ∃ it, chooseWith order avail reserve c = .ok it := by
  have hne : order ≠ [] := by rintro rfl; cases hperm.mem_iff.mpr hx
  rw [← (C16_arith reserve c hr).1] at hax
  have hok := chooseLoop_ok _ order (fun x hx => hnn x (hperm.mem_iff.mp hx)) (hperm.mem_iff.mpr hx) hax
  rw [chooseWith_eq hne, hok]
  exact ⟨_, rfl⟩

/-- the executable error list is one of the allowed outcomes -/
theorem C16_avail_exec (table : List IType) : IsAvail table (availSorted table) :=
  ⟨List.mergeSort_perm _ _, pairwise_mergeSort_decide (fun a b : IType => a.price ≤ b.price)
    (fun _ _ _ => Int.le_trans) (fun _ _ => Int.le_total _ _) table⟩

/-! ## Part B: one runQueue pass -/
open RQ

/-- **Priority order.** In any pass, for any pool and any outcome of the unstable priority sort: if
`StartContainer(t, b)` succeeds, then every Locked, not-running container `a` that needs the same
instance type `t` and has strictly higher priority
 * was started successfully earlier in the same pass, or
 * is blocked by its own lingering crunch-run process (`KillContainer(a, "about to start")` returned
   true earlier in the pass) — the case the code lets through (DESIGN section 8, F8), or
 * no worker could be created for it (`Create(t)` on its behalf returned false earlier in the pass
   although the pool was not at quota — the `continue` branch with the upstream TODO). -/
theorem C16_priority_order {σ : Type} (P : Pool σ) (p0 : σ) (unalloc : Nat → Int) (keys : List Nat)
    (entries sorted : List Ent) (hs : IsSorted entries sorted)
    (hnd : entries.Pairwise (fun a b => a.uuid ≠ b.uuid))
    (pre post : List Ev) (t : Nat) (a b : Ent)
    (htr : runQueue P p0 unalloc keys sorted = pre ++ Ev.start t b.uuid true :: post)
    (ha : a ∈ entries) (hb : b ∈ entries)
    (hal : a.st = .locked) (har : a.running = false) (hty : a.ty = t) (hpr : b.prio < a.prio) :
    Ev.start a.ty a.uuid true ∈ pre ∨ Ev.kill true a.uuid true ∈ pre ∨
      Ev.create a.uuid a.ty false ∈ pre := by
  unfold runQueue at htr
  rcases Lib.append_eq_append_cons htr with ⟨post', h1, _⟩ | ⟨pre', _, h2⟩
  · refine loop_priority P sorted _ hs.desc pre post' t b.uuid h1 a (hs.perm.mem_iff.mpr ha) hal har hty ?_
    -- `b` is the only entry with its uuid
    intro b' hb' hu
    rw [Lib.eq_of_pairwise_ne Ent.uuid hnd (hs.perm.mem_iff.mp hb') hb hu]; exact hpr
  · exact (finish_noStart _ _ _ t _ (by rw [h2]; simp) ⟨b.uuid, true, rfl⟩).elim

/-- With no lingering processes and no failed Create in the pass, the order is strict: every Locked
higher-priority container of the same type was started before. -/
theorem C16_priority_order_strict {σ : Type} (P : Pool σ) (p0 : σ) (unalloc : Nat → Int) (keys : List Nat)
    (entries sorted : List Ent) (hs : IsSorted entries sorted)
    (hnd : entries.Pairwise (fun a b => a.uuid ≠ b.uuid))
    (hnolinger : ∀ u, Ev.kill true u true ∉ runQueue P p0 unalloc keys sorted)
    (hcreate : ∀ u t, Ev.create u t false ∉ runQueue P p0 unalloc keys sorted)
    (pre post : List Ev) (t : Nat) (a b : Ent)
    (htr : runQueue P p0 unalloc keys sorted = pre ++ Ev.start t b.uuid true :: post)
    (ha : a ∈ entries) (hb : b ∈ entries)
    (hal : a.st = .locked) (har : a.running = false) (hty : a.ty = t) (hpr : b.prio < a.prio) :
    Ev.start a.ty a.uuid true ∈ pre := by
  rcases C16_priority_order P p0 unalloc keys entries sorted hs hnd pre post t a b htr ha hb hal har hty hpr
    with h | h | h
  · exact h
  · exact (hnolinger a.uuid (by rw [htr]; exact List.mem_append_left _ h)).elim
  · exact (hcreate a.uuid a.ty (by rw [htr]; exact List.mem_append_left _ h)).elim

/-- **A failed Create acts as a latch too, for pools with monotone Create.** If Create failures are
monotone within the pass (`CreateMonotone`: the real `worker.Pool` between timer expiries / cloud
responses, and the stub pool — `C16_stub_monotone`), then after `Create(t)` has failed no
StartContainer on `t` is made in the rest of the pass: the local count of unallocated workers of
`t` was exhausted when Create was tried, and every later Create fails. -/
theorem C16_create_fail_latch {σ : Type} (P : Pool σ) (Dead : σ → Prop) (hm : CreateMonotone P Dead)
    (p0 : σ) (unalloc : Nat → Int) (keys : List Nat) (sorted : List Ent)
    (pre post : List Ev) (t u ub : Nat) (r : Bool)
    (htr : runQueue P p0 unalloc keys sorted = pre ++ Ev.start t ub r :: post) :
    Ev.create u t false ∉ pre := by
  intro hc
  have hp := runQueue_never_start_after (loop_createLatch hm sorted (initRQ p0 unalloc) t) keys
  rw [htr] at hp
  exact (List.pairwise_append.mp hp).2.2 _ hc _ List.mem_cons_self ⟨u, rfl⟩ ⟨ub, r, rfl⟩

/-- **Priority order for pools with monotone Create** — the Create exception of
`C16_priority_order` is discharged: a successful StartContainer of `b` implies that every Locked,
not-running, strictly higher-priority container of the same type was started earlier in the pass
or is blocked by its own lingering crunch-run process. -/
theorem C16_priority_order_monotone {σ : Type} (P : Pool σ) (Dead : σ → Prop) (hm : CreateMonotone P Dead)
    (p0 : σ) (unalloc : Nat → Int) (keys : List Nat)
    (entries sorted : List Ent) (hs : IsSorted entries sorted)
    (hnd : entries.Pairwise (fun a b => a.uuid ≠ b.uuid))
    (pre post : List Ev) (t : Nat) (a b : Ent)
    (htr : runQueue P p0 unalloc keys sorted = pre ++ Ev.start t b.uuid true :: post)
    (ha : a ∈ entries) (hb : b ∈ entries)
    (hal : a.st = .locked) (har : a.running = false) (hty : a.ty = t) (hpr : b.prio < a.prio) :
    Ev.start a.ty a.uuid true ∈ pre ∨ Ev.kill true a.uuid true ∈ pre := by
  rcases C16_priority_order P p0 unalloc keys entries sorted hs hnd pre post t a b htr ha hb hal har hty hpr
    with h | h | h
  · exact Or.inl h
  · exact Or.inr h
  · rw [hty] at h
    exact (C16_create_fail_latch P Dead hm p0 unalloc keys sorted pre post t a.uuid b.uuid true htr h).elim

/-- the stub pool of the correspondence check — and, through the `rqp` cases, the real
`worker.Pool`'s AtQuota / Create / StartContainer bookkeeping it is compared with — has monotone
Create failures -/
theorem C16_stub_monotone : CreateMonotone stubPool (fun p => p.canCreate ≤ p.created) where
  enter := fun t s h => by
    simp only [stubPool] at h ⊢
    split at h
    · cases h
    · rw [if_neg ‹_›]; dsimp only; omega
  fail := fun t s h => by simp only [stubPool]; rw [if_neg (by omega)]
  keepQ := fun s h => h
  keepC := fun t s h => by simp only [stubPool]; rw [if_neg (by omega)]; exact h
  keepK := fun b u s h => h
  keepS := fun t u s h => by
    simp only [stubPool]
    split <;> try split
    all_goals exact h

/-- **The real pool's Create is monotone — derived from a model of `Pool.Create` and `throttle`**
(`realPool`, Model/C16_Pool.lean: `time.Now()` against `atQuotaUntil`, `throttleCreate.Error()` with
its expiry, `len(creating)` against `maxConcurrentInstanceCreateOps` and the 5 s hold-off it sets), at a
frozen clock and with no cloud response arriving during the pass: Create fails exactly in the states
`createBlocked`, every failed Create leaves the pool in such a state, and no call of a pass leaves it. -/
theorem C16_realpool_monotone : CreateMonotone realPool createBlocked where
  enter := fun t s h =>
    realPool_create_keeps_blocked t s ((realPool_create_fails_iff t s).mp h)
  fail := fun t s h => (realPool_create_fails_iff t s).mpr h
  keepQ := fun s h => h
  keepC := fun t s h => realPool_create_keeps_blocked t s h
  keepK := fun _ _ s h => h
  keepS := fun t u s h => by
    unfold realPool
    dsimp only
    split <;> exact h

/-- Create of the real pool fails exactly when: at quota, throttled, or the create-ops limit is reached -/
theorem C16_realpool_create_fails_iff (t : Nat) (p : RPool) :
    (realPool.create t p).1 = false ↔
      (p.now < p.atQuotaUntil ∨ p.throttled = true ∨ (0 < p.maxOps ∧ p.maxOps ≤ p.creating)) :=
  realPool_create_fails_iff t p

/-- **Priority order against the real pool**: `C16_priority_order_monotone` instantiated with the model
of `worker.Pool` — no Create exception, for every pool state (any clock value, quota / throttle
hold-offs, creates in flight, idle workers, lingering processes). -/
theorem C16_priority_order_realpool (p0 : RPool) (unalloc : Nat → Int) (keys : List Nat)
    (entries sorted : List Ent) (hs : IsSorted entries sorted)
    (hnd : entries.Pairwise (fun a b => a.uuid ≠ b.uuid))
    (pre post : List Ev) (t : Nat) (a b : Ent)
    (htr : runQueue realPool p0 unalloc keys sorted = pre ++ Ev.start t b.uuid true :: post)
    (ha : a ∈ entries) (hb : b ∈ entries)
    (hal : a.st = .locked) (har : a.running = false) (hty : a.ty = t) (hpr : b.prio < a.prio) :
    Ev.start a.ty a.uuid true ∈ pre ∨ Ev.kill true a.uuid true ∈ pre :=
  C16_priority_order_monotone realPool createBlocked C16_realpool_monotone p0 unalloc keys entries sorted hs hnd
    pre post t a b htr ha hb hal har hty hpr

/-- **lockContainer.** `queue.Lock(u)` is called by a pass's goroutines only for a container that
was Queued in the snapshot, is not running, has priority ≥ 1, whose `KillContainer(u, "about to
lock")` returned false in the pass, that has no other operation in progress (`uuidLock`) and whose
cached state is still Queued when the goroutine runs. -/
theorem C16_lock_only_queued {σ : Type} (P : Pool σ) (p0 : σ) (unalloc : Nat → Int) (keys : List Nat)
    (sorted : List Ent) (op : Nat → Bool) (cur : Nat → Option CState) (u : Nat)
    (h : u ∈ lockCalls op cur (runQueue P p0 unalloc keys sorted)) :
    (∃ e ∈ sorted, e.uuid = u ∧ e.st = .queued ∧ e.running = false ∧ 1 ≤ e.prio) ∧
    Ev.kill false u false ∈ runQueue P p0 unalloc keys sorted ∧
    op u = false ∧ cur u = some .queued := by
  obtain ⟨hev, hop, hcur⟩ := mem_lockCalls.mp h
  have hloop : Ev.lockgo u ∈ (loop P sorted (initRQ p0 unalloc)).2.1 := by
    simpa [mem_runQueue] using hev
  obtain ⟨e, he, h3, h4, h5, h6, h7⟩ := loop_lockgo P sorted _ u hloop
  exact ⟨⟨e, he, h3, h4, h5, h6⟩, (mem_runQueue ..).mpr (Or.inl h7), hop, hcur⟩

/-- **The `dontstart` latch.** Once a StartContainer on instance type `t` has failed, no further
StartContainer on `t` is attempted in the pass (so no lower-priority container of that type can
sneak in ahead). -/
theorem C16_dontstart_latch {σ : Type} (P : Pool σ) (p0 : σ) (unalloc : Nat → Int) (keys : List Nat)
    (sorted : List Ent) (pre post : List Ev) (t u : Nat)
    (htr : runQueue P p0 unalloc keys sorted = pre ++ Ev.start t u false :: post) :
    ∀ ev ∈ post, ∀ u' r, ev ≠ Ev.start t u' r := by
  have hp := runQueue_never_start_after (loop_failLatch P sorted (initRQ p0 unalloc) t) keys
  rw [htr] at hp
  exact fun ev hev u' r he =>
    (List.pairwise_cons.mp (List.pairwise_append.mp hp).2.1).1 ev hev ⟨u, rfl⟩ ⟨u', r, he⟩

/-- **Over-quota unlock of the tail.** When the pass stops at position i of the priority order
(`overquota = sorted[i:]`):
 1. `overquota` is a suffix of the priority order;
 2. the containers unlocked in the pass are exactly the Locked ones in `overquota`;
 3. hence no Locked container is unlocked while a strictly lower-priority Locked one keeps its lock;
 4. the pass stops early only after the pool has answered `AtQuota() = true`. -/
theorem C16_overquota_unlock_tail {σ : Type} (P : Pool σ) (p0 : σ) (unalloc : Nat → Int) (keys : List Nat)
    (entries sorted : List Ent) (hs : IsSorted entries sorted) :
    (∃ kept, sorted = kept ++ (loop P sorted (initRQ p0 unalloc)).2.2) ∧
    (∀ u, Ev.unlock u ∈ runQueue P p0 unalloc keys sorted ↔
        ∃ e ∈ (loop P sorted (initRQ p0 unalloc)).2.2, e.st = .locked ∧ e.uuid = u) ∧
    (entries.Pairwise (fun a b => a.uuid ≠ b.uuid) →
      ∀ a b, a ∈ entries → b ∈ entries → a.st = .locked → b.st = .locked → b.prio < a.prio →
        Ev.unlock a.uuid ∈ runQueue P p0 unalloc keys sorted →
        Ev.unlock b.uuid ∈ runQueue P p0 unalloc keys sorted) ∧
    ((loop P sorted (initRQ p0 unalloc)).2.2 ≠ [] → ∃ p, (P.atQuota p).1 = true) := by
  obtain ⟨⟨kept, hk, hq⟩, -⟩ := loop_tail P sorted (initRQ p0 unalloc)
  have hiff := unlock_mem_runQueue P p0 unalloc keys sorted
  refine ⟨⟨kept, hk⟩, hiff, ?_, fun h => ⟨_, hq h⟩⟩
  intro hnd a b ha hb hal hbl hpr hua
  obtain ⟨e, he, _, heu⟩ := (hiff a.uuid).mp hua
  obtain rfl : e = a :=
    Lib.eq_of_pairwise_ne Ent.uuid hnd (hs.perm.mem_iff.mp (hk ▸ List.mem_append_right _ he)) ha heu
  have hdesc := hs.desc
  have hbs := hs.perm.mem_iff.mpr hb
  rw [hk] at hdesc hbs
  rcases List.mem_append.mp hbs with h | h
  · -- b before the break position: then its priority is at least e's
    have := (List.pairwise_append.mp hdesc).2.2 b h e he
    omega
  · exact (hiff b.uuid).mpr ⟨b, h, hbl, rfl⟩

/-- **Idle-worker shutdown.** Shutdown is requested only when the pass stopped at quota, once per
instance type that still has unallocated workers after the containers ahead of the stop position
were mapped onto them. -/
theorem C16_idle_shutdown {σ : Type} (P : Pool σ) (p0 : σ) (unalloc : Nat → Int) (keys : List Nat)
    (sorted : List Ent) (t : Nat) :
    Ev.shutdown t ∈ runQueue P p0 unalloc keys sorted ↔
      (loop P sorted (initRQ p0 unalloc)).2.2 ≠ [] ∧ t ∈ keys ∧
        1 ≤ (loop P sorted (initRQ p0 unalloc)).1.unalloc t := by
  have hloop : Ev.shutdown t ∉ (loop P sorted (initRQ p0 unalloc)).2.1 := fun h =>
    (loop_own P sorted _ h).elim fun _ ho => ho.2.2.2
  simp [mem_runQueue, hloop]

/-- the executable sort is one of the allowed outcomes of `sort.Slice` -/
theorem C16_sort_exec (entries : List Ent) : IsSorted entries (sortEnts entries) :=
  ⟨List.mergeSort_perm _ _, pairwise_mergeSort_decide (fun a b : Ent => b.prio ≤ a.prio)
    (fun _ _ _ h1 h2 => Int.le_trans h2 h1) (fun _ _ => Int.le_total _ _) entries⟩

/-! ## Part C: container.Queue, the cache between ChooseInstanceType / the controller and runQueue -/
open Q

/-- **No arbitrary type reaches the scheduler.** After any history of Update / Lock / Unlock / Cancel
calls, for any type chooser: every cache entry's instance type is what the chooser returned for that
container when it was added; the zero-valued type (`none`) occurs only for a container that was
neither Queued nor Locked when it was added (runQueue never acts on those). With
`C16_adequate`/`C16_cheapest` for the chooser this is: a schedulable entry carries a cheapest adequate
configured type. -/
theorem C16_queue_no_arbitrary_type (choose : Nat → Option Nat) (ops : List QOp) (u : Nat) (e : CEnt)
    (h : (u, e) ∈ (runOps choose ops emptyCache).current) :
    choose e.addedNeed = e.ty ∧ (e.ty = none → e.addedSt ≠ .queued ∧ e.addedSt ≠ .locked) :=
  typesOK_runOps choose ops emptyCache (fun _ hp => by cases hp) (u, e) h

/-- **An unsatisfiable Queued or Locked container is not added**; a cancel task is started instead
(lock if Queued, set runtime_status.error, cancel). -/
theorem C16_queue_unsat_not_added (choose : Nat → Option Nat) (cur : List (Nat × CEnt)) (r : Rec)
    (hc : choose r.need = none) (hs : r.st = .queued ∨ r.st = .locked) :
    addEnt choose cur r = (cur, true) := by
  simp only [addEnt, hc, if_pos hs]

/-- **A poll does not clobber local updates.** An entry whose Lock / Unlock / Cancel response arrived
while the poll was in flight (its uuid is in `dontupdate`) is neither overwritten with the older
polled record, nor expunged, nor (if absent) added by the poll: runQueue's next snapshot shows the
state the controller confirmed last. -/
theorem C16_queue_local_update_survives_poll (choose : Nat → Option Nat) (c : Cache) (next : List Rec) (v : Nat)
    (hv : inDont c.dontupdate v = true) :
    lookup (applyPoll choose c next).1.current v = lookup c.current v := by
  unfold applyPoll expunge
  dsimp only
  rw [lookup_filter, lookup_applyRecs_dont choose c.dontupdate next c.current [] v hv]
  intro p _ hp
  rw [hp, hv]; rfl

/-- a Lock / Unlock / Cancel response that arrives while an Update is in progress is remembered -/
theorem C16_queue_resp_recorded (c : Cache) (l : List Nat) (u : Nat) (st : QState) (prio : Int)
    (h : c.dontupdate = some l) : inDont (localResp c u st prio).dontupdate u = true := by
  unfold localResp
  cases lookup c.current u <;>
  · simp only [h, Option.map_some, inDont]
    split <;> simp_all

/-- **`Select:` decides what the chooser is given.** Every record of a poll stems from a record of
the controller's snapshot with the same uuid. It carries that container's constraint vector — unless
one of the three list requests does not select the sizing attributes, in which case it may carry the
all-zero vector instead (what `addEnt` would then size the container from). With `poll()` as it is
(`pollResult`: all three select `selectParam`, tie `tie_queuePollSelect`) every record carries the
controller's vector. -/
theorem C16_queue_poll_select (s1 s2 s3 : Bool) (snap : Ctl) (cur : List (Nat × CEnt)) (needOfU : Nat → Nat)
    (hsnap : ∀ c ∈ snap, c.need = needOfU c.uuid) :
    (∀ r ∈ pollResultSel s1 s2 s3 snap cur,
        r.need = needOfU r.uuid ∨ ((s1 && s2 && s3) = false ∧ r.need = 0)) ∧
    (∀ r ∈ pollResult snap cur, r.need = needOfU r.uuid) := by
  have hsel : ∀ s1 s2 s3, ∀ r ∈ pollResultSel s1 s2 s3 snap cur,
      r.need = needOfU r.uuid ∨ ((s1 && s2 && s3) = false ∧ r.need = 0) := by
    intro s1 s2 s3 r hr
    obtain ⟨c, hc, hu, hn⟩ := pollResultSel_need s1 s2 s3 snap cur r hr
    exact hn.imp_left fun hn => by rw [hn, hsnap c hc, hu]
  exact ⟨hsel s1 s2 s3, fun r hr => (hsel true true true r hr).resolve_right (by simp)⟩

/-- **A queue entry carries a cheapest adequate configured type for its own container** (parts A and C
composed). The chooser is the dispatcher's: ChooseInstanceType over the cluster's table, in whatever
order the Go map is iterated for that container (`chooserOf`; tie `tie_typeChooser`,
`tie_typeChooserPure`). For every history of Update / Lock / Unlock / Cancel calls from an empty queue
(a dispatcher that has just started) in which every poll response carries each container's own
constraint vector (`FullPolls`; by `C16_queue_poll_select` that is what `poll()` delivers), an entry
for container `u`
 * with a type: the type is configured, satisfies every constraint of container `u` (VCPUs, RAM after
   the discount, scratch, preemptible — the unbounded formulas) and no adequate configured type is
   strictly cheaper;
 * with the zero-valued type: no configured type satisfies the constraints, and the container was
   neither Queued nor Locked when it was added (so runQueue never acts on it). -/
theorem C16_queue_entry_cheapest_adequate (table : List IType) (orderOf : Nat → List IType) (reserve : Int)
    (decode : Nat → Ctr) (needOfU : Nat → Nat)
    (hperm : ∀ n, (orderOf n).Perm table) (hr : ∀ n, InRange reserve (decode n))
    (hnn : ∀ x ∈ table, 0 ≤ x.ram ∧ 0 ≤ x.vcpus)
    (ops : List QOp) (hfull : FullPolls needOfU ops) (u : Nat) (e : CEnt)
    (h : (u, e) ∈ (runOps (chooserOf orderOf reserve decode) ops emptyCache).current) :
    (∀ t, e.ty = some t → ∃ it ∈ table, it.name = t ∧
        Adequate (needSpec reserve (decode (needOfU u))) it ∧
        ∀ other ∈ table, Adequate (needSpec reserve (decode (needOfU u))) other → it.price ≤ other.price) ∧
    (e.ty = none → (∀ x ∈ table, ¬ Adequate (needSpec reserve (decode (needOfU u))) x) ∧
        e.addedSt ≠ .queued ∧ e.addedSt ≠ .locked) := by
  obtain ⟨hty, hz⟩ := C16_queue_no_arbitrary_type (chooserOf orderOf reserve decode) ops u e h
  have hneed : e.addedNeed = needOfU u :=
    needsOK_runOps (chooserOf orderOf reserve decode) needOfU ops emptyCache hfull (fun _ hp => by cases hp) (u, e) h
  rw [hneed] at hty
  constructor
  · intro t ht
    rw [ht] at hty
    obtain ⟨it, hit, hname⟩ := chooserOf_some hty
    obtain ⟨hmem, had⟩ := C16_adequate table _ _ _ _ it (hperm _) (hr _) hit
    exact ⟨it, hmem, hname, had, C16_cheapest table _ _ _ _ it (hperm _) (hr _) hnn hit⟩
  · intro hn
    rw [hn] at hty
    refine ⟨?_, hz hn⟩
    intro x hx hax
    obtain ⟨it, hit⟩ := C16_satisfiable table (orderOf (needOfU u)) [] reserve _ x (hperm _) (hr _) hnn hx hax
    exact chooserOf_none hty it hit

/-! ## Non-vacuity: concrete instances of the hypotheses, and witnesses of the stated exceptions -/

def exA : IType := { name := 1, vcpus := 1, ram := 2000, scratch := 10, price := 64, preemptible := false }
def exB : IType := { name := 2, vcpus := 2, ram := 1000, scratch := 10, price := 64, preemptible := false }
def exC : IType := { name := 3, vcpus := 4, ram := 4000, scratch := 10, price := 128, preemptible := false }
def exCtr : Ctr :=
  { vcpus := 1, ram := 900, keepCacheRAM := 40, preemptible := false, image := [],
    mounts := [⟨tmpKind, 7⟩, ⟨[120], 99⟩] }

example : InRange 10 exCtr := ⟨by decide, by decide, by decide, by decide⟩
example : ∀ x ∈ [exA, exB, exC], 0 ≤ x.ram ∧ 0 ≤ x.vcpus := by decide
/-- (900 + 40 + 10)·100/95 = 1000: exB is an exact fit; only the `tmp` mount counts -/
example : needOf 10 exCtr = { vcpus := 1, ram := 1000, scratch := 7, preemptible := false } := by decide
/-- equal price, incomparable specs: the map order decides (both results are in `allowed`) -/
example : chooseWith [exA, exB, exC] [] 10 exCtr = .ok exA := by decide
example : chooseWith [exC, exB, exA] [] 10 exCtr = .ok exB := by decide
example : allowed (needOf 10 exCtr) [exA, exB, exC] = [exA, exB] := by decide
/-- one byte more RAM and exB no longer fits -/
example : chooseWith [exC, exB, exA] [] 10 { exCtr with ram := 901 } = .ok exA := by decide
example : chooseWith [exA, exB, exC] [exA, exB, exC] 10 { exCtr with vcpus := 5 } = .unsat [exA, exB, exC] := by
  decide
example : IsAvail [exC, exA, exB] [exA, exB, exC] := ⟨by decide, by decide⟩
example : chooseWith [] [] 10 exCtr = .notConfigured := by decide
/-- a well-formed PDH of a 3-block image manifest: 3 · 64 MiB, needed twice -/
example : imageSize64 ((List.replicate 32 97) ++ [43, 50, 48, 54]) = 201326592 := by decide
example : scratch64 [7] 201326592 = 402653184 := by decide
/-- the quirk behind the non-negativity hypothesis: a free type with negative RAM is compared with the
zero-valued `best` and skipped although it is adequate for a (nonsensical) negative request -/
example : chooseWith [{ exA with price := 0, ram := -1 }] [] 0 { exCtr with ram := -100, keepCacheRAM := 0 } =
    .unsat [] := by decide

def exEnts : List Ent :=
  [ { uuid := 1, prio := 5, st := .locked, ty := 0, running := false },
    { uuid := 2, prio := 4, st := .locked, ty := 0, running := false },
    { uuid := 3, prio := 3, st := .queued, ty := 0, running := false } ]
def exStub : Stub :=
  { quota := 1, canCreate := 9, created := 0, idle := fun _ => 1, starts := fun _ => 0, mode := fun _ => .byIdle,
    lingering := fun _ => false }

example : IsSorted exEnts.reverse exEnts := ⟨by decide, by decide⟩
example : exEnts.Pairwise (fun a b => a.uuid ≠ b.uuid) := by decide
/-- 1 starts on the idle worker; a worker is created for 2 but its start fails (latch); the pool is
now at quota, so the pass stops at the Queued container 3 -/
example : runQueue stubPool exStub (fun _ => 1) [0] exEnts =
    [.kill true 1 false, .start 0 1 true, .create 2 0 true, .kill true 2 false, .start 0 2 false] := by decide
/-- at quota from the start: the head is unlocked in the loop and again with the rest of the tail -/
example : runQueue stubPool { exStub with quota := 0 } (fun _ => 0) [0] exEnts =
    [.unlock 1, .unlock 1, .unlock 2] := by decide
/-- witness of the lingering-process exception (F8): 2 starts although 1 (higher priority, same
type, Locked) has not been started — 1 waits for its previous crunch-run to exit -/
example : runQueue stubPool { exStub with lingering := fun u => u == 1, quota := 9 } (fun _ => 2) [0] exEnts =
    [.kill true 1 true, .kill true 2 false, .start 0 2 true, .kill false 3 false, .lockgo 3] := by decide
/-- witness of the Create exception: a pool whose Create fails once and then succeeds lets 2 start
while 1 has no worker (the `continue` branch does not set the latch) -/
def flakyPool : Pool Nat where
  atQuota := fun n => (false, n)
  create := fun _ n => (decide (1 ≤ n), n + 1)
  kill := fun _ _ n => (false, n)
  start := fun _ _ n => (true, n)
example : runQueue flakyPool 0 (fun _ => 0) [0] exEnts =
    [.create 1 0 false, .create 2 0 true, .kill true 2 false, .start 0 2 true, .kill false 3 false, .lockgo 3] := by
  decide

/-- the seeded-change scenario C16-f on the model: container 1 is Queued when the controller answers
the poll, its lock is granted while the poll is in flight; the cache ends with 1 Locked -/
example :
    let c0 : Cache := { current := [(1, { st := .queued, prio := 5, ty := some 0, addedSt := .queued, addedNeed := 1 })],
                        dontupdate := none }
    lookup (runOps (fun _ => some 0) [.begin, .resp 1 .locked 5, .poll [{ uuid := 1, st := .queued, prio := 5, need := 1 }]] c0).current 1 =
      some { st := .locked, prio := 5, ty := some 0, addedSt := .queued, addedNeed := 1 } := by decide
/-- the scenario C16-e on the model: an unsatisfiable Locked container is not added -/
example : (applyPoll (fun _ => none) emptyCache [{ uuid := 1, st := .locked, prio := 5, need := 9 }]).1.current = [] ∧
    (applyPoll (fun _ => none) emptyCache [{ uuid := 1, st := .locked, prio := 5, need := 9 }]).2 = [1] := by decide

/-- the explicit bounds are satisfiable at their edge: the largest RAM sum, a PDH of the largest
admitted manifest length, a tmp mount of 2⁶² bytes -/
def exBigCtr : Ctr :=
  { vcpus := 1, ram := 92233720368547758, keepCacheRAM := 0, preemptible := false,
    image := (List.replicate 32 97) ++ [43, 50, 56, 56, 54, 50, 49, 56, 48, 50, 50, 57, 57, 49],
    mounts := [⟨tmpKind, 4611686018427387904⟩] }
example : pdhSize? exBigCtr.image = some imageLenBound := by decide
example : InRange 0 exBigCtr :=
  C16_inrange_of_bounds 0 exBigCtr ⟨by decide, by decide⟩
    (fun n hn => by
      have h : pdhSize? exBigCtr.image = some imageLenBound := by decide
      rw [h] at hn; injection hn with hn; omega)
    ⟨by decide, by decide⟩
/-- one byte more RAM and the int64 product wraps to a negative needRAM: any type is then "big enough"
(the range hypothesis of Part A is needed; see notes, "int64 range") -/
example : (needOf 0 { exBigCtr with ram := 92233720368547759 }).ram = -97088126703734481 := by decide

/-- the real pool at a concrete state: one create op allowed at a time. The first Create succeeds, the
second fails and sets the 5 s hold-off, the third fails because of the hold-off -/
def exRPool : RPool :=
  { now := 1000, atQuotaUntil := 0, thrErr := false, thrUntil := 0, creating := 0, maxOps := 1,
    idle := fun _ => 0, runningProc := fun _ => false }
example : (realPool.create 0 exRPool).1 = true := by decide
example : (realPool.create 0 (realPool.create 0 exRPool).2).1 = false := by decide
example : createBlocked (realPool.create 0 (realPool.create 0 exRPool).2).2 := by decide
/-- what the frozen clock excludes: once `time.Now()` has passed the hold-off (and the cloud call has
returned) Create succeeds again — the "Create failed, then succeeded" exception of
`C16_priority_order` needs such an event to fall inside the pass -/
example : (realPool.create 0 { (realPool.create 0 (realPool.create 0 exRPool).2).2 with now := 6001, creating := 0 }).1 = true := by
  decide

/-- the seeded-change scenario C16-h on the model: a dispatcher that has just started finds container 1
Locked by its own token; if the "locked by me" request does not select the sizing attributes the polled
record carries the all-zero constraint vector instead of the container's (here: code 4) -/
example : pollResultSel false true true
      [{ uuid := 1, st := .locked, prio := 5, need := 4, mine := true, err := false }] [] =
    [{ uuid := 1, st := .locked, prio := 5, need := 0 }] := by decide
example : pollResult [{ uuid := 1, st := .locked, prio := 5, need := 4, mine := true, err := false }] [] =
    [{ uuid := 1, st := .locked, prio := 5, need := 4 }] := by decide

/-- a concrete instance of the hypotheses of `C16_queue_entry_cheapest_adequate`: table exA/exB/exC, the
constraint-vector code is the number of VCPUs, one poll that shows container 1 (1 VCPU) and container 2
(5 VCPUs, Complete): 1 gets exA, 2 is kept with the zero-valued type -/
def exDecode (n : Nat) : Ctr := { exCtr with vcpus := (n : Int) }
example : ∀ n, InRange 10 (exDecode n) := fun _ =>
  have h : InRange 10 exCtr := ⟨by decide, by decide, by decide, by decide⟩
  ⟨h.ram, h.img, h.tmp, h.scratch⟩
example : FullPolls (fun u => if u = 1 then 1 else 5)
    [.begin, .poll [{ uuid := 1, st := .queued, prio := 5, need := 1 }, { uuid := 2, st := .complete, prio := 0, need := 5 }]] := by
  simp [FullPolls]
example : ((runOps (chooserOf (fun _ => [exA, exB, exC]) 10 exDecode)
      [.begin, .poll [{ uuid := 1, st := .queued, prio := 5, need := 1 }, { uuid := 2, st := .complete, prio := 0, need := 5 }]]
      emptyCache).current.map (fun p => (p.1, p.2.ty))) = [(1, some 1), (2, none)] := by decide

end ArvVerif.C16
