/-
C10 — property theorems for sdk/go/blockdigest/blockdigest.go: locator parsing
(`LocatorPattern`, `FromString`, `ParseBlockLocator` — the same code is `manifest.ParseBlockLocator`) and the
`BlockDigest` the manifest package keys its block table by.
-/
import ArvVerif.Proofs.C10_Digest
namespace ArvVerif.C10

/-- **C10_digest_roundtrip.** On the 32 digest characters of any locator (either case) `FromString` succeeds
and `BlockDigest.String()` gives them back lower-cased; any other string (wrong length, a character outside
`[0-9a-fA-F]`) is an error. -/
theorem C10_digest_roundtrip (s : Bytes) :
    (s.length = 32 → s.all isAnyHex = true →
      ∃ d, digestFromString s = some d ∧ digestString d = s.map lowerHexB) ∧
    ((s.length ≠ 32 ∨ s.all isAnyHex = false) → digestFromString s = none) := by
  refine ⟨fun hl ha => ?_, digestFromString_none s⟩
  obtain ⟨d, h1, h2, _⟩ := digestFromString_spec s hl ha
  exact ⟨d, h1, h2⟩

/-- **C10_digest_key.** Two locators that `LocatorPattern` accepts carry the same `blockdigest.BlockDigest`
(the key of `normalizedText`'s block table) exactly when their `digestKey`s — the key of the codec model's
table — are equal: the model's abstraction of the Go map key is exact. -/
theorem C10_digest_key (t u dt du : Bytes) (ht : goLocatorDigits t = some dt) (hu : goLocatorDigits u = some du) :
    digestFromString (t.take 32) = digestFromString (u.take 32) ↔ digestKey t = digestKey u := by
  obtain ⟨_, _, h1, h2, _⟩ := locator_split t dt ht
  obtain ⟨_, _, h3, h4, _⟩ := locator_split u du hu
  rw [digestKey_eq, digestKey_eq]
  exact digestFromString_eq_iff _ _ h1 h3 h2 h4

/-- **C10_parse_block_locator — for every string.** `ParseBlockLocator` (blockdigest and manifest package)
never hits the index-out-of-range on `tokens[1]`; it rejects exactly the strings `LocatorPattern` rejects
and the accepted ones whose size does not fit an `int`; on every other accepted string it returns the digest
that prints back as the lower-cased 32 digest characters, the decimal value of the size field, and hints such
that digest text, size text and hints joined by `+` are the token. -/
theorem C10_parse_block_locator (t : Bytes) :
    parseBlockLocator t ≠ .panic ∧
    (isBlockLocator t = false → parseBlockLocator t = .err) ∧
    (∀ ds, goLocatorDigits t = some ds →
      (natOfDigits ds < two63 →
        ∃ d hints, parseBlockLocator t = .ok ⟨d, (natOfDigits ds : Nat), hints⟩ ∧ digestString d = digestKey t ∧
          t = joinWith bPlus (t.take 32 :: ds :: hints)) ∧
      (two63 ≤ natOfDigits ds → parseBlockLocator t = .err)) := by
  refine ⟨parseBlockLocator_no_panic t, parseBlockLocator_rejects t, fun ds h => ?_⟩
  obtain ⟨hints, hsp, hlen, hall, hdne, hd, hjoin⟩ := locator_split t ds h
  obtain ⟨d, hd1, hd2, _⟩ := digestFromString_spec (t.take 32) hlen hall
  have hg : isGoLocator t = true := isGoLocator_iff.mpr ⟨ds, h⟩
  unfold parseBlockLocator
  simp only [hg, Bool.not_true, Bool.false_eq_true, if_false, hsp, hd1, parseIntBits_digits 64 ds hdne hd]
  exact ⟨fun hlt => ⟨d, hints, by rw [if_pos (show _ < 2 ^ (64 - 1) from hlt)], by rw [hd2, digestKey_eq], hjoin⟩,
    fun hge => by rw [if_neg (show ¬ _ < 2 ^ (64 - 1) from Nat.not_lt.mpr hge)]⟩

/-- **C10_spec_locator_parses.** A locator of the published grammar (lower-case digest) whose size fits an
`int` is parsed by `ParseBlockLocator` into exactly the grammar's reading: digest = its 32 characters, size =
`Loc.size` (the size `resolve` uses), and hash+size (`stripLoc`, what the portable data hash keeps) is the
digest's `String()` + `+` + the size digits. -/
theorem C10_spec_locator_parses (t : Bytes) (l : Loc) (h : specLocator t = some l) (hsz : l.size < two63) :
    ∃ d hints ds, parseBlockLocator t = .ok ⟨d, (l.size : Nat), hints⟩ ∧ digestString d = t.take 32 ∧
      stripLoc t = digestString d ++ bPlus :: ds ∧ natOfDigits ds = l.size := by
  obtain ⟨ds, hlow, rfl⟩ := specLocator_eq_some.mp h
  have hgo := goLocatorDigits_of_lower hlow
  obtain ⟨d, hints, h1, h2, _⟩ := ((C10_parse_block_locator t).2.2 ds hgo).1 hsz
  obtain ⟨hs, tl, ht, hlen, hall, _, _, _⟩ := locatorSizeDigits_shape isLowerHex t ds hlow
  have hfix : (t.take 32).map lowerHexB = t.take 32 := by
    rw [ht, List.take_left' hlen]
    exact (List.map_congr_left fun x hx => lowerHexB_of_lowerHex x (List.all_eq_true.mp hall x hx)).trans
      (List.map_id hs)
  have hd : digestString d = t.take 32 := by rw [h2, digestKey_eq, hfix]
  exact ⟨d, hints, ds, h1, hd, by rw [stripLoc_eq t ds hlow, hd], rfl⟩

/-- non-vacuity: a lower-case locator with a hint, and an upper-case spelling of the same digest -/
example : parseBlockLocator (str "d41d8cd98f00b204e9800998ecf8427e+0+Afoo@bar") =
    .ok ⟨⟨0xd41d8cd98f00b204, 0xe9800998ecf8427e⟩, 0, [str "Afoo@bar"]⟩ := by decide +kernel
example : digestFromString (str "D41D8CD98F00B204E9800998ECF8427E") =
    digestFromString (str "d41d8cd98f00b204e9800998ecf8427e") :=
  -- by `digestFromString_eq_iff`; evaluating both sides outright costs the kernel several times as much
  (digestFromString_eq_iff _ _ (by decide +kernel) (by decide +kernel) (by decide +kernel) (by decide +kernel)).mpr
    (by decide +kernel)
example : digestString ⟨0xd41d8cd98f00b204, 0xe9800998ecf8427e⟩ = str "d41d8cd98f00b204e9800998ecf8427e" := by
  decide +kernel
example : parseBlockLocator (str "d41d8cd98f00b204e9800998ecf8427e+9223372036854775808") = .err := by decide +kernel
example : parseBlockLocator (str "d41d8cd98f00b204e9800998ecf8427+0") = .err := by decide +kernel

end ArvVerif.C10
