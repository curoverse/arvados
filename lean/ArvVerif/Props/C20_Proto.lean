/-
C20: property theorems about the concurrent part of `splitListRequest`
(goroutine per cluster, `errs` channel, collector with first-error cancellation), modelled as the
transition system of Model/C20_Proto.lean. They connect *every schedule* of that system with the
sequential model (`run`, `runCancel`) that the other C20 theorems are about, and turn the causality
hypothesis `ValidCut` of `C20_cancel` into a theorem.
-/
import ArvVerif.Proofs.C20_Plan
import ArvVerif.Proofs.C20_Cancel
import ArvVerif.Proofs.C20_ProtoSystem
namespace ArvVerif.C20

theorem runClusterCut_eq_full (cfg : Cfg) (o : Opts) (c : ClusterId) (todo : List Uuid) (cut : Option Nat) :
    runClusterCut cfg o c todo cut = full cfg (remoteOpts cfg.localId o) c todo cut := by
  unfold runClusterCut full
  cases backendFor cfg c <;> rfl

theorem runCluster_eq_full (cfg : Cfg) (o : Opts) (c : ClusterId) (todo : List Uuid) :
    runCluster cfg o c todo = full cfg (remoteOpts cfg.localId o) c todo none := by
  unfold runCluster full
  cases backendFor cfg c <;> rfl

theorem find_c (l : List GState) (hnd : (l.map (·.c)).Nodup) (g : GState) (hg : g ∈ l) :
    l.find? (fun x => decide (x.c = g.c)) = some g := by
  obtain ⟨pre, post, rfl⟩ := List.append_of_mem hg
  exact List.find?_eq_some_iff_append.mpr
    ⟨by simp, pre, post, rfl, fun a ha => by simpa using map_ne_middle hnd (Or.inl ha)⟩

/-- The code's allocation — `remoteOpts := opts` inside the goroutine, one variable each (tied by
`tie_splitConds`/`tie_splitAssigns`: the `remoteOpts.Select != nil` test and the assignment stand
behind the backend selection of the goroutine) — satisfies the hypothesis of `C20_proto_sound`. -/
theorem C20_proto_own_vars (cfg : Cfg) (o : Opts) (gs : List (ClusterId × List Uuid))
    (hplan : plan cfg.localId cfg.maxItems o = .split gs) : (gs.map (fun g => id g.1)).Nodup :=
  (plan_split_groups hplan).1

/-- **Every schedule of the goroutines, the channel and the collector is a run of the sequential model.**
For a split request, arbitrary backends, any allocation of the goroutines' `remoteOpts` variables in
which no two goroutines share one (the code: declared inside the goroutine), and any complete run of
the transition system (any interleaving of goroutine steps and receives, a cancelled context seen or
not seen by each later call):
* there is exactly one goroutine per group, and what each did — the requests it sent (each carrying
  *its own* batch), the answers, the pages handed to the merge callback, how it ended — is exactly
  `runClusterCut` of the sequential model under the cancellation schedule `cutOf` the run realised;
* that schedule has a cause (`ValidCut`): a goroutine sees a cancelled context only after a goroutine
  that never saw one has failed by itself — the hypothesis of `C20_cancel` is a theorem here;
* `firstErr = nil` ⇒ nobody was cancelled and the request is the undisturbed `run`, which succeeded;
* `firstErr = e` ⇒ `e` is one of the errors `runCancel` allows (the genuine failure of an unaffected
  cluster), so `C20_cancel`/`C20_fail_whole` apply to what Go returns. -/
theorem C20_proto_sound (cfg : Cfg) (o : Opts) (gs : List (ClusterId × List Uuid))
    (hplan : plan cfg.localId cfg.maxItems o = .split gs)
    (slotOf : ClusterId → ClusterId) (hslots : (gs.map (fun g => slotOf g.1)).Nodup)
    (s : PState) (hrun : PSteps cfg (remoteOpts cfg.localId o) (initP slotOf o gs) s) (hc : s.complete) :
    s.gs.map (fun g => (g.c, g.todo0)) = gs ∧
    (∀ g ∈ s.gs, g.result = runClusterCut cfg o g.c g.todo0 (s.cutOf g.c)) ∧
    ValidCut cfg o gs s.cutOf ∧
    (s.firstErr = none → (∀ c, s.cutOf c = none) ∧ runCancel cfg o s.cutOf false = run cfg o ∧
      ∃ items, (run cfg o).out = .ok items) ∧
    (∀ e, s.firstErr = some e → ∃ ss, (runCancel cfg o s.cutOf false).out = .err ss ∧ e ∈ ss) := by
  have hinv := reach_inv hslots hrun
  -- one goroutine per group
  have hcs : s.gs.map (fun g => (g.c, g.todo0)) = gs := by
    have := congrArg (List.map (fun t : ClusterId × List Uuid × ClusterId => (t.1, t.2.1))) hinv.static
    simpa [List.map_map, Function.comp_def, staticOf] using this
  have hcut : ∀ g ∈ s.gs, s.cutOf g.c = g.sawCancel := by
    have hcids : (s.gs.map (·.c)).Nodup := by
      rw [show s.gs.map (·.c) = gs.map (·.1) by rw [← hcs, List.map_map]; rfl]
      exact (plan_split_groups hplan).1
    intro g hg
    unfold PState.cutOf
    rw [find_c s.gs hcids g hg]; rfl
  have hgrp : ∀ g ∈ s.gs, (g.c, g.todo0) ∈ gs := fun g hg => hcs ▸ List.mem_map.mpr ⟨g, hg, rfl⟩
  have hgor : ∀ gg ∈ gs, ∃ g ∈ s.gs, gg = (g.c, g.todo0) :=
    hcs ▸ List.forall_mem_map.mpr fun g hg => ⟨g, hg, rfl⟩
  -- every goroutine has finished; what it did is the sequential model's run under its cut
  have hfin : ∀ g ∈ s.gs, ∃ st, g.phase = .finished st := fun g hg => (isFinished_iff g).mp (hc.1 g hg)
  have hres : ∀ g ∈ s.gs, g.result = runClusterCut cfg o g.c g.todo0 (s.cutOf g.c) := by
    intro g hg
    obtain ⟨st, hp⟩ := hfin g hg
    rw [hcut g hg, runClusterCut_eq_full, linv_finished (hinv.loc g hg) hp]
    simp [GState.result, hp]
  -- a goroutine that never saw a cancellation: its group is unaffected, its result is `runCluster`
  have hunaff : ∀ g ∈ s.gs, g.sawCancel = none →
      affected cfg o s.cutOf (g.c, g.todo0) = false ∧
      ∀ st, g.phase = .finished st → (runCluster cfg o g.c g.todo0).stop = st := by
    intro g hg hsc
    refine ⟨by simp [affected, hcut g hg, hsc], fun st hp => ?_⟩
    rw [runCluster_eq_full, ← hsc, linv_finished (hinv.loc g hg) hp]
  have hvalid : ValidCut cfg o gs s.cutOf := by
    rintro ⟨gg, hgg, haff⟩
    obtain ⟨g, hg, rfl⟩ := hgor gg hgg
    -- `g` saw the cancellation, so there was a first error, and its sender failed by itself
    have hsome : g.sawCancel ≠ none := fun hn => by rw [(hunaff g hg hn).1] at haff; cases haff
    have hfirst : s.firstErr ≠ none := fun hn => hsome (hinv.nocancel (hinv.first_iff.mp hn) g hg)
    obtain ⟨e, he⟩ := Option.ne_none_iff_exists'.mp hfirst
    obtain ⟨r, hr, hrp, hrs⟩ := hinv.first_src e he
    exact ⟨(r.c, r.todo0), hgrp r hr, (hunaff r hr hrs).1, by rw [(hunaff r hr hrs).2 _ hrp]; nofun⟩
  refine ⟨hcs, hres, hvalid, fun hnone => ?_, fun e he => ?_⟩
  · have hcl := hinv.first_iff.mp hnone
    have hnocut : ∀ c, s.cutOf c = none := by
      intro c
      unfold PState.cutOf
      cases hf : s.gs.find? (fun g => decide (g.c = c)) with
      | none => rfl
      | some g => exact hinv.nocancel hcl g (List.mem_of_find?_eq_some hf)
    refine ⟨hnocut, runCancel_unaffected false hplan fun g _ => by simp [affected, hnocut g.1], ?_⟩
    -- nothing is left in the channel, so no goroutine failed
    have hchan : s.chan = [] := by
      have := hinv.count
      rw [List.filter_eq_self.mpr hc.1, hc.2] at this
      exact List.length_eq_zero_iff.mp (by omega)
    refine ⟨_, (run_ok_iff hplan _).mpr ⟨fun gg hgg => ?_, rfl⟩⟩
    obtain ⟨g, hg, rfl⟩ := hgor gg hgg
    obtain ⟨st, hp⟩ := hfin g hg
    have hst := (hunaff g hg (hinv.nocancel hcl g hg)).2 st hp
    rw [hst]
    cases st with
    | done => rfl
    | failed e =>
      rcases hinv.failed_seen g hg e hp with h1 | ⟨e', h1⟩
      · exact absurd hnone h1
      · rw [hchan] at h1; cases h1
    | starved => exact absurd hst (runCluster_not_starved cfg o g.c g.todo0).1
  · obtain ⟨r, hr, hrp, hrs⟩ := hinv.first_src e he
    obtain ⟨hra, hrst⟩ := hunaff r hr hrs
    exact runCancel_err_of_own false hplan (mem_ownErrs.mpr ⟨_, hgrp r hr, hra, hrst _ hrp⟩)

/-- **No deadlock, no endless run.** In every state reachable from the start (arbitrary backends, any
schedule) that is not complete some step is possible — a goroutine can always move, and once all
have sent, the value is in the channel for the collector — and every step decreases a measure that
starts at `Σ_c (2·|todo_c| + 2) + #clusters`. So `splitListRequest` returns, after at most that many
steps, whatever the backends answer (the property's "instead of … looping"). -/
theorem C20_proto_terminates (cfg : Cfg) (o : Opts) (gs : List (ClusterId × List Uuid))
    (slotOf : ClusterId → ClusterId) (hslots : (gs.map (fun g => slotOf g.1)).Nodup)
    (s : PState) (hrun : PSteps cfg (remoteOpts cfg.localId o) (initP slotOf o gs) s) :
    (¬ s.complete → ∃ t, PStep cfg (remoteOpts cfg.localId o) s t) ∧
    (∀ t, PStep cfg (remoteOpts cfg.localId o) s t → t.measure < s.measure) ∧
    s.measure ≤ (initP slotOf o gs).measure ∧
    (initP slotOf o gs).measure = (gs.map (fun g => 2 * g.2.length + 2)).sum + gs.length := by
  refine ⟨pstep_progress (reach_inv hslots hrun), fun t => pstep_measure, ?_, ?_⟩
  · induction hrun with
    | refl => exact Nat.le_refl _
    | tail t u _ hstep ih => exact Nat.le_trans (Nat.le_of_lt (pstep_measure hstep)) ih
  · simp [PState.measure, initP, List.map_map, Function.comp_def, initG, GState.measure]

theorem psteps_trans (cfg : Cfg) (ropts : Opts) (s t u : PState)
    (h1 : PSteps cfg ropts s t) (h2 : PSteps cfg ropts t u) : PSteps cfg ropts s u := by
  induction h2 with
  | refl => exact h1
  | tail v w _ hstep ih => exact PSteps.tail _ _ _ ih hstep

/-- Non-vacuity of `C20_proto_sound` for *every* instance: a complete run exists (follow any enabled
step until the measure is used up). -/
theorem C20_proto_run_exists (cfg : Cfg) (o : Opts) (gs : List (ClusterId × List Uuid))
    (slotOf : ClusterId → ClusterId) (hslots : (gs.map (fun g => slotOf g.1)).Nodup) :
    ∃ s, PSteps cfg (remoteOpts cfg.localId o) (initP slotOf o gs) s ∧ s.complete := by
  have key : ∀ n, ∀ s, PSteps cfg (remoteOpts cfg.localId o) (initP slotOf o gs) s → s.measure < n →
      ∃ t, PSteps cfg (remoteOpts cfg.localId o) (initP slotOf o gs) t ∧ t.complete := by
    intro n
    induction n with
    | zero => intro s _ hm; omega
    | succ n ih =>
      intro s hs hm
      by_cases hc : s.complete
      · exact ⟨s, hs, hc⟩
      · obtain ⟨hprog, hdec, -⟩ := C20_proto_terminates cfg o gs slotOf hslots s hs
        obtain ⟨t, ht⟩ := hprog hc
        have := hdec t ht
        exact ih t (PSteps.tail _ _ _ hs ht) (by omega)
  exact key _ _ (PSteps.refl _) (Nat.lt_succ_self _)

/-! ### what distinct variables buy: the same system with ONE shared `remoteOpts`

Two remote clusters, one uuid each; `slotOf = fun _ => []` puts both goroutines' `remoteOpts` into
one variable (what hoisting `remoteOpts := opts` out of the goroutine does). Schedule: bbbbb writes its
request, ccccc writes its request, bbbbb calls `fn`: cluster bbbbb is asked for ccccc's uuid. So the
hypothesis `hslots` of `C20_proto_sound` cannot be dropped. -/

def sB1 : Uuid := "bbbbb-4zz18-000000000000001".toList
def sC1 : Uuid := "ccccc-4zz18-000000000000001".toList
def sBk : Backend := fun _ _ => .page []

def sCfg : Cfg :=
  { localId := "aaaaa".toList, maxItems := 10, localB := sBk
    remotes := fun c => if c = "bbbbb".toList ∨ c = "ccccc".toList then some sBk else none }

def sOpts : Opts :=
  { filters := [⟨sUuid, sIn, .slist [sB1, sC1]⟩], count := sNone, limit := -1, offset := 0,
    order := [], select := none, bypass := false, fwd := [] }

def sGs : List (ClusterId × List Uuid) := [("bbbbb".toList, [sB1]), ("ccccc".toList, [sC1])]

example : plan sCfg.localId sCfg.maxItems sOpts = .split sGs := by
  -- literals to character lists before evaluating, as in Props/C20.lean (`wPlan`)
  unfold sCfg sOpts sGs sB1 sC1
  repeat rw [String.toList_ofList]
  decide
-- with the code's allocation the hypothesis holds on this instance
example : (sGs.map (fun g => id g.1)).Nodup := by
  unfold sGs
  repeat rw [String.toList_ofList]
  decide

theorem C20_proto_shared_var_unsafe :
    ∃ s, PSteps sCfg (remoteOpts sCfg.localId sOpts) (initP (fun _ => []) sOpts sGs) s ∧
      ∃ g ∈ s.gs, g.c = "bbbbb".toList ∧
        g.acc.log = [(batchReq (remoteOpts sCfg.localId sOpts) [sC1], .page [])] := by
  have hb : backendFor sCfg "bbbbb".toList = some sBk := by unfold backendFor sCfg; simp
  have hcb : backendFor sCfg "ccccc".toList = some sBk := by unfold backendFor sCfg; simp
  let gb := initG (fun _ => []) ("bbbbb".toList, [sB1])
  let gc := initG (fun _ => []) ("ccccc".toList, [sC1])
  -- bbbbb writes its request, ccccc writes its request into the same variable, bbbbb calls
  refine ⟨_, .tail _ _ _ (.tail _ _ _ (.tail _ _ _ (.refl _)
    (.gor _ [] [gc] gb _ _ _ rfl (.prepare gb [sB1] 0 sBk rfl (by simp) hb)))
    (.gor _ [_] [] gc _ _ _ rfl (.prepare gc [sC1] 0 sBk rfl (by simp) hcb)))
    (.gor _ [] [_] _ _ _ _ rfl (.call _ [sB1] 0 sBk rfl hb)), _, List.mem_cons_self, ?_, ?_⟩
  · rfl
  · rfl

/-- **Options the split never reads reach every backend unchanged**: `where`, `include`, `cluster_id`,
`include_trash`, `include_old_versions`, `distinct` of every request a split sends are the client's. -/
theorem C20_options_forwarded (cfg : Cfg) (o : Opts) (c : ClusterId) (todo : List Uuid) :
    ∀ e ∈ (runCluster cfg o c todo).log,
      e.1.whereKV = o.whereKV ∧ e.1.includeS = o.includeS ∧ e.1.clusterId = o.clusterId ∧
      e.1.includeTrash = o.includeTrash ∧ e.1.includeOldVersions = o.includeOldVersions ∧
      e.1.distinct = o.distinct := by
  intro e he
  rcases runCluster_run cfg o c todo with ⟨_, h⟩ | ⟨B, _, h⟩
  · rw [h] at he; cases he
  · obtain ⟨batch, i, _, _, rfl, -⟩ := h.log_entries e he
    exact ⟨rfl, rfl, rfl, rfl, rfl, rfl⟩

end ArvVerif.C20
