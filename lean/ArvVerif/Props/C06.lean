/-
C06 — keep-balance acts only on a complete view of collections and block indexes. Four parts, each over
its own model file: (a) `EachCollection`'s paging (Model/C06.lean), (b) the index readers and the
producer (Model/C06_Index.lean), (c) the sweep's abort on error (Model/C06_Run.lean), (c') `GetCurrentState`
as a small-step system (Model/C06_GCS.lean). The `example`s after a theorem show that its hypotheses
are satisfiable by a non-trivial instance (and, where the conclusion is conditional, that the
condition occurs).
-/
import ArvVerif.Proofs.C06_Scan
import ArvVerif.Proofs.C06_Sched
import ArvVerif.Proofs.C06_IndexProducer
import ArvVerif.Proofs.C06_Run
import ArvVerif.Proofs.C06_GCS_Live
import ArvVerif.Proofs.C06_GCS_Exec
namespace ArvVerif.C06

/-- For every collection table (any size, timestamp ties of any multiplicity — also more ties than
the page length), every effective page length ≥ 1, every environment `env` (`env k` = the table
seen by request `k`, an arbitrary function of `k`: any schedule of modifications, additions and
deletions) in which uuids are unique and the collections `P` stay present with non-decreasing
modified_at, every request/callback failure script and every fuel: if `EachCollection` returns nil,
every collection of `P` was passed to the callback at least once. -/
theorem C06_paging_complete (P : List Nat) (limit : Nat) (env : Nat → List Coll) (fail : Nat → Bool)
    (cbFail : Option Nat) (fuel : Nat) (hl : 1 ≤ limit)
    (hnd : ∀ k, ((env k).map Coll.uuid).Nodup)
    (hstart : ∀ u ∈ P, ∃ c ∈ env 0, c.uuid = u)
    (henv : ∀ k, Env P (env k) (env (k + 1)))
    (hok : (scan limit env fail cbFail fuel).out = .ok) :
    ∀ u ∈ P, u ∈ (scan limit env fail cbFail fuel).st.seen :=
  scan_complete fail cbFail fuel hl hnd hstart henv hok

section examples_a
/-- five collections sharing one timestamp (more ties than the page length 2) and a later one -/
def exDb : List Coll := [⟨1, 5⟩, ⟨2, 5⟩, ⟨3, 5⟩, ⟨4, 5⟩, ⟨5, 5⟩, ⟨6, 7⟩]
/-- while the scan runs, collection 1 is modified (fresh timestamp 9), 9 is added and 2 is deleted -/
def exDb' : List Coll := [⟨1, 9⟩, ⟨3, 5⟩, ⟨4, 5⟩, ⟨5, 5⟩, ⟨6, 7⟩, ⟨9, 9⟩]
def exEnv (k : Nat) : List Coll := if k < 3 then exDb else exDb'
def exP : List Nat := [1, 3, 4, 5, 6]

theorem exEnv_nodup : ∀ k, ((exEnv k).map Coll.uuid).Nodup := by
  intro k; unfold exEnv; split <;> decide

theorem exEnv_env : ∀ k, Env exP (exEnv k) (exEnv (k + 1)) := by
  intro k
  unfold exEnv
  split <;> split <;> first | exact ⟨by decide, by decide⟩ | omega

/-- the hypotheses hold for a history with ties, a modification, an addition and a deletion, the
scan returns nil, so the conclusion applies: all of 1,3,4,5,6 were passed to the callback -/
example : (scan 2 exEnv (fun _ => false) none 40).out = .ok := by decide +kernel
example : ∀ u ∈ exP, u ∈ (scan 2 exEnv (fun _ => false) none 40).st.seen :=
  C06_paging_complete exP 2 exEnv _ none 40 (by decide) exEnv_nodup (by decide) exEnv_env (by decide +kernel)
/-- the modified collection is passed twice; the deleted one (not in `exP`) once, before its deletion -/
example : (scan 2 exEnv (fun _ => false) none 40).st.seen.reverse = [1, 2, 3, 4, 5, 6, 1, 9] := by
  decide +kernel
end examples_a

/-- The scripted form the correspondence check runs: the table starts as `db0` and `sched[k]`
(modify / add / delete operations) is applied just before request `k`. If no operation deletes or
re-adds a collection of `P` and modifications of `P`-collections never move modified_at backwards
(`SchedOK`), a scan that returns nil has passed all of `P` to the callback; and it always ends within
`|sched| + 3·|final table| + 3` page requests. -/
theorem C06_paging_complete_sched (P : List Nat) (limit : Nat) (db0 : List Coll) (sched : List (List Op))
    (fail : Nat → Bool) (cbFail : Option Nat) (fuel : Nat) (hl : 1 ≤ limit)
    (hnd : (db0.map Coll.uuid).Nodup) (hP : Present P db0) (hs : SchedOK P db0 sched) :
    ((scan limit (envOf db0 sched) fail cbFail fuel).out = .ok →
      ∀ u ∈ P, u ∈ (scan limit (envOf db0 sched) fail cbFail fuel).st.seen) ∧
    (sched.length + fuelBound (envOf db0 sched sched.length) ≤ fuel →
      (scan limit (envOf db0 sched) fail cbFail fuel).out ≠ .outOfFuel) := by
  obtain ⟨h1, h2, h3⟩ := envOf_ok sched db0 hnd hP hs
  exact ⟨fun hok => scan_complete fail cbFail fuel hl h1 h2 h3 hok,
    fun hf => scan_terminates hl h1 (envOf_const sched db0) hf⟩

/-- the schedule of the example above: before request 3, modify 1 to a fresh timestamp, add 9, delete 2 -/
example : SchedOK exP exDb [[], [], [], [.modify 1 9, .add 9 9, .del 2]] := by
  simp [SchedOK, OpsOK, OpOK, applyOps, exP, exDb]
example : Present exP exDb := by unfold Present; decide
example : envOf exDb [[], [], [], [.modify 1 9, .add 9 9, .del 2]] 3 =
    [⟨1, 9⟩, ⟨3, 5⟩, ⟨4, 5⟩, ⟨5, 5⟩, ⟨6, 7⟩, ⟨9, 9⟩] := by decide
example : (scan 2 (envOf exDb [[], [], [], [.modify 1 9, .add 9 9, .del 2]]) (fun _ => false) none 40).out = .ok := by
  decide +kernel

/-- The same for any server: whatever pages are returned, as long as each is a sorted prefix of the
filtered table (`PageOf`; the page length may differ from request to request), and with arbitrary
environment steps between requests. -/
theorem C06_paging_complete_any_server {P : List Nat} {db : List Coll} {s s' : St} {limit : Nat}
    {pg : List Coll} {cbFail : Option Nat} (r : Reach P db s) (hp : PageOf db s.filt limit pg)
    (hn : next cbFail s pg = .done s') : ∀ u ∈ P, u ∈ s'.seen :=
  paging_complete r hp hn

example : Reach exP exDb init := .start _ (by decide)
example : PageOf exDb Filt.all 2 (serve exDb .all 2) := serve_pageOf _ _ _ (by decide) (by decide)

/-- Termination: if the table is constant from request `K` on (after finitely many concurrent
changes; `K = 0`: no concurrent change at all), the scan ends — normally or with an error — within
`K + 3·|db| + 3` page requests, whatever fails. -/
theorem C06_paging_progress (limit : Nat) (env : Nat → List Coll) (fail : Nat → Bool)
    (cbFail : Option Nat) (db : List Coll) (K fuel : Nat) (hl : 1 ≤ limit)
    (hnd : ∀ k, ((env k).map Coll.uuid).Nodup) (hconst : ∀ j, K ≤ j → env j = db)
    (hfuel : K + fuelBound db ≤ fuel) :
    (scan limit env fail cbFail fuel).out ≠ .outOfFuel :=
  scan_terminates hl hnd hconst hfuel

example : ∀ j, 3 ≤ j → exEnv j = exDb' := fun _ hj => if_neg (Nat.not_lt.2 hj)
example : (scan 2 exEnv (fun _ => false) none (3 + fuelBound exDb')).out ≠ .outOfFuel :=
  C06_paging_progress 2 exEnv _ none exDb' 3 _ (by decide) exEnv_nodup
    (fun _ hj => if_neg (Nat.not_lt.2 hj)) (Nat.le_refl _)
/-- the bound is not vacuous: with too little fuel the model does report `outOfFuel` -/
example : (scan 2 exEnv (fun _ => false) none 3).out = .outOfFuel := by decide +kernel

/-- Error propagation: a scan that returns nil made only requests that were answered without error
(all `nreq` of them) and never invoked the callback invocation that fails. Contrapositive: a failed
page/count request or a callback error ends the scan with an error. -/
theorem C06_paging_error_propagates (limit : Nat) (env : Nat → List Coll) (fail : Nat → Bool)
    (cbFail : Option Nat) (fuel : Nat) (hok : (scan limit env fail cbFail fuel).out = .ok) :
    (∀ j, j < (scan limit env fail cbFail fuel).nreq → fail j = false) ∧
    (∀ n, cbFail = some n → (scan limit env fail cbFail fuel).st.seen.length ≤ n) :=
  scan_ok hok

/-- … and the error is immediate: the loop returns at the failing request / callback without
issuing another request. -/
theorem C06_paging_error_immediate (limit : Nat) (env : Nat → List Coll) (fail : Nat → Bool)
    (cbFail : Option Nat) (fuel k : Nat) (s : St) :
    (fail k = true →
      (pageLoop limit env fail cbFail (fuel + 1) k s).out = .errRequest ∧
      (pageLoop limit env fail cbFail (fuel + 1) k s).nreq = k + 1) ∧
    (fail k = true → (finalCheck env fail k s).out = .errRequest) ∧
    (fail 0 = true → (scan limit env fail cbFail fuel).out = .errRequest ∧
      (scan limit env fail cbFail fuel).nreq = 1) ∧
    (fail k = false → ∀ s', next cbFail (pushLog s (.reqPage s.filt))
        (serve (env k) (pushLog s (.reqPage s.filt)).filt limit) = .cbErr s' →
      (pageLoop limit env fail cbFail (fuel + 1) k s).out = .errCallback ∧
      (pageLoop limit env fail cbFail (fuel + 1) k s).nreq = k + 1) := by
  refine ⟨?_, ?_, ?_, ?_⟩
  · intro h; unfold pageLoop; simp [h]
  · intro h; unfold finalCheck; simp [h]
  · intro h; unfold scan; simp [h]
  · intro h s' hn; unfold pageLoop; simp [h, hn]

example : (scan 2 exEnv (fun k => k == 2) none 40).out = .errRequest := by decide +kernel
example : (scan 2 exEnv (fun _ => false) (some 3) 40).out = .errCallback ∧
    (scan 2 exEnv (fun _ => false) (some 3) 40).st.seen.length = 4 := by decide +kernel
/-- null modified_at: the loop gives up with its BUG error instead of looping -/
example : (scan 3 (fun _ => [⟨1, 0⟩, ⟨2, 0⟩, ⟨3, 0⟩, ⟨4, 4⟩]) (fun _ => false) none 40).out = .errBug := by
  decide +kernel
/-- a row with an old timestamp that appears behind the cursor is caught by the final count -/
example : (scan 2 (fun k => if k < 3 then [⟨1, 5⟩, ⟨2, 6⟩, ⟨3, 7⟩] else [⟨1, 5⟩, ⟨2, 6⟩, ⟨3, 7⟩, ⟨8, 5⟩])
    (fun _ => false) none 40).out = .errCount := by decide +kernel

/-- For every well-formed index response `W = l₁\n … lₙ\n \n` (n ≥ 0; lines non-empty, without LF,
not starting with CR) and every proper prefix `P` of `W` — every truncation point — both readers
report an error; and both accept `W` itself: `GetIndex` returns exactly the n lines, and
`KeepService.index` exactly the n entries when each line parses (`GoodLine`). -/
theorem C06_index_truncation (ls : List Line) (hok : ∀ l ∈ ls, LineOK l) :
    (∀ P, P <+: render ls → P ≠ render ls →
      (∃ e, ksIndex P = .error e) ∧ getIndex P = .error .incomplete) ∧
    getIndex (render ls) = .ok (ls.flatMap (fun l => l ++ [10])) ∧
    (∀ es, AllGood ls es → ksIndex (render ls) = .ok es) :=
  ⟨readers_reject_prefix ls hok, getIndex_accepts ls, fun es h => ksIndex_accepts ls es h⟩

section examples_b
/-- `ab+3 12345678` and `c+0 1600000000000000000` -/
def exL1 : Line := [97, 98, 43, 51, 32, 49, 50, 51, 52, 53, 54, 55, 56]
def exL2 : Line := [99, 43, 48, 32, 49, 54, 48, 48, 48, 48, 48, 48, 48, 48, 48, 48, 48, 48, 48, 48, 48, 48, 48]
def exE1 : Entry := ⟨[97, 98, 43, 51], 12345678000000000⟩
def exE2 : Entry := ⟨[99, 43, 48], 1600000000000000000⟩

theorem exL1_good : GoodLine exL1 exE1 :=
  ⟨⟨by decide, by decide, by decide⟩, by decide, by decide, by decide⟩
theorem exL2_good : GoodLine exL2 exE2 :=
  ⟨⟨by decide, by decide, by decide⟩, by decide, by decide, by decide⟩

example : ∀ l ∈ [exL1, exL2], LineOK l := (AllGood.cons exL1_good (.cons exL2_good .nil)).lineOK
example : AllGood [exL1, exL2] [exE1, exE2] := .cons exL1_good (.cons exL2_good .nil)
example : ksIndex (render [exL1, exL2]) = .ok [exE1, exE2] := by decide +kernel
/-- a cut inside a line that leaves a syntactically valid line, and the cut just before the final
LF, are both rejected -/
example : ksIndex ((render [exL1, exL2]).take 34) = .error .noEOF := by decide +kernel
example : ksIndex (render [exL1, exL2]).dropLast = .error .noEOF := by decide +kernel
example : getIndex (render [exL1, exL2]).dropLast = .error .incomplete := by decide +kernel
/-- the empty index is the single byte LF; its only proper prefix, the empty body, is rejected -/
example : render [] = [10] ∧ ksIndex [] = .error .noEOF ∧ getIndex [] = .error .incomplete := by
  decide +kernel
/-- the hypothesis "does not start with CR" is needed: ScanLines turns a final lone CR into an empty
token, so this truncation of `a 1\n`, `\rb 2\n`, `\n` would be accepted -/
example : ksIndex [97, 32, 49, 10, 13] = .ok [⟨[97], 1000000000⟩] := by decide +kernel
end examples_b

/-- A read error while the body is being received (dropped connection, timeout) is always reported
by both readers — whatever part of the body had arrived, complete or not, and however many of the
received lines the scanner had handed over before the error surfaced. -/
theorem C06_index_read_error (toks : List Tok) (received : List Byte) :
    (∃ e, ksLoopAbort toks false [] = .error e) ∧ getIndexAbort received = .error .http :=
  ⟨ksLoopAbort_error toks false [], rfl⟩

example : ksLoopAbort (scanLines (render [exL1, exL2])) false [] = .error .scan := by decide +kernel

/-- Producer: with volumes that honour `IndexTo`'s contract (`VolWF`), `handleIndex` emits the
complete well-formed response exactly when every volume succeeded; if any volume fails the response
is a truncated one, which both readers reject. -/
theorem C06_index_producer (vs : List VolRun) (hwf : ∀ v ∈ vs, VolWF v) :
    ((∀ v ∈ vs, v.ok = true) →
      handleIndex (vs.map VolRun.out) = render (vs.flatMap (·.lines))) ∧
    ((∃ v ∈ vs, v.ok = false) →
      (∃ e, ksIndex (handleIndex (vs.map VolRun.out)) = .error e) ∧
      getIndex (handleIndex (vs.map VolRun.out)) = .error .incomplete) := by
  refine ⟨handleIndex_complete vs hwf, ?_⟩
  intro hf
  obtain ⟨ls, t, hls, ht, heq⟩ := handleIndex_truncated vs hwf hf
  exact readers_reject_prefix ls hls _ ⟨t, heq⟩ fun e => ht (by simpa [e] using heq)

/-- a volume that succeeds, then one that fails after a complete line and half of another -/
example : VolWF ⟨[exL1], [], true⟩ :=
  ⟨List.forall_mem_singleton.2 exL1_good.ok, fun _ => rfl, ⟨exL1, exL1_good.ok, by decide⟩⟩
example : VolWF ⟨[exL2], exL1.take 5, false⟩ :=
  ⟨List.forall_mem_singleton.2 exL2_good.ok, nofun, ⟨exL1, exL1_good.ok, List.take_prefix _ _⟩⟩
example : handleIndex ([⟨[exL1], [], true⟩, ⟨[exL2], exL1.take 5, false⟩, ⟨[exL1], [], true⟩].map VolRun.out)
    = exL1 ++ [10] ++ exL2 ++ [10] ++ exL1.take 5 := by decide +kernel

/-- **The producer's exact line format, for all n.** keepstore's `IndexTo` writes one line
`<hash>+<size> <mtime>` per block (`fmt.Fprint(w, name, "+", size, " ", mtime.UnixNano(), "\n")`). For
every list of blocks — any hash of 1..64 hex digits, any size and any mtime in int64 range, the decimal
numerals of any length — the complete response is accepted by `KeepService.index` with exactly the
entries `(<hash>+<size>, mtime)` (legacy-seconds fix applied), and every proper prefix of it is
rejected by both readers. This discharges the `AllGood` hypothesis of `C06_index_truncation` for
everything the producer can write (decimal round trip `parseInt64 (decimal n) = n`). -/
theorem C06_index_producer_format (bs : List (List Nat × Nat × Nat))
    (h : ∀ b ∈ bs, b.1 ≠ [] ∧ (∀ x : Nat, x ∈ b.1 → isHex x) ∧ b.1.length ≤ 64 ∧ b.2.1 < 2 ^ 63 ∧ b.2.2 < 2 ^ 63) :
    ksIndex (render (bs.map (fun b => producerLine b.1 b.2.1 b.2.2))) =
      .ok (bs.map (fun b => ⟨b.1 ++ 43 :: decimal b.2.1, fixMtime (b.2.2 : Int)⟩)) ∧
    (∀ P, P <+: render (bs.map (fun b => producerLine b.1 b.2.1 b.2.2)) →
      P ≠ render (bs.map (fun b => producerLine b.1 b.2.1 b.2.2)) →
      (∃ e, ksIndex P = .error e) ∧ getIndex P = .error .incomplete) := by
  have hg := producer_allGood bs h
  exact ⟨ksIndex_accepts _ _ hg, readers_reject_prefix _ hg.lineOK⟩

/-- the decimal round trip itself, for every n in int64 range (`strconv.ParseInt` of what `fmt` prints) -/
theorem C06_index_decimal_roundtrip (n : Nat) (h : n < 2 ^ 63) : parseInt64 (decimal n) = some (n : Int) :=
  parseInt64_decimal n h

/-- a block with a 32-digit hash, size 67108864 and a nanosecond mtime; one with a legacy seconds mtime -/
example : producerLine [100, 52, 49, 100] 67108864 1600000000000000000 =
    [100, 52, 49, 100, 43, 54, 55, 49, 48, 56, 56, 54, 52, 32,
     49, 54, 48, 48, 48, 48, 48, 48, 48, 48, 48, 48, 48, 48, 48, 48, 48, 48, 48] := by decide +kernel
example : ksIndex (render ([([100, 52, 49, 100], 67108864, 1600000000000000000), ([97, 48], 0, 12345678)].map
      (fun b => producerLine b.1 b.2.1 b.2.2))) =
    .ok ([([100, 52, 49, 100], 67108864, 1600000000000000000), ([97, 48], 0, 12345678)].map
      (fun b => (⟨b.1 ++ 43 :: decimal b.2.1, fixMtime (b.2.2 : Int)⟩ : Entry))) :=
  (C06_index_producer_format [([100, 52, 49, 100], 67108864, 1600000000000000000), ([97, 48], 0, 12345678)]
    (by simp [isHex])).1
/-- … i.e. `d41d+67108864` with the nanosecond mtime, `a0+0` with the seconds mtime × 10⁹ -/
example : ([100, 52, 49, 100] ++ 43 :: decimal 67108864, fixMtime 1600000000000000000, fixMtime 12345678) =
    ([100, 52, 49, 100, 43, 54, 55, 49, 48, 56, 56, 54, 52], 1600000000000000000, 12345678000000000) := by
  decide +kernel

/-- `Balancer.Run` (its guard list `runSteps`, tied to the source by Tie.C06.tie_run_steps): under
every choice of which conditional steps are reached (`runs`) and which calls fail (`fails`), after
a call that failed no `CommitPulls`/`CommitTrash` call is made, and `Run` returns an error. In
particular a failure of `GetCurrentState` (any index fetch, any collection page) or of
`CheckSanityLate` yields no commit, and a `CommitPulls` failure yields no `CommitTrash`. -/
theorem C06_no_commit_after_error (runs fails : Nat → Bool) (pre : List (Str × Bool)) (n : Str)
    (post : List (Str × Bool))
    (h : (exec runs fails runSteps 0 false).calls = pre ++ (n, true) :: post) :
    (∀ c ∈ post, isCommit c.1 = false) ∧ (exec runs fails runSteps 0 false).err = true :=
  failure_aborts runs fails runSteps 0 false wellGuarded_runSteps pre n post h

/-- Ordering: the calls of `Run` are made in the order of the guard list, whatever is reached and
whatever fails; in particular `ClearTrashLists` (which empties the previous run's trash lists)
comes before `GetCurrentState`, which comes before `CommitPulls`, which comes before `CommitTrash`. -/
theorem C06_run_call_order (runs fails : Nat → Bool) :
    ((exec runs fails runSteps 0 false).calls.map (·.1)).Sublist (runSteps.map (·.name)) ∧
    stepIndex runSteps "bal.ClearTrashLists".toList = some 13 ∧
    stepIndex runSteps "bal.GetCurrentState".toList = some 14 ∧
    stepIndex runSteps "bal.CheckSanityLate".toList = some 17 ∧
    stepIndex runSteps "bal.CommitPulls".toList = some 20 ∧
    stepIndex runSteps "bal.CommitTrash".toList = some 21 ∧
    (["bal.ClearTrashLists", "bal.GetCurrentState", "bal.CheckSanityLate", "bal.CommitPulls", "bal.CommitTrash"].all
      (fun n => (runSteps.map (·.name)).count n.toList == 1)) = true := by
  refine ⟨exec_calls_sublist runs fails runSteps 0 false, ?_⟩
  -- the positions and the counts are facts about the one list of names
  unfold stepIndex
  generalize hn : runSteps.map (·.name) = names
  revert hn
  unfold runSteps
  simp only [List.map_cons, List.map_nil, List.all_cons, List.all_nil]
  repeat rw [String.toList_ofList]
  rintro rfl
  decide +kernel

/-- The same for any guard list that passes the decidable check `wellGuarded` (the lifting lemma). -/
theorem C06_no_commit_after_error_any (steps : List Step) (hw : wellGuarded steps = true)
    (runs fails : Nat → Bool) (i : Nat) (err : Bool) (pre : List (Str × Bool)) (n : Str)
    (post : List (Str × Bool)) (h : (exec runs fails steps i err).calls = pre ++ (n, true) :: post) :
    (∀ c ∈ post, isCommit c.1 = false) ∧ (exec runs fails steps i err).err = true :=
  failure_aborts runs fails steps i err hw pre n post h

/-- The guard list is what the skeleton of `Run` yields, and it passes the check; a list in which
`GetCurrentState`'s guard is missing does not. -/
theorem C06_run_guard_list : stepsOf runSkeleton = runSteps ∧ wellGuarded runSteps = true :=
  ⟨stepsOf_runSkeleton, wellGuarded_runSteps⟩

section examples_c
/-- all conditional steps reached; the call number 14 (`bal.GetCurrentState`) fails -/
example : (exec (fun _ => true) (fun i => i == 14) runSteps 0 false).calls.getLast? =
    some ("bal.GetCurrentState".toList, true) := by decide +kernel
example : (exec (fun _ => true) (fun i => i == 14) runSteps 0 false).err = true := by decide +kernel
/-- without a failure both commit calls are made, so "no commit" above is not vacuous -/
example : ((exec (fun _ => true) (fun _ => false) runSteps 0 false).calls.filter (fun c => isCommit c.1)).length = 2 ∧
    (exec (fun _ => true) (fun _ => false) runSteps 0 false).err = false := by
  unfold runSteps; repeat rw [String.toList_ofList]
  decide +kernel
/-- a `CommitPulls` failure: no `CommitTrash` -/
example : ((exec (fun _ => true) (fun i => i == 20) runSteps 0 false).calls.map (·.1)).getLast? =
    some "bal.CommitPulls".toList := by decide +kernel
/-- dropping the guard after `GetCurrentState` is detected by the check -/
example : wellGuarded (runSteps.map (fun st =>
    if st.name = "bal.GetCurrentState".toList then { st with guarded := false } else st)) = false := by
  unfold runSteps; repeat rw [String.toList_ofList]
  decide +kernel
end examples_c

/-- `GetCurrentState` fails as soon as the discovery document, any index fetch, the collection scan
or the collection processor fails (model of the `errs` channel protocol; see Tie.C06
tie_getCurrentState_goroutines and the fault-injection runs). -/
theorem C06_getCurrentState_error (dd : Bool) (idx : List Bool) (scanF procF : Bool) :
    (dd = true ∨ (∃ b ∈ idx, b = true) ∨ scanF = true ∨ procF = true) ↔
      getCurrentStateFails dd idx scanF procF = true := by
  simp [getCurrentStateFails, or_assoc]

/-- For every number of index workers, every `collQ` capacity and **every interleaving** of the
goroutines' statements (every reachable state of the small-step system, with `IndexMount`,
`addCollection` and the page requests failing whenever the environment chooses): when all
goroutines have ended, `GetCurrentState` returns a non-nil error iff some index fetch, some
`addCollection` or the collection scan failed — and the `errs` channel never holds a nil error,
so the first reported error is what is returned. -/
theorem C06_gcs_first_error (n cap : Nat) (g : GCS.G) (r : GCS.Reach n cap g) (ht : GCS.Terminal g) :
    (GCS.resultIsError g = true ↔ GCS.Failed g) ∧ g.sh.errs ≠ some false :=
  GCS.result_iff_failed r ht

/-- … and when it returns nil the view is complete: every index worker fetched its index and reached
`AddReplicas`, the scanner closed the queue, and every collection it delivered was added by
`addCollection` (none dropped, none left in the queue). Together with `C06_paging_complete` and
`C06_index_truncation` this is the "complete view" that `Run` commits on. -/
theorem C06_gcs_nil_is_complete (n cap : Nat) (g : GCS.G) (r : GCS.Reach n cap g) (ht : GCS.Terminal g)
    (hnil : g.sh.errs = none) :
    (∀ l ∈ g.ws, l.flag = false ∧ l.added = true) ∧
    g.sh.added = g.sh.delivered ∧ g.sh.dropped = 0 ∧ g.sh.q = 0 ∧ g.sh.closed = true :=
  ⟨GCS.nil_result_workers_added r ht hnil, GCS.nil_result_all_added r ht hnil⟩

/-- **Deadlock-freedom.** For every number of index workers, every `collQ` capacity ≥ 1 and every
interleaving: in a reachable state in which some goroutine has not yet ended, some goroutine can take
a step — `wg.Wait()` never waits on goroutines that all block (the processor's receive/drain on an
empty open `collQ`, the scanner's send on a full one). With `C06_paging_progress` (the scanner's
`EachCollection` ends) every run of `GetCurrentState` therefore reaches its terminal state. -/
theorem C06_gcs_no_deadlock (n cap : Nat) (hc : 1 ≤ cap) (g : GCS.G) (r : GCS.Reach n cap g)
    (hnt : ¬ GCS.Terminal g) : ∃ g', GCS.Step g g' :=
  GCS.no_deadlock hc r hnt

/-- **Soundness of the trace acceptor** the correspondence check runs on every observed execution of
the real `GetCurrentState` (`gcsacc`): whenever it accepts an observation — per-goroutine statement
paths of `wpaths.length` index workers, the processor and the scanner, queue capacity `cap`, result
`res` — the small-step system has an interleaving (a `Reach`able state) in which every goroutine has
ended with that result; so by `C06_gcs_first_error` the observed result is an error iff something
failed in that execution, and `errs` holds no nil. The search's partial-order reduction and visited
set can only make it accept less. -/
theorem C06_gcs_acceptor_sound (buckets cap : Nat) (wpaths : List (List Nat)) (ppath spath : List Nat)
    (res : Bool) (fuel : Nat) (h : GCS.acceptsWith buckets cap wpaths ppath spath res fuel = some true) :
    ∃ g, GCS.Reach wpaths.length cap g ∧ GCS.Terminal g ∧ GCS.resultIsError g = res ∧
      (res = true ↔ GCS.Failed g) ∧ g.sh.errs ≠ some false := by
  obtain ⟨g, hr, ht, hres, hn⟩ := GCS.acceptsWith_sound buckets cap wpaths ppath spath res fuel h
  exact ⟨g, hr, ht, hres, by rw [← hres]; exact (GCS.result_iff_failed hr ht).1, hn⟩

/-- the deployed instance: `accepts` = `acceptsWith 8192` (size of the visited table) -/
theorem C06_gcs_acceptor_sound_deployed : ∀ cap wpaths ppath spath res fuel,
    GCS.accepts cap wpaths ppath spath res fuel = GCS.acceptsWith 8192 cap wpaths ppath spath res fuel :=
  fun _ _ _ _ _ _ => rfl

section examples_gcs
open GCS
/-- one index worker whose request fails, while one collection is delivered and added -/
def exScriptFail : List Move :=
  [.s 0, .s 1, .s 0, .s 0, .p 0, .p 0, .p 0,          -- scanner delivers a collection, processor adds it
   .w 0 0, .w 0 0, .w 0 1, .w 0 0, .w 0 0,            -- IndexMount fails; error sent
   .p 0,                                              -- processor notices len(errs) > 0
   .w 0 0, .w 0 0,                                    -- cancel; return
   .p 0, .s 2, .s 0, .s 0, .p 0, .p 0, .p 0]          -- processor drains after the scanner closes collQ
/-- no failure: two workers, one collection -/
def exScriptOk : List Move :=
  [.w 0 0, .w 0 0, .w 0 0, .w 0 0, .w 0 0, .w 0 0, .w 0 0, .w 0 0, .w 0 1, .w 0 0,
   .w 1 0, .w 1 0, .w 1 0, .w 1 0, .w 1 0, .w 1 0, .w 1 0, .w 1 0, .w 1 1, .w 1 0,
   .s 0, .s 1, .s 0, .s 0, .p 0, .p 0, .p 0, .p 0, .s 2, .s 0, .s 0, .p 0]

/-- both scripts are executions of the system (so their end states are reachable) … -/
example : ∀ g, moves (GCS.init 1 4) exScriptFail = some g → GCS.Reach 1 4 g :=
  fun g h => moves_reach _ _ g .start h
example : ∀ g, moves (GCS.init 2 4) exScriptOk = some g → GCS.Reach 2 4 g :=
  fun g h => moves_reach _ _ g .start h
/-- … ending with every goroutine finished: (terminal, result is an error, worker failed, delivered, added) -/
example : (moves (GCS.init 1 4) exScriptFail).map
    (fun g => (terminalB g, resultIsError g, g.ws.map (·.flag), g.sh.delivered, g.sh.added)) =
    some (true, true, [true], 1, 1) := by decide +kernel
example : (moves (GCS.init 2 4) exScriptOk).map
    (fun g => (terminalB g, g.sh.errs, g.ws.map (·.added), g.sh.delivered, g.sh.added)) =
    some (true, none, [true, true], 1, 1) := by decide +kernel
/-- the start state has a successor; and the state in which the scanner waits on a full queue of
capacity 1 while the processor has not started (not terminal either) is reached by a script -/
example : ∃ g', GCS.Step (GCS.init 2 1) g' :=
  C06_gcs_no_deadlock 2 1 (by decide) _ .start (by simp [Terminal, GCS.init, initLoc])
example : (moves (GCS.init 0 1) [.s 0, .s 1, .s 0, .s 0, .s 1]).map (fun g => (g.s.pc, g.sh.q, g.sh.cap, g.p.pc)) =
    some (3, 1, 1, 1) := by decide +kernel
/-- the observation of `exScriptFail` (visited table of size 0, which the kernel evaluates quickly; worker path through the error branch, processor draining,
scanner closing the queue; result = error) is accepted; a nil result for the same paths is not -/
example : acceptsWith 0 4 [[1, 2, 3, 4, 5, 6, 7, 0]] [1, 2, 3, 4, 5, 6, 7, 8, 0] [1, 2, 3, 4, 6, 8, 9, 0] true 2000 =
    some true := by decide +kernel
example : acceptsWith 0 4 [[1, 2, 3, 4, 5, 6, 7, 0]] [1, 2, 3, 4, 5, 6, 7, 8, 0] [1, 2, 3, 4, 6, 8, 9, 0] false 2000 =
    some false := by decide +kernel
end examples_gcs

/-- `CheckSanityLate` refuses a sweep whose collection scan delivered nothing. -/
theorem C06_sanity_late_refuses_empty_scan (deferred anyDesired : Bool) (repl : Int) :
    checkSanityLateFails deferred 0 anyDesired repl = true := by
  unfold checkSanityLateFails; simp

example : checkSanityLateFails false 3 true 2 = false := by decide

end ArvVerif.C06
