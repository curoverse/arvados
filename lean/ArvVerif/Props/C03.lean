/-
C03 — Keep client and collection reads never deliver bytes that mismatch the locator.
The property theorems and concrete runs. Of the vocabulary of the statements, `NoColl`, `FetchOutcome`
and `GoodFor` are defined here; the rest stands with the lemmas about it in Proofs/: `Offered`
(C03_GetOrHead), `SoundData` (C03_Cache), `segSlice`, `fileContent`, `SegsIn`, `SegsPos`, `vRead`
(C03_Segments), `PtrOK`, `seekPos`, `FOp`, `runFile`, `Follows` (C03_File), `BlocksOK` (C03_Load).
Every theorem is for an arbitrary `hash : Bytes → D` and an arbitrary map `digest` from the first
32 characters of a locator to `D`; bodies, chunkings, scripts, retry counts, probe orders, numbers
of readers and schedules are universally quantified. Collision-freeness appears only as the
explicit hypothesis `NoColl`.
-/
import ArvVerif.Proofs.C03_Cache
import ArvVerif.Proofs.C03_Conc
import ArvVerif.Proofs.C03_File
import ArvVerif.Proofs.C03_Load
namespace ArvVerif.C03
variable {D : Type} [DecidableEq D]

/-- Collision-freeness for one digest: `b` is the only content with digest `h`. -/
def NoColl (hash : Bytes → D) (h : D) (b : Bytes) : Prop := ∀ x, hash x = h → x = b

/-- **Streaming reader.** Whenever `getOrHead` hands out a reader (body, expect):
(1) the body was offered by a service with status 200, and the size rule held: with a size hint
`h`, `expect = h` and a declared Content-Length equals `h`; without a hint the Content-Length was
declared and is `expect`;
(2) reading it to EOF through HashCheckingReader.Read (any chunking), (3) WriteTo, (4)
ReadFull(m)+Close succeed only if the **whole** body hashes to the locator's digest, and then
deliver exactly the body (resp. its first m bytes). -/
theorem C03_stream_sound (hash : Bytes → D) (digest : List Char → D)
    (loc : List Char) (tries : Nat) (order : List Nat) (g : G) (body : Body) (expect : Nat) (g' : G)
    (hget : getOrHead loc tries order g = (.rdr body expect, g')) :
    (∃ clen, Offered g.scripts (.ok clen body) ∧
      (∀ h, hint64 loc = some h → expect = h ∧ ∀ c, clen = some c → c = h) ∧
      (hint64 loc = none → clen = some expect)) ∧
    (∀ d, readAll hash (digest (loc.take 32)) body.fin body.together body.chunks [] = (d, .eof) →
      d = body.content ∧ hash d = digest (loc.take 32)) ∧
    (∀ d, writeTo hash (digest (loc.take 32)) body.fin body.chunks [] = (d, none) →
      d = body.content ∧ hash d = digest (loc.take 32)) ∧
    (∀ m d, readFullClose hash (digest (loc.take 32)) body m = (d, none) →
      d = body.content.take m ∧ m ≤ body.content.length ∧ hash body.content = digest (loc.take 32)) := by
  obtain ⟨clen, ho, ha⟩ := getOrHead_rdr loc tries order g body expect g' hget
  exact ⟨⟨clen, ho, fun h hh => accept200_hint h clen expect (hh ▸ ha),
    fun hn => accept200_nohint clen expect (hn ▸ ha)⟩, consume_ok hash _ body⟩

/-- Corollary under collision-freeness: a complete successful streaming read returns the block. -/
theorem C03_stream_exact (hash : Bytes → D) (digest : List Char → D) (loc : List Char) (b : Bytes)
    (hnc : NoColl hash (digest (loc.take 32)) b) (body : Body) (d : Bytes) :
    (readAll hash (digest (loc.take 32)) body.fin body.together body.chunks [] = (d, .eof) → d = b) ∧
    (writeTo hash (digest (loc.take 32)) body.fin body.chunks [] = (d, none) → d = b) ∧
    (∀ m, readFullClose hash (digest (loc.take 32)) body m = (d, none) → d = b.take m) := by
  have ⟨h1, h2, h3⟩ := consume_ok hash (digest (loc.take 32)) body
  refine ⟨fun hd => hnc d (h1 d hd).2, fun hd => hnc d (h2 d hd).2, fun m hd => ?_⟩
  rw [(h3 m d hd).1, hnc _ (h3 m d hd).2.2]

/-- **Cache.** What a fetch (kc.Get, ReadFull(expect), Close) stores without error is either the
empty block for a locator starting with the empty-block literal, or the first `n` bytes of a body
whose whole content hashes to the locator's digest, `n` being the size hint when there is one;
and BlockCache.ReadAt on such an entry returns bytes `[off, off+len)` of it. -/
theorem C03_cache_sound (hash : Bytes → D) (digest : List Char → D)
    (loc : List Char) (tries : Nat) (order : List Nat) (g : G) (e : Entry) (g' : G)
    (h : fetch hash digest loc tries order g = (e, g')) (herr : e.err = none) :
    ((emptyLocator.isPrefixOf loc = true ∧ e.data = []) ∨ SoundData hash digest loc e.data) ∧
    (∀ off len d, readAtEntry e off len = (d, none) → d = (e.data.drop off).take len ∧ off ≤ e.data.length) := by
  refine ⟨?_, fun _ _ _ hd => (readAtEntry_ok hd).2⟩
  rcases fetch_ok hash digest loc tries order g e g' h herr with he | ⟨body, clen, expect, _, ha, _, hh, hd, hl, _⟩
  · exact .inl he
  · exact .inr ⟨body.content, hh, expect, hl, hd, fun hn hhint => (accept200_hint hn clen expect (hhint ▸ ha)).1⟩

/-- Corollary: with collision-freeness for the locator's digest, the empty-block literal being
the digest of the empty content, and a size hint equal to the block's size, a cached read that
succeeds returns exactly bytes `[off, off+len)` of the block. -/
theorem C03_cache_exact (hash : Bytes → D) (digest : List Char → D)
    (hEmpty : hash [] = digest (emptyLocator.take 32))
    (loc : List Char) (b : Bytes) (hnc : NoColl hash (digest (loc.take 32)) b)
    (hhint : hint64 loc = some b.length)
    (tries : Nat) (order : List Nat) (g : G) (e : Entry) (g' : G)
    (h : fetch hash digest loc tries order g = (e, g'))
    (off len : Nat) (d : Bytes) (hread : readAtEntry e off len = (d, none)) :
    d = (b.drop off).take len := by
  obtain ⟨herr, rfl, _⟩ := readAtEntry_ok hread
  rw [sound_exact hash hEmpty hnc hhint (C03_cache_sound hash digest loc tries order g e g' h herr).1]

/-- Outcomes a fetch for cache key `k` can report: the model's `fetch` on some locator with that
key (restricted by `okLoc`), any retry count, probe order and server scripts. -/
def FetchOutcome (hash : Bytes → D) (digest : List Char → D) (okLoc : List Char → Prop)
    (k : Key) (e : Entry) : Prop :=
  ∃ loc tries order g, okLoc loc ∧ loc.take 32 = k ∧ (fetch hash digest loc tries order g).1 = e

/-- A datum is good for key `k` when it is sound for some admissible locator with that key — not
necessarily the reader's own: the cache is keyed by the first 32 characters only, so an entry may stem
from another reader's locator with the same key (`C03_shared_key_hypothesis_needed`). -/
def GoodFor (hash : Bytes → D) (digest : List Char → D) (okLoc : List Char → Prop) (k : Key) (d : Bytes) : Prop :=
  ∃ loc, okLoc loc ∧ loc.take 32 = k ∧
    ((emptyLocator.isPrefixOf loc = true ∧ d = []) ∨ SoundData hash digest loc d)

/-- **A bad response is never kept to satisfy later reads.** In every state reachable by any
interleaving of any number of readers (`lookup`), fetch completions with any outcome the fetch can
produce (`fetchDone`), and deletions (`sweep`):
(1) every finished, error-free cache entry holds sound data;
(2) every value BlockCache.Get returned to a reader without error is sound data for the key the
reader asked for;
(3) a finished entry holding an error is not served: the next lookup of its key returns nothing,
replaces it by a pending entry and starts a new fetch which that reader waits for. -/
theorem C03_bad_never_cached (hash : Bytes → D) (digest : List Char → D) (okLoc : List Char → Prop)
    (s : CS) (hr : Reach (FetchOutcome hash digest okLoc) s) :
    (∀ k e, s.cache k = some (.done e) → e.err = none → GoodFor hash digest okLoc k e.data) ∧
    (∀ r k e, (r, k, e) ∈ s.results → e.err = none → GoodFor hash digest okLoc k e.data) ∧
    (∀ r k e err, s.cache k = some (.done e) → e.err = some err →
      (apply s (.lookup r k)).cache k = some (.pending (k, s.nextFid)) ∧
      (apply s (.lookup r k)).results = s.results ∧
      (r, k, (k, s.nextFid)) ∈ (apply s (.lookup r k)).waiting) := by
  have inv := inv_reach _ s hr
  have good : ∀ k e, FetchOutcome hash digest okLoc k e → e.err = none → GoodFor hash digest okLoc k e.data := by
    rintro k _ ⟨loc, tries, order, g, hok, hk, rfl⟩ herr
    exact ⟨loc, hok, hk, (C03_cache_sound hash digest loc tries order g _ _ (Prod.eta _).symm herr).1⟩
  refine ⟨fun k e hc he => good k e (inv.cacheDone k e hc) he,
          fun r k e hm he => good k e (inv.results (r, k, e) hm) he, ?_⟩
  intro r k e err hc he
  obtain ⟨h1, h2, _, h4⟩ := lookup_err_refetches s r k e err hc he
  exact ⟨h1, h2, h4⟩

/-- Corollary: if all locators in use are consistent with a block store (`blocks k` is the only
content with digest `digest k`, and every locator's size hint is that block's size), then in every
reachable state every error-free cache entry for `k` and every error-free result for `k` is
exactly `blocks k`. -/
theorem C03_bad_never_cached_exact (hash : Bytes → D) (digest : List Char → D)
    (hEmpty : hash [] = digest (emptyLocator.take 32))
    (blocks : Key → Bytes) (hnc : ∀ k, NoColl hash (digest k) (blocks k))
    (s : CS)
    (hr : Reach (FetchOutcome hash digest (fun loc => hint64 loc = some (blocks (loc.take 32)).length)) s) :
    (∀ k e, s.cache k = some (.done e) → e.err = none → e.data = blocks k) ∧
    (∀ r k e, (r, k, e) ∈ s.results → e.err = none → e.data = blocks k) := by
  have ⟨h1, h2, _⟩ := C03_bad_never_cached hash digest _ s hr
  have exact : ∀ k d, GoodFor hash digest (fun loc => hint64 loc = some (blocks (loc.take 32)).length) k d →
      d = blocks k := by
    rintro _ d ⟨loc, hok, rfl, hs⟩
    exact sound_exact hash hEmpty (hnc _) hok hs
  exact ⟨fun k e hc he => exact k _ (h1 k e hc he), fun r k e hm he => exact k _ (h2 r k e hm he)⟩

/-- **Faulty answers end in errors** (under collision-freeness for the locator's digest `check`,
`b` the block):
(a) a body whose content differs from the block in any way (flipped bits, short, long, other
data — with or without a declared length), or that ends with a transport error, makes every way
of consuming it fail: Read-to-EOF, WriteTo, ReadFull(m)+Close for every m, and the cache fetch;
(b) a correct but shorter-than-expected body fails the cache fetch;
(c) a Content-Length that differs from the size hint, or no Content-Length and no hint, is
rejected by getOrHead at once (error class `proto`), whatever the body;
(d) a cache entry holding an error gives ReadAt = (no bytes, that error), storedSegment.ReadAt
passes it on without bytes, and File.Read returns no bytes and an error. -/
theorem C03_error_not_data (hash : Bytes → D) (check : D) (b : Bytes) (hnc : NoColl hash check b) :
    (∀ body : Body, (body.content ≠ b ∨ body.fin = .ueof) →
      (readAll hash check body.fin body.together body.chunks []).2 ≠ .eof ∧
      (writeTo hash check body.fin body.chunks []).2 ≠ none ∧
      (∀ m, (readFullClose hash check body m).2 ≠ none) ∧
      (∀ bufsize expect, (fetchBody hash check bufsize body expect).err ≠ none)) ∧
    (∀ (body : Body) (bufsize expect : Nat), body.content.length < expect →
      (fetchBody hash check bufsize body expect).err ≠ none) ∧
    ((∀ h c, c ≠ h → accept200 (some h) (some c) = none) ∧ accept200 none none = none ∧
     (∀ hint clen body s rest g retry, (popResp g.scripts s).1 = .ok clen body → accept200 hint clen = none →
        (tryServers hint (s :: rest) g retry).1 = .proto)) ∧
    ((∀ (e : Entry) err off len, e.err = some err → readAtEntry e off len = ([], some err)) ∧
     (∀ (se : Seg) plen off err (backend : Nat → Nat → Bytes × Option Err),
        (∀ l o, backend l o = ([], some err)) →
        (segReadAt backend se plen off).1 = [] ∧ (segReadAt backend se plen off).2 ≠ none) ∧
     (∀ segs p plen err (segRead : Seg → Nat → Nat → Bytes × Option Err) d e p',
        (∀ s pl off, segRead s pl off = ([], some err)) →
        fileRead segRead segs p plen = some (d, e, p') → d = [] ∧ e ≠ none)) := by
  have bad : ∀ body : Body, (body.content ≠ b ∨ body.fin = .ueof) →
      ¬ (body.fin = .eof ∧ hash body.content = check) := by
    rintro body (hb | hb) ⟨h1, h2⟩
    · exact hb (hnc _ h2)
    · rw [h1] at hb; cases hb
  refine ⟨fun body hb => ⟨?_, ?_, fun m he => ?_, fun bufsize expect he => ?_⟩,
    fun body bufsize expect hlt he => ?_, ⟨fun h c hc => ?_, rfl, ?_⟩,
    ⟨fun e err off len he => ?_, fun se plen off err backend hfail => ?_,
     fun segs p plen err segRead d e p' hfail h => ?_⟩⟩
  · rw [readAll_eq]
    exact fun he => bad body hb ((endErr_eq_eof hash check).mp he)
  · exact fun he => bad body hb ((writeTo_eq_none hash check).mp he)
  · obtain ⟨h1, _, h3, _⟩ := (readFullClose_eq_none hash check).mp he
    exact bad body hb ⟨h1, h3⟩
  · obtain ⟨h1, h2, _⟩ := fetchBody_ok hash he
    exact bad body hb ⟨h1, h2⟩
  · obtain ⟨_, _, _, h4, _⟩ := fetchBody_ok hash he
    omega
  · exact if_neg (Ne.symm hc)
  · intro hint clen body s rest g retry hp ha
    rw [tryServers]
    simp only [hp, ha]
  · simp only [readAtEntry, he]
  · by_cases h : se.length < off
    · rw [segReadAt_of_lt h]; exact ⟨rfl, nofun⟩
    · rw [segReadAt_of_le (Nat.not_lt.mp h), hfail]
      exact ⟨rfl, by split <;> nofun⟩
  · -- a failing block read surfaces as a failing File.Read that delivers no bytes
    obtain ⟨rfl, rfl⟩ | ⟨s, _, o, rfl, he⟩ := fileRead_some h
    · exact ⟨rfl, nofun⟩
    · rw [hfail] at he ⊢
      exact ⟨rfl, fun hn => he.elim (fun h1 => nomatch h1.symm.trans hn) (fun h2 => h2 rfl)⟩

/-- **storedSegment.ReadAt bounds.** For any block reader: either the offset is beyond the segment
and EOF is returned without touching the block, or exactly one read of the block is made, for
`min(len p, length-off)` bytes at `offset+off` — a range inside `[offset, offset+length)`.
On a verified block that covers the segment the result is exactly those bytes of the segment, and
the error is EOF iff the request was cut at the segment's end. -/
theorem C03_readat_bounds (se : Seg) (plen off : Nat) :
    (∀ backend : Nat → Nat → Bytes × Option Err,
      (se.length < off ∧ segReadAt backend se plen off = ([], some .eof)) ∨
      (off ≤ se.length ∧ ∃ l o, se.offset ≤ o ∧ o + l ≤ se.offset + se.length ∧
        o = se.offset + off ∧ l = min plen (se.length - off) ∧
        (segReadAt backend se plen off).1 = (backend l o).1 ∧
        ((backend l o).2 ≠ none → (segReadAt backend se plen off).2 = (backend l o).2) ∧
        ((backend l o).2 = none →
          (segReadAt backend se plen off).2 = if se.length - off < plen then some .eof else none))) ∧
    (∀ blk : Bytes, off ≤ se.length → se.offset + se.length ≤ blk.length →
      segReadAt (fun l o => readAtEntry { data := blk, err := none } o l) se plen off =
        ((((blk.drop se.offset).take se.length).drop off).take plen,
         if se.length - off < plen then some .eof else none) ∧
      ((((blk.drop se.offset).take se.length).drop off).take plen).length = min plen (se.length - off)) := by
  refine ⟨fun backend => ?_, fun blk hoff hin => ⟨segReadAt_verified plen hoff hin, by
      rw [List.length_take, List.length_drop, slice_length hin]⟩⟩
  by_cases h : se.length < off
  · exact .inl ⟨h, segReadAt_of_lt h⟩
  · have hle := Nat.not_lt.mp h
    refine .inr ⟨hle, min plen (se.length - off), off + se.offset, Nat.le_add_left _ _, by omega,
      Nat.add_comm _ _, rfl, ?_⟩
    rw [segReadAt_of_le hle]
    refine ⟨rfl, fun hne => ?_, fun hn => by rw [hn]; rfl⟩
    cases hb : (backend (min plen (se.length - off)) (off + se.offset)).2 with
    | none => exact absurd hb hne
    | some e => split <;> rfl

/-- **File.Read delivers only bytes of verified blocks, at the positions the manifest names.**
Over a verified block store (`blocks i` is what the cache returns for block i, without error) and
segments that lie inside their blocks, whatever filenode.Read returns for any pointer and any
buffer size is either nothing or a piece `drop o |> take plen` of one segment of the file, i.e. of
bytes `[offset, offset+length)` of that segment's block. -/
theorem C03_file_read_sound (blocks : Nat → Bytes) (segs : List Seg)
    (hin : ∀ s ∈ segs, s.offset + s.length ≤ (blocks s.blk).length)
    (p : Ptr) (plen : Nat) (d : Bytes) (e : Option Err) (p' : Ptr)
    (h : fileRead (fun s pl off => segReadAt (fun l o => readAtEntry { data := blocks s.blk, err := none } o l) s pl off)
          segs p plen = some (d, e, p')) :
    d = [] ∨ ∃ s ∈ segs, ∃ o, o ≤ s.length ∧
      d = ((((blocks s.blk).drop s.offset).take s.length).drop o).take plen := by
  obtain ⟨rfl, _⟩ | ⟨s, hmem, o, rfl, _⟩ := fileRead_some h
  · exact .inl rfl
  · by_cases hoff : o ≤ s.length
    · exact .inr ⟨s, hmem, o, hoff, by rw [segReadAt_verified plen hoff (hin s hmem)]⟩
    · exact .inl (by rw [segReadAt_of_lt (Nat.not_le.mp hoff)])

/-- **A handle's Read/Seek sequence reads the flat file.** For any collection loaded by the model's
loadManifest (any number of streams, files, tokens), over a verified block store whose blocks have
the sizes the locators name: every file's segments are non-empty and inside their blocks, and for
every file, every starting pointer satisfying the pointer invariant (in particular a fresh handle)
and **every** sequence of `Read(n)` / `Seek(off, whence)` calls (SeekStart, SeekCurrent, SeekEnd, any signed
offset; a negative target fails and leaves the handle where it was), the calls all return, and their results
are those of a plain file holding `fileContent` — each Read delivers the bytes at the handle's
offset (at least one unless nothing was asked or the offset is at the end, never more than asked),
advances the offset by what it delivered, and reports EOF only when the request reaches beyond
the end of the file and always at or beyond the end. -/
theorem C03_file_sequence {ι : Type} [BEq ι] (blocks : Nat → Bytes) (size : Nat → Nat)
    (hlen : ∀ i, size i ≤ (blocks i).length)
    (streams : List (List (Nat × Nat) × List (Nat × Nat × ι)))
    (hstreams : ∀ st ∈ streams, BlocksOK size st.1)
    (files : List (ι × List Seg)) (hload : loadManifestN streams [] = some files)
    (f : ι × List Seg) (hf : f ∈ files) :
    SegsPos f.2 ∧ SegsIn blocks f.2 ∧
    ∀ (p : Ptr), PtrOK f.2 p → ∀ ops : List FOp,
      ∃ rs, runFile (vRead blocks) f.2 p ops = some rs ∧ Follows (fileContent blocks f.2) p.off ops rs := by
  have hwf := loadManifestN_wf hstreams hload nofun f hf
  have hpos : SegsPos f.2 := fun s hs => (hwf s hs).1
  have hin : SegsIn blocks f.2 := fun s hs => Nat.le_trans (hwf s hs).2 (hlen s.blk)
  exact ⟨hpos, hin, fun p hok ops => runFile_follows blocks f.2 hin hpos ops p hok⟩

/-- **filehandle.Seek, every whence.** The position reported is the target offset (`off`, `pos + off`,
`size + off`) and is the handle's new offset; the call fails exactly when the target is negative and then
changes nothing; the pointer invariant is kept (a changed offset always marks the pointer stale, so the
next Read recomputes the segment position from the offset — it is never advanced incrementally by Seek);
SeekStart with a non-negative offset is `fileSeek`. -/
theorem C03_seek_whence (segs : List Seg) (size : Nat) (p : Ptr) (w : Whence) (off : Int) (hok : PtrOK segs p) :
    PtrOK segs (fileSeekW size p w off).1 ∧
    (fileSeekW size p w off).1.off = seekPos size p.off w off ∧
    ((fileSeekW size p w off).2 = none ↔ seekTarget size p.off w off < 0) ∧
    (∀ n, (fileSeekW size p w off).2 = some n → (fileSeekW size p w off).1.off = n ∧
      (n : Int) = seekTarget size p.off w off) ∧
    ((fileSeekW size p w off).2 = none → (fileSeekW size p w off).1 = p) ∧
    (∀ n : Nat, fileSeekW size p .start (n : Int) = (fileSeek p n, some n)) :=
  ⟨ptrOK_fileSeekW segs size p w off hok, fileSeekW_off size p w off, (fileSeekW_pos size p w off).1,
   (fileSeekW_pos size p w off).2.1, (fileSeekW_pos size p w off).2.2, fileSeekW_start size p⟩

/-- One File.Read, exactly: before the end of the file it returns `min(len p, bytes left in the
segment holding the offset)` bytes — the flat content at the offset — and at or beyond the end
nothing with EOF. A fresh handle and every pointer produced by Read or Seek satisfy the invariant. -/
theorem C03_file_read_exact (blocks : Nat → Bytes) (segs : List Seg) (hin : SegsIn blocks segs)
    (hpos : SegsPos segs) (p : Ptr) (hok : PtrOK segs p) (plen : Nat) :
    PtrOK segs {} ∧ (∀ off, PtrOK segs (fileSeek p off)) ∧
    (fileSize segs ≤ p.off →
      ∃ p', fileRead (vRead blocks) segs p plen = some ([], some .eof, p') ∧ p'.off = p.off ∧ PtrOK segs p') ∧
    (p.off < fileSize segs →
      ∃ d e p', fileRead (vRead blocks) segs p plen = some (d, e, p') ∧
        d = ((fileContent blocks segs).drop p.off).take d.length ∧
        (∃ s o, o < s.length ∧ s ∈ segs ∧ d.length = min plen (s.length - o)) ∧
        p'.off = p.off + d.length ∧ PtrOK segs p' ∧
        (e = none ∨ (e = some .eof ∧ p'.off = fileSize segs ∧ fileSize segs < p.off + plen))) :=
  ⟨ptrOK_init segs, fun off => ptrOK_fileSeek off hok, fileRead_at_end blocks plen,
   fileRead_before_end hin hpos hok plen⟩

/-- **No answer makes the cached read crash** (finding F3a, fixed). For every locator (any size
hint, also one that does not fit 32 bits, or none), retry count, probe order and server script
(any Content-Length, any body), the fetch of BlockCache.Get ends in data or in an error class
other than `panic`; and an accepted answer whose size exceeds the buffer (`bufSize loc`, from the
32-bit parse of the hint, default 64 MiB) is an error with no data, whatever the body. -/
theorem C03_fetch_never_panics (hash : Bytes → D) (digest : List Char → D)
    (loc : List Char) (tries : Nat) (order : List Nat) (g : G) :
    (fetch hash digest loc tries order g).1.err ≠ some .panic ∧
    (∀ check body expect, bufSize loc < expect →
      fetchBody hash check (bufSize loc) body expect = { data := [], err := some .proto }) := by
  refine ⟨?_, fun check body expect h => by simp [fetchBody, h]⟩
  cases hq : getOrHead loc tries order g with | mk r g1 =>
  rw [fetch_of hash digest hq]
  cases r with
  | empty => nofun
  | err e => exact fun he => getOrHead_inv hq (Option.some.inj he)
  | rdr body expect =>
    show (fetchBody hash _ _ body expect).err ≠ some .panic
    unfold fetchBody
    split
    · nofun
    · exact readFullClose_ne_panic hash _ body expect

/-! ## The consistency hypothesis is needed (notes O2, O3)

`C03_cache_exact` and `C03_bad_never_cached_exact` assume that every locator's size hint is the size
of the content with its MD5 — which is what the property quantifies over ("block contents/sizes").
The two theorems below show that this hypothesis cannot be dropped for the current code: with
collision-freeness alone, a locator whose hint is smaller than the content, answered without
Content-Length by the complete, correctly hashing body, stores and serves a truncated block, and —
the cache being keyed by the hash only — that entry is what any other reader of the same hash gets. -/

def hypBlock : Bytes := [1, 2, 3]
def hypLoc : List Char := "0123456789abcdef0123456789abcdef+2".toList
def hypG : G := { scripts := [[.ok none { chunks := [[1, 2, 3]] }]] }

theorem C03_hint_hypothesis_needed :
    NoColl (fun x : Bytes => x) hypBlock hypBlock ∧
    hint64 hypLoc = some 2 ∧ hypBlock.length = 3 ∧
    (fetch (fun x : Bytes => x) (fun _ => hypBlock) hypLoc 1 [0] hypG).1 = { data := [1, 2], err := none } ∧
    readAtEntry (fetch (fun x : Bytes => x) (fun _ => hypBlock) hypLoc 1 [0] hypG).1 0 3 = ([1, 2], none) := by
  unfold hypLoc
  rw [String.toList_ofList, fetch_of_ne _ _ (by decide)]
  exact ⟨fun _ h => h, by decide +kernel, rfl, by decide +kernel, by decide +kernel⟩

theorem C03_shared_key_hypothesis_needed :
    ∃ s : CS, Reach (FetchOutcome (fun x : Bytes => x) (fun _ => hypBlock) (fun _ => True)) s ∧
      -- reader 1 asked for the key after the truncated entry was stored and got it without error
      (1, hypLoc.take 32, ({ data := [1, 2], err := none } : Entry)) ∈ s.results ∧
      ({ data := [1, 2], err := none } : Entry).data ≠ hypBlock := by
  have ⟨s, h1, h2⟩ := served_after_fetch (FetchOutcome (fun x : Bytes => x) (fun _ => hypBlock) (fun _ => True))
    (hypLoc.take 32) { data := [1, 2], err := none }
    ⟨hypLoc, 1, [0], hypG, trivial, rfl, C03_hint_hypothesis_needed.2.2.2.1⟩ rfl
  exact ⟨s, h1, h2, by decide⟩

/-! ## Non-vacuity -/

/-- `NoColl` is satisfiable by a non-trivial instance (an injective hash). -/
example : NoColl (fun x : Bytes => x) [1, 2, 3] [1, 2, 3] := fun _ h => h

/-- …and the hypotheses of `C03_bad_never_cached_exact` hold for `hash = id`, `digest` any map
whose value at the empty-block key is `[]`. -/
example : ∃ (digest : List Char → Bytes) (blocks : Key → Bytes),
    (fun x : Bytes => x) [] = digest (emptyLocator.take 32) ∧ ∀ k, NoColl (fun x : Bytes => x) (digest k) (blocks k) :=
  ⟨fun _ => [], fun _ => [], rfl, fun _ _ h => h⟩

def exLoc : List Char := "0123456789abcdef0123456789abcdef+3".toList
def exBody : Body := { chunks := [[1, 2], [3]] }
def exG : G := { scripts := [[.status 503, .ok (some 3) exBody], [.status 404]] }

/-- `getOrHead` does hand out readers: first round 503 from service 0 and 404 from service 1,
second round the body from service 0. -/
example : (getOrHead exLoc 2 [0, 1] exG).1 = .rdr exBody 3 := by
  unfold exLoc
  rw [String.toList_ofList, getOrHead_of_ne (by decide)]
  decide +kernel

/-- a fetch without error exists, with non-trivial data (hash = id, digest maps the key to the block) -/
example : (fetch (fun x : Bytes => x) (fun _ => [1, 2, 3]) exLoc 2 [0, 1] exG).1 = { data := [1, 2, 3], err := none } := by
  unfold exLoc
  rw [String.toList_ofList, fetch_of_ne _ _ (by decide)]
  decide +kernel

/-- and a corrupted body produces an error entry -/
example : (fetch (fun x : Bytes => x) (fun _ => [1, 2, 4]) exLoc 2 [0, 1] exG).1.err = some .badChecksum := by
  unfold exLoc
  rw [String.toList_ofList, fetch_of_ne _ _ (by decide)]
  decide +kernel

/-- Why `C03_cache_sound` says "the first n bytes" and the exact statement needs a consistent size
hint (notes O3): a locator whose hint (2) is smaller than the content, answered without
Content-Length by the full, correctly hashing body, is stored as the first 2 bytes. -/
example : (fetch (fun x : Bytes => x) (fun _ => [1, 2, 3]) "0123456789abcdef0123456789abcdef+2".toList 1 [0]
    { scripts := [[.ok none exBody]] }).1 = { data := [1, 2], err := none } := by 
  rw [String.toList_ofList, fetch_of_ne _ _ (by decide)]
  decide +kernel

/-- …while the same answer with its Content-Length declared is rejected at once. -/
example : (fetch (fun x : Bytes => x) (fun _ => [1, 2, 3]) "0123456789abcdef0123456789abcdef+2".toList 1 [0]
    { scripts := [[.ok (some 3) exBody]] }).1.err = some .proto := by 
  rw [String.toList_ofList, fetch_of_ne _ _ (by decide)]
  decide +kernel

/-- `C03_file_sequence` on a concrete two-stream collection: file 7 is made of bytes 2..5 of the
stream [0,1,2] ++ [3,4,5] and byte 0 of the second stream; read 3, seek 1, read 10, read 1, read 1. -/
def exBlocks : Nat → Bytes := fun i => if i = 0 then [0, 1, 2] else [3, 4, 5]

example :
    ((loadManifestN [([(0, 3), (1, 3)], [(2, 3, (7 : Nat))]), ([(1, 3)], [(0, 1, 7)])] []).map
        (fun files => files.map (fun f => (f.1, runFile (vRead exBlocks) f.2 {} [.read 3, .seek 1, .read 10, .read 1, .read 1])))
      : Option (List (Nat × Option (List (Bytes × Option Err))))) =
      some [(7, some [([2], none), ([3, 4], none), ([3], none), ([], some .eof)])] := by
  rfl

/-- relative seeks on a file of three 3-byte segments: read 1, skip ahead 4 into the next segment
(SeekCurrent), read; skip over a whole segment; SeekEnd −2; a negative target leaves the handle alone -/
example :
    runFile (vRead (fun i => [10 * i.toUInt8, 10 * i.toUInt8 + 1, 10 * i.toUInt8 + 2]))
      [⟨0, 0, 3⟩, ⟨1, 0, 3⟩, ⟨2, 0, 3⟩] {}
      [.read 1, .seekW .cur 4, .read 2, .seekW .cur (-5), .read 1, .seekW .cur 6, .read 5,
       .seekW .fromEnd (-2), .read 1, .seekW .cur (-20), .read 5] =
      some [([0], none), ([12], none), ([1], none), ([22], some .eof), ([21], none), ([22], some .eof)] := by
  decide +kernel

/-- F3a witnesses in the model: a hint of 2^31 answered without Content-Length, and a hint-less locator
answered with Content-Length 70 000 000, are errors without data (the Go code panicked in `make` on them before the fix). -/
example : (fetch (fun x : Bytes => x) (fun _ => [1, 2, 3]) "0123456789abcdef0123456789abcdef+2147483648".toList 1 [0]
    { scripts := [[.ok none exBody]] }).1 = { data := [], err := some .proto } := by 
  rw [String.toList_ofList, fetch_of_ne _ _ (by decide)]
  decide +kernel
example : (fetch (fun x : Bytes => x) (fun _ => [1, 2, 3]) "0123456789abcdef0123456789abcdef".toList 1 [0]
    { scripts := [[.ok (some 70000000) exBody]] }).1 = { data := [], err := some .proto } := by 
  rw [String.toList_ofList, fetch_of_ne _ _ (by decide)]
  decide +kernel

/-- the transition system reaches states with finished entries and delivered results -/
example (out : Key → Entry → Prop) (k : Key) (e : Entry) (h : out k e) :
    Reach out (apply (apply (apply CS.init (.lookup 0 k)) (.lookup 1 k)) (.fetchDone (k, 0) e)) :=
  .step _ _ (.step _ _ (.step _ _ .init trivial) trivial) h

example : (apply (apply (apply CS.init (.lookup 0 ['k'])) (.lookup 1 ['k'])) (.fetchDone (['k'], 0) ⟨[7], none⟩)).results
    = [(1, ['k'], ⟨[7], none⟩), (0, ['k'], ⟨[7], none⟩)] := by decide

/-- a segment inside a block, read with a buffer larger than what is left -/
example : segReadAt (fun l o => readAtEntry { data := [0, 1, 2, 3, 4, 5, 6, 7], err := none } o l)
    { blk := 0, offset := 2, length := 4 } 10 1 = ([3, 4, 5], some .eof) := by decide

end ArvVerif.C03
