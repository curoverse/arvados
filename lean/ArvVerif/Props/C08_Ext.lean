/-
C08 — a collection filesystem behaves like an ordinary in-memory filesystem.
Property theorems of the EXTENSION LAYER (`Model/C08_Ext.lean`): paged `Readdir(count > 0)`,
`collectionFileSystem.Size()`, `MemorySize()`, and the spare capacity of memSegment buffers.

`stepX (concImpl hash max) memOf` is the model of the code, `stepX specImpl (fun _ => 0)` the plain
model; both keep the `unreaddirs` snapshot of every handle slot; `absX` maps one to the other.
-/
import ArvVerif.Props.C08_History
import ArvVerif.Proofs.C08_Ext
namespace ArvVerif.C08

variable {max : Nat} {hash : Bytes → Loc}

abbrev CXFS := XFS FileNode Ptr Store

def absX (x : CXFS) : XFS Bytes Nat Unit := ⟨absFS x.fs, x.unread⟩

/-- Operations whose outputs must be identical in the two models: as `Op.det`; `MemorySize()` is not a
quantity of the plain model (its contract is `C08_memsize_le_size`). -/
def XOp.det : XOp → Bool
  | XOp.base o => o.det
  | XOp.memSize => false
  | _ => true

/-- **One step of the extended history.** Every operation of `C08_step_refines` and in addition
`Readdir(count)` for any `count` (paged or not) through any handle and `Size()` of the filesystem give
the same result in the concrete and in the plain model, from any state satisfying the invariant and
with any `unreaddirs` snapshots pending; abstraction commutes, invariant kept. -/
theorem C08_xstep_refines (hinj : Function.Injective hash) (hmax : 1 ≤ max) {x : CXFS} (hinv : Inv max hash x.fs)
    (op : XOp) (hop : op.det = true) :
    (stepX (concImpl hash max) memOf x op).2 = (stepX specImpl (fun _ => 0) (absX x) op).2 ∧
    absX (stepX (concImpl hash max) memOf x op).1 = (stepX specImpl (fun _ => 0) (absX x) op).1 ∧
    Inv max hash (stepX (concImpl hash max) memOf x op).1.fs := by
  cases op with
  | base o =>
    obtain ⟨h1, h2, h3⟩ := C08_step_refines hinj hmax hinv o hop
    refine ⟨?_, ?_, h3⟩
    · simp only [stepX, absX, h1]
    · simp only [stepX, absX, h1, h2]
  | hreaddirN h count =>
    unfold stepX
    simp only [absX, getHandle_abs]
    cases getHandle x.fs h with
    | none => exact ⟨rfl, rfl, hinv⟩
    | some hd =>
      simp only [Option.map_some, absH_node]
      cases hd.node with
      | file f => exact ⟨rfl, rfl, hinv⟩
      | dir d =>
        by_cases hc : count = 0
        · refine ⟨?_, ?_, ?_⟩ <;> simp only [hc, if_true, listingOf_abs hinv]
          exact hinv
        · refine ⟨?_, ?_, ?_⟩ <;> simp only [hc, if_false, entriesList_abs hinv]
          exact hinv
  | fsSize =>
    refine ⟨?_, ?_, hinv⟩ <;> simp only [stepX, absX, fsSize_abs hinv]
  | memSize => cases hop

/-- **Extended histories**: any sequence of the operations above, of any length. -/
theorem C08_xhistory_refines (hinj : Function.Injective hash) (hmax : 1 ≤ max) :
    ∀ (ops : List XOp) (x : CXFS), Inv max hash x.fs → (∀ op ∈ ops, op.det = true) →
      (runX (concImpl hash max) memOf x ops).2 = (runX specImpl (fun _ => 0) (absX x) ops).2 ∧
      absX (runX (concImpl hash max) memOf x ops).1 = (runX specImpl (fun _ => 0) (absX x) ops).1 ∧
      Inv max hash (runX (concImpl hash max) memOf x ops).1.fs := by
  intro ops
  induction ops with
  | nil => intro x hinv _; exact ⟨rfl, rfl, hinv⟩
  | cons op rest ih =>
    intro x hinv hdet
    obtain ⟨hd1, hd2⟩ := List.forall_mem_cons.mp hdet
    obtain ⟨h1, h2, h3⟩ := C08_xstep_refines hinj hmax hinv op hd1
    obtain ⟨i1, i2, i3⟩ := ih _ h3 hd2
    simp only [runX]
    rw [← h2] at *
    exact ⟨by rw [h1, i1], i2, i3⟩

/-- Histories on a filesystem opened from any manifest (no snapshot pending at the start). -/
theorem C08_loaded_xhistory_refines (hinj : Function.Injective hash) (hmax : 1 ≤ max)
    (streams : List (String × List Bytes × List (Nat × Nat × String))) (s : CFS)
    (h : loadManifest hash streams = some s) (ops : List XOp) (hdet : ∀ op ∈ ops, op.det = true) :
    (runX (concImpl hash max) memOf ⟨s, []⟩ ops).2 = (runX specImpl (fun _ => 0) (absX ⟨s, []⟩) ops).2 :=
  (C08_xhistory_refines hinj hmax ops ⟨s, []⟩ (C08_load_inv hinj streams s h) hdet).1

/-- **Paging table.** With a snapshot `u` pending, `Readdir(count)` returns `io.EOF` (no entries, state
unchanged) exactly when the snapshot is used up; otherwise it returns the next
`min count (entries left)` entries of the snapshot — at least one when `count > 0` — and advances by
that many, never beyond the end. -/
theorem C08_readdir_paging_table (u : Unread) (count : Nat) :
    ((pageStep u count).2.2 = Err.eof ↔ u.pos ≥ u.snap.length) ∧
    (u.pos ≥ u.snap.length → pageStep u count = ([], u, Err.eof)) ∧
    (u.pos < u.snap.length →
      (pageStep u count).1 = (u.snap.drop u.pos).take count ∧
      (pageStep u count).1.length = min count (u.snap.length - u.pos) ∧
      (0 < count → 0 < (pageStep u count).1.length) ∧
      (pageStep u count).2.2 = Err.ok ∧
      (pageStep u count).2.1.snap = u.snap ∧
      (pageStep u count).2.1.pos = u.pos + (pageStep u count).1.length ∧
      (pageStep u count).2.1.pos ≤ u.snap.length) := by
  refine ⟨?_, pageStep_eof, ?_⟩
  · by_cases h : u.pos ≥ u.snap.length
    · simp [pageStep_eof h, h]
    · have h' : u.pos < u.snap.length := by omega
      simp [pageStep_ok h', h]
  · intro h
    rw [pageStep_ok h]
    simp only [List.length_take, List.length_drop]
    refine ⟨trivial, trivial, fun hc => by omega, trivial, trivial, trivial, by omega⟩

/-- **Pages add up to the snapshot.** For every sequence of counts, the pages handed out, concatenated,
are exactly the next `Σ counts` entries of the snapshot (each entry once, in snapshot order); so as soon
as `Σ counts` reaches the number of entries left, the whole rest of the snapshot has been delivered. -/
theorem C08_readdir_pages_concat (u : Unread) (cs : List Nat) :
    (pageRun u cs).flatten = (u.snap.drop u.pos).take cs.sum ∧
    (u.snap.length - u.pos ≤ cs.sum → (pageRun u cs).flatten = u.snap.drop u.pos) := by
  refine ⟨pageRun_flatten cs u, fun h => ?_⟩
  rw [pageRun_flatten, List.take_of_length_le (by rw [List.length_drop]; exact h)]

/-- **A paged call in a history**: through a directory handle, `Readdir(count)` with `count > 0` pages
through the pending snapshot of that handle slot, or — when the slot has none (`unreaddirs == nil`) —
through the listing of the directory *at this moment*; the filesystem itself is unchanged, and the
slot's snapshot afterwards is the one `pageStep` returns. -/
theorem C08_readdir_paged_step {F P W : Type} (impl : FileImpl F P W) (mem : F → Nat) (x : XFS F P W)
    (h count d : Nat) (hd : Handle P) (hg : getHandle x.fs h = some hd) (hn : hd.node = Node.dir d)
    (hc : count ≠ 0) :
    let u := (getUnread x.unread h).getD ⟨entriesList impl x.fs d, 0⟩
    stepX impl mem x (XOp.hreaddirN h count) =
      (⟨x.fs, setUnread x.unread h (pageStep u count).2.1⟩, XRes.page (pageStep u count).1 (pageStep u count).2.2) ∧
    getUnread (stepX impl mem x (XOp.hreaddirN h count)).1.unread h = some (pageStep u count).2.1 := by
  intro u
  constructor
  · simp only [stepX, hg, hn, hc, if_false]
    rfl
  · simp only [stepX, hg, hn, hc, if_false]
    exact getUnread_setUnread

/-- **Pages of one handle in a history.** From the moment slot `h` has a snapshot `u` and for as long as
the slot keeps its filehandle (no open/create/close on `h`), whatever operations run in between — other
handles paging through the same or other directories, entries created, removed, renamed, files written,
truncated, flushed —: the pages handed out through `h`, concatenated, are exactly the next entries of
`u`'s snapshot (in order, each once, nothing that was not in the snapshot), and the slot has advanced by
that many entries. Together with `C08_readdir_paging_table` (EOF exactly at the end) and
`C08_readdir_paged_step` (the snapshot is the listing at the first paged call): reading a handle until
EOF delivers the directory listing of the first call. Holds for the concrete and the plain model. -/
theorem C08_readdir_history {F P W : Type} (impl : FileImpl F P W) (mem : F → Nat) (h : Nat)
    (ops : List XOp) (x : XFS F P W) (u : Unread) (hu : getUnread x.unread h = some u)
    (hk : ∀ op ∈ ops, keepsSlot h op = true) :
    (pagesOf h ops (runX impl mem x ops).2).flatten =
      (u.snap.drop u.pos).take (pagesOf h ops (runX impl mem x ops).2).flatten.length ∧
    getUnread (runX impl mem x ops).1.unread h =
      some ⟨u.snap, u.pos + (pagesOf h ops (runX impl mem x ops).2).flatten.length⟩ := by
  obtain ⟨cs, h1, h2⟩ := runX_pages impl mem h ops x u hu hk
  rw [h1]
  refine ⟨?_, h2⟩
  rw [pageRun_flatten, List.length_take, ← List.take_eq_take_min]

/-- `MemorySize()` never exceeds `Size()`: the bytes held in memSegments are part of the files. -/
theorem C08_memsize_le_size {s : CFS} (hinv : Inv max hash s) :
    memSize memOf s ≤ fsSize (concImpl hash max) s := by
  unfold memSize fsSize
  apply treeSum_le
  intro f
  simp only [nodeSize]
  cases hf : s.files[f]? with
  | none => exact Nat.le_refl _
  | some nf =>
    have hwf := (hinv.files nf (List.mem_of_getElem? hf)).1
    show memOf nf.2 ≤ nf.2.size
    rw [hwf.size_eq]
    exact memOf_le_sumLen _

/-- **The spare capacity of a memSegment buffer is invisible.** `memSegment.Truncate` (reallocation
when `n > cap` or when growing a buffer shared with a flush; otherwise reslice in place *and zero the
reclaimed part*), `WriteAt` (copy-on-write) and `Slice`, run on a buffer with arbitrary stale bytes in
its spare capacity, produce exactly what `memTruncate` / `memWriteAt` / `Seg.slice` of `Model/C08`
produce — whatever the spare bytes are. Hence all file-layer theorems hold for the real buffers. -/
theorem C08_capacity_invisible (c : CapSeg) :
    (∀ n, (capTruncate true c n).seg = memTruncate c.buf c.fl n) ∧
    (∀ p off, (capWriteAt c p off).map CapSeg.seg = memWriteAt c.buf p off) ∧
    (∀ n l, (capSlice c n l).seg = c.seg.slice n l) :=
  ⟨capTruncate_seg c, capWriteAt_seg c, capSlice_seg c⟩

/-- Regression witness (seeded change C08-h, mutation M4): without the zeroing loop a shrink followed
by a grow inside the capacity brings the cut-off bytes back, with it they read as zeros. -/
theorem C08_capacity_needs_zeroing :
    (capTruncate false (capTruncate false ⟨[1, 2, 3], [], Flush.none⟩ 1) 3).buf = [1, 2, 3] ∧
    (capTruncate true (capTruncate true ⟨[1, 2, 3], [], Flush.none⟩ 1) 3).buf = [1, 0, 0] := by
  decide

/-! ### Non-vacuity -/

/-- the hypotheses of `C08_xstep_refines` / `C08_xhistory_refines` hold for the example state of
`Props/C08_History` (a file with a stored and a mem segment, two handles) with a snapshot pending -/
example : ∃ x : CXFS, Inv 2 id x.fs ∧ x.unread ≠ [] ∧ (XOp.hreaddirN 0 2).det = true ∧ XOp.fsSize.det = true :=
  ⟨⟨FS.init (fun _ => none), [(3, ⟨[("f", false, 3)], 0⟩)]⟩, C08_init_inv, by simp, rfl, rfl⟩

/-- three entries paged with counts 2, 2, 2: two, one, none -/
example : pageRun ⟨[("a", true, 0), ("b", false, 5), ("c", false, 0)], 0⟩ [2, 2, 2] =
    [[("a", true, 0), ("b", false, 5)], [("c", false, 0)], []] := by decide

example : (pageStep ⟨[("a", true, 0), ("b", false, 5), ("c", false, 0)], 3⟩ 1).2.2 = Err.eof := by decide

/-- a paged listing through a handle on a root directory with two subdirectories: one entry, the
other entry, then EOF (twice) -/
example : ((runX specImpl (fun _ => 0)
      ⟨⟨(), [((0, "a"), Node.dir 1), ((0, "b"), Node.dir 2)], [(".", 0), ("a", 0), ("b", 0)], [],
        [(0, ⟨Node.dir 0, 0, false, false, false⟩)]⟩, []⟩
      [XOp.hreaddirN 0 1, XOp.hreaddirN 0 5, XOp.hreaddirN 0 5, XOp.hreaddirN 0 1]).2.map
        (fun r => match r with
          | XRes.page p e => some (p.map (·.1), e)
          | _ => none)) =
    [some (["a"], Err.ok), some (["b"], Err.ok), some ([], Err.eof), some ([], Err.eof)] := by
  decide

/-- `C08_readdir_history`: slot 0 has a snapshot, the ops keep the slot -/
example : getUnread ([(0, ⟨[("a", true, 0)], 0⟩)] : List (Nat × Unread)) 0 = some ⟨[("a", true, 0)], 0⟩ ∧
    (∀ op ∈ [XOp.hreaddirN 0 1, XOp.base (Op.mkdir "c"), XOp.base (Op.close 1), XOp.fsSize], keepsSlot 0 op = true) := by
  exact ⟨rfl, by decide⟩

end ArvVerif.C08
