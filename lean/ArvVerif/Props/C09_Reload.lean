/-
C09 — property theorems about reading a saved text back through `loadManifest` (`C10.fsLoad`).
-/
import ArvVerif.Proofs.C09_RoundTrip
import ArvVerif.Proofs.C09_Glue
import ArvVerif.Props.C09
namespace ArvVerif.C09

open ArvVerif.C08 (Seg FileNode Store)
open ArvVerif.C10 (bSlash bSpace fsEscape joinWith)

variable {max : Nat} {hash : Bytes → C08.Loc}

/-- **The empty-directory marker through `loadManifest`.** For every directory path of proper names
(without 0x7f) and every tree built so far in which no ancestor-or-self of that directory is a file:
the line `<escaped name> d41d8cd98f00b204e9800998ecf8427e+0 0:0:\056` is accepted, the directory and all
its ancestors exist afterwards, no file is added or changed, and no other directory appears. -/
theorem C09_marker_line_loads (path : List Bytes) (hpath : PathOK path) (t : C10.FsTree)
    (hnofile : ∀ pre, pre ≠ [] → pre <+: path → t.files.any (·.1 = pre) = false) :
    ∃ t', C10.fsLine (joinWith bSpace [fsEscape (prefixOf path), emptyLoc, markerTok]) t = some t' ∧
      t'.files = t.files ∧
      (∀ d ∈ t'.dirs, d ∈ t.dirs ∨ ∃ pre, pre ≠ [] ∧ pre <+: path ∧ d = pre) ∧
      (∀ d ∈ t.dirs, d ∈ t'.dirs) ∧
      (∀ pre, pre ≠ [] → pre <+: path → pre ∈ t'.dirs) := by
  obtain ⟨hsplit, _, _⟩ := markerLine_tokens path hpath
  have hun : C10.fsUnescape (fsEscape (prefixOf path)) = prefixOf path :=
    C10.goUnescape_escapeWith C10.isOctDigit _ (fun _ h => h) (by decide) _
  obtain ⟨t', hl, hf, hd⟩ := applyOp_marker path t (componentsOk_of_nameOK fun c hc => (hpath c hc).1)
    (fun c hc => (hpath c hc).1.2.2.2) hnofile
  rw [← fsLine_marker_op hsplit hun (by cases path <;> simp [prefixOf, C10.joinWith])] at hl
  refine ⟨t', hl, hf, fun d h => ((hd d).mp h).imp_right fun hm => ?_, fun d h => (hd d).mpr (Or.inl h),
    fun pre h1 h2 => (hd pre).mpr (Or.inr (mem_dirPrefixes.mpr ⟨h1, h2⟩))⟩
  obtain ⟨h1, h2⟩ := mem_dirPrefixes.mp hm
  exact ⟨d, h1, h2, rfl⟩

/-- non-vacuity: the marker of `./d/e` on a tree holding the file `./a` -/
example : (C10.fsLine (joinWith bSpace [fsEscape (prefixOf [[100], [101]]), emptyLoc, markerTok]) ⟨[], [([[97]], [])]⟩).map
    (fun t' => (t'.dirs, t'.files)) = some ([[[100]], [[100], [101]]], [([[97]], [])]) := by
  unfold emptyLoc markerTok
  repeat rw [str_ofList]
  decide +kernel

/-- **`loadManifest` on any text of the C09 grammar** (streams of the published grammar mixed with
empty-directory markers, any spelling of the names the grammar allows): if the loader can represent
the sizes, no path is both file and directory, and no file path is a marker directory or an ancestor
of one, then `loadManifest` accepts the text and builds exactly what it builds for the text WITHOUT the
marker lines (for which `C10_fs_agrees` / `FsInv` say: the files are the manifest's paths, each with
`resolve`'s segments) plus the marker directories and their ancestors — same files, same segments. -/
theorem C09_loader_reads_markers (txt : Bytes) (L : List Line9) (hvalid : parse9 txt = some L)
    (hfit : ∀ s ∈ streamsOf L, C10.FitsFs s) (htree : C10.TreeConsistent (streamsOf L))
    (hmark : ∀ p ∈ C10.pathsOf (streamsOf L), ∀ n ∈ markersOf L, p ≠ n ∧ C10.isDirPrefix p n = false) :
    ∃ tr tr1, C10.fsLoad txt = some tr ∧ C10.FsInv (C10.manifestContribs (streamsOf L)) tr1 ∧
      tr.files = tr1.files ∧ ∀ d, d ∈ tr.dirs ↔ (d ∈ tr1.dirs ∨ d ∈ markerDirs L) :=
  fsLoad_mixed txt L hvalid hfit htree hmark

/-- **`loadManifest` makes every ancestor directory of every file**, for ANY text it accepts (inside the
grammar or not): in the tree it returns, every non-empty prefix of the directory part of a file's key is a
directory. -/
theorem C09_loader_makes_ancestors (txt : Bytes) (tr : C10.FsTree) (h : C10.fsLoad txt = some tr) :
    ∀ e ∈ tr.files, ∀ pre, pre ≠ [] → pre <+: e.1.dropLast → pre ∈ tr.dirs :=
  fun e he => fsLoad_cover txt tr h e.1 (List.mem_map_of_mem he)

/-- **The tree `loadManifest` builds is a well-formed tree**, for ANY text it accepts (inside the grammar
or not): file keys are pairwise distinct, directories are pairwise distinct, no path is both a file and a
directory, every component of every path is a proper name (not empty, not `.`/`..`, no `/`), and every
directory is listed after its parent. (Together with `C09_loader_makes_ancestors` this is what building
C08's directory tables from the flat image needs.) -/
theorem C09_loader_tree_wellformed (txt : Bytes) (tr : C10.FsTree) (h : C10.fsLoad txt = some tr) :
    (tr.files.map (·.1)).Nodup ∧ tr.dirs.Nodup ∧ (∀ e ∈ tr.files, e.1 ∉ tr.dirs) ∧
    (∀ d ∈ tr.dirs, d ≠ [] ∧ ∀ c ∈ d, NameOK c) ∧ (∀ e ∈ tr.files, e.1 ≠ [] ∧ ∀ c ∈ e.1, NameOK c) ∧
    ParentFirst tr.dirs := by
  have hw := fsLoad_wf txt tr h
  exact ⟨hw.keysNodup, hw.dirsNodup, fun e he => hw.disjoint e.1 (List.mem_map_of_mem he), hw.dirComps,
    fun e he => hw.keyComps e.1 (List.mem_map_of_mem he), hw.parentFirst⟩

/-- **The whole saved text through `loadManifest`.** After a successful save of a closed tree in which
no file has the path of a directory and whose saved sizes the loader can represent: `loadManifest`
accepts the text (marker lines included); the loaded tree has, for every file of the saved tree, a
file with exactly that key whose stored segments read exactly the file's bytes, and no other file;
and its directories are exactly the directories of the saved tree below the root — empty ones (own
marker), ones holding only sub-directories, ones holding files. -/
theorem C09_marshal_fsLoad (hh : HashOK hash) {k : Keep} {t : Tree9} (hok : SaveOK max hash k t) (hnd : NoDel t)
    (hclosed : TreeClosed t) (hclash : ∀ d ∈ t, ∀ f ∈ d.files, d.path ++ [f.1] ∉ dirPaths t)
    {txt : Bytes} (h : (marshal9 hash max k t).2.2 = MRes.ok txt)
    (hfit : ∀ L, parse9 txt = some L → ∀ s ∈ streamsOf L, C10.FitsFs s) :
    ∃ tr, C10.fsLoad txt = some tr ∧
      (∀ d ∈ (marshal9 hash max k t).2.1, ∀ f ∈ d.files, ∃ e ∈ tr.files, e.1 = d.path ++ [f.1] ∧
        C10.segBytes (blkOf (marshal9 hash max k t).1.store) e.2 = C08.abs (marshal9 hash max k t).1.store f.2) ∧
      (∀ e ∈ tr.files, ∃ d ∈ (marshal9 hash max k t).2.1, ∃ f ∈ d.files, e.1 = d.path ++ [f.1]) ∧
      (∀ p ∈ tr.dirs, p ∈ dirPaths t) ∧
      (∀ p ∈ dirPaths t, p ≠ [] → p ∈ tr.dirs) := by
  obtain ⟨r1, _, r3, _⟩ := marshal9_run (max := max) hh hok
  obtain ⟨_, L, h1, h2⟩ := C09_marshal_valid hh hok hnd h
  obtain ⟨tr, hload, c1, c2, c3, c4⟩ := treeLines_fsLoad hh r1.keep.ok h1 r1.wf.segs r1.shape r1.paths r1.names
    (TreeKept.closed r3 hclosed) (TreeKept.noClash r3 hclash) h2 (hfit L h2)
  rw [TreeKept.paths r3] at c3 c4
  exact ⟨tr, hload, c1, c2, c3, c4⟩

/-- `C09_marshal_fsLoad` with the structural hypotheses decided by execution: the model driver evaluates
`shapeOK` on the directory list of EVERY save it runs (`guardShape`; a failed check prints `glue`, which never
agrees with the implementation), and `shapeOK` implies "closed" and "no file at a directory's path". -/
theorem C09_marshal_fsLoad_checked (hh : HashOK hash) {k : Keep} {t : Tree9} (hok : SaveOK max hash k t) (hnd : NoDel t)
    (hshape : shapeOK t = true)
    {txt : Bytes} (h : (marshal9 hash max k t).2.2 = MRes.ok txt)
    (hfit : ∀ L, parse9 txt = some L → ∀ s ∈ streamsOf L, C10.FitsFs s) :
    ∃ tr, C10.fsLoad txt = some tr ∧
      (∀ d ∈ (marshal9 hash max k t).2.1, ∀ f ∈ d.files, ∃ e ∈ tr.files, e.1 = d.path ++ [f.1] ∧
        C10.segBytes (blkOf (marshal9 hash max k t).1.store) e.2 = C08.abs (marshal9 hash max k t).1.store f.2) ∧
      (∀ e ∈ tr.files, ∃ d ∈ (marshal9 hash max k t).2.1, ∃ f ∈ d.files, e.1 = d.path ++ [f.1]) ∧
      (∀ p ∈ tr.dirs, p ∈ dirPaths t) ∧
      (∀ p ∈ dirPaths t, p ≠ [] → p ∈ tr.dirs) := by
  obtain ⟨c1, c2, _⟩ := shapeOK_sound t hshape
  exact C09_marshal_fsLoad hh hok hnd c1 c2 h hfit

/-- the example tree below passes the check; a list whose directory `d/e` lacks its parent does not -/
example : shapeOK [⟨[], [([97], FileNode.empty)], 1⟩, ⟨[[100]], [], 1⟩, ⟨[[100], [101]], [], 0⟩] = true := by decide +kernel
example : shapeOK [⟨[], [([97], FileNode.empty)], 0⟩, ⟨[[100], [101]], [], 0⟩] = false := by decide +kernel
example : shapeOK [⟨[], [([100], FileNode.empty)], 1⟩, ⟨[[100]], [], 0⟩] = false := by decide +kernel

/-! ### non-vacuity of `C09_marshal_fsLoad` (and, through it, of `C09_loader_reads_markers`) -/

/-- root file `a` (two buffered segments), directory `d` holding the empty file `x y` and the empty directory `e` -/
def exTree2 : Tree9 :=
  [⟨[], [([97], ⟨[Seg.mem [1, 2, 3] C08.Flush.none, Seg.mem [4] C08.Flush.none], 4, 0⟩)], 1⟩,
   ⟨[[100]], [([120, 32, 121], FileNode.empty)], 1⟩,
   ⟨[[100], [101]], [], 0⟩]

example : SaveOK 4 exHash exKeep0 exTree2 := saveOK_fresh (by decide) (by decide)

example : TreeClosed exTree2 := (shapeOK_sound exTree2 (by decide)).1

example : ∀ d ∈ exTree2, ∀ f ∈ d.files, d.path ++ [f.1] ∉ dirPaths exTree2 := (shapeOK_sound exTree2 (by decide)).2.1

/-- the saved text has a marker line, and `loadManifest` reads it into the directory `d/e` -/
example : (match (marshal9 exHash 4 exKeep0 exTree2).2.2 with
    | MRes.ok txt => ((parse9 txt).map markersOf, (C10.fsLoad txt).map (fun tr => (tr.dirs, tr.files.map (·.1))))
    | _ => (none, none)) =
    (some [[46, 47, 100, 47, 101]], some ([[[100]], [[100], [101]]], [[[97]], [[100], [120, 32, 121]]])) := by
  decide +kernel

/-- the saved text of that tree parses and the loader can represent the sizes in it -/
example : (match (marshal9 exHash 4 exKeep0 exTree2).2.2 with
    | MRes.ok txt =>
      (match parse9 txt with
       | some L => (streamsOf L).all (fun s => s.blocks.all (fun b => decide (b.size < C10.two31)) &&
           decide (C10.streamLen s.blocks < C10.two63))
       | none => false)
    | _ => false) = true := by decide +kernel

end ArvVerif.C09
