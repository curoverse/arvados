/-
C01 property theorems over mounts with I/O faults on the PUT path (Model/C01_Fault.lean): whatever
block paths refuse `Touch` or `WriteBlock` (any subset, on any mounts), a PUT is acknowledged only for a
body with the right digest that then *is* on a writable mount and is served by the next GET; a PUT that
is not acknowledged changes nothing; the 500 answers are exactly "collision" or "a mount refused the
write"; without faults the model is `handlePut` of Model/C01.lean.
-/
import ArvVerif.Props.C01
namespace ArvVerif.C01
set_option linter.unusedSectionVars false

section
variable {δ β : Type} [DecidableEq δ] [DecidableEq β]

theorem handlePutF_cases (hash : β → δ) (size : β → Nat) (vols : List (FVol δ β)) (rr : Nat) (h : δ)
    (body : β) (cl : Bool) :
    (cl = false ∧ handlePutF hash size vols rr h body cl = ({ status := 411, replicas := none }, vols, rr)) ∨
    (size body > blockSize ∧ handlePutF hash size vols rr h body cl = ({ status := 413, replicas := none }, vols, rr)) ∨
    (writableCountF vols = 0 ∧ handlePutF hash size vols rr h body cl = ({ status := 503, replicas := none }, vols, rr)) ∨
    (cl = true ∧ size body ≤ blockSize ∧ writableCountF vols ≠ 0 ∧
      ((∃ n, (putBlockF hash size vols rr h body).1 = .ok n ∧
          handlePutF hash size vols rr h body cl =
            ({ status := 200, replicas := some n }, (putBlockF hash size vols rr h body).2.1,
              (putBlockF hash size vols rr h body).2.2)) ∨
       ((∀ n, (putBlockF hash size vols rr h body).1 ≠ .ok n) ∧
          handlePutF hash size vols rr h body cl =
            ({ status := putStatus (putBlockF hash size vols rr h body).1, replicas := none },
              (putBlockF hash size vols rr h body).2.1, (putBlockF hash size vols rr h body).2.2)))) := by
  rcases handlePutF_exits hash size vols rr h body cl with h1 | h2 | h3 | ⟨hcl, hsz, hw, he⟩
  · exact .inl h1
  · exact .inr (.inl h2)
  · exact .inr (.inr (.inl h3))
  · refine .inr (.inr (.inr ⟨hcl, hsz, hw, ?_⟩))
    rw [he]
    cases (putBlockF hash size vols rr h body).1 with
    | ok n => exact .inl ⟨n, rfl, rfl⟩
    | _ => exact .inr ⟨nofun, rfl⟩

theorem putStatus_ne_200 (o : PutOutcome) (hno : ∀ n, o ≠ .ok n) : putStatus o ≠ 200 :=
  fun h => let ⟨n, hn⟩ := putStatus_eq_200.mp h; hno n hn

/-- **Acknowledged PUT under I/O faults**: 200 ⇒ the body has the requested digest, fits, sits under `h`
on a writable mount afterwards, and a GET over the resulting mounts is 200 with an intact body (the PUT
body under `NoColl`) — whichever block paths refused `Touch`/`WriteBlock` on the way. -/
theorem C01_fault_put_ack (hash : β → δ) (size : β → Nat) (vols : List (FVol δ β)) (rr : Nat) (h : δ)
    (body : β) (cl : Bool) (h200 : (handlePutF hash size vols rr h body cl).1.status = 200) :
    hash body = h ∧ size body ≤ blockSize ∧
    (∃ v' ∈ (handlePutF hash size vols rr h body cl).2.1, v'.vol.ro = false ∧ v'.vol.files h = some body) ∧
    ∃ b', (handleGet hash size ((handlePutF hash size vols rr h body cl).2.1.map (·.vol)) h).status = 200 ∧
      (handleGet hash size ((handlePutF hash size vols rr h body cl).2.1.map (·.vol)) h).body = some b' ∧
      (handleGet hash size ((handlePutF hash size vols rr h body cl).2.1.map (·.vol)) h).contentLength = some (size b') ∧
      hash b' = h ∧ (NoColl hash h body → b' = body) := by
  have ⟨hh, hsz, hst⟩ := (handlePutF_spec hash size vols rr h body cl).ack h200
  have ⟨v', hv', _, hf⟩ := hst
  exact ⟨hh, hsz, hst, C01_get_skips_corrupt hash size _ h body
    ⟨v'.vol, List.mem_map.mpr ⟨v', hv', rfl⟩, hf⟩ ⟨hh, hsz⟩⟩

/-- **Frame under faults**: a PUT changes a mount not at all, or — only if it is writable, not full and
its block path takes the write — only the file under `h`, to `body`; fault flags never change. -/
theorem C01_fault_put_frame (hash : β → δ) (size : β → Nat) (vols : List (FVol δ β)) (rr : Nat) (h : δ)
    (body : β) (cl : Bool) :
    Pointwise (FrameF h body) vols (handlePutF hash size vols rr h body cl).2.1 :=
  (handlePutF_spec hash size vols rr h body cl).frame

/-- A PUT that is not acknowledged changes nothing (a refused write leaves the block path as it was:
the temp file is removed). -/
theorem C01_fault_put_error_no_change (hash : β → δ) (size : β → Nat) (vols : List (FVol δ β)) (rr : Nat)
    (h : δ) (body : β) (cl : Bool) (hne : (handlePutF hash size vols rr h body cl).1.status ≠ 200) :
    (handlePutF hash size vols rr h body cl).2.1 = vols :=
  (handlePutF_spec hash size vols rr h body cl).unchanged hne

/-- **What a 500 means**: the digest was right, nothing changed, and either a writable mount holds a
colliding block under `h` (CollisionError), or the block was written nowhere and some writable, non-full
mount refused the write (GenericError: the `default:` branch of `PutBlock`'s loop). -/
theorem C01_fault_put_500 (hash : β → δ) (size : β → Nat) (vols : List (FVol δ β)) (rr : Nat)
    (h : δ) (body : β) (cl : Bool) (h500 : (handlePutF hash size vols rr h body cl).1.status = 500) :
    hash body = h ∧ (handlePutF hash size vols rr h body cl).2.1 = vols ∧
    ((∃ v ∈ vols, v.vol.ro = false ∧ ∃ f, v.vol.files h = some f ∧ f ≠ body ∧ hash f = h) ∨
     (∃ v ∈ vols, v.vol.ro = false ∧ v.vol.full = false ∧ v.noWrite h = true)) :=
  have ⟨hh, hwhy⟩ := (handlePutF_spec hash size vols rr h body cl).status500 h500
  ⟨hh, C01_fault_put_error_no_change hash size vols rr h body cl (h500 ▸ nofun), hwhy⟩

/-- Without write faults on the block path of `h` a PUT answers 500 only for a collision. -/
theorem C01_fault_no_generic_without_write_fault (hash : β → δ) (size : β → Nat) (vols : List (FVol δ β))
    (rr : Nat) (h : δ) (body : β) (cl : Bool) (hnw : ∀ v ∈ vols, v.noWrite h = false)
    (h500 : (handlePutF hash size vols rr h body cl).1.status = 500) :
    ∃ v ∈ vols, v.vol.ro = false ∧ ∃ f, v.vol.files h = some f ∧ f ≠ body ∧ hash f = h := by
  rcases (C01_fault_put_500 hash size vols rr h body cl h500).2.2 with hc | ⟨v, hv, _, _, hf⟩
  · exact hc
  · rw [hnw v hv] at hf; cases hf

/-- **Conservative extension**: on mounts without faults `handlePutF` is `handlePut` of Model/C01.lean
(same response, same resulting mounts, same round-robin counter). -/
theorem C01_fault_calm (hash : β → δ) (size : β → Nat) (vols : List (Vol δ β)) (rr : Nat) (h : δ) (body : β)
    (cl : Bool) :
    handlePutF hash size (vols.map FVol.calm) rr h body cl =
      ((handlePut hash size vols rr h body cl).1, (handlePut hash size vols rr h body cl).2.1.map FVol.calm,
        (handlePut hash size vols rr h body cl).2.2) :=
  handlePutF_calm .calm hash size h body vols rr cl

end

/-! ## Non-vacuity -/
section Examples

/-- an intact copy of [1,2,3] under 6 that can neither be touched nor replaced (immutable file) -/
def fxStuck : FVol Nat (List Nat) :=
  { vol := ⟨false, false, 1, fun k => if k = 6 then some [1, 2, 3] else none⟩,
    noTouch := fun k => k = 6, noWrite := fun k => k = 6 }
/-- a corrupt copy under 6 whose block path refuses the write (a directory in the way of the rename) -/
def fxJammed : FVol Nat (List Nat) :=
  { vol := ⟨false, false, 1, fun k => if k = 6 then some [1, 2, 4] else none⟩,
    noTouch := fun _ => false, noWrite := fun k => k = 6 }
def fxFree : FVol Nat (List Nat) := FVol.calm ⟨false, false, 2, fun _ => none⟩

-- the only writable mount refuses Touch and write: 500 (GenericError), nothing acknowledged
example : (handlePutF exHash List.length [fxStuck] 0 6 [1, 2, 3] true).1.status = 500 := by decide +kernel
-- hypothesis of C01_fault_put_500's second alternative is what happened
example : ∃ v ∈ [fxStuck], v.vol.ro = false ∧ v.vol.full = false ∧ v.noWrite 6 = true := ⟨fxStuck, by simp, by decide⟩
-- with a second mount the block lands there: acknowledged with that mount's replication
example : (handlePutF exHash List.length [fxStuck, fxFree] 0 6 [1, 2, 3] true).1 = ⟨200, some 2⟩ := by decide +kernel
example : (handlePutF exHash List.length [fxFree, fxStuck] 0 6 [1, 2, 3] true).1 = ⟨200, some 2⟩ := by decide +kernel
-- a corrupt copy that cannot be replaced stays; the block goes to the other mount and GET serves it
example : (handlePutF exHash List.length [fxJammed, fxFree] 1 6 [1, 2, 3] true).1.status = 200 := by decide +kernel
example : (handleGet exHash List.length
    ((handlePutF exHash List.length [fxJammed, fxFree] 1 6 [1, 2, 3] true).2.1.map (·.vol)) 6).body = some [1, 2, 3] := by
  decide +kernel
-- touch refused but the write goes through on the same mount (file not writable, directory is)
example : (handlePutF exHash List.length [{ fxStuck with noWrite := fun _ => false }] 0 6 [1, 2, 3] true).1.status = 200 := by
  decide +kernel

end Examples

end ArvVerif.C01
