/-
C17 — non-vacuity: concrete host trees that satisfy the hypotheses of the property theorems.
-/
import ArvVerif.Props.C17
namespace ArvVerif.C17

/-- output directory with a file, a directory with a file, an empty directory, a relative link to a
file and an absolute link to a directory -/
def xH : Host := [(["o"], .dir), (["o", "a"], .file [1, 2]), (["o", "d"], .dir), (["o", "d", "b"], .file [3]),
                  (["o", "e"], .dir), (["o", "l"], .link false ["d", "b"]), (["o", "ld"], .link true ["out", "d"])]
def xC : Cfg := { ctrOut := ["out"], hostOut := ["o"], mounts := [(["out"], { kind := "tmp" })], secrets := [] }

theorem xH_wf : HostWF xH := ⟨by decide +kernel, by decide +kernel, by decide +kernel⟩
theorem xC_wf : CfgWF xH xC := ⟨by decide +kernel, by simp [OutDirReal, namei, xH, xC, Host.get], by decide +kernel⟩
theorem xC_in (x : Path) (hx : x = ["out"] ∨ x = ["out", "d"] ∨ x = ["out", "d", "b"]) : InOut xC x := by
  rcases hx with rfl | rfl | rfl <;> exact ⟨by decide +kernel, _, rfl, rfl, rfl⟩

theorem xH_direct : Direct xH xC := by
  intro e he a t hl rel hrel hpre
  simp only [xH, List.mem_cons, List.not_mem_nil, or_false] at he
  rcases he with rfl | rfl | rfl | rfl | rfl | rfl | rfl <;> try (cases hl)
  · cases (by simpa [xC] using hrel.symm : rel = ["l"])
    exact .of_range hpre (by decide +kernel) (by decide +kernel)
  · cases (by simpa [xC] using hrel.symm : rel = ["ld"])
    exact .of_range hpre (by decide +kernel) (by decide +kernel)

def xPlan : Plan :=
  { dirs := [["d"], ["e"], ["ld"]],
    files := [(["a"], some ["o", "a"]), (["d", "b"], some ["o", "d", "b"]), (["e", ".keep"], none),
              (["l"], some ["o", "d", "b"]), (["ld", "b"], some ["o", "d", "b"])],
    frags := [] }

theorem xH_scan : scan xH xC 60 = .ok xPlan := by
  simp [scan, walk, namei, xH, xC, xPlan, Host.get, srcMount, underSecret, rootLen, limitFollowSymlinks, Res.bind,
    Host.children, sortNames, insertName, skipMount, Cfg.mount, copyRegular, Plan.addDir, Plan.addKeep, Plan.addFile,
    cleanAbs, cleanAbsStep]

theorem xH_nocollide : NoCollide [] xPlan := ⟨by decide +kernel, by decide +kernel⟩

/-- the hypotheses of `C17_output_equals_tree_partial` (and of `C17_secrets_absent_partial`) hold of
this tree: the theorem applies, `Copy` succeeds and saves exactly what `Shows` derives -/
example : OutputEqualsTree xH xC 60 [] :=
  C17_output_equals_tree_partial xH xC xH_wf xC_wf (by decide +kernel) (by decide +kernel) (xC_in _ (Or.inl rfl)) xH_direct
    60 xPlan xH_scan [] (by decide +kernel) xH_nocollide

/-- … and the specification is not empty: `/ld/b` shows the file `/out/d/b` through the link -/
example : Shows xH xC ["ld", "b"] ["out", "d", "b"] :=
  Shows.child (d := ["ld"]) (s := ["out", "d"]) (c := "b")
    (Shows.link (d := ["ld"]) (s := ["out", "ld"]) (a := true) (t := ["out", "d"])
      (Shows.child (d := []) (s := ["out"]) (c := "ld") Shows.root (by decide +kernel)
        ⟨_, rfl⟩ (by decide +kernel) (by decide +kernel))
      (by decide +kernel) (xC_in _ (Or.inr (Or.inl rfl))))
    (by decide +kernel) ⟨_, rfl⟩ (by decide +kernel) (by decide +kernel)

example : fuelBound xH xC ≤ 100000 := by decide +kernel

/-- a collection mounted beneath the output path at `/out/m`, another one at `/mnt/c`, and a link
`lc -> /mnt/c/sub` -/
def xMH : Host := [(["o"], .dir), (["o", "m"], .dir), (["o", "lc"], .link true ["mnt", "c", "sub"])]
def xMC : Cfg :=
  { ctrOut := ["out"], hostOut := ["o"],
    mounts := [(["out"], { kind := "tmp" }),
               (["out", "m"], { kind := "collection", coll := some [([], "f", [1])] }),
               (["mnt", "c"], { kind := "collection", coll := some [([], "g", [2]), (["sub"], "z", [3]), (["sub2"], "w", [4])] })],
    secrets := [] }

theorem xMH_scan : scan xMH xMC 60 =
    .ok { dirs := [], files := [], frags := [(["m", "f"], some [1]), (["lc", "z"], some [3])] } := by
  simp [scan, walk, namei, xMH, xMC, Host.get, Host.children, sortNames, insertName, srcMount, underSecret, rootLen,
    limitFollowSymlinks, Res.bind, skipMount, Cfg.mount, copyRegular, Plan.addDir, Plan.addFrags, extract, cleanRel,
    cleanRelStep]

/-- the link's extract is what `fragOf` names for the jump to `/mnt/c/sub` at `/lc` -/
example : fragOf xMC ["lc"] ["mnt", "c", "sub"] = [(["lc", "z"], some [3])] := by
  decide +kernel

example : Jumps xMH xMC ["lc"] ["mnt", "c", "sub"] :=
  Jumps.link (d := ["lc"]) (s := ["out", "lc"]) (a := true) (t := ["mnt", "c", "sub"])
    (Shows.child (d := []) (s := ["out"]) (c := "lc") Shows.root (by decide +kernel)
      ⟨_, rfl⟩ (by decide +kernel) (by decide +kernel))
    (by decide +kernel)

theorem xMH_wf : HostWF xMH := ⟨by decide +kernel, by decide +kernel, by decide +kernel⟩
theorem xMC_out : InOut xMC xMC.ctrOut := ⟨by decide +kernel, _, rfl, rfl, rfl⟩
theorem xMC_wf : CfgWF xMH xMC := ⟨by decide +kernel, by simp [OutDirReal, namei, xMH, xMC, Host.get], by decide +kernel⟩

theorem xMH_direct : Direct xMH xMC := by
  intro e he a t hl rel hrel hpre
  simp only [xMH, List.mem_cons, List.not_mem_nil, or_false] at he
  rcases he with rfl | rfl | rfl <;> try (cases hl)
  cases (by simpa [xMC] using hrel.symm : rel = ["lc"])
  cases hpre

theorem xMH_mountsReal : MountsReal xMH xMC := .of_range (by decide +kernel) (by decide +kernel)

/-- the hypotheses of `C17_output_equals_tree_mounts_real` hold of a tree with a collection mounted
beneath the output path and a link into another mounted collection -/
example : OutputEqualsTree xMH xMC 60 [(["m"], .dir), (["m", "f"], .file [1]), (["lc"], .dir), (["lc", "z"], .file [3])] :=
  C17_output_equals_tree_mounts_real xMH xMC xMH_wf xMC_wf (by decide +kernel) (by decide +kernel)
    xMC_out xMH_direct xMH_mountsReal 60 _ xMH_scan _
    (by decide +kernel)

theorem xMC_collsWF : CollsWF xMC := by
  show ∀ e ∈ xMC.mounts, ∀ c ∈ e.2.coll, CollWF c
  unfold CollWF entryPath
  decide +kernel

theorem xMH_shows (d s : Path) (hs : Shows xMH xMC d s) :
    (d = [] ∧ s = ["out"]) ∨ (d = ["lc"] ∧ s = ["out", "lc"]) := by
  induction hs with
  | root => exact Or.inl ⟨rfl, rfl⟩
  | @child _ _ c _ hdir hex _ hskip ih =>
    rcases ih with ⟨rfl, rfl⟩ | ⟨rfl, rfl⟩
    · obtain ⟨n, hn⟩ := hex
      have hc := children_of_mem xMH ["o"] c n (mem_of_get xMH (["o"] ++ [c]) n (by simp) hn)
      rw [show xMH.children ["o"] = ["m", "lc"] by decide +kernel] at hc
      simp only [List.mem_cons, List.not_mem_nil, or_false] at hc
      rcases hc with rfl | rfl
      · cases hskip
      · exact Or.inr ⟨rfl, rfl⟩
    · cases hdir
  | link _ hnode hin ih =>
    rcases ih with ⟨rfl, rfl⟩ | ⟨rfl, rfl⟩
    · cases hnode
    · cases hnode
      cases inOut_pre xMC _ hin

theorem xMH_jumps (d x : Path) (hj : Jumps xMH xMC d x) :
    (d = [] ∧ x = ["out"]) ∨ (d = ["lc"] ∧ x = ["mnt", "c", "sub"]) := by
  cases hj with
  | root => exact Or.inl ⟨rfl, rfl⟩
  | link hsh hnode =>
    rcases xMH_shows _ _ hsh with ⟨rfl, rfl⟩ | ⟨rfl, rfl⟩
    · cases hnode
    · cases hnode
      exact .inr ⟨rfl, rfl⟩

theorem xMH_sites (D y : Path) (hs : Site xMH xMC D y) :
    (D = [] ∧ y = ["out"]) ∨ (D = ["lc"] ∧ y = ["mnt", "c", "sub"]) ∨ (D = ["m"] ∧ y = ["out", "m"]) := by
  rcases hs with hj | ⟨d, x, hj, _, m, hm, hpre, hlt, _, hD⟩
  · exact (xMH_jumps _ _ hj).imp_right .inl
  · simp only [xMC, List.mem_cons, List.not_mem_nil, or_false, Prod.mk.injEq] at hm
    rcases xMH_jumps _ _ hj with ⟨rfl, rfl⟩ | ⟨rfl, rfl⟩
    · rcases hm with ⟨rfl, _⟩ | ⟨rfl, _⟩ | ⟨rfl, _⟩
      · exact absurd hlt (by decide +kernel)
      · exact Or.inr (Or.inr ⟨by simpa using hD, rfl⟩)
      · cases hpre
    · rcases hm with ⟨rfl, _⟩ | ⟨rfl, _⟩ | ⟨rfl, _⟩
      · cases hpre
      · cases hpre
      · exact absurd hlt (by decide +kernel)

theorem xMH_sitesApart : SitesApart xMH xMC := by
  intro D y D' y' s1 s2 hne hpre g hg
  rcases xMH_sites _ _ s1 with ⟨rfl, rfl⟩ | ⟨rfl, rfl⟩ | ⟨rfl, rfl⟩
  · exact absurd rfl hne
  · rcases xMH_sites _ _ s2 with ⟨rfl, rfl⟩ | ⟨rfl, rfl⟩ | ⟨rfl, rfl⟩
    · cases hpre
    · exact hg
    · cases hpre
  · rcases xMH_sites _ _ s2 with ⟨rfl, rfl⟩ | ⟨rfl, rfl⟩ | ⟨rfl, rfl⟩
    · cases hpre
    · cases hpre
    · exact hg

/-- the hypotheses of `C17_output_equals_tree_apart` hold of the tree with a collection mounted
beneath the output path and a link into another mounted collection; no loading hypothesis is left -/
example : ∃ t0, loadFrags [] (Plan.frags { dirs := [], files := [], frags := [(["m", "f"], some [1]), (["lc", "z"], some [3])] }) = some t0 ∧
    OutputEqualsTree xMH xMC 60 t0 :=
  C17_output_equals_tree_apart xMH xMC xMH_wf xMC_wf (by decide +kernel) (by decide +kernel)
    xMC_out xMH_direct xMH_mountsReal xMC_collsWF xMH_sitesApart 60 _ xMH_scan

/-- … and `SpecCompat` holds of it (`C17_frags_load_iff`, left to right) -/
example : SpecCompat xMH xMC :=
  (C17_frags_load_iff xMH xMC xMH_wf xMC_wf (by decide +kernel) (by decide +kernel)
    xMC_out xMH_direct 60 _ xMH_scan).mp
    ⟨_, rfl⟩

/-- overlapping mounts: the collection at `/out/m` has the *file* `s`, another collection is mounted
at `/out/m/s` — the items contradict each other (`¬ SpecCompat`), `Copy` fails (`C17_frags_conflict_fails`) -/
def xOC : Cfg :=
  { ctrOut := ["out"], hostOut := ["o"],
    mounts := [(["out"], { kind := "tmp" }),
               (["out", "m"], { kind := "collection", coll := some [([], "s", [1])] }),
               (["out", "m", "s"], { kind := "collection", coll := some [([], "f", [2])] })],
    secrets := [] }

example (h : Host) : ¬ SpecCompat h xOC := by
  intro hsc
  have s1 : Site h xOC ["m"] ["out", "m"] :=
    .inr ⟨[], ["out"], .root, by unfold notSecret; decide +kernel, _, .tail _ (.head _),
      by decide +kernel, by decide +kernel, by decide +kernel, rfl⟩
  have s2 : Site h xOC ["m", "s"] ["out", "m", "s"] :=
    .inr ⟨[], ["out"], .root, by unfold notSecret; decide +kernel, _, .tail _ (.tail _ (.head _)),
      by decide +kernel, by decide +kernel, by decide +kernel, rfl⟩
  have f1 : (["m", "s"], some [1]) ∈ fragOf xOC ["m"] ["out", "m"] := by
    decide +kernel
  have f2 : (["m", "s", "f"], some [2]) ∈ fragOf xOC ["m", "s"] ["out", "m", "s"] := by
    decide +kernel
  cases ((hsc _ _ _ _ s1 s2 _ f1 _ f2 rfl).2 rfl).1

/-- `NoNestedMounts` holds of the configuration with two separate collection mounts, and the
conclusion of `C17_mounted_view_partial` is not empty there -/
theorem xMC_noNested : NoNestedMounts xMC := by unfold NoNestedMounts; decide +kernel

example : ∀ f ∈ (Plan.frags { dirs := [], files := [], frags := [(["m", "f"], some [1]), (["lc", "z"], some [3])] }),
    ∃ D y, Site xMH xMC D y ∧ f ∈ fragOf xMC D y ∧ Unshadowed xMC D y f :=
  C17_mounted_view_partial xMH xMC xMH_wf xMC_wf (by decide +kernel) (by decide +kernel) xMH_direct
    xMC_noNested 60 _ xMH_scan

/-- FIFO in a subdirectory -/
def xS : Host := [(["o"], .dir), (["o", "d"], .dir), (["o", "d", "p"], .special)]
theorem xS_wf : HostWF xS := ⟨by decide +kernel, by decide +kernel, by decide +kernel⟩

example : ∃ e, copy xS xC (fuelBound xS xC) = .err e :=
  C17_special_files_fail xS xC xS_wf (by decide +kernel) (xC_in _ (Or.inl rfl))
    (by simp [OutDirReal, namei, xS, xC, Host.get]) ["d", "p"] (by decide +kernel)
    (.of_range (by decide +kernel) (by decide +kernel) (by decide +kernel)) _ (Nat.le_refl _)

/-- a link out of every mount, a link to itself, a link to the directory above it -/
def xL : Host := [(["o"], .dir), (["o", "d"], .dir), (["o", "d", "up"], .link false ["..", "..", "x"])]
def xSelf : Host := [(["o"], .dir), (["o", "me"], .link false ["me"])]
def xUp : Host := [(["o"], .dir), (["o", "d"], .dir), (["o", "d", "back"], .link true ["out", "d"])]

example : ∃ e, copy xL xC (fuelBound xL xC) = .err e :=
  C17_bad_links_fail xL xC ⟨by decide +kernel, by decide +kernel, by decide +kernel⟩ (by decide +kernel) (xC_in _ (Or.inl rfl))
    (by simp [OutDirReal, namei, xL, xC, Host.get]) ["d", "up"] (by decide +kernel) false ["..", "..", "x"]
    (.of_range (by decide +kernel) (by decide +kernel) (by decide +kernel))
    ⟨by decide +kernel, by decide +kernel⟩ _ (Nat.le_refl _)

example : ∃ e, copy xSelf xC (fuelBound xSelf xC) = .err e :=
  C17_bad_links_fail_cycle xSelf xC ⟨by decide +kernel, by decide +kernel, by decide +kernel⟩ (by decide +kernel) (xC_in _ (Or.inl rfl))
    (by simp [OutDirReal, namei, xSelf, xC, Host.get]) ["me"] [] false ["me"]
    ⟨by decide +kernel, _, rfl, rfl, rfl⟩
    (Or.inr (.of_range (by decide +kernel) (by decide +kernel) (by decide +kernel)))
    (Or.inl rfl) (by decide +kernel) (by decide +kernel) _ (Nat.le_refl _)

example : ∃ e, copy xUp xC (fuelBound xUp xC) = .err e :=
  C17_bad_links_fail_cycle xUp xC ⟨by decide +kernel, by decide +kernel, by decide +kernel⟩ (by decide +kernel) (xC_in _ (Or.inl rfl))
    (by simp [OutDirReal, namei, xUp, xC, Host.get]) ["d"] ["back"] true ["out", "d"]
    (xC_in _ (Or.inr (Or.inl rfl)))
    (Or.inr (.of_range (by decide +kernel) (by decide +kernel) (by decide +kernel)))
    (Or.inr (.of_range (by decide +kernel) (by decide +kernel) (by decide +kernel)))
    (by decide +kernel) (by decide +kernel) _ (Nat.le_refl _)

end ArvVerif.C17
