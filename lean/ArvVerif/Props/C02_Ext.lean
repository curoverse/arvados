/-
C02: property theorems over whole histories (durability of an acknowledged block
until it is trashed, inertness of leftover temp files) and the glue between the pipe model and the
volume model. Same model, same conventions as Props/C02.lean.
-/
import ArvVerif.Props.C02
namespace ArvVerif.C02

/-- **Acknowledged means durable until trashed, over whole histories.** If the initial volume is
intact and a fresh process can serve `h` (in particular: right after a PUT of `h` was answered 200,
`C02_ack_implies_renamed`), then after any history of PUT / WriteBlock / Touch / Trash of *other*
hashes / Untrash / EmptyTrash operations and environment steps that do not remove or overwrite the
block file — every operation possibly cut short by a crash after any micro-step — a fresh process
still serves `h`. Only `Trash h` itself (excluded by `Op.keeps`) takes the block away. -/
theorem C02_ack_durable (hash : Bytes → Name) (h : Name) (hb : isBlockName h = true) (fs0 fs : FS)
    (hi : Intact hash fs0) (hg : ∃ b, getBlock hash fs0 h = .ok b) (hr : ReachKeep hash h fs0 fs) :
    ∃ b, getBlock hash fs h = .ok b :=
  getBlock_of_intact hash hb (intact_reach hash hi (reachKeep_reach hash hr))
    (present_reachKeep hash hb hr (present_of_getBlock hash hg))

/-- **Leftover temp files are inert.** A file without an owner (any `tmp<hash><suffix>` left behind
by a killed PUT, `C02_tmp_never_visible`) is never read, modified, renamed or removed by any later
keepstore operation that creates its own temp files under other names (O_EXCL), crash anywhere:
it is never reused and never becomes part of a block. (Nothing ever removes it either.) -/
theorem C02_leftover_tmp_inert (hash : Bytes → Name) (fs : FS) (q : Path) (hq : owner q.name = none)
    (op : Op) (hv : op.valid hash) (hf : op.freshFor q) (k : Nat) :
    (run fs ((op.evs hash fs).take k)).get q = fs.get q :=
  avoids_always (op_avoids_unowned hash fs op hv hq hf) fs k

/-- **The hypothesis of `C02_crash_atomic` discharged by the pipe model.** Whatever interleaving of
putWithPipe's goroutines led to the writer seeing its reader end (EOF or error), the bytes it got
and that end are a valid reader outcome for the request body; hence every crash prefix of the
`WriteBlock` run fed by that pipe leaves the block path with its old content or the complete body. -/
theorem C02_put_through_pipe (body : Bytes) (s : Pipe) (hr : PReach body s) (w : WBIn)
    (hc : w.chunks = s.got)
    (hend : (s.writer = .sawEOF ∧ w.rend = .eof) ∨ (s.writer = .sawErr ∧ w.rend = .err))
    (fs : FS) (k : Nat) :
    (run fs ((writeBlockEvs w).1.take k)).get (blockPath w.h) = fs.get (blockPath w.h) ∨
    ((run fs ((writeBlockEvs w).1.take k)).get (blockPath w.h) = some ⟨body, w.now⟩ ∧
      w.rend = .eof ∧ w.fail = .none ∧ (writeBlockEvs w).1.length ≤ k) := by
  have h := C02_cancel_is_error body s hr
  have hv : WBValid body w.chunks w.rend := by
    rcases hend with ⟨h1, h2⟩ | ⟨h1, h2⟩
    · rw [hc, h2]; exact h.2.2.2.1 h1
    · rw [hc, h2]; exact (h.2.2.2.2 h1).1
  exact C02_crash_atomic fs body w hv k

section Examples

-- C02_ack_durable: after an acknowledged PUT, a history "PUT of the same block killed mid-way, Trash of
-- another hash, Untrash, EmptyTrash" keeps the block; it is a ReachKeep history. (It shows the hypotheses can be
-- met, no more: the PUT takes the Touch path and is cut before its Chtimes, nothing is there to trash or untrash.)
def exOther : Name := toyHash [1]
example : isBlockName exH = true ∧ exOther ≠ exH := by decide +kernel
example : ∃ fs, ReachKeep toyHash exH (run FS.empty (handlePut toyHash FS.empty exPut).1) fs ∧
    ∃ b, getBlock toyHash fs exH = .ok b :=
  ⟨_, .step (.emptyTrash 10 ) 5 (.step (.untrash exH 9) 7 (.step (.trash ⟨100, 10, 50⟩ exOther) 3
        (.step (.put { exPut with attempts := [{ exW with sfx := ['7'] }] }) 5 .init
          (by unfold Op.valid; decide +kernel) trivial)
        trivial (by show exOther ≠ exH; decide)) trivial trivial) trivial trivial,
    ⟨exBody, by decide +kernel⟩⟩

-- C02_leftover_tmp_inert: a temp file left by a killed PUT survives a complete later PUT untouched
example : owner (tmpPath exH ['9']).name = none := by decide +kernel
example : (Op.put exPut).freshFor (tmpPath exH ['9']) := by unfold Op.freshFor; decide +kernel

end Examples

end ArvVerif.C02
