/-
C19 — a user's token secret never leaves the cluster unsalted.
Every theorem is for an arbitrary `mac : secret → remote id → digest bytes`; where the length of the
digest matters (`never twice`, "what is sent never needs salting") the hypothesis
`∀ k m, (mac k m).length = 20` (SHA-1 output size) is explicit. All theorems quantify over arbitrary token strings, remote ids, lookup tables
and requests.

Reading of "already salted" (design note F9): `MustSalt t` — `t` splits on '/' into
`v2 :: uuid :: secret :: …` and `secret.length ≠ 40`. The code has no hex test, so ANY
40-character secret is taken for a salt; this is stated, not assumed away.

The legacy-path theorems describe `saltAuthToken` as repaired by the fix: commits 2f26f62 (F7),
a42002c (F19b), b690c13 + 699c6fa (F19c), f99a29f (F19a); before them `C19_legacy_request_clean`
was false for the form-body placement, for a form body next to another token, for a content type
with parameters and for the cookie placement (witnesses in corpus/C19/).
-/
import ArvVerif.Proofs.C19_Provider
import ArvVerif.Proofs.C19_Legacy
namespace ArvVerif.C19

/-! ## SaltToken -/

/-- Shape: a token `v2/<uuid>/<secret>[/more]` whose secret is not 40 characters long is replaced by
`v2/<uuid>/<hex mac(secret, remote)>` — uuid kept, extra segments dropped, result a function of
(uuid, secret, remote) only. With a 40-character secret (F9: any 40 characters) the token is
returned as it is if its uuid starts with the remote id and reported as already salted otherwise. -/
theorem C19_salt_shape (mac : Str → Str → List UInt8) (u s rest R : Str)
    (hu : '/' ∉ u) (hs : '/' ∉ s) (hrest : rest = [] ∨ ∃ r, rest = '/' :: r) :
    (s.length ≠ 40 →
      saltToken mac (sV2Slash ++ u ++ sSlash ++ s ++ rest) R =
        .ok (sV2Slash ++ u ++ sSlash ++ hexStr (mac s R))) ∧
    (s.length = 40 → R.isPrefixOf u = true →
      saltToken mac (sV2Slash ++ u ++ sSlash ++ s ++ rest) R =
        .ok (sV2Slash ++ u ++ sSlash ++ s ++ rest)) ∧
    (s.length = 40 → R.isPrefixOf u = false →
      saltToken mac (sV2Slash ++ u ++ sSlash ++ s ++ rest) R = .error .salted) := by
  obtain ⟨more, hsp⟩ : ∃ more, splitSlash (sV2Slash ++ u ++ sSlash ++ s ++ rest) = sV2 :: u :: s :: more := by
    have e : sV2Slash ++ u ++ sSlash ++ s ++ rest = sV2Slash ++ (u ++ '/' :: (s ++ rest)) := by
      simp [sSlash_eq]
    rw [e, splitSlash_v2Slash, splitSlash_append_slash hu]
    rcases hrest with rfl | ⟨r, rfl⟩
    · exact ⟨[], by rw [List.append_nil, splitSlash_noslash hs]⟩
    · exact ⟨_, by rw [splitSlash_append_slash hs]⟩
  rw [saltToken_of_split hsp]
  exact ⟨fun hl => by simp [saltLen, hl, saltedForm], fun hl hp => by simp [saltLen, hl, hp],
    fun hl hp => by simp [saltLen, hl, hp]⟩

/-- Every other string (fewer than three '/'-separated parts, or not starting with `v2`) is refused:
"obsolete token" exactly for `[0-9a-z]{41,}`, "badly formatted" otherwise. -/
theorem C19_salt_other (mac : Str → Str → List UInt8) (t R : Str)
    (h : ∀ u s more, splitSlash t ≠ sV2 :: u :: s :: more) :
    saltToken mac t R = (if isObsolete t then .error .obsolete else .error .format) ∧
    (isObsolete t = true ↔
      41 ≤ t.length ∧ ∀ c ∈ t, (('0' ≤ c ∧ c ≤ '9') ∨ ('a' ≤ c ∧ c ≤ 'z'))) :=
  ⟨saltToken_not_v2 h, isObsolete_iff t⟩

/-- Converse, for every token string whatsoever: a success of SaltToken is one of the two outcomes
above, and the token has the v2 shape `v2/<uuid>/<secret><tail>`. -/
theorem C19_salt_ok_only (mac : Str → Str → List UInt8) (t R x : Str)
    (h : saltToken mac t R = .ok x) :
    ∃ u s more, splitSlash t = sV2 :: u :: s :: more ∧
      t = sV2 ++ '/' :: (u ++ '/' :: (s ++ tailJoin more)) ∧ '/' ∉ u ∧ '/' ∉ s ∧
      ((s.length ≠ 40 ∧ x = saltedForm mac u s R) ∨
       (s.length = 40 ∧ R.isPrefixOf u = true ∧ x = t)) := by
  obtain ⟨u, s, more, hsp, hx⟩ := saltToken_ok_inv h
  have hno := mem_splitSlash_noslash hsp
  exact ⟨u, s, more, hsp, splitSlash_three hsp, hno u (by simp), hno s (by simp), hx⟩

/-- The salted token keeps the uuid and consists of exactly `v2`, the uuid and the hex digest. -/
theorem C19_salt_keeps_uuid (mac : Str → Str → List UInt8) (u s R : Str) (hu : '/' ∉ u) :
    splitSlash (saltedForm mac u s R) = [sV2, u, hexStr (mac s R)] ∧
    (hexStr (mac s R)).length = 2 * (mac s R).length :=
  ⟨splitSlash_saltedForm hu, length_hexStr _⟩

/-- Salting is never applied twice: whatever SaltToken returned has a 40-character secret, so
salting it again — for any remote — returns it unchanged (if it belongs to that remote) or reports
"already salted"; the MAC is not applied again. -/
theorem C19_never_twice (mac : Str → Str → List UInt8) (hmac : ∀ k m, (mac k m).length = 20)
    (t R x : Str) (h : saltToken mac t R = .ok x) :
    ∃ u s more, splitSlash x = sV2 :: u :: s :: more ∧ s.length = 40 ∧
      ∀ R', saltToken mac x R' = if R'.isPrefixOf u then .ok x else .error .salted := by
  obtain ⟨u, s, more, hsp, hl⟩ := saltToken_ok_split hmac h
  exact ⟨u, s, more, hsp, hl, fun R' => by rw [saltToken_of_split hsp, if_neg (not_not_intro hl)]⟩

/-- A '/'-free secret longer than the digest's 40 hex characters that does not occur in the uuid
does not occur anywhere in the salted token. (Real secrets: about 50 characters of `[0-9a-z]`.) -/
theorem C19_secret_not_in_salted (mac : Str → Str → List UInt8) (u s R : Str)
    (hs : '/' ∉ s) (hlen : 40 < s.length) (hmac : (mac s R).length = 20) (hu : ¬ s <:+: u) :
    ¬ s <:+: saltedForm mac u s R := by
  intro h
  rcases infix_saltedForm hs h with h | h | h
  · have := h.length_le; simp [sV2_eq] at this; omega
  · exact hu h
  · have := h.length_le; rw [length_hexStr, hmac] at this; omega

/-! ## Federation token provider -/

/-- Every token the provider hands to the RPC layer is, position by position, one of: the salted
form of an unsalted v2 token; a v2 token with a 40-character secret, as it is; a string that is
neither v2 nor legacy format, unchanged; a legacy token that the local cluster does not know (401)
or that belongs to the remote, unchanged; the salted form of the v2 rendering of a locally resolved
legacy token. Hence (20-byte MAC) nothing that is sent still needs salting. -/
theorem C19_forwarded_secret (mac : Str → Str → List UInt8) (R : Str) (lookup : Str → Lookup)
    (ts out : List Str) (h : provider mac R lookup (some ts) = .ok out) :
    Zip (Forwarded mac R lookup) ts out ∧ out.length = ts.length ∧
    ((∀ k m, (mac k m).length = 20) → ∀ o ∈ out, ¬ MustSalt o) := by
  have hz := (provAll_ok h).mono fun _ _ => provOne_ok
  refine ⟨hz, hz.length_eq.symm, fun hmac o ho => ?_⟩
  obtain ⟨t, _, hf⟩ := hz.mem.2 o ho
  exact hf.not_mustSalt hmac

/-- In particular: at the position of an unsalted v2 token stands exactly its salted form. -/
theorem C19_forwarded_v2 (mac : Str → Str → List UInt8) (R : Str) (lookup : Str → Lookup)
    (ts out : List Str) (h : provider mac R lookup (some ts) = .ok out)
    (i : Nat) (h1 : i < ts.length) (h2 : i < out.length) (u s : Str) (more : List Str)
    (hsp : splitSlash ts[i] = sV2 :: u :: s :: more) (hl : s.length ≠ 40) :
    out[i] = saltedForm mac u s R := by
  have hf := (provAll_ok h).get i h1 h2
  rw [provOne, saltToken_salts hsp hl] at hf
  exact (Except.ok.inj hf).symm

/-- A legacy-format token whose local lookup fails with anything but 401 — 403 for a token that is
valid here but scoped, 5xx, an error without a status (500) — is never passed on: if such a token
is anywhere in the list, the provider returns an error and nothing is sent. -/
theorem C19_provider_refuses_on_lookup_error (mac : Str → Str → List UInt8) (R : Str)
    (lookup : Str → Lookup) (ts : List Str) (t : Str) (st : Nat) (hmem : t ∈ ts)
    (hv : ∀ u s more, splitSlash t ≠ sV2 :: u :: s :: more) (hob : isObsolete t = true)
    (hlk : lookup t = .error st) (hst : st ≠ 401) :
    ∀ out, provider mac R lookup (some ts) ≠ .ok out := by
  intro out h
  obtain ⟨o, _, hf⟩ := (provAll_ok h).mem.1 t hmem
  simp [provOne, saltToken_not_v2 hv, hob, hlk, hst] at hf

/-- One incoming request forwarded to several remote clusters (in any order, with repetitions): the
provider of the i-th remote answers from the caller's ORIGINAL credentials — what an earlier remote
was sent has no influence. In particular an unsalted v2 token at position j goes to the i-th remote
salted for THAT remote. -/
theorem C19_provider_history_free (mac : Str → Str → List UInt8) (lookup : Str → Lookup)
    (ts : List Str) (remotes : List Str) (i : Nat) (hi : i < remotes.length) :
    (provSeq mac lookup (some ts) remotes)[i]'(by simpa [provSeq] using hi) =
      provider mac remotes[i] lookup (some ts) ∧
    (∀ out j (h1 : j < ts.length) (h2 : j < out.length) u s more,
      provider mac remotes[i] lookup (some ts) = .ok out →
      splitSlash ts[j] = sV2 :: u :: s :: more → s.length ≠ 40 →
      out[j] = saltedForm mac u s remotes[i]) := by
  refine ⟨by simp [provSeq], ?_⟩
  intro out j h1 h2 u s more hp hsp hl
  exact C19_forwarded_v2 mac remotes[i] lookup ts out hp j h1 h2 u s more hsp hl

/-- Without credentials in the request context the provider fails; an error means no token (and
no request) goes out. -/
theorem C19_provider_no_credentials (mac : Str → Str → List UInt8) (R : Str) (lookup : Str → Lookup) :
    provider mac R lookup none = .error .noCreds := rfl

/-- Where `rpc.Conn` puts the provider's tokens on the outgoing request: the first one in
`Authorization: Bearer …`, the others in the `reader_tokens` parameter, nothing else; with no token
at all the placeholder `Bearer -`. So the credentials a receiver finds are exactly the provider's
list, and (20-byte MAC) none of them still needs salting. -/
theorem C19_rpc_placement (mac : Str → Str → List UInt8) (R : Str) (lookup : Str → Lookup)
    (ts out : List Str) (h : provider mac R lookup (some ts) = .ok out) :
    headerTokens (.plain (rpcAuthorization out)) ++ rpcReaderTokens out =
      (if out = [] then [['-']] else out) ∧
    ((∀ k m, (mac k m).length = 20) →
      ∀ t ∈ headerTokens (.plain (rpcAuthorization out)) ++ rpcReaderTokens out, ¬ MustSalt t) := by
  refine (fun hplace => ⟨hplace, fun hmac t ht => ?_⟩)
    (by cases out <;> simp [rpcAuthorization, rpcReaderTokens, headerTokens_bearer])
  rw [hplace] at ht
  split at ht
  · rw [List.mem_singleton.mp ht]
    exact not_mustSalt_of_not_v2 (not_v2_of_noslash (by decide))
  · exact (C19_forwarded_secret mac R lookup ts out h).2.2 hmac t ht

/-- Tokens that are not in Arvados format (`Opaque`: neither `v2/<uuid>/<secret>…` nor
`[0-9a-z]{41,}` — OIDC access tokens, JWTs, anything else) are passed through unchanged by the
provider, at their position; keepstore refuses them (500, no request); the legacy path puts them
unchanged into the Authorization header unless the local database knows them (a `v2/x` one-slash
string is the panic case below). -/
theorem C19_opaque_passthrough (mac : Str → Str → List UInt8) (R : Str) (lookup : Str → Lookup)
    (db : Str → Option (Str × Str)) (t : Str) (h : Opaque t) :
    provOne mac R lookup t = .ok t ∧
    (∀ ts out i (h1 : i < ts.length) (h2 : i < out.length),
      provider mac R lookup (some ts) = .ok out → ts[i] = t → out[i] = t) ∧
    keepGet mac t R = .refused 500 ∧
    (sV2Slash.isPrefixOf t = false → db t = none → legacyToken mac R db t = .ok t) := by
  have hs : ∀ R, saltToken mac t R = .error .format := fun _ => saltToken_opaque h
  have hp : provOne mac R lookup t = .ok t := by simp [provOne, hs]
  refine ⟨hp, ?_, by simp [keepGet, keepRemoteToken, hs], ?_⟩
  · intro ts out i h1 h2 hpr hti
    have hf := (provAll_ok hpr).get i h1 h2
    rw [hti, hp] at hf
    exact (Except.ok.inj hf).symm
  · intro hpre hdb
    simp [legacyToken, hs, hpre, resolveLocal, hdb]

/-! ## Legacy proxy path (saltAuthToken) -/

/-- Full strength, every request (any placement of any number of tokens in Authorization
OAuth2/Bearer/Basic, query string, cookie, form body; any other parameters; any content type): in the
request that is forwarded, none of the places from which the receiving cluster reads credentials —
Authorization header, `api_token` in the query string, the token cookie, `api_token` in a body
declared as a form — holds an unsalted v2 token. -/
theorem C19_legacy_request_clean (mac : Str → Str → List UInt8) (hmac : ∀ k m, (mac k m).length = 20)
    (R : Str) (db : Str → Option (Str × Str)) (r : Req) (f : Fwd)
    (h : saltAuthToken mac R db r = .fwd f) : ∀ t ∈ forwardedTokens r f, ¬ MustSalt t := by
  intro t ht
  obtain ⟨b, hbody, ⟨hd, rfl⟩ | ⟨t0, rest, t', _, hl, rfl⟩⟩ := saltAuthToken_fwd h
  · -- no credential found: everything is forwarded as it is, and holds no token
    have hreq := (List.append_eq_nil_iff.mp hd).1
    rw [requestTokens] at hreq
    simp only [forwardedTokens, authOutTokens, queryOutTokens, cookieOutTokens, hbody, hreq,
      List.append_nil] at ht
    cases ht
  · -- the only credential left is the one in the rebuilt Authorization header
    simp only [forwardedTokens, authOutTokens, cookieOutTokens, hbody, List.append_nil,
      headerTokens_bearer, queryOut_tokens r, List.mem_singleton] at ht
    exact ht ▸ legacyToken_ok_not_mustSalt hmac hl

/-- What the rebuilt request looks like. `discovered r` is the credential list in the order of
discovery (header, query string, cookie, then the form body's first non-empty `api_token`). If it is
empty the headers and the URL are forwarded as they are. Otherwise, with an unsalted v2 token in
front: the Authorization header is exactly `Bearer v2/<uuid>/<hex mac(secret, remote)>` — whatever
the local database says —, the query string is re-encoded without `api_token` and the token cookie
is removed. -/
theorem C19_legacy_header (mac : Str → Str → List UInt8) (R : Str) (db : Str → Option (Str × Str))
    (r : Req) (f : Fwd) (h : saltAuthToken mac R db r = .fwd f) :
    (discovered r = [] → f.auth = .same ∧ f.query = .same ∧ f.cookie = .same) ∧
    (∀ t rest u s more, discovered r = t :: rest → splitSlash t = sV2 :: u :: s :: more →
      s.length ≠ 40 →
      f.auth = .set (sBearer ++ saltedForm mac u s R) ∧ f.query = queryOut r ∧ f.cookie = .stripped) := by
  obtain ⟨b, _, ⟨h0, rfl⟩ | ⟨t0, rest0, t', h0, hl, rfl⟩⟩ := saltAuthToken_fwd h
  · exact ⟨fun _ => ⟨rfl, rfl, rfl⟩, fun t rest u s more hd => (nomatch h0 ▸ hd)⟩
  · refine ⟨fun hd => (nomatch h0 ▸ hd), fun t rest u s more hd hsp hlen => ?_⟩
    cases h0 ▸ hd
    cases (legacyToken_mustSalt hsp hlen).symm.trans hl
    exact ⟨rfl, rfl, rfl⟩

/-- A well-formed request whose first credential is an unsalted v2 token is always forwarded (no
error, no crash), in the shape of `C19_legacy_header`; this also shows that the hypotheses of the
two theorems above are satisfiable for every such request. -/
theorem C19_legacy_user_token_forwarded (mac : Str → Str → List UInt8) (R : Str)
    (db : Str → Option (Str × Str)) (r : Req) (t : Str) (rest : List Str) (u s : Str) (more : List Str)
    (hd : discovered r = t :: rest) (hsp : splitSlash t = sV2 :: u :: s :: more) (hlen : s.length ≠ 40)
    (hq : hasBad r.query = false)
    (hb : isFormType r.ctype = true → ∃ items, r.body = .form items ∧ hasBad items = false) :
    ∃ b, saltAuthToken mac R db r = .fwd ⟨.set (sBearer ++ saltedForm mac u s R), queryOut r, b, .stripped⟩ := by
  rcases saltAuthToken_spec (rfl : saltAuthToken mac R db r = _) with ⟨b, _, he⟩ | ⟨hn, _⟩
  · exact ⟨b, by simp [he, hd, finish, legacyToken_mustSalt hsp hlen, hq]⟩
  · exact absurd hb hn

/-- Everything else is kept: the re-encoded query string / form body holds exactly the original
parameters other than `api_token`. -/
theorem C19_legacy_other_params_kept (kvs : List (Str × Str)) (kv : Str × Str) :
    kv ∈ encodeOrder (dropKey apiTokenKey kvs) ↔ kv ∈ kvs ∧ kv.1 ≠ apiTokenKey :=
  mem_encodeOrder_dropKey

/-- Every placement named in the property is discovered: `Authorization: OAuth2 t`, `Bearer t`,
Basic with password `t`, `api_token=t` in the query string, the token cookie, and `api_token=t` as
the first `api_token` of a body declared as a form (with or without media-type parameters, any
method). -/
theorem C19_legacy_placements (t : Str) :
    headerTokens (.plain (sOAuth2 ++ ' ' :: t)) = [t] ∧
    headerTokens (.plain (sBearer ++ t)) = [t] ∧
    (∀ user, headerTokens (.basic user t) = [t]) ∧
    (∀ q, (apiTokenKey, t) ∈ goods q → t ∈ queryTokens q) ∧
    (t ≠ [] → cookieTokens (.token t) = [t]) ∧
    (∀ r items rest, isFormType r.ctype = true → r.body = .form items → hasBad items = false →
      valuesOf apiTokenKey (goods items) = t :: rest → t ≠ [] →
      ∃ nb, bodyStage r = .parsed [t] nb) := by
  refine ⟨headerTokens_scheme t (.inl rfl), headerTokens_bearer t, fun _ => rfl,
    fun q hq => mem_valuesOf.mpr hq, fun ht => by simp [cookieTokens, ht], ?_⟩
  intro r items rest hc hb hbad hv ht
  rw [bodyStage_form hc hb hbad]
  have hf : firstToken (goods items) = [t] := by simp [firstToken, hv, ht]
  exact ⟨_, by rw [hf]⟩

/-- The index-out-of-range crash of `validateAPItoken` (`sp[2]`): it happens for exactly the
credentials of the form `v2/<x>` with no further '/', and only when such a credential is the first
one discovered; a crashed or failed call forwards nothing (`.panic`/`.err` carry no request). -/
theorem C19_legacy_panic (mac : Str → Str → List UInt8) (R : Str) (db : Str → Option (Str × Str)) :
    (∀ t, legacyToken mac R db t = .panic ↔ ∃ x, t = sV2Slash ++ x ∧ '/' ∉ x) ∧
    (∀ r, saltAuthToken mac R db r = .panic →
      ∃ t rest x, discovered r = t :: rest ∧ t = sV2Slash ++ x ∧ '/' ∉ x) := by
  refine ⟨fun t => legacyToken_panic_iff, fun r h => ?_⟩
  obtain ⟨t, rest, hd, hp⟩ := saltAuthToken_panic h
  obtain ⟨x, hx⟩ := legacyToken_panic_iff.mp hp
  exact ⟨t, rest, x, hd, hx⟩

/-- The forwarding layers `remoteClusterRequest` and `proxy.Do`: a request is sent only for a
configured remote and only if `saltAuthToken` produced one; its credential-bearing parts
(Authorization, Cookie, query string, body) are exactly those of the rebuilt request — none of
these header names is among the hop-by-hop headers `proxy.Do` drops —, so (20-byte MAC) nothing the
receiver can read a credential from holds an unsalted v2 token; every other forwarded header is an
incoming non-credential header with its value, and the proxy headers are built from the incoming
X-Forwarded-For / X-Forwarded-Proto / Via values, the URL scheme and a literal. -/
theorem C19_legacy_wire (mac : Str → Str → List UInt8) (configured : Bool) (R : Str)
    (db : Str → Option (Str × Str)) (scheme : Str) (r : Req) (others : List (Str × Str)) (w : Wire)
    (h : remoteClusterRequest mac configured R db scheme r others = .sent w) :
    configured = true ∧ saltAuthToken mac R db r = .fwd w.fwd ∧
    (hAuthorization ∉ dropHeaders ∧ hCookie ∉ dropHeaders ∧ hContentType ∉ dropHeaders) ∧
    (∀ kv ∈ w.others, kv ∈ others ∧ kv.1 ∉ dropHeaders) ∧
    (w.xff = [] ∨ ∃ v, hdrGet hXFF others = some v ∧ w.xff = v ++ [',']) ∧
    (w.xfp = scheme ∨ hdrGet hXFP others = some w.xfp) ∧
    (w.via = [viaSuffix] ∨ ∃ v, hdrGet hVia others = some v ∧ w.via = [v, viaSuffix]) ∧
    ((∀ k m, (mac k m).length = 20) → ∀ t ∈ forwardedTokens r w.fwd, ¬ MustSalt t) := by
  cases configured with
  | false => simp [remoteClusterRequest] at h
  | true =>
    rw [remoteClusterRequest, if_neg nofun] at h
    split at h <;> cases h
    next f hs =>
    refine ⟨rfl, hs, ?_, fun kv hkv => ?_, ?_, ?_, ?_, fun hmac => C19_legacy_request_clean mac hmac R db r f hs⟩
    · unfold dropHeaders hAuthorization hCookie hContentType
      simp only [List.map]
      repeat rw [String.toList_ofList]
      decide +kernel
    · obtain ⟨hm, hk⟩ := List.mem_filter.mp hkv
      simp only [Bool.and_eq_true, Bool.not_eq_true', List.contains_eq_mem, decide_eq_false_iff_not] at hk
      exact ⟨hm, hk.1.1.1⟩
    · simp only [proxyDo]
      cases hdrGet hXFF others with
      | none => exact .inl rfl
      | some v => by_cases hv : v = [] <;> simp [hv]
    · simp only [proxyDo]
      cases hdrGet hXFP others with
      | none => exact .inl rfl
      | some v => by_cases hv : v = [] <;> simp [hv]
    · simp only [proxyDo]
      cases hdrGet hVia others <;> simp

/-- An unconfigured remote is refused (404) before anything is looked at; an error or a crash of
`saltAuthToken` sends nothing. -/
theorem C19_legacy_wire_refusals (mac : Str → Str → List UInt8) (R : Str)
    (db : Str → Option (Str × Str)) (scheme : Str) (r : Req) (others : List (Str × Str)) :
    remoteClusterRequest mac false R db scheme r others = .notFound ∧
    (∀ e, saltAuthToken mac R db r = .err e →
      remoteClusterRequest mac true R db scheme r others = .err e) ∧
    (saltAuthToken mac R db r = .panic →
      remoteClusterRequest mac true R db scheme r others = .panic) := by
  refine ⟨by simp [remoteClusterRequest], fun e he => by simp [remoteClusterRequest, he],
    fun hp => by simp [remoteClusterRequest, hp]⟩

/-! ## keepstore -/

/-- The token keepstore uses towards cluster R is `SaltToken tok R`; if salting fails no request is
made (HTTP 400 for a legacy-format token, 500 otherwise); what is sent never needs salting. -/
theorem C19_keepstore_remote (mac : Str → Str → List UInt8) (t R : Str) :
    keepRemoteToken mac t R = saltToken mac t R ∧
    (∀ x, saltToken mac t R = .ok x →
      keepGet mac t R = .requests (sOAuth2sp ++ x) ∧ ((∀ k m, (mac k m).length = 20) → ¬ MustSalt x)) ∧
    (∀ e, saltToken mac t R = .error e →
      keepGet mac t R = .refused (if e = .obsolete then 400 else 500)) := by
  refine ⟨rfl, fun x hx => ⟨?_, fun hmac => not_mustSalt_of_saltToken_ok hmac hx⟩, fun e he => ?_⟩
  · simp [keepGet, keepRemoteToken, hx]
  · cases e <;> simp [keepGet, keepRemoteToken, he]

/-- keepstore keeps no memory of tokens: in any sequence of `remoteClient` calls on one process
(any remotes, any tokens, any order, repetitions) the i-th answer is `SaltToken` of the i-th token
for the i-th remote — in particular a token already used with remote R1 is salted afresh, for R2,
when it is used with R2. -/
theorem C19_keepstore_history_free (mac : Str → Str → List UInt8) (steps : List (Str × Str))
    (i : Nat) (h : i < steps.length) :
    (keepSeq mac steps)[i]'(by simpa [keepSeq] using h) = saltToken mac steps[i].2 steps[i].1 := by
  simp [keepSeq, keepRemoteToken]

/-- A `Get` whose locator names several remote clusters sends the request through the client of
the last hint, and that client carries the token salted for THAT remote: for an unsalted v2 token
and hints `rs ++ [R]` the Authorization header is `OAuth2 v2/<uuid>/<hex mac(secret, R)>`; the same
holds for every request of a sequence (`keepGetSeq` is a plain `map`). -/
theorem C19_keepstore_hints (mac : Str → Str → List UInt8) (t u s : Str) (more : List Str)
    (hsp : splitSlash t = sV2 :: u :: s :: more) (hl : s.length ≠ 40) (rs : List Str) (R : Str) :
    keepGetHints mac t (rs ++ [R]) = .requests (sOAuth2sp ++ saltedForm mac u s R) := by
  have hsalt : ∀ r, keepRemoteToken mac t r = .ok (saltedForm mac u s r) :=
    fun r => saltToken_salts hsp hl
  -- whatever client was chosen before, the one built for the last hint wins
  unfold keepGetHints
  generalize (none : Option Str) = acc
  induction rs generalizing acc with
  | nil => simp [keepGetHintsAux, hsalt]
  | cons r rs ih => simp [keepGetHintsAux, hsalt, ih]

/-! ## Non-vacuity: the hypotheses are satisfiable by non-trivial instances

A string literal is `String.ofList` of its characters by definition, so `String.toList_ofList` turns
`"abc".toList` into `['a', 'b', 'c']` without any evaluation; evaluating `toList` of a literal in the
kernel decodes its UTF-8 bytes, which is slow. Hence `repeat rw [String.toList_ofList]` before every
`decide` below. -/

/-- a MAC with 20-byte output -/
def mac20 : Str → Str → List UInt8 := fun k m => List.replicate 20 (UInt8.ofNat (k.length + m.length))

example : ∀ k m, (mac20 k m).length = 20 := fun _ _ => by simp [mac20]

-- C19_salt_shape: a uuid and a secret without '/', with and without a tail
example : '/' ∉ "zhome-gj3su-000000000000000".toList ∧ '/' ∉ "3kg6k6lzmp9kj5cpkcoxie963cmvjahbt2fod9zru30k1jqdmi".toList ∧
    ("3kg6k6lzmp9kj5cpkcoxie963cmvjahbt2fod9zru30k1jqdmi".toList).length ≠ 40 := by
  repeat rw [String.toList_ofList]
  decide +kernel
example : ∃ r, "/extra/segments".toList = '/' :: r := ⟨_, String.toList_ofList⟩

-- C19_salt_other: strings that are not of the v2 shape, one legacy, one opaque
example : ∀ u s more, splitSlash "v2/abc".toList ≠ sV2 :: u :: s :: more := by
  intro u s more h; simp [splitSlash, sV2] at h
example : isObsolete ("0123456789abcdefghijklmnopqrstuvwxyz01234").toList = true := by
  rw [String.toList_ofList]
  decide +kernel
example : isObsolete "eyJhbGciOi".toList = false := by
  rw [String.toList_ofList]
  decide +kernel

-- C19_never_twice / C19_forwarded_secret: a token that salts
example : saltToken mac20 "v2/zhome-gj3su-000000000000000/secret".toList "zrmte".toList =
    .ok (saltedForm mac20 "zhome-gj3su-000000000000000".toList "secret".toList "zrmte".toList) := by
  repeat rw [String.toList_ofList]
  rfl

-- C19_forwarded_secret: a provider run with one v2 token, one opaque token, one legacy token (401)
example : provider mac20 "zrmte".toList (fun _ => .error 401)
    (some ["v2/u/s".toList, "opaque".toList, "0123456789abcdefghijklmnopqrstuvwxyz01234".toList]) =
    .ok [saltedForm mac20 "u".toList "s".toList "zrmte".toList, "opaque".toList,
         "0123456789abcdefghijklmnopqrstuvwxyz01234".toList] := by
  repeat rw [String.toList_ofList]
  rfl

-- C19_provider_refuses_on_lookup_error: a legacy token, a 403 lookup
example : (∀ u s more, splitSlash "0123456789abcdefghijklmnopqrstuvwxyz01234".toList ≠ sV2 :: u :: s :: more) ∧
    isObsolete "0123456789abcdefghijklmnopqrstuvwxyz01234".toList = true ∧ (403 : Nat) ≠ 401 := by
  rw [String.toList_ofList]
  exact ⟨not_v2_of_noslash (by decide +kernel), by decide +kernel, by decide⟩

-- C19_keepstore_history_free: the same token with two remotes in sequence
example : keepSeq mac20 [("z1111".toList, "v2/u/s".toList), ("z2222".toList, "v2/u/s".toList)] =
    [.ok (saltedForm mac20 "u".toList "s".toList "z1111".toList),
     .ok (saltedForm mac20 "u".toList "s".toList "z2222".toList)] := by
  repeat rw [String.toList_ofList]
  rfl

-- C19_opaque_passthrough / C19_legacy_panic: an OIDC-like token is Opaque; `v2/abc` is the panic shape
example : Opaque "eyJhbGciOiJSUzI1NiJ9.payload.sig".toList := by
  rw [String.toList_ofList]
  exact ⟨not_v2_of_noslash (by decide +kernel), by decide +kernel⟩
example : ∃ x, "v2/abc".toList = sV2Slash ++ x ∧ '/' ∉ x := ⟨"abc".toList, by decide, by decide⟩

-- C19_secret_not_in_salted: a 50-character secret that does not occur in the uuid
example : '/' ∉ "3kg6k6lzmp9kj5cpkcoxie963cmvjahbt2fod9zru30k1jqdmi".toList ∧
    40 < "3kg6k6lzmp9kj5cpkcoxie963cmvjahbt2fod9zru30k1jqdmi".toList.length := by
  rw [String.toList_ofList]
  decide +kernel

-- C19_legacy_*: the F7 witness (token only in a form body) satisfies the hypotheses of
-- C19_legacy_user_token_forwarded, so it is forwarded with a salted header and a stripped body
def witnessF7 : Req :=
  { postLike := true, auth := .absent, query := [], cookie := .absent, ctype := some formCT,
    body := .form [.good "b".toList "2".toList, .good apiTokenKey "v2/u/secret".toList, .good "a".toList "1".toList] }

example : isFormType witnessF7.ctype = true := isFormType_formCT
theorem discovered_witnessF7 : discovered witnessF7 = ["v2/u/secret".toList] := by
  unfold discovered
  rw [bodyStage_form (r := witnessF7) isFormType_formCT rfl rfl]
  decide +kernel
example : discovered witnessF7 = ["v2/u/secret".toList] := discovered_witnessF7
theorem witnessF7_forwarded : ∃ b, saltAuthToken mac20 "zrmte".toList (fun _ => none) witnessF7 =
    .fwd ⟨.set (sBearer ++ saltedForm mac20 "u".toList "secret".toList "zrmte".toList),
      queryOut witnessF7, b, .stripped⟩ :=
  C19_legacy_user_token_forwarded mac20 _ _ witnessF7 "v2/u/secret".toList [] "u".toList
    "secret".toList [] discovered_witnessF7 (by decide +kernel) (by decide +kernel) rfl (fun _ => ⟨_, rfl, rfl⟩)

example : ∃ b, saltAuthToken mac20 "zrmte".toList (fun _ => none) witnessF7 =
    .fwd ⟨.set (sBearer ++ saltedForm mac20 "u".toList "secret".toList "zrmte".toList),
      queryOut witnessF7, b, .stripped⟩ := witnessF7_forwarded

-- C19_legacy_wire: the F7 witness goes out on the wire with one dropped and one kept header
example : ∃ w, remoteClusterRequest mac20 true "zrmte".toList (fun _ => none) "https".toList witnessF7
    [("Connection".toList, "close".toList), ("Accept".toList, "*/*".toList)] = .sent w ∧
    w.others = [("Accept".toList, "*/*".toList)] := by
  obtain ⟨b, hb⟩ := witnessF7_forwarded
  refine ⟨_, by simp only [remoteClusterRequest, hb]; rfl, ?_⟩
  unfold proxyDo dropHeaders hXFF hXFP hVia
  simp only [List.map]
  repeat rw [String.toList_ofList]
  decide +kernel

-- the media types of the F19c witnesses are recognised, the misspelt one of F7 is not a form
example : isFormType (some "application/x-www-form-urlencoded; charset=utf-8".toList) = true := by
  unfold isFormType formCT
  repeat rw [String.toList_ofList]
  decide +kernel
example : isFormType (some " Application/X-WWW-Form-URLencoded ;x".toList) = true := by
  unfold isFormType formCT
  repeat rw [String.toList_ofList]
  decide +kernel
example : isFormType (some "application/x-www-form-urlencoded; a=1; a=2".toList) = true := by
  unfold isFormType formCT
  repeat rw [String.toList_ofList]
  decide +kernel
example : isFormType (some "application/x-www-form-encoded".toList) = false := by
  unfold isFormType formCT
  repeat rw [String.toList_ofList]
  decide +kernel
example : isFormType (some "text/plain; application/x-www-form-urlencoded".toList) = false := by
  unfold isFormType formCT
  repeat rw [String.toList_ofList]
  decide +kernel
example : isFormType none = false := rfl

end ArvVerif.C19
