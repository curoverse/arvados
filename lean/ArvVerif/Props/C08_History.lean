/-
C08 — a collection filesystem behaves like an ordinary in-memory filesystem.
Property theorems, DIRECTORY / HANDLE LAYER and histories.

`step (concImpl hash max)` is the model of the code (segments, pointers, Keep, background flushes at
quiescence); `step specImpl` is the plain model (a file is a byte list, a handle has an offset, a
flush does nothing) over the same flat directory map. `absFS` maps a concrete state to the plain
state it stands for.
-/
import ArvVerif.Proofs.C08_RefinePath
import ArvVerif.Proofs.C08_RefineHandle
import ArvVerif.Proofs.C08_RefineRead
import ArvVerif.Proofs.C08_RefineFlush
import ArvVerif.Proofs.C08_Load
import ArvVerif.Props.C08
namespace ArvVerif.C08

variable {max : Nat} {hash : Bytes → Loc}

/-- Operations whose outputs must be *identical* in the two models: everything except the
single-call `read`, which may legitimately deliver fewer bytes than the plain `pread` (its contract
is `C08_read_refines` / `C08_read_step_refines`); `readn` (read until n bytes) is included. -/
def Op.det : Op → Bool
  | Op.read _ _ => false
  | _ => true

/-- **One step.** From any state satisfying the invariant, every operation (create/open with any
flag combination, write, append, seek, read-until-n, truncate, mkdir, rename, remove, removeAll, stat,
readdir, handle stat/readdir, close, flush, sync) yields the same result in the concrete model and
in the plain model, the abstraction commutes, and the invariant is preserved. -/
theorem C08_step_refines (hinj : Function.Injective hash) (hmax : 1 ≤ max) {s : CFS} (hinv : Inv max hash s)
    (op : Op) (hop : op.det = true) :
    (step (concImpl hash max) s op).2 = (step specImpl (absFS s) op).2 ∧
    absFS (step (concImpl hash max) s op).1 = (step specImpl (absFS s) op).1 ∧
    Inv max hash (step (concImpl hash max) s op).1 := by
  cases op with
  | openF h path acc app cre excl trunc sync dirPerm => exact doOpen_ref hmax hinv h path acc app cre excl trunc sync dirPerm
  | create h path => exact doOpen_ref hmax hinv h path 2 false true false true false false
  | write h data => exact step_write hinj hmax hinv h data
  | read h n => cases hop
  | readn h n => exact step_readn hinv h n
  | seek h off whence => exact step_seek hinv h off whence
  | trunc h size => exact step_trunc hmax hinv h size
  | close h => exact step_close hinv h
  | hstat h => exact step_hstat hinv h
  | hreaddir h => exact step_hreaddir hinv h
  | hsync h => exact step_hsync hinj hinv h
  | mkdir path => exact doMkdir_ref hinv path
  | rename a b => exact doRename_ref hinv a b
  | remove path => exact doRemove_ref hinv path false
  | removeAll path => exact doRemove_ref hinv path true
  | stat path => exact step_stat hinv path
  | readdir path => exact step_readdir hmax hinv path
  | flush path short => exact doFlush_ref hinj hinv path short
  | sync => exact doSync_ref hinj hinv

/-- **Histories.** For every operation sequence of any length, over any number of files,
directories and handles, from any state satisfying the invariant: the concrete run and the plain
run produce identical outputs, end in corresponding states, and the invariant holds at the end
(hence after every prefix). Block size `max ≥ 1` arbitrary; flushes (explicit and background) are
invisible. -/
theorem C08_history_refines (hinj : Function.Injective hash) (hmax : 1 ≤ max) :
    ∀ (ops : List Op) (s : CFS), Inv max hash s → (∀ op ∈ ops, op.det = true) →
      (run (concImpl hash max) s ops).2 = (run specImpl (absFS s) ops).2 ∧
      absFS (run (concImpl hash max) s ops).1 = (run specImpl (absFS s) ops).1 ∧
      Inv max hash (run (concImpl hash max) s ops).1 := by
  intro ops
  induction ops with
  | nil => intro s hinv _; exact ⟨rfl, rfl, hinv⟩
  | cons op rest ih =>
    intro s hinv hdet
    obtain ⟨hd1, hd2⟩ := List.forall_mem_cons.mp hdet
    obtain ⟨h1, h2, h3⟩ := C08_step_refines hinj hmax hinv op hd1
    obtain ⟨i1, i2, i3⟩ := ih _ h3 hd2
    simp only [run]
    rw [← h2] at *
    exact ⟨by rw [h1, i1], i2, i3⟩

/-- The empty collection satisfies the invariant, so `C08_history_refines` applies to every history
that starts from an empty filesystem. -/
theorem C08_init_inv : Inv max hash (FS.init (fun _ => none) : CFS) :=
  ⟨(fun _ _ h => by cases h), (fun _ h => by cases h), (fun _ h => by cases h), (fun _ h => by cases h)⟩

/-- **Loaded filesystems.** Whatever (tokenised) manifest `loadManifest` accepts — any number of
streams, blocks of any sizes including empty ones, file tokens overlapping, repeated, zero-length,
spanning blocks — the resulting state satisfies the invariant: every file is well-formed (each
stored segment non-empty and inside a block that is in Keep, size = Σ lengths), Keep is consistent,
directory entries name existing files, and there are no handles. So `C08_history_refines` needs no
side condition for filesystems opened from a manifest. -/
theorem C08_load_inv (hinj : Function.Injective hash)
    (streams : List (String × List Bytes × List (Nat × Nat × String))) (s : CFS)
    (h : loadManifest hash streams = some s) : Inv max hash s :=
  (loadManifest_ind (Q := LInv max hash) ⟨C08_init_inv, rfl⟩ (loadStream_inv hinj) h).1

/-- Histories on a filesystem opened from any manifest. -/
theorem C08_loaded_history_refines (hinj : Function.Injective hash) (hmax : 1 ≤ max)
    (streams : List (String × List Bytes × List (Nat × Nat × String))) (s : CFS)
    (h : loadManifest hash streams = some s) (ops : List Op) (hdet : ∀ op ∈ ops, op.det = true) :
    (run (concImpl hash max) s ops).2 = (run specImpl (absFS s) ops).2 :=
  (C08_history_refines hinj hmax ops s (C08_load_inv hinj streams s h) hdet).1

/-- **Flushes are invisible (3)**: `dirnode.flush` / `commitBlock` on the files of a directory —
whatever the packing into blocks, in sync or async mode, with or without short blocks — only adds
blocks to Keep and leaves every file's content, segment lengths, size and `repacked` unchanged (so
all handle pointers stay valid) and every segment well-formed. Used by C09/C13. -/
theorem C08_flush_invisible_commit {st : Store} (hinj : Function.Injective hash) (hok : StoreOK hash st)
    (files : List FileNode) (hwf : AllWF max hash st files) (short : Bool) :
    StoreExt st (flushFiles hash max st files short).1 ∧ StoreOK hash (flushFiles hash max st files short).1 ∧
    AllWF max hash (flushFiles hash max st files short).1 (flushFiles hash max st files short).2 ∧
    (flushFiles hash max st files short).2.map (abs (flushFiles hash max st files short).1) = files.map (abs st) ∧
    (flushFiles hash max st files short).2.map (fun fn => (fn.segs.map Seg.len, fn.size, fn.repacked))
      = files.map (fun fn => (fn.segs.map Seg.len, fn.size, fn.repacked)) := by
  obtain ⟨h1, h2, h3, h4⟩ := flushFiles_spec hinj hok files hwf short
  refine ⟨h1, h2, h3, map_abs_of_key h4, ?_⟩
  have := congrArg (List.map (·.2)) h4
  rw [List.map_map, List.map_map] at this
  exact this

/-- **Single `Read` call inside a history**: the data is what the plain model has at the handle's
offset (a prefix of the plain `pread`, of the length actually returned), the handle advances by that
length — i.e. the state afterwards is the plain state after reading exactly that many bytes —, the
invariant is kept, and nothing else changes. Errors for write-only handles, directories etc. are the
same as in the plain model. -/
theorem C08_read_step_refines {s : CFS} (hinv : Inv max hash s) (h n : Nat) :
    ∃ k, k ≤ n ∧
      absFS (step (concImpl hash max) s (Op.read h n)).1 = (step specImpl (absFS s) (Op.read h k)).1 ∧
      Inv max hash (step (concImpl hash max) s (Op.read h n)).1 ∧
      (∀ d e, (step (concImpl hash max) s (Op.read h n)).2 = Res.data d e →
        ∃ e', (step specImpl (absFS s) (Op.read h k)).2 = Res.data d e' ∧ d.length ≤ k) := by
  unfold step
  simp only [getHandle_abs]
  cases hg : getHandle s h with
  | none => exact ⟨n, Nat.le_refl _, rfl, hinv, fun d e hde => by cases hde⟩
  | some hd =>
    simp only [Option.map_some]
    obtain ⟨k, e', hk, hs, hi, hl⟩ := handleRead_ref hinv hg n
    refine ⟨k, hk, ?_⟩
    rw [hs]
    exact ⟨rfl, hi, fun d e hde => by cases hde; exact ⟨e', rfl, hl⟩⟩

/-! ### Directory rules: what a rename does to the flat map (finding F13, fixed by 100856b) -/

/-- the directory map after a successful `Rename` of node `n` from (od, oldname) to (nd, newname):
store under the new name, then delete the old name unless it is the same entry (`doRename`) -/
def renameEnts (ents : List ((Nat × String) × Node)) (od : Nat) (oldname : String) (nd : Nat) (newname : String)
    (n : Node) : List ((Nat × String) × Node) :=
  if od = nd ∧ oldname = newname then setEnt ents nd newname n
  else eraseEnt (setEnt ents nd newname n) od oldname

/-- what the map looked like before the fix: the old name was deleted unconditionally -/
def renameEntsOld (ents : List ((Nat × String) × Node)) (od : Nat) (oldname : String) (nd : Nat) (newname : String)
    (n : Node) : List ((Nat × String) × Node) :=
  eraseEnt (setEnt ents nd newname n) od oldname

/-- Regression witness for F13: with the unconditional delete, `Rename("f","f")` lost the file. -/
theorem C08_rename_old_code_lost_node :
    child (renameEntsOld [((0, "f"), Node.file 0)] 0 "f" 0 "f" (Node.file 0)) 0 "f" = none := by decide

theorem child_setEnt_self (ents : List ((Nat × String) × Node)) (d : Nat) (name : String) (n : Node) :
    child (setEnt ents d name n) d name = some n := by
  unfold child setEnt eraseEnt
  rw [find?_put_self]; rfl

theorem child_eraseEnt_ne {ents : List ((Nat × String) × Node)} {d d' : Nat} {name name' : String}
    (hne : (d', name') ≠ (d, name)) : child (eraseEnt ents d' name') d name = child ents d name := by
  unfold child eraseEnt
  rw [find?_erase_ne ents hne.symm]

theorem child_eraseEnt_self (ents : List ((Nat × String) × Node)) (d : Nat) (name : String) :
    child (eraseEnt ents d name) d name = none := by
  unfold child eraseEnt
  rw [find?_erase_self]; rfl

/-- **Rename keeps the node** (full strength, holds of the fixed code): after a successful rename
the node is reachable under its new name — also when old and new name are the same directory entry —
and, when they are different entries, no longer under the old one. -/
theorem C08_rename_keeps_node (ents : List ((Nat × String) × Node)) (od : Nat) (oldname : String)
    (nd : Nat) (newname : String) (n : Node) :
    child (renameEnts ents od oldname nd newname n) nd newname = some n ∧
    ((od, oldname) ≠ (nd, newname) → child (renameEnts ents od oldname nd newname n) od oldname = none) := by
  unfold renameEnts
  by_cases hc : od = nd ∧ oldname = newname
  · rw [if_pos hc]
    refine ⟨child_setEnt_self .., fun hne => ?_⟩
    exact absurd (by rw [hc.1, hc.2]) hne
  · rw [if_neg hc]
    have hne : (od, oldname) ≠ (nd, newname) := by
      intro h; apply hc; cases h; exact ⟨rfl, rfl⟩
    exact ⟨by rw [child_eraseEnt_ne hne]; exact child_setEnt_self .., fun _ => child_eraseEnt_self ..⟩

/-- Tie between `renameEnts` and the step function: a `Rename` that reports success has resolved an
existing source node `n` at `(od, oldname)` and left exactly the entries `renameEnts …`. Together
with `C08_rename_keeps_node`: after every successful rename the node is reachable under its new name. -/
theorem C08_rename_step {F P W : Type} (s s' : FS F P W) (old new : String)
    (h : doRename s old new = (s', Res.err Err.ok)) :
    ∃ od oldname nd newname n, child s.ents od oldname = some n ∧
      s'.ents = renameEnts s.ents od oldname nd newname n := by
  have hspec := renameCheck_spec s old new
  rw [doRename_eq] at h
  cases hr : renameCheck s old new with
  | error e =>
    rw [hr] at h hspec
    cases h
    exact absurd rfl hspec
  | ok t =>
    rw [hr] at h hspec
    obtain ⟨od, oldname, nd, newname, n⟩ := t
    obtain ⟨e1, _, _, _, _, _, hch, _, _⟩ := hspec
    cases h
    exact ⟨od, oldname, nd, newname, n, e1 ▸ hch, renamed_ents ..⟩

/-! ### Error tables of the directory operations ("fails exactly when …") -/

/-- **Mkdir** succeeds exactly when the parent path resolves to a directory, the last component is a
proper name and nothing of that name exists; then the new directory is reachable under that name.
Every failure leaves the state unchanged. -/
theorem C08_mkdir_table {F P W : Type} (impl : FileImpl F P W) (s : FS F P W) (path : String) :
    ((doMkdir impl s path).2 = Res.err Err.ok ↔
      ∃ d, lookupDir s (splitDirBase path).1 = Except.ok d ∧ special (splitDirBase path).2 = false ∧
        child s.ents d (splitDirBase path).2 = none) ∧
    ((doMkdir impl s path).2 ≠ Res.err Err.ok → (doMkdir impl s path).1 = s) ∧
    (∀ d, lookupDir s (splitDirBase path).1 = Except.ok d → (doMkdir impl s path).2 = Res.err Err.ok →
      child (doMkdir impl s path).1.ents d (splitDirBase path).2 = some (Node.dir s.dirs.length)) := by
  unfold doMkdir
  generalize splitDirBase path = sp
  obtain ⟨dcomps, name⟩ := sp
  dsimp only
  cases hl : lookupDir s dcomps with
  | error e => simp [lookupDir_fails_ne_ok s dcomps e hl]
  | ok d =>
    dsimp only
    cases hsp : special name with
    | true => simp
    | false =>
      cases hc : child s.ents d name with
      | some n => simp [hc]
      | none => simp [hc, addNode, child_setEnt_self]

/-- **Remove** (non-recursive) succeeds exactly when the last component is a proper name, the parent
resolves, the entry exists and is not a non-empty directory; then the name is gone. Every failure
leaves the state unchanged. -/
theorem C08_remove_table {F P W : Type} (s : FS F P W) (path : String) :
    ((doRemove s path false).2 = Res.err Err.ok ↔
      special (splitDirBase (trimSlashes path)).2 = false ∧
      ∃ d n, lookupDir s (splitDirBase (trimSlashes path)).1 = Except.ok d ∧
        child s.ents d (splitDirBase (trimSlashes path)).2 = some n ∧
        (∀ k, n = Node.dir k → dirSize s k = 0)) ∧
    ((doRemove s path false).2 ≠ Res.err Err.ok → (doRemove s path false).1 = s) ∧
    (∀ d, lookupDir s (splitDirBase (trimSlashes path)).1 = Except.ok d →
      (doRemove s path false).2 = Res.err Err.ok →
      child (doRemove s path false).1.ents d (splitDirBase (trimSlashes path)).2 = none) := by
  unfold doRemove
  generalize splitDirBase (trimSlashes path) = sp
  obtain ⟨dcomps, name⟩ := sp
  dsimp only
  cases hsp : special name with
  | true => simp
  | false =>
    cases hl : lookupDir s dcomps with
    | error e => simp [lookupDir_fails_ne_ok s dcomps e hl]
    | ok d =>
      cases hc : child s.ents d name with
      | none => simp [hc]
      | some n =>
        cases n with
        | file f => simp [hc, child_eraseEnt_self]
        | dir k =>
          by_cases hk : dirSize s k = 0
          · simp [hc, hk, child_eraseEnt_self]
          · have : 0 < dirSize s k := by omega
            simp [hc, hk, this]

/-- **RemoveAll** fails only for an improper last component or when the parent path runs through a
file (ErrNotADirectory); a missing entry or parent is success, and an existing entry — file or
directory, empty or not — is removed. -/
theorem C08_removeAll_table {F P W : Type} (s : FS F P W) (path : String) :
    ((doRemove s path true).2 = Res.err Err.ok ↔
      special (splitDirBase (trimSlashes path)).2 = false ∧
      lookupDir s (splitDirBase (trimSlashes path)).1 ≠ Except.error Err.notdir) ∧
    (∀ d, lookupDir s (splitDirBase (trimSlashes path)).1 = Except.ok d →
      special (splitDirBase (trimSlashes path)).2 = false →
      child (doRemove s path true).1.ents d (splitDirBase (trimSlashes path)).2 = none) := by
  unfold doRemove
  generalize splitDirBase (trimSlashes path) = sp
  obtain ⟨dcomps, name⟩ := sp
  dsimp only
  cases hsp : special name with
  | true => simp
  | false =>
    cases hl : lookupDir s dcomps with
    | error e => rcases lookupDir_fails s dcomps e hl with h | h <;> simp [h]
    | ok d =>
      cases hc : child s.ents d name with
      | none => simp [hc]
      | some n => simp [hc, child_eraseEnt_self]

/-- **Rename** succeeds exactly when: the source's last component is a proper name, both parent
paths resolve to directories, the target's last component is not `.`/`..`, the source entry exists,
it is not a directory that is an ancestor-or-self of either parent ("moved into itself"), and the
target name (the source name when the target ends in `/`) is not an existing directory. Every
failure leaves the state unchanged. (What success does: `C08_rename_step`, `C08_rename_keeps_node`.) -/
theorem C08_rename_table {F P W : Type} (s : FS F P W) (old new : String) :
    ((doRename s old new).2 = Res.err Err.ok ↔
      special (splitDirBase old).2 = false ∧
      ((splitDirBase new).2 == "." || (splitDirBase new).2 == "..") = false ∧
      ∃ od nd n, lookupDir s (splitDirBase old).1 = Except.ok od ∧
        lookupDir s (splitDirBase new).1 = Except.ok nd ∧
        child s.ents od (splitDirBase old).2 = some n ∧
        (∀ k, n = Node.dir k →
          (ancestors s.dirs s.dirs.length od ++ ancestors s.dirs s.dirs.length nd).contains k = false) ∧
        (∀ k, child s.ents nd (if ((splitDirBase new).2 == "") = true then (splitDirBase old).2
              else (splitDirBase new).2) ≠ some (Node.dir k))) ∧
    ((doRename s old new).2 ≠ Res.err Err.ok → (doRename s old new).1 = s) := by
  have hspec := renameCheck_spec s old new
  rw [doRename_eq]
  cases hr : renameCheck s old new with
  | error e =>
    rw [hr] at hspec
    refine ⟨⟨fun h => absurd (Res.err.inj h) hspec, ?_⟩, fun _ => rfl⟩
    rintro ⟨h1, h2, od, nd, n, h3, h4, h5, h6, h7⟩
    have := renameCheck_of_ok (s := s) (old := old) (new := new) ⟨h1, h2, h3, h4, h5, h6, h7⟩
    rw [hr] at this
    cases this
  | ok t =>
    rw [hr] at hspec
    obtain ⟨od, oldname, nd, newname, n⟩ := t
    obtain ⟨_, _, h1, h2, h3, h4, h5, h6, h7⟩ := hspec
    exact ⟨⟨fun _ => ⟨h1, h2, od, nd, n, h3, h4, h5, h6, h7⟩, fun _ => rfl⟩, fun h => absurd rfl h⟩

/-- **A failed open changes nothing** (any file implementation, any flag combination): whenever
`openFile` returns an error — missing path, O_EXCL on an existing target, O_SYNC, invalid access
mode, O_TRUNC on a read-only handle or a directory, … — the filesystem state is exactly what it was.
(In particular O_EXCL|O_TRUNC on an existing file does not truncate it: the class of seeded change
C08-d.) -/
theorem C08_open_fail_unchanged {F P W : Type} (impl : FileImpl F P W) (s : FS F P W) (path : String) (acc : Nat)
    (app cre excl trunc sync dirPerm : Bool) (e : Err)
    (h : (openFile impl s path acc app cre excl trunc sync dirPerm).2 = Except.error e) :
    (openFile impl s path acc app cre excl trunc sync dirPerm).1 = s := by
  rcases openFile_cases impl s path acc app cre excl trunc sync dirPerm with e' | ⟨_, _, _, e'⟩ | ⟨_, _, _, _, _, _, e'⟩
  · exact e'
  · rw [e'] at h; cases h
  · rw [e'] at h; cases h

/-- **Access modes**: a write through a handle that is not writable fails with `rofile`, a read
through a handle that is not readable fails with `wronly`; neither changes anything. -/
theorem C08_access_mode_table {F P W : Type} (impl : FileImpl F P W) (s : FS F P W) (h : Nat) (hd : Handle P)
    (hg : getHandle s h = some hd) :
    (hd.wr = false → ∀ data, step impl s (Op.write h data) = (s, Res.wrote 0 Err.rofile)) ∧
    (hd.rd = false → ∀ n, step impl s (Op.read h n) = (s, Res.data [] Err.wronly)) := by
  constructor
  · intro hw data
    simp only [step, hg, hw, Bool.not_false, if_true]
  · intro hr n
    simp only [step, hg, handleRead, hr, Bool.not_false, if_true]

/-! ### Treeness of the directory table -/

/-- **The directory table is a tree, always.** `TreeInv` — the root is its own parent, every parent
pointer names an existing directory, every parent chain reaches the root within `dirs.length` steps
(so no cycle exists), every entry that names a directory names an existing one — holds for the empty
filesystem and for every filesystem loaded from a manifest, and is preserved by every operation, for
every file implementation (so for the model of the code and for the plain model alike). In
particular `Rename` never creates a cycle: its "moved into itself" test is exactly strong enough. -/
theorem C08_tree_invariant {F P W : Type} (impl : FileImpl F P W) :
    (∀ w : W, TreeInv (FS.init w : FS F P W)) ∧
    (∀ (s : FS F P W) (op : Op), TreeInv s → TreeInv (step impl s op).1) ∧
    (∀ (s : FS F P W) (ops : List Op), TreeInv s → TreeInv (run impl s ops).1) :=
  ⟨TreeInv.init, fun _ op h => step_tree impl h op, fun s ops h => by
    induction ops generalizing s with
    | nil => exact h
    | cons op rest ih => exact ih _ (step_tree impl h op)⟩

theorem C08_loaded_tree (streams : List (String × List Bytes × List (Nat × Nat × String))) (s : CFS)
    (h : loadManifest hash streams = some s) : TreeInv s :=
  loadManifest_ind (Q := TreeInv) (TreeInv.init _) loadStream_tree h

/-- **The fuel-bounded ancestor walk is complete**: in a tree-shaped table, `ancestors dirs
dirs.length d` (the model of Rename's `for node.Parent() != node` loop, which has no bound in the
code) contains exactly the ancestors-or-self of `d`; the fuel `dirs.length` always suffices
(pigeonhole on the parent chain). -/
theorem C08_ancestors_complete {F P W : Type} {s : FS F P W} (h : TreeInv s) {d : Nat} (hd : d < s.dirs.length)
    (k : Nat) : k ∈ ancestors s.dirs s.dirs.length d ↔ ∃ i, up s.dirs d i = k :=
  mem_ancestors h.dirs.root (h.dirs.reach d hd)

/-- Path resolution stays inside the table: whatever `rlookup` returns for a parent path is an
existing directory. -/
theorem C08_lookup_valid {F P W : Type} {s : FS F P W} (h : TreeInv s) {comps : List String} {d : Nat}
    (hl : lookupDir s comps = Except.ok d) : d < s.dirs.length :=
  lookupDir_valid h hl

/-- non-vacuity: a table in which directory 1 ("a") contains directory 2 ("b") is a tree, and moving
"a" below "b" is exactly what the ancestor test forbids -/
example : DirsOK [(".", 0), ("a", 0), ("b", 1)] :=
  (DirsOK.init.append "a" (by decide)).append "b" (by decide)

example : (ancestors [(".", 0), ("a", 0), ("b", 1)] 3 2).contains 1 = true := by decide

/-! ### Non-vacuity -/

/-- a non-trivial state satisfying the invariant: the example file of Props/C08 under the name "f"
in the root directory, with a stale read-write handle and an append handle on it -/
def exFS : CFS :=
  { world := exStore, ents := [((0, "f"), Node.file 0)], dirs := [(".", 0)], files := [("f", exFile)],
    handles := [(0, ⟨Node.file 0, ⟨1, 17, 42, -1⟩, false, true, true⟩), (1, ⟨Node.file 0, Ptr.zero, true, false, true⟩)] }

example : Inv 2 id exFS := by
  refine ⟨Store.put_ok (fun _ _ h => by cases h) _, ?_, ?_, ?_⟩
  · intro nf hnf
    simp only [exFS, List.mem_cons, List.not_mem_nil, or_false] at hnf
    rw [hnf]; exact ⟨exFile_wf, by decide⟩
  · intro e he f hf
    simp only [exFS, List.mem_cons, List.not_mem_nil, or_false] at he
    rcases he with he | he
    · rw [he] at hf ⊢; cases hf
      exact ⟨("f", exFile), rfl, by decide, fun h => by cases h⟩
    · rw [he] at hf ⊢; cases hf
      exact ⟨("f", exFile), rfl, by decide, fun h => by cases h⟩
  · intro e he f hf
    simp only [exFS, List.mem_cons, List.not_mem_nil, or_false] at he
    rw [he] at hf; cases hf; decide

end ArvVerif.C08
