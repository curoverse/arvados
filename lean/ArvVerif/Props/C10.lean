/-
C10 — all manifest codecs agree with the published manifest format.
Bytes are `List UInt8`; every theorem is for all inputs of any size. `ValidManifest` / `parseSpec` / `resolve`
are the specification (Model/C10.lean), written from doc/architecture/manifest-format.html.textile.liquid.
-/
import ArvVerif.Proofs.C10_PkgTotal
import ArvVerif.Proofs.C10_PkgText
import ArvVerif.Proofs.C10_PyRanges
import ArvVerif.Proofs.C10_FsText
import ArvVerif.Proofs.C10_Pdh
namespace ArvVerif.C10

/-- **`manifest.firstBlock` (fixed code) terminates and is correct** for every non-decreasing
offsets array with at least one block, zero-length blocks anywhere: it returns the block that
contains `start`, and `-1` exactly when no block does. (`FB.outOfFuel` / `FB.indexPanic` are
excluded because the result is one of the two listed alternatives.) -/
theorem C10_firstBlock_correct (offs : List Nat) (start : Nat) (hlen : 2 ≤ offs.length)
    (hsorted : offs.Pairwise (· ≤ ·)) :
    (∃ i, firstBlock offs start = .found i ∧ InBlock offs start i) ∨
    (firstBlock offs start = .notFound ∧ ∀ j, ¬ InBlock offs start j) :=
  firstBlock_spec offs start hlen hsorted

/-- … and it finds block `i` if and only if `offs[i] ≤ start < offs[i+1]`. -/
theorem C10_firstBlock_iff (offs : List Nat) (start i : Nat) (hlen : 2 ≤ offs.length)
    (hsorted : offs.Pairwise (· ≤ ·)) : firstBlock offs start = .found i ↔ InBlock offs start i :=
  firstBlock_found_iff offs start i hlen hsorted

example : firstBlock [0, 3, 3, 8] 3 = .found 2 := by decide
example : InBlock [0, 3, 3, 8] 3 2 := ⟨3, 8, rfl, rfl, by decide, by decide⟩
example : [0, 3, 3, 8].Pairwise (· ≤ ·) := by decide

/-- Documentation of finding F3 (repaired by 584d30b): with the old "move right" test
`rangeStart > blockStart` the same search fails on an interior zero-length block — offset 3 lies in
block 2 of `[0,3,3,8]` but the search answers `-1` (and `sendFileSegmentIterByName` then panics). -/
theorem C10_firstBlock_old_fails :
    firstBlockOld [0, 3, 3, 8] 3 = .notFound ∧ InBlock [0, 3, 3, 8] 3 2 :=
  ⟨by decide, 3, 8, rfl, rfl, by decide, by decide⟩

/-- **Python `first_block` (fixed code) terminates and is correct** for every non-empty list of
contiguous ranges. -/
theorem C10_py_firstBlock_correct (rs : List PyRange) (start : Nat) (hne : rs ≠ []) (hc : Contiguous rs) :
    (∃ i, pyFirstBlock rs start = .found i ∧ PyInBlock rs start i) ∨
    (pyFirstBlock rs start = .notFound ∧ ∀ j, ¬ PyInBlock rs start j) :=
  pyFirstBlock_spec rs start hne hc

/-- Documentation of finding F6py (repaired by 9f993b5): the old Python test returned `None`. -/
theorem C10_py_firstBlock_old_fails :
    pyFirstBlockOld (pyRangesFrom 0 [⟨[97], 3⟩, ⟨[98], 0⟩, ⟨[99], 5⟩]) 3 = .notFound ∧
    pyFirstBlock (pyRangesFrom 0 [⟨[97], 3⟩, ⟨[98], 0⟩, ⟨[99], 5⟩]) 3 = .found 2 :=
  ⟨by decide, by decide⟩

/-- **Go manifest package, one token**: for a file token inside its stream (sizes as `ParseInt`
can represent them) `sendFileSegmentIterByName` does not panic and the segments `segment()` keeps
(`Len > 0`) are exactly the reference interpreter's pieces. -/
theorem C10_pkg_token_agrees (name : Bytes) (bs : List Loc) (files : List FTok) (f : FTok)
    (hsz : ∀ b ∈ bs, b.size < two63) (htot : streamLen bs < two64)
    (hin : f.pos + f.len ≤ streamLen bs) :
    ∃ segs, sendTok firstBlock ⟨name, bs, offsetsFrom 0 bs, files, false⟩ f = .ok segs ∧
      keepPositive segs = resolveTok bs 0 f.pos f.len :=
  sendTok_spec name bs files f hsz htot hin

/-- **Python range mapper, one token**: `locators_and_ranges` raises nothing and, zero-length
entries dropped, returns the reference interpreter's pieces. -/
theorem C10_py_token_agrees (bs : List Loc) (pos len : Nat) (hin : pos + len ≤ streamLen bs) :
    ∃ segs, pyLocatorsAndRanges pyFirstBlock (pyRangesFrom 0 bs) pos len = .ok segs ∧
      pyKeep segs = resolveTok bs 0 pos len :=
  pyLocatorsAndRanges_spec bs pos len hin

/-- **collection-filesystem loader, one token**, from any consistent cursor position
(`p` = stream offset of block `idx`, the first block of `rest`): the stored segments appended are
the reference pieces (none of length zero — `resolveTok` lists none), the cursor stays on a block
boundary, and it runs off the end only if the token exceeds the stream. -/
theorem C10_fs_token_agrees (o l : Nat) (rest : List Loc) (idx p : Nat) (acc : List Seg) :
    (fsLoop (o : Int) ((o + l : Nat) : Int) rest idx (p : Int) acc).2.2 = acc ++ resolveTok rest p o l ∧
    (∃ k, k ≤ rest.length ∧ (k < rest.length → o + l ≤ p + streamLen rest) ∧
      (fsLoop (o : Int) ((o + l : Nat) : Int) rest idx (p : Int) acc).1 = idx + k ∧
      (fsLoop (o : Int) ((o + l : Nat) : Int) rest idx (p : Int) acc).2.1 = ((p + streamLen (rest.take k) : Nat) : Int)) := by
  obtain ⟨k, hk, hend, h⟩ := fsLoop_spec o l rest idx p acc
  rw [h]
  exact ⟨rfl, k, hk, hend, rfl, rfl⟩

example : resolveTok [⟨[97], 3⟩, ⟨[98], 0⟩, ⟨[99], 5⟩] 0 2 4 = [⟨[97], 2, 1⟩, ⟨[99], 0, 3⟩] := by decide

/-- what the manifest package parses out of a text, as structured streams -/
def pkgParsed (txt : Bytes) : Manifest := (pkgStreams txt).map ofPStream

/-- **C10_pkg_total — for every input string, no hypothesis** (after fixes 4f92334, b1a09e4, 2fef6b9,
c203269): `segment()` does not panic, and a manifest is never applied partially — either some
stream has a parse error and the result is that error and nothing else, or every stream parsed and
the segment list of *every* combined path is its `resolve` over all parsed streams. -/
theorem C10_pkg_total (txt : Bytes) :
    pkgSegment txt ≠ .panic ∧
    ((pkgSegment txt = .err ∧ ∃ ps ∈ pkgStreams txt, ps.err = true) ∨
      ∃ m, pkgSegment txt = .ok m ∧ (∀ ps ∈ pkgStreams txt, ps.err = false) ∧
        ∀ a b : Bytes, segLookup m (splitPath (pathOf a b)) = resolve (pkgParsed txt) (pathOf a b)) := by
  have e : pkgSegment txt = segmentStreams firstBlock (pkgStreams txt) [] := rfl
  rcases segmentStreams_complete (pkgStreams txt) [] (pkgStreams_ok txt) with h | ⟨m, h1, h2, h3⟩
  · exact ⟨by rw [e, h.1]; simp, Or.inl h⟩
  · exact ⟨by rw [e, h1]; simp, Or.inr ⟨m, h1, h2, fun a b => by simpa [segLookup, pkgParsed] using h3 a b⟩⟩

/-- **C10_pkg_no_panic — for every input string** (after fixes 584d30b, 4f92334, 2fef6b9):
`Manifest.segment()` (hence `Extract`) reaches neither of the two `panic`s of
`sendFileSegmentIterByName` nor an index out of range in `firstBlock`. -/
theorem C10_pkg_no_panic (txt : Bytes) : pkgSegment txt ≠ .panic :=
  (C10_pkg_total txt).1

/-- corollary in the property's words: a malformed stream anywhere makes the whole call fail -/
theorem C10_pkg_malformed_rejected (txt : Bytes) (ps : PStream) (hps : ps ∈ pkgStreams txt)
    (herr : ps.err = true) : pkgSegment txt = .err := by
  rcases (C10_pkg_total txt).2 with h | ⟨_, _, h2, _⟩
  · exact h.1
  · rw [h2 ps hps] at herr; cases herr

/-- **C10_pkg_agrees.** For every manifest text inside the grammar (sizes representable in Go's
`int`/`uint64`), `Manifest.segment()` returns no error, reaches no `panic`, and the segment list it
accumulates for every combined path `stream name + "/" + file name` is `resolve` (so also after
`norm`). -/
theorem C10_pkg_agrees (txt : Bytes) (M : Manifest) (hvalid : parseSpec txt = some M)
    (hfit : ∀ s ∈ M, FitsGo s) :
    ∃ m, pkgSegment txt = .ok m ∧
      ∀ sn fn : Bytes, segLookup m (splitPath (pathOf sn fn)) = resolve M (pathOf sn fn) ∧
        norm (segLookup m (splitPath (pathOf sn fn))) = norm (resolve M (pathOf sn fn)) := by
  obtain ⟨m, h1, h2⟩ := pkgSegment_of_streams (pkgStreams_spec txt M hvalid hfit)
  exact ⟨m, h1, fun sn fn => ⟨h2 sn fn, congrArg norm (h2 sn fn)⟩⟩

/-- **C10_fs_agrees.** For every manifest text inside the grammar (sizes representable in the
loader's int32/int64) in which no path is both a file and a directory, `loadManifest` succeeds,
the loaded tree has exactly the manifest's paths as files, and the stored segments of every path
are `resolve` — in particular none has length zero (finding F5) and they need no merging. -/
theorem C10_fs_agrees (txt : Bytes) (M : Manifest) (hvalid : parseSpec txt = some M)
    (hfit : ∀ s ∈ M, FitsFs s) (htree : TreeConsistent M) :
    ∃ t, fsLoad txt = some t ∧
      (∀ p ∈ pathsOf M, fsSegsOf t p = some (resolve M p) ∧
        (fsSegsOf t p).map norm = some (norm (resolve M p))) ∧
      (∀ e ∈ t.files, pathOfKey e.1 ∈ pathsOf M) := by
  obtain ⟨t, ht, hinv⟩ := fsLoad_valid txt M hvalid hfit htree
  refine ⟨t, ht, fun p hp => ?_, fun e he => ?_⟩
  · obtain ⟨s, hs, f, hf, rfl⟩ := mem_pathsOf.mp hp
    have hseg := fsSegsOf_of_inv hinv (mem_manifestContribs.mpr ⟨s, hs, f, hf, rfl⟩)
    rw [contribOf_manifest] at hseg
    exact ⟨hseg, by rw [hseg]; rfl⟩
  · obtain ⟨c, hc, hce⟩ := List.mem_map.mp (hinv.files e he).2.1
    obtain ⟨s, hs, f, hf, rfl⟩ := mem_manifestContribs.mp hc
    rw [← hce]
    exact mem_pathsOf.mpr ⟨s, hs, f, hf, rfl⟩

/-- **C10_py_agrees** (stream level): for every stream inside the grammar and each of its file
tokens, the Python range mapper over the Range list the SDK builds for the stream's blocks raises
nothing and returns, zero-length entries dropped, the reference pieces. (The anchored Python code
is a range mapper, not a parser: tokenizing and accumulating per file is harness code.) -/
theorem C10_py_agrees (line : Bytes) (s : Stream) (hvalid : specLine line = some s) :
    ∀ f ∈ s.files, ∃ segs, pyLocatorsAndRanges pyFirstBlock (pyRangesFrom 0 s.blocks) f.pos f.len = .ok segs ∧
      pyKeep segs = resolveTok s.blocks 0 f.pos f.len ∧
      norm (pyKeep segs) = norm (resolveTok s.blocks 0 f.pos f.len) := by
  intro f hf
  obtain ⟨_, _, _, _, _, _, _, _, _, _, hin⟩ := specLine_tokens line s hvalid
  obtain ⟨segs, h1, h2⟩ := pyLocatorsAndRanges_spec s.blocks f.pos f.len (hin f hf)
  exact ⟨segs, h1, h2, by rw [h2]⟩

/-- **Escape round trip, every byte string, every codec pair**: whatever one of the three escapers
(`manifest.EscapeName` fixed, `manifestEscape`, Python `escape`) writes, each of the three readers
(`manifest.UnescapeName`, `manifestUnescape`, the specification's `\ooo` reader = the Python SDK's)
reads back as the original name; the escaped form holds no delimiter or control byte. -/
theorem C10_escape_roundtrip (s : Bytes) :
    pkgUnescape (pkgEscape s) = s ∧ fsUnescape (pkgEscape s) = s ∧ specUnescape (pkgEscape s) = some s ∧
    pkgUnescape (fsEscape s) = s ∧ fsUnescape (fsEscape s) = s ∧ specUnescape (fsEscape s) = some s ∧
    pkgUnescape (pyEscape s) = s ∧ fsUnescape (pyEscape s) = s ∧ specUnescape (pyEscape s) = some s ∧
    (∀ x ∈ pkgEscape s, 32 < x) ∧ (∀ x ∈ fsEscape s, 32 < x) ∧ (∀ x ∈ pyEscape s, 32 < x) := by
  have hp : pkgEscapePred bBackslash = true := by decide
  have hf : fsEscapePred bBackslash = true := by decide
  have hp32 : ∀ c : UInt8, c ≤ 32 → pkgEscapePred c = true := by
    intro c hc; simp [pkgEscapePred, hc]
  have hf32 : ∀ c : UInt8, c ≤ 32 → fsEscapePred c = true := by
    intro c hc; simp [fsEscapePred, hc]
  exact ⟨goUnescape_escapeWith isDigit _ isOctDigit_isDigit hp s,
    goUnescape_escapeWith isOctDigit _ (fun _ h => h) hp s,
    specUnescape_escapeWith _ hp s,
    goUnescape_escapeWith isDigit _ isOctDigit_isDigit hf s,
    goUnescape_escapeWith isOctDigit _ (fun _ h => h) hf s,
    specUnescape_escapeWith _ hf s,
    goUnescape_escapeWith isDigit _ isOctDigit_isDigit hf s,
    goUnescape_escapeWith isOctDigit _ (fun _ h => h) hf s,
    specUnescape_escapeWith _ hf s,
    escapeWith_no_delim _ hp32 s, escapeWith_no_delim _ hf32 s, escapeWith_no_delim _ hf32 s⟩

/-- Documentation of finding F6 (repaired by d559316): the old `EscapeName` (`c <= 32` only) is not
inverted — the name `a\040b` (a literal backslash) came back as `a b`. -/
theorem C10_escape_old_fails :
    pkgUnescape (pkgEscapeOld [97, 92, 48, 52, 48, 98]) = [97, 32, 98] := by decide

/-- inside the grammar the Go readers agree with the specification's reader -/
theorem C10_unescape_agrees (t u : Bytes) (h : specUnescape t = some u) :
    pkgUnescape t = u ∧ fsUnescape t = u :=
  ⟨pkgUnescape_spec h, fsUnescape_spec h⟩

/-- **C10_pdh.** For every text inside the grammar and an arbitrary `md5hex`, `PortableDataHash` is
`md5hex` of the text with every locator reduced to hash+size, `+`, the length of that text. Hence
it does not change under re-signing or any other rewrite that touches hints only. -/
theorem C10_pdh (md5hex : Bytes → Bytes) (txt : Bytes) (hvalid : ValidManifest txt) :
    portableDataHash md5hex txt = md5hex (stripHints txt) ++ bPlus :: natToDec (stripHints txt).length := by
  unfold ValidManifest at hvalid
  cases h : parseSpec txt with
  | none => rw [h] at hvalid; cases hvalid
  | some M => unfold portableDataHash; rw [pdhInput_valid txt M h]

theorem C10_pdh_hints_irrelevant (md5hex : Bytes → Bytes) (t1 t2 : Bytes) (h1 : ValidManifest t1)
    (h2 : ValidManifest t2) (hs : stripHints t1 = stripHints t2) :
    portableDataHash md5hex t1 = portableDataHash md5hex t2 := by
  rw [C10_pdh md5hex t1 h1, C10_pdh md5hex t2 h2, hs]

/-- F3's shape: a valid manifest whose file crosses an interior zero-length block -/
def wF3 : Bytes := [46, 32, 97, 97, 97, 97, 97, 97, 97, 97, 97, 97, 97, 97, 97, 97, 97, 97, 97, 97, 97, 97, 97, 97, 97, 97, 97, 97, 97, 97, 97, 97, 97, 97, 43, 51, 32, 100, 52, 49, 100, 56, 99, 100, 57, 56, 102, 48, 48, 98, 50, 48, 52, 101, 57, 56, 48, 48, 57, 57, 56, 101, 99, 102, 56, 52, 50, 55, 101, 43, 48, 32, 98, 98, 98, 98, 98, 98, 98, 98, 98, 98, 98, 98, 98, 98, 98, 98, 98, 98, 98, 98, 98, 98, 98, 98, 98, 98, 98, 98, 98, 98, 98, 98, 43, 53, 32, 50, 58, 52, 58, 102, 10]
def wF3M : Manifest :=
  [⟨[46], [⟨[97, 97, 97, 97, 97, 97, 97, 97, 97, 97, 97, 97, 97, 97, 97, 97, 97, 97, 97, 97, 97, 97, 97, 97, 97, 97, 97, 97, 97, 97, 97, 97, 43, 51], 3⟩, ⟨[100, 52, 49, 100, 56, 99, 100, 57, 56, 102, 48, 48, 98, 50, 48, 52, 101, 57, 56, 48, 48, 57, 57, 56, 101, 99, 102, 56, 52, 50, 55, 101, 43, 48], 0⟩, ⟨[98, 98, 98, 98, 98, 98, 98, 98, 98, 98, 98, 98, 98, 98, 98, 98, 98, 98, 98, 98, 98, 98, 98, 98, 98, 98, 98, 98, 98, 98, 98, 98, 43, 53], 5⟩], [⟨2, 4, [102]⟩]⟩]

set_option maxRecDepth 100000 in
theorem wF3_valid : parseSpec wF3 = some wF3M := by decide +kernel

/-- the hypotheses of `C10_pkg_agrees`, `C10_fs_agrees`, `C10_pdh` are satisfiable by a non-trivial text -/
example : ValidManifest wF3 := by unfold ValidManifest; rw [wF3_valid]; rfl
example : ∀ s ∈ wF3M, FitsGo s ∧ FitsFs s := by
  intro s hs
  simp only [wF3M, List.mem_singleton] at hs
  subst hs
  refine ⟨⟨?_, ?_⟩, ⟨?_, ?_⟩⟩ <;> simp [two63, two64, two31, streamLen] <;> omega
example : TreeConsistent wF3M := by decide +kernel
example : resolve wF3M [46, 47, 102] = [⟨[97, 97, 97, 97, 97, 97, 97, 97, 97, 97, 97, 97, 97, 97, 97, 97, 97, 97, 97, 97, 97, 97, 97, 97, 97, 97, 97, 97, 97, 97, 97, 97, 43, 51], 2, 1⟩, ⟨[98, 98, 98, 98, 98, 98, 98, 98, 98, 98, 98, 98, 98, 98, 98, 98, 98, 98, 98, 98, 98, 98, 98, 98, 98, 98, 98, 98, 98, 98, 98, 98, 43, 53], 0, 3⟩] := by decide +kernel

/-- the witness of the repaired finding F10e (zero-length token with a non-canonical name picked up
its sibling's data; fix c203269) is now rejected, while the collection filesystem's empty-directory
marker is still accepted -/
def wF10e : Bytes := [46, 32, 97, 97, 97, 97, 97, 97, 97, 97, 97, 97, 97, 97, 97, 97, 97, 97, 97, 97, 97, 97, 97, 97, 97, 97, 97, 97, 97, 97, 97, 97, 97, 97, 43, 51, 32, 48, 58, 51, 58, 97, 32, 48, 58, 48, 58, 46, 47, 97, 10]
def wMarker : Bytes := [46, 32, 97, 97, 97, 97, 97, 97, 97, 97, 97, 97, 97, 97, 97, 97, 97, 97, 97, 97, 97, 97, 97, 97, 97, 97, 97, 97, 97, 97, 97, 97, 97, 97, 43, 51, 32, 48, 58, 51, 58, 97, 10, 46, 47, 100, 32, 100, 52, 49, 100, 56, 99, 100, 57, 56, 102, 48, 48, 98, 50, 48, 52, 101, 57, 56, 48, 48, 57, 57, 56, 101, 99, 102, 56, 52, 50, 55, 101, 43, 48, 32, 48, 58, 48, 58, 92, 48, 53, 54, 10]
set_option maxRecDepth 100000 in
theorem wF10e_rejected : pkgSegment wF10e = .err := by decide +kernel
set_option maxRecDepth 100000 in
example : pkgSegment wMarker = .ok [(([46], [97]), [⟨[97, 97, 97, 97, 97, 97, 97, 97, 97, 97, 97, 97, 97, 97, 97, 97, 97, 97, 97, 97, 97, 97, 97, 97, 97, 97, 97, 97, 97, 97, 97, 97, 43, 51], 0, 3⟩]), (([46, 47, 100], [46]), [])] := by
  decide +kernel

/-- the witness of the repaired finding F10d (stream length wraps around 2^64; fix 2fef6b9) is now
rejected with an error -/
def wF10d : Bytes := [46, 32, 100, 52, 49, 100, 56, 99, 100, 57, 56, 102, 48, 48, 98, 50, 48, 52, 101, 57, 56, 48, 48, 57, 57, 56, 101, 99, 102, 56, 52, 50, 55, 101, 43, 48, 32, 97, 97, 97, 97, 97, 97, 97, 97, 97, 97, 97, 97, 97, 97, 97, 97, 97, 97, 97, 97, 97, 97, 97, 97, 97, 97, 97, 97, 97, 97, 97, 97, 43, 50, 32, 98, 98, 98, 98, 98, 98, 98, 98, 98, 98, 98, 98, 98, 98, 98, 98, 98, 98, 98, 98, 98, 98, 98, 98, 98, 98, 98, 98, 98, 98, 98, 98, 43, 57, 50, 50, 51, 51, 55, 50, 48, 51, 54, 56, 53, 52, 55, 55, 53, 56, 48, 55, 32, 98, 98, 98, 98, 98, 98, 98, 98, 98, 98, 98, 98, 98, 98, 98, 98, 98, 98, 98, 98, 98, 98, 98, 98, 98, 98, 98, 98, 98, 98, 98, 98, 43, 57, 50, 50, 51, 51, 55, 50, 48, 51, 54, 56, 53, 52, 55, 55, 53, 56, 48, 55, 32, 99, 99, 99, 99, 99, 99, 99, 99, 99, 99, 99, 99, 99, 99, 99, 99, 99, 99, 99, 99, 99, 99, 99, 99, 99, 99, 99, 99, 99, 99, 99, 99, 43, 51, 32, 48, 58, 51, 58, 102, 10]
set_option maxRecDepth 100000 in
theorem wF10d_rejected : pkgSegment wF10d = .err := by decide +kernel

/-- the witnesses of the repaired findings F10a (uint64 wrap of `pos+size`; fix 4f92334) and F10c
(names altered by `path.Clean`; fix b1a09e4) are now rejected with an error -/
def wF10a : Bytes := [46, 32, 97, 97, 97, 97, 97, 97, 97, 97, 97, 97, 97, 97, 97, 97, 97, 97, 97, 97, 97, 97, 97, 97, 97, 97, 97, 97, 97, 97, 97, 97, 97, 97, 43, 51, 32, 49, 56, 52, 52, 54, 55, 52, 52, 48, 55, 51, 55, 48, 57, 53, 53, 49, 54, 49, 53, 58, 50, 58, 102, 10]
def wF10a2 : Bytes := [46, 32, 97, 97, 97, 97, 97, 97, 97, 97, 97, 97, 97, 97, 97, 97, 97, 97, 97, 97, 97, 97, 97, 97, 97, 97, 97, 97, 97, 97, 97, 97, 97, 97, 43, 51, 32, 49, 58, 49, 56, 52, 52, 54, 55, 52, 52, 48, 55, 51, 55, 48, 57, 53, 53, 49, 54, 49, 53, 58, 102, 10]
def wF10c : Bytes := [46, 32, 97, 97, 97, 97, 97, 97, 97, 97, 97, 97, 97, 97, 97, 97, 97, 97, 97, 97, 97, 97, 97, 97, 97, 97, 97, 97, 97, 97, 97, 97, 97, 97, 43, 51, 32, 48, 58, 51, 58, 97, 47, 47, 98, 10]
set_option maxRecDepth 100000 in
theorem wF10a_rejected : pkgSegment wF10a = .err ∧ pkgSegment wF10a2 = .err := by
  constructor <;> decide +kernel
set_option maxRecDepth 100000 in
theorem wF10c_rejected : pkgSegment wF10c = .err := by decide +kernel

/-- `loadManifest`'s "ran off the end of the stream" test for a token `o:l` from the start of a line -/
def fsPastEnd (blocks : List Loc) (o l : Nat) : Bool :=
  let r := fsLoop (o : Int) (addI64 o l) blocks 0 0 []
  decide (r.1 = blocks.length ∧ r.2.1 < addI64 o l)

/-- the end-of-stream test is exact whenever `offset+length` stays below 2^63 -/
theorem C10_fs_rejects_overlong_below (blocks : List Loc) (o l : Nat) (h : o + l < two63) :
    fsPastEnd blocks o l = true ↔ streamLen blocks < o + l := by
  unfold fsPastEnd
  rw [addI64_eq o l h]
  simpa using fsLoop_pastEnd o l blocks 0 0 []

/-- what `loadManifest` does with the range of a file token `o:l` at the start of a line: an error
because `offset+length` overflows int64 (fix 499e88b), or because the loop ran off the end -/
def fsRejects (blocks : List Loc) (o l : Nat) : Bool :=
  decide (addI64 o l < (o : Int)) || fsPastEnd blocks o l

/-- **C10_total, collection-fs loader** (full strength after fix 499e88b): for every block list the
loader can hold (`pos` is an int64) and every offset and length `ParseInt` accepts, a file token is
rejected **exactly** when it reaches past the end of its stream. -/
theorem C10_fs_rejects_overlong (blocks : List Loc) (o l : Nat) (ho : o < two63) (hl : l < two63)
    (hs : streamLen blocks < two63) :
    fsRejects blocks o l = true ↔ streamLen blocks < o + l := by
  unfold fsRejects
  by_cases h : o + l < two63
  · rw [Bool.or_eq_true, C10_fs_rejects_overlong_below blocks o l h, addI64_eq o l h]
    simp only [decide_eq_true_eq]
    omega
  · have hwrap : addI64 (o : Int) (l : Int) < (o : Int) := by
      unfold addI64 toI64
      unfold two63 at *
      unfold two64
      split <;> omega
    simp only [hwrap, decide_true, Bool.true_or, true_iff]
    omega

/-- `ParseInt(s, 10, bits)` returns a value below 2^(bits-1) -/
theorem parseIntBits_bound (bits : Nat) (s : Bytes) (n : Int) (h : parseIntBits bits s = some n) :
    n < ((2 ^ (bits - 1) : Nat) : Int) := by
  have hpos := Nat.two_pow_pos (bits - 1)
  unfold parseIntBits at h
  split at h
  · -- each of the three sign cases ends in a range check
    repeat' split at h
    all_goals
      obtain ⟨k, _, hk⟩ := Option.bind_eq_some_iff.mp h
      split at hk
      · cases hk; omega
      · cases hk
  · cases h

/-- what `loadManifest` reads as a locator has an int32 size (`ParseInt(toks[1], 10, 32)`) -/
theorem fsLocator_size (t : Bytes) (b : Loc) (h : fsLocator t = some b) : b.size < two31 := by
  unfold fsLocator at h
  split at h
  · split at h
    · rename_i n hp
      split at h
      · cases h
      · cases h
        have := parseIntBits_bound 32 _ n hp
        dsimp only
        unfold two31
        omega
    · cases h
  · cases h

theorem streamLen_le_of_sizes : ∀ (bs : List Loc), (∀ b ∈ bs, b.size < two31) → streamLen bs ≤ bs.length * (two31 - 1)
  | [], _ => by simp
  | b :: rest, h => by
    have := streamLen_le_of_sizes rest (fun x hx => h x (List.mem_cons_of_mem _ hx))
    have hb := h b (by simp)
    simp only [streamLen_cons, List.length_cons]
    rw [Nat.add_mul]
    omega

/-- **C10_fs_rejects_overlong, in the loader's own terms**: for the block list `loadManifest` reads
from any locator tokens (sizes are int32 by its `ParseInt`), fewer than 2^32 of them (a manifest
line of less than ~140 GB; beyond that the int64 cursor itself could overflow), and every offset and
length `ParseInt` accepts, a file token is rejected **exactly** when it reaches past the end of its
stream. The hypothesis `streamLen blocks < two63` of `C10_fs_rejects_overlong` is discharged from the int32 parse. -/
theorem C10_fs_rejects_overlong_parsed (btoks : List Bytes) (blocks : List Loc)
    (hb : mapOpt fsLocator btoks = some blocks) (hn : btoks.length ≤ 4294967296)
    (o l : Nat) (ho : o < two63) (hl : l < two63) :
    fsRejects blocks o l = true ↔ streamLen blocks < o + l := by
  have hsz : ∀ b ∈ blocks, b.size < two31 := by
    intro b hb'
    obtain ⟨t, _, ht⟩ := mapOpt_mem fsLocator btoks blocks hb b hb'
    exact fsLocator_size t b ht
  have hlen : blocks.length = btoks.length := mapOpt_length fsLocator btoks blocks hb
  have h1 := streamLen_le_of_sizes blocks hsz
  apply C10_fs_rejects_overlong blocks o l ho hl
  have : blocks.length * (two31 - 1) ≤ 4294967296 * (two31 - 1) := Nat.mul_le_mul_right _ (by omega)
  unfold two31 at *
  unfold two63
  omega

/-- the witness of the repaired finding F10b is now rejected -/
def wF10b : Bytes := [46, 32, 97, 97, 97, 97, 97, 97, 97, 97, 97, 97, 97, 97, 97, 97, 97, 97, 97, 97, 97, 97, 97, 97, 97, 97, 97, 97, 97, 97, 97, 97, 97, 97, 43, 51, 32, 57, 50, 50, 51, 51, 55, 50, 48, 51, 54, 56, 53, 52, 55, 55, 53, 56, 48, 55, 58, 50, 58, 102, 10]
set_option maxRecDepth 100000 in
theorem wF10b_rejected : (fsLoad wF10b).isNone = true := by decide +kernel

end ArvVerif.C10
