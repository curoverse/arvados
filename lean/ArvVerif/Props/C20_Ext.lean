/-
C20: property theorems about (1) the literal Go loop with its `batch` variable,
(2) the total number of backend calls of a request, (3) context cancellation: after the first error
(`C20_cancel`) and when the caller's context ends (`C20_caller_cancel`), (4) conn.go `UserList` with a
LoginCluster.
-/
import ArvVerif.Proofs.C20_Plan
import ArvVerif.Proofs.C20_Cancel
import ArvVerif.Proofs.Lib_List
namespace ArvVerif.C20

/-- The loop exactly as written in Go — separate `batch` slice, rebuilt only `if len(batch) >
len(todo)` — sends `todo` as the batch at every call: it is the model's `clusterLoop`, for every
backend, fuel and todo. (So a delivered uuid is never asked for again.) -/
theorem C20_go_loop_is_model_loop (B : Backend) (ropts : Opts) (fuel : Nat) (todo : List Uuid) (idx : Nat) :
    clusterLoopGo B ropts fuel todo todo idx = clusterLoop B ropts fuel todo idx :=
  loopGo_eq B ropts fuel todo idx

/-- **Total call bound.** A split request makes, over all clusters and for arbitrary backends, at most
as many backend calls as it requests well-formed uuids, hence at most `MaxItemsPerResponse`. -/
theorem C20_total_calls (cfg : Cfg) (o : Opts) (gs : List (ClusterId × List Uuid))
    (hplan : plan cfg.localId cfg.maxItems o = .split gs) :
    totalCalls (run cfg o) ≤ (gs.map (fun g => g.2.length)).sum ∧
    (((gs.map (fun g => g.2.length)).sum : Nat) : Int) ≤ cfg.maxItems := by
  obtain ⟨m, -, hgs, -, -, -, -, -, -, hmax, -, -⟩ := plan_split hplan
  constructor
  · unfold totalCalls
    rw [run_log_of_split hplan, List.map_map]
    exact Lib.sum_map_le fun g _ => (runCluster_not_starved cfg o g.1 g.2).2
  · rw [hgs, groups_sum]; exact hmax

/-- **Cancellation never turns a failure into a partial success and never changes which errors can
be returned.** For a split request, arbitrary backends and any cancellation schedule `cut`:
* if no cluster is reached by the cancellation, nothing changes (`runCancel = run`);
* a success under the schedule is the success of the undisturbed request (same items);
* if some cluster is reached by the cancellation the outcome is an error, never a list;
* under a schedule that has a cause (`ValidCut`), the possible returned errors are a non-empty list
  of 404/502, each the genuine failure of a cluster not reached by the cancellation, and each also
  a possible error of the undisturbed request. -/
theorem C20_cancel (cfg : Cfg) (o : Opts) (gs : List (ClusterId × List Uuid)) (cut : ClusterId → Option Nat)
    (hplan : plan cfg.localId cfg.maxItems o = .split gs) :
    ((∀ g ∈ gs, affected cfg o cut g = false) → runCancel cfg o cut false = run cfg o) ∧
    (∀ items, (runCancel cfg o cut false).out = .ok items → (run cfg o).out = .ok items) ∧
    ((∃ g ∈ gs, affected cfg o cut g = true) → ∃ ss, (runCancel cfg o cut false).out = .err ss) ∧
    (ValidCut cfg o gs cut → ∀ ss, (runCancel cfg o cut false).out = .err ss →
      ss ≠ [] ∧ ∀ s ∈ ss, (s = 404 ∨ s = 502) ∧
        (∃ g ∈ gs, affected cfg o cut g = false ∧ (runCluster cfg o g.1 g.2).stop = .failed s) ∧
        ∃ ss', (run cfg o).out = .err ss' ∧ s ∈ ss') := by
  have hdich : (∀ g ∈ gs, affected cfg o cut g = false) ∨ ∃ g ∈ gs, affected cfg o cut g = true := by
    by_cases hall : ∀ g ∈ gs, affected cfg o cut g = false
    · exact Or.inl hall
    · exact Or.inr (by simpa using hall)
  refine ⟨runCancel_unaffected false hplan, fun items hok => ?_, fun h => ?_, fun hvalid ss herr => ?_⟩
  · rcases hdich with hall | hex
    · rw [← runCancel_unaffected false hplan hall]; exact hok
    · rw [runCancel_affected false hplan hex] at hok
      cases hok
  · exact ⟨_, runCancel_affected false hplan h⟩
  · rcases hdich with hall | hex
    · -- nothing is cancelled: the errors are those of `run`
      rw [runCancel_unaffected false hplan hall] at herr
      obtain ⟨hne, h⟩ := run_err_split hplan herr
      refine ⟨hne, fun s hs => ?_⟩
      obtain ⟨g, hg, hst⟩ := h s hs
      exact ⟨runCluster_failed hst, ⟨g, hg, hall g hg, hst⟩, ss, herr, hs⟩
    · rw [runCancel_affected false hplan hex] at herr
      cases herr
      simp only [Bool.false_eq_true, if_false, List.append_nil]
      constructor
      · -- the cause that `ValidCut` gives is among the errors
        obtain ⟨g, hg, hna, hnd⟩ := hvalid hex
        intro hnil
        cases hstop : (runCluster cfg o g.1 g.2).stop with
        | done => exact hnd hstop
        | failed s => have := mem_ownErrs.mpr ⟨g, hg, hna, hstop⟩; rw [hnil] at this; cases this
        | starved => exact absurd hstop (runCluster_not_starved cfg o g.1 g.2).1
      · intro s hs
        obtain ⟨g, hg, hna, hst⟩ := mem_ownErrs.mp hs
        exact ⟨runCluster_failed hst, ⟨g, hg, hna, hst⟩, run_err_of_failed hplan hg hst⟩

/-- **The caller's context ends mid-request** (client disconnect, request timeout): every cluster still
running when the cancellation reaches it fails, and so does the request — the outcome is an error
(502 for such a cluster, or the genuine 404/502 of a cluster that failed by itself), never the pages
merged so far. If the cancellation reaches no cluster, nothing changes. Arbitrary backends. -/
theorem C20_caller_cancel (cfg : Cfg) (o : Opts) (gs : List (ClusterId × List Uuid)) (cut : ClusterId → Option Nat)
    (hplan : plan cfg.localId cfg.maxItems o = .split gs) :
    ((∀ g ∈ gs, affected cfg o cut g = false) → runCancel cfg o cut true = run cfg o) ∧
    ((∃ g ∈ gs, affected cfg o cut g = true) →
      ∃ ss, (runCancel cfg o cut true).out = .err ss ∧ 502 ∈ ss ∧ ∀ s ∈ ss, s = 404 ∨ s = 502) := by
  refine ⟨runCancel_unaffected true hplan, fun ⟨g, hg, ha⟩ => ?_⟩
  rw [runCancel_affected true hplan ⟨g, hg, ha⟩]
  refine ⟨_, rfl, ?_, fun s hs => ?_⟩
  · exact List.mem_append.mpr (Or.inr (List.mem_map.mpr ⟨g, List.mem_filter.mpr ⟨hg, ha⟩, rfl⟩))
  · rcases List.mem_append.mp hs with hs | hs
    · obtain ⟨g', _, _, hst⟩ := mem_ownErrs.mp hs
      exact runCluster_failed hst
    · obtain ⟨_, _, rfl⟩ := List.mem_map.mp hs
      exact Or.inr rfl

/-! ### conn.go UserList with a LoginCluster -/

theorem C20_userlist_detour_iff (localId login : ClusterId) (o : Opts) :
    userListDetour localId login o = false ↔ (login = [] ∨ login = localId ∨ o.bypass = true) := by
  unfold userListDetour
  cases hb : o.bypass <;> by_cases h1 : login = [] <;> by_cases h2 : login = localId <;> simp [h1, h2]

/-- **UserList without detour.** Without a LoginCluster, with the local cluster as LoginCluster, or
with bypass_federation, `Conn.UserList` is the generated federated list (`run`), and the user cache
is not touched. -/
theorem C20_userlist_plain (cfg : Cfg) (login : ClusterId) (fails : Bool) (o : Opts)
    (h : userListDetour cfg.localId login o = false) :
    (runUserList cfg login fails o).out = (run cfg o).out ∧
    (runUserList cfg login fails o).log = (run cfg o).log ∧
    (runUserList cfg login fails o).detour = none ∧ (runUserList cfg login fails o).update = none := by
  unfold runUserList
  simp [h]

/-- the uuids cached locally: those returned uuids that start with the LoginCluster id, once each -/
def cachedUuids (login : ClusterId) (items : List Obj) : List Uuid :=
  dedup ((pageUuids items).filter (hasPrefix login))

theorem cachedUuids_spec (login : ClusterId) (items : List Obj) :
    (cachedUuids login items).Nodup ∧
    ∀ u, u ∈ cachedUuids login items ↔ (u ∈ pageUuids items ∧ hasPrefix login u = true) := by
  refine ⟨nodup_dedup _, fun u => ?_⟩
  unfold cachedUuids
  rw [mem_dedup, List.mem_filter]

/-- **UserList with a LoginCluster.** Exactly one list call is made — to `chooseBackend(LoginCluster)`
with the options unchanged, no uuid splitting — and an error of that backend is passed on. -/
theorem C20_userlist_detour (cfg : Cfg) (login : ClusterId) (fails : Bool) (o : Opts)
    (h : userListDetour cfg.localId login o = true) :
    (runUserList cfg login fails o).log = [] ∧
    (runUserList cfg login fails o).detour = some (o, chooseBackend cfg login o 0) ∧
    (∀ s, chooseBackend cfg login o 0 = .error s →
      (runUserList cfg login fails o).out = .err [s] ∧ (runUserList cfg login fails o).update = none) := by
  unfold runUserList
  simp only [h, if_true]
  cases hr : chooseBackend cfg login o 0 with
  | error s => exact ⟨rfl, rfl, fun _ hs => by cases hs; exact ⟨rfl, rfl⟩⟩
  | page items =>
    simp only
    split
    · exact ⟨rfl, rfl, nofun⟩
    · split <;> exact ⟨rfl, rfl, nofun⟩

/-- **UserList with a LoginCluster, a page answered.** The page is passed on as it is, after the
returned uuids of the LoginCluster (`cachedUuids`) have been handed to the local `UserBatchUpdate`
(not called when there is none); if that update fails the request fails without items. -/
theorem C20_userlist_detour_page (cfg : Cfg) (login : ClusterId) (fails : Bool) (o : Opts)
    (h : userListDetour cfg.localId login o = true) (items : List Obj)
    (hr : chooseBackend cfg login o 0 = .page items) :
    (cachedUuids login items = [] →
      (runUserList cfg login fails o).out = .ok items ∧ (runUserList cfg login fails o).update = none) ∧
    (cachedUuids login items ≠ [] →
      (runUserList cfg login fails o).update = some (cachedUuids login items, fails) ∧
      (fails = false → (runUserList cfg login fails o).out = .ok items) ∧
      (fails = true → (runUserList cfg login fails o).out = .err [0])) := by
  unfold runUserList cachedUuids
  simp only [h, if_true, hr]
  constructor
  · intro hu; simp [hu]
  · intro hu
    cases fails <;> simp [hu]

/-! Non-vacuity: a schedule with a cause, on a concrete instance (unknown cluster yyyyy fails with 404
at once; remote bbbbb, which would page twice, sees the cancelled context at its second call). -/

def cB1 : Uuid := "bbbbb-4zz18-000000000000001".toList
def cB2 : Uuid := "bbbbb-4zz18-000000000000002".toList
def cY1 : Uuid := "yyyyy-4zz18-000000000000001".toList

def cCfg : Cfg :=
  { localId := "aaaaa".toList, maxItems := 10, localB := fun _ _ => .page []
    remotes := fun c => if c = "bbbbb".toList then some (fun o _ =>
      match o.filters with
      | [f] => match f.operand with
        | .slist batch => .page ((([⟨cB1, 1⟩, ⟨cB2, 2⟩] : List Obj).filter (fun h => decide (h.uuid ∈ batch))).take 1)
        | _ => .page []
      | _ => .page []) else none }

def cOpts : Opts :=
  { filters := [⟨sUuid, sIn, .slist [cB1, cB2, cY1]⟩], count := sNone, limit := -1, offset := 0,
    order := [], select := none, bypass := false, fwd := [] }

def cCut : ClusterId → Option Nat := fun c => if c = "bbbbb".toList then some 1 else none

example : plan cCfg.localId cCfg.maxItems cOpts =
    .split [("bbbbb".toList, [cB1, cB2]), ("yyyyy".toList, [cY1])] := by
  -- literals to character lists before evaluating, as in Props/C20.lean (`wPlan`)
  unfold cCfg cOpts cB1 cB2 cY1
  repeat rw [String.toList_ofList]
  decide
example : (run cCfg cOpts).out = .err [404] := by
  unfold cCfg cOpts cB1 cB2 cY1
  repeat rw [String.toList_ofList]
  decide
-- bbbbb is reached by the cancellation while still running; yyyyy is the cause
example : affected cCfg cOpts cCut ("bbbbb".toList, [cB1, cB2]) = true ∧
    affected cCfg cOpts cCut ("yyyyy".toList, [cY1]) = false := by
  unfold cCfg cOpts cCut cB1 cB2 cY1
  repeat rw [String.toList_ofList]
  decide
-- the outcome is still the genuine 404, not bbbbb's late 502, and not a partial list
example : (runCancel cCfg cOpts cCut false).out = .err [404] := by
  unfold cCfg cOpts cCut cB1 cB2 cY1
  repeat rw [String.toList_ofList]
  decide

-- the caller's context ends while bbbbb (the only involved cluster, no failing one) is at its second call:
-- the request fails with 502 and does not return object 1, which had been merged already
example : runLogItems (run cCfg { cOpts with filters := [⟨sUuid, sIn, .slist [cB1, cB2]⟩] }) =
    [⟨cB1, 1⟩, ⟨cB2, 2⟩] ∧
    (runCancel cCfg { cOpts with filters := [⟨sUuid, sIn, .slist [cB1, cB2]⟩] } cCut true).out = .err [502] := by
  unfold cCfg cOpts cCut cB1 cB2 cY1
  repeat rw [String.toList_ofList]
  decide

end ArvVerif.C20
