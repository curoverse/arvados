/-
C12 — readers, writers and the balancer share one rendezvous probe order.
The general theorems are for an arbitrary weight function / arbitrary `md5` and any number of services;
`exW` with `exW_order0/1` serves the concrete two-block sweep of `C12_shared_rank_breaks`.
-/
import ArvVerif.Proofs.C12_Order
import ArvVerif.Proofs.C12_PyWeight
import ArvVerif.Proofs.C12_Hints
import ArvVerif.Proofs.C12_Hex
import ArvVerif.Proofs.C12_Sweep
namespace ArvVerif.C12
variable {α : Type}

/-- The order any of the three call sites obtains is a permutation of the service set. -/
theorem C12_perm (w : α → Nat) (svcs out : List α) (h : IsProbeOrder w svcs out) :
    out.Perm svcs ∧ out.length = svcs.length :=
  ⟨h.perm, h.perm.length_eq⟩

/-- The executable order is one of the allowed outcomes. -/
theorem C12_exec_allowed (w : α → Nat) (svcs : List α) :
    IsProbeOrder w svcs (probeOrder w svcs) := probeOrder_is w svcs

/-- With pairwise distinct weights *every* outcome of the (unstable, map-order-fed) sort is the
same list: the order depends on nothing but the service set and the weights. -/
theorem C12_determined (w : α → Nat) (svcs out : List α)
    (hinj : ∀ a ∈ svcs, ∀ b ∈ svcs, w a = w b → a = b)
    (h : IsProbeOrder w svcs out) : out = probeOrder w svcs :=
  isProbeOrder_unique w hinj (List.Subset.refl _) h (probeOrder_is w svcs)

example : IsProbeOrder (fun n : Nat => n) [3, 1, 2] [3, 2, 1] := by
  refine ⟨by decide, by decide⟩
example : ∀ a ∈ [3, 1, 2], ∀ b ∈ [3, 1, 2], (fun n : Nat => n) a = (fun n : Nat => n) b → a = b := by
  intro a _ b _ h; exact h

/-- The write path (sorter over the writable subset) yields the read order filtered to the
writable services; keep-balance (sorter over all service uuids) yields the read order. -/
theorem C12_same_everywhere (w : α → Nat) (svcs readOrder writeOrder balOrder : List α)
    (p : α → Bool)
    (hinj : ∀ a ∈ svcs, ∀ b ∈ svcs, w a = w b → a = b)
    (hr : IsProbeOrder w svcs readOrder)
    (hw : IsProbeOrder w (svcs.filter p) writeOrder)
    (hb : IsProbeOrder w svcs balOrder) :
    writeOrder = readOrder.filter p ∧ balOrder = readOrder :=
  ⟨isProbeOrder_unique w hinj List.filter_sublist.subset hw (isProbeOrder_filter p hr),
    isProbeOrder_unique w hinj (List.Subset.refl _) hb hr⟩

/-- Removing a service deletes it from the order and changes nothing else (so the relative order
of the remaining services is unchanged). -/
theorem C12_stable_under_removal [DecidableEq α] (w : α → Nat) (svcs before after : List α) (s : α)
    (hinj : ∀ a ∈ svcs, ∀ b ∈ svcs, w a = w b → a = b)
    (hb : IsProbeOrder w svcs before)
    (ha : IsProbeOrder w (svcs.erase s) after) : after = before.erase s :=
  isProbeOrder_unique w hinj List.erase_subset ha (isProbeOrder_erase s hb)

/-- Adding a service: the old order is the new order with the new service deleted. -/
theorem C12_stable_under_addition [DecidableEq α] (w : α → Nat) (svcs before after : List α) (s : α)
    (hinj : ∀ a ∈ s :: svcs, ∀ b ∈ s :: svcs, w a = w b → a = b)
    (hb : IsProbeOrder w svcs before)
    (ha : IsProbeOrder w (s :: svcs) after) : before = after.erase s := by
  have h := isProbeOrder_erase s ha
  rw [List.erase_cons_head] at h
  exact isProbeOrder_unique w hinj (List.subset_cons_self s svcs) hb h

/-- The first service the writer uses is the first *writable* service in the reader's order:
every service the reader tries before it is non-writable. With no read-only services the
reader's first probe is the writer's first target. -/
theorem C12_written_found_first (w : α → Nat) (svcs readOrder writeOrder : List α) (p : α → Bool)
    (hinj : ∀ a ∈ svcs, ∀ b ∈ svcs, w a = w b → a = b)
    (hr : IsProbeOrder w svcs readOrder)
    (hw : IsProbeOrder w (svcs.filter p) writeOrder) :
    writeOrder.head? = readOrder.find? p ∧
    ((∀ a ∈ svcs, p a = true) → writeOrder = readOrder) := by
  have hf := (C12_same_everywhere w svcs readOrder writeOrder readOrder p hinj hr hw hr).1
  rw [hf]
  exact ⟨List.head?_filter, fun hall =>
    List.filter_eq_self.mpr fun a ha => hall a (hr.perm.mem_iff.mp ha)⟩

/-- Usable hints come first, the rendezvous order of the local roots follows; every root
contributed by a hint is the fixed proxy URL of a 5-character `K@` hint or the gateway-map
entry of a known 27-character `K@` hint. -/
theorem C12_hints_first (gw : List Char → Option (List Char)) (fs order : List (List Char)) :
    (∃ pre, sortedRoots gw fs order = pre ++ order ∧
      ∀ r ∈ pre,
        (∃ f ∈ fs, f.length = 7 ∧ f.take 2 = ['K', '@'] ∧ r = proxyURL (f.drop 2)) ∨
        (∃ f ∈ fs, f.length = 29 ∧ f.take 2 = ['K', '@'] ∧ gw (f.drop 2) = some r)) :=
  ⟨hintRoots gw fs, rfl, fun r hr => by
    obtain ⟨f, hf, hk, ⟨hl, hr⟩ | ⟨hl, hr⟩⟩ := mem_hintRoots.mp hr
    · exact .inl ⟨f, hf, hl, hk, hr⟩
    · exact .inr ⟨f, hf, hl, hk, hr⟩⟩

/-- Unusable hints (not `K@`, wrong length, or unknown gateway uuid) contribute nothing. -/
theorem C12_unusable_hints_ignored (gw : List Char → Option (List Char)) (fs order : List (List Char))
    (h : ∀ f ∈ fs, classifyHint f = .other ∨ ∃ u, classifyHint f = .gateway u ∧ gw u = none) :
    sortedRoots gw fs order = order := by
  rw [sortedRoots, hintRoots_nil_of_unusable gw fs h, List.nil_append]

-- `String.toList_ofList` turns the literals into character lists without decoding them in the kernel.
example : classifyHint "K@abcde".toList = .proxy "abcde".toList := by
  rw [String.toList_ofList, String.toList_ofList]; rfl
example : classifyHint "K@zzzzz-bi6l4-0123456789abcde".toList = .gateway "zzzzz-bi6l4-0123456789abcde".toList := by
  rw [String.toList_ofList, String.toList_ofList]; rfl
example : classifyHint "A1234@5678".toList = .other := by
  rw [String.toList_ofList]; rfl

/-- The weight is the documented one: MD5 of the hash followed by the last 15 characters of a
27-character service uuid. -/
theorem C12_doc (md5 : List Char → Nat) (hash uuid : List Char) (h : uuid.length = 27) :
    weight md5 hash uuid = md5 (hash ++ uuid.drop 12) ∧ (uuid.drop 12).length = 15 := by
  simp [weight, uuidSuffix, h]

/-- Go compares the weights as equal-length (32-character) lowercase hex strings; the model compares
the numbers they denote. For equal-length digit strings the two orders are the same order, in any
base, so reading root_sorter.go's `rs.weight[j] < rs.weight[i]` as a comparison of numbers is exact. -/
theorem C12_string_order_is_numeric_order (xs ys : List Nat) (hlen : xs.length = ys.length)
    (hx : ∀ d ∈ xs, d < 16) (hy : ∀ d ∈ ys, d < 16) :
    lexLt xs ys = true ↔ digitsVal 16 xs < digitsVal 16 ys :=
  lexLt_iff_val_lt 16 xs ys hlen hx hy

example : lexLt [0, 10, 15] [1, 0, 0] = true ∧ digitsVal 16 [0, 10, 15] = 175 ∧ digitsVal 16 [1, 0, 0] = 256 := by
  decide

/-- keep-balance balances many blocks at the same time (`ComputeChangeSets`' worker pool). Under
ANY interleaving of the workers' steps, for any number of blocks and workers, every block that has
been placed is wanted on the first `d` servers of the ranking of *that* block — nothing leaks from
the blocks balanced alongside it — and the tasks still belong to the blocks they were created for. -/
theorem C12_sweep_any_schedule {β : Type} (w : β → α → Nat) (svcs : List α) (d : Nat) (blks : List β)
    (sched : List SweepStep) :
    (sweepRun w svcs d blks sched).map (·.blk) = blks ∧
    ∀ t ∈ sweepRun w svcs d blks sched, ∀ x, t.wanted = some x →
      x = wantedServers d (probeOrder (w t.blk) svcs) := by
  have h := sweepRun_ok w svcs d blks sched
  exact ⟨h.1, fun t ht => (h.2 t ht).2⟩

/-- … and those are the first `d` positions a reader of that block tries (weights of the block
pairwise distinct), whatever the schedule. -/
theorem C12_sweep_places_where_readers_look {β : Type} (w : β → α → Nat) (svcs : List α) (d : Nat)
    (blks : List β) (sched : List SweepStep) (t : Task β α) (x readOrder : List α)
    (ht : t ∈ sweepRun w svcs d blks sched) (hx : t.wanted = some x)
    (hinj : ∀ a ∈ svcs, ∀ b ∈ svcs, w t.blk a = w t.blk b → a = b)
    (hr : IsProbeOrder (w t.blk) svcs readOrder) : x = readOrder.take d := by
  rw [(C12_sweep_any_schedule w svcs d blks sched).2 t ht x hx,
      C12_determined (w t.blk) svcs readOrder hinj hr]
  rfl

/-- two blocks that rank the services [1, 2, 3] in opposite orders -/
def exW : Nat → Nat → Nat
  | 0, a => a
  | _, a => 10 - a

theorem exW_order0 : probeOrder (exW 0) [1, 2, 3] = [3, 2, 1] :=
  (C12_determined (exW 0) [1, 2, 3] [3, 2, 1] (by decide) ⟨by decide, by decide⟩).symm

theorem exW_order1 : probeOrder (exW 1) [1, 2, 3] = [1, 2, 3] :=
  (C12_determined (exW 1) [1, 2, 3] [1, 2, 3] (by decide) ⟨by decide, by decide⟩).symm

/-- A worker that ranks and then places its block does place it (the conclusion above is not
vacuous): after `rank 0; rank 1; place 0; place 1` both tasks have their own result. -/
example : (sweepRun exW [1, 2, 3] 1 [0, 1] [.rank 0, .rank 1, .place 0, .place 1]).map (·.wanted)
    = [some [3], some [1]] := by
  simp [sweepRun, sweepStep, updAt, rankTask, placeTask, wantedServers, exW_order0, exW_order1]

/-- Why the ranking must be local to the call: if it is kept in state shared by all calls (the
`sharedRun` variant), the same schedule places block 0 by block 1's ranking, i.e. NOT on the first
server of its own ranking. -/
theorem C12_shared_rank_breaks :
    (sharedRun exW [1, 2, 3] 1 [0, 1] [.rank 0, .rank 1, .place 0, .place 1]).map (·.wanted)
      = [some [1], some [1]] ∧
    wantedServers 1 (probeOrder (exW 0) [1, 2, 3]) = [3] := by
  simp [sharedRun, sharedStep, updAt, wantedServers, exW_order0, exW_order1]

/-- For uuids of 27 or at most 15 characters the two weights are the same number; for other
lengths they are different functions (Go: whole uuid, Python: last 15 characters). -/
theorem C12_python_weight (md5 : List Char → Nat) (hash uuid : List Char)
    (h : uuid.length = 27 ∨ uuid.length ≤ 15) : pyWeight md5 hash uuid = weight md5 hash uuid := by
  rw [pyWeight, weight, pyUuidSuffix_eq uuid h]

theorem C12_python_weight_differs_other_lengths :
    ∃ (md5 : List Char → Nat) (hash uuid : List Char), uuid.length = 16 ∧
      pyWeight md5 hash uuid ≠ weight md5 hash uuid :=
  pyWeight_ne_weight (by decide) (by decide)

/-- The Python SDK (keep.py `_service_weight`, `weighted_service_roots` after `build_services_list`)
probes in the same order as the Go client: for a discovery answer whose uuids have 27 (or at most
15) characters and pairwise distinct weights, the uuids in Python's read order are any outcome of
Go's sorter over the same (non-gateway) services, and Python's write order is that order restricted
to the services that are not read-only. -/
theorem C12_python_same_order (md5 : List Char → Nat) (hash : List Char) (items : List PySvc)
    (goOut : List (List Char))
    (hlen : ∀ s ∈ items, s.uuid.length = 27 ∨ s.uuid.length ≤ 15)
    (hinj : ∀ a ∈ (pyKeepServices items).map (·.uuid), ∀ b ∈ (pyKeepServices items).map (·.uuid),
      weight md5 hash a = weight md5 hash b → a = b)
    (hrec : ∀ a ∈ pyKeepServices items, ∀ b ∈ pyKeepServices items,
      weight md5 hash a.uuid = weight md5 hash b.uuid → a = b)
    (hgo : IsProbeOrder (weight md5 hash) ((pyKeepServices items).map (·.uuid)) goOut) :
    (pyOrder (pyWeight md5 hash) (pyKeepServices items)).map (·.uuid) = goOut ∧
    pyOrder (pyWeight md5 hash) (pyWritableServices items) =
      (pyOrder (pyWeight md5 hash) (pyKeepServices items)).filter (fun s => !s.readOnly) := by
  -- `hrec` is distinctness on the records (the order of records is unique), `hinj` on their uuids
  -- (Go's order of uuids is unique). `hrec` implies `hinj`, and also that no uuid is listed twice
  -- with different flags.
  have hord : ∀ l : List PySvc, (∀ s ∈ l, s ∈ items) →
      IsProbeOrder (fun s => weight md5 hash s.uuid) l (pyOrder (pyWeight md5 hash) l) :=
    fun l hl => isProbeOrder_congr
      (fun s hs => C12_python_weight md5 hash s.uuid (hlen s (hl s hs))) (probeOrder_is _ _)
  have hread := hord (pyKeepServices items) fun _ hs => (List.mem_filter.mp hs).1
  have hwrite := hord (pyWritableServices items) fun _ hs =>
    (List.mem_filter.mp (List.mem_filter.mp hs).1).1
  exact ⟨isProbeOrder_unique _ hinj (List.Subset.refl _) (isProbeOrder_map PySvc.uuid hread) hgo,
    (C12_same_everywhere _ _ _ _ _ _ hrec hread hwrite hread).1⟩

/-- Both clients turn the same hint fields into the same targets in the same order (only the
rendering of a cluster target differs: `proxyURL` vs `pyProxyURL`, the latter with a trailing "/"). -/
theorem C12_python_same_hints (gw : List Char → Option (List Char)) (fs : List (List Char)) :
    hintRoots gw fs = (hintTargets gw fs).map renderGo ∧
    pyHintRoots gw fs = (hintTargets gw fs).map renderPy :=
  ⟨hintRoots_eq_targets gw fs, pyHintRoots_eq_targets gw fs⟩

example : pyWeight List.length [] (List.replicate 27 'a') = weight List.length [] (List.replicate 27 'a') :=
  C12_python_weight _ _ _ (Or.inl rfl)

end ArvVerif.C12
