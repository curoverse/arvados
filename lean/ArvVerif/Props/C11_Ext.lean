/-
C11: the pieces of code between the layers of Props/C11.lean.

* what `uploadToKeepServer` reads out of a 200 response (`X-Keep-Replicas-Stored` through
  `Sscanf("%d")`, the locator through `TrimSpace`) — and what that means for the count a Put reports;
* the glue between `loadKeepServers` and `putReplicas` (only services that the list it was given
  marks as not read-only are ever asked);
* the asyncbuf between PutHR's stream and the upload goroutines (every request body is the whole
  stream and ends as `bufferEnd` says, for every interleaving of the writer and the readers).
-/
import ArvVerif.Props.C11
import ArvVerif.Proofs.C11_Upload
import ArvVerif.Proofs.C11_Abuf
namespace ArvVerif.C11

/-! ### X-Keep-Replicas-Stored -/

/-- `rep := 1; fmt.Sscanf(header, "%d", &rep)` on any header text:
(1) the result is an int64; (2) the decimal number a service writes (`toString n`), also after
blanks and followed by any non-digit text, is read back exactly when it fits int64, and (3) is NOT
believed when it does not (the default 1 stays); (4) `-n` is read as −n — the client believes a
negative count; (5) whatever the text, the result is the default 1 or ± the value of a non-empty
digit run that stands in the header after optional blanks and one optional sign — the client never
counts a number the service did not write. -/
theorem C11_replicas_header :
    (∀ s, -(2^63 : Int) ≤ parseRep s ∧ parseRep s < 2^63) ∧
    (∀ (n : Nat) (ws rest : List Char), n < 2^63 → (∀ c ∈ ws, isScanSpace c = true) →
      (∀ c, rest.head? = some c → isDecDigit c = false) →
      parseRep (ws ++ ((toString n).toList ++ rest)) = n) ∧
    (∀ n : Nat, 2^63 ≤ n → parseRep (toString n).toList = 1) ∧
    (∀ n : Nat, n ≤ 2^63 → parseRep ('-' :: (toString n).toList) = -(n : Int)) ∧
    (∀ s, parseRep s = 1 ∨
      ∃ ws sg ds rest, s = ws ++ (sg ++ (ds ++ rest)) ∧ (∀ c ∈ ws, isScanSpace c = true) ∧
        (sg = [] ∨ sg = ['-'] ∨ sg = ['+']) ∧ ds ≠ [] ∧ (∀ c ∈ ds, isDecDigit c = true) ∧
        parseRep s = (if sg = ['-'] then - (decVal ds : Int) else (decVal ds : Int))) := by
  refine ⟨parseRep_range, ?_, ?_, ?_, ?_⟩
  · intro n ws rest hn hws hrest
    rw [toString_toList]
    exact (parseRep_nat ws [] rest n hws (Or.inl rfl) hrest).trans (if_pos hn)
  · intro n hn
    rw [toString_toList]
    exact (parseRep_nat_end [] n (Or.inl rfl)).trans (if_neg (Nat.not_lt.mpr hn))
  · intro n hn
    rw [toString_toList]
    exact (parseRep_nat_end ['-'] n (Or.inr (Or.inl rfl))).trans (if_pos hn)
  · -- the blanks, the sign and the digit run that `parseRep` itself takes off the text
    intro s
    obtain ⟨sg, r, hs, hsg, hp⟩ := parseRep_sign s
    rw [hp]
    refine (runVal_backed (sg == ['-']) (r.takeWhile isDecDigit)).imp_right fun ⟨h1, h2⟩ =>
      ⟨s.takeWhile isScanSpace, sg, _, r.dropWhile isDecDigit, ?_,
        fun _ => of_mem_takeWhile, hsg, h1, fun _ => of_mem_takeWhile, ?_⟩
    · rw [List.takeWhile_append_dropWhile, ← hs, List.takeWhile_append_dropWhile]
    · rw [h2]; simp only [beq_iff_eq]

/-- a header without a leading number (after blanks and an optional sign) counts as one replica -/
theorem C11_replicas_header_malformed (ws rest : List Char) (hws : ∀ c ∈ ws, isScanSpace c = true)
    (hrest : ∀ c, rest.head? = some c → isDecDigit c = false) :
    parseRep (ws ++ '-' :: rest) = 1 ∧ parseRep (ws ++ '+' :: rest) = 1 ∧
    ((∀ c, rest.head? = some c → isScanSpace c = false ∧ c ≠ '-' ∧ c ≠ '+') →
      parseRep (ws ++ rest) = 1) :=
  ⟨parseRep_scan ws ['-'] [] rest hws (Or.inr (Or.inl rfl)) (fun _ h => nomatch h) hrest
      (fun h => nomatch h),
    parseRep_scan ws ['+'] [] rest hws (Or.inr (Or.inr rfl)) (fun _ h => nomatch h) hrest
      (fun h => nomatch h),
    fun h => parseRep_scan ws [] [] rest hws (Or.inl rfl) (fun _ h => nomatch h) hrest fun _ _ => h⟩

/-- the locator: white space around the body is removed and nothing else (`trimSpace` yields a
middle part of its input that neither starts nor ends with white space; the removed parts are all
white space; it is idempotent), and a locator `L` (no white space at its ends) sent with white space
around it, e.g. a trailing newline, within the 4096-byte limit comes out as exactly `L`. -/
theorem C11_locator_trim (code : Nat) (hdr : Option (List Char)) (be : Bool) :
    (∀ bs, ∃ pre post, bs = pre ++ (trimSpace bs ++ post) ∧ (∀ b ∈ pre, isTrimSpace b = true) ∧
      (∀ b ∈ post, isTrimSpace b = true) ∧
      (∀ b, (trimSpace bs).head? = some b → isTrimSpace b = false) ∧
      (∀ b, (trimSpace bs).getLast? = some b → isTrimSpace b = false)) ∧
    (∀ bs, trimSpace (trimSpace bs) = trimSpace bs) ∧
    (∀ pre L post, (∀ b ∈ pre, isTrimSpace b = true) → (∀ b ∈ post, isTrimSpace b = true) →
      (∀ b, L.head? = some b → isTrimSpace b = false) →
      (∀ b, L.getLast? = some b → isTrimSpace b = false) →
      (pre ++ (L ++ post)).length ≤ bodyLimit →
      (upload (.resp code hdr (pre ++ (L ++ post)) be)).body = L) := by
  refine ⟨trimSpace_spec, trimSpace_idem, ?_⟩
  intro pre L post h1 h2 h3 h4 hlen
  show trimSpace ((pre ++ (L ++ post)).take bodyLimit) = L
  rw [List.take_of_length_le hlen]
  exact trimSpace_clean pre L post h1 h2 h3 h4

/-- a response as a service that confirms `n` replicas sends it: status 200, the header absent
(n = 1) or the decimal number `n` -/
def Confirms (h : Http) (n : Nat) : Prop :=
  ∃ body be, (h = .resp 200 none body be ∧ n = 1) ∨
    (h = .resp 200 (some (toString n).toList) body be ∧ n < 2^63)

theorem repSum_congr (c : Cfg) (conf : Srv → Nat → Nat) (l : List (Srv × Nat))
    (h : ∀ e ∈ l, (c.script e.1 e.2).rep = conf e.1 e.2) :
    repSum c l = ((l.map fun e => conf e.1 e.2).sum : Nat) := by
  induction l with
  | nil => rfl
  | cons a t ih =>
    have h1 := h a List.mem_cons_self
    have h2 := ih (fun e he => h e (List.mem_cons_of_mem _ he))
    rw [repSum_cons, h1, h2, List.map_cons, List.sum_cons]
    omega

/-- the replica count a Put returns (with or without error) -/
def Res.count : Res → Int
  | .ok _ n => n
  | .insufficient _ n => n

/-- **The number a Put reports is the number the services confirmed.** Let every 200 answer
`http x k` confirm `conf x k` replicas in the way Keep services do (`Confirms`); other answers are
arbitrary. Then the count returned — with a nil error or with the insufficient-replicas error — is
the sum of `conf` over the 200 answers that were processed, computed through the real header
parser. -/
theorem C11_count_is_confirmed (c : Cfg) (http : Srv → Nat → Http)
    (conf : Srv → Nat → Nat) (sv : List Srv) (picks : List Nat) (r : Res) (s : St)
    (hscript : ∀ x k, c.script x k = upload (http x k))
    (hconf : ∀ x k, (upload (http x k)).code = 200 → Confirms (http x k) (conf x k))
    (h : put c sv picks = some (r, s)) :
    r.count =
      ((((s.respLog.filter (is200 c)).map fun e => conf e.1 e.2).sum : Nat) : Int) := by
  have hcount : r.count = repSum c (s.respLog.filter (is200 c)) := by
    rw [put_result h]
    split <;> rfl
  rw [hcount]
  refine repSum_congr _ conf _ fun e he => ?_
  have h200 : (upload (http e.1 e.2)).code = 200 := by
    rw [← hscript]; exact is200_iff.mp (List.mem_filter.mp he).2
  rw [hscript]
  obtain ⟨body, be, hc | hc⟩ := hconf e.1 e.2 h200
  · rw [hc.1, hc.2]; rfl
  · rw [hc.1, upload_rep, toString_toList, if_neg (mt List.isEmpty_iff.mp Nat.toDigits_ne_nil)]
    exact (parseRep_nat_end [] _ (Or.inl rfl)).trans (if_pos hc.2)

/-! ### loadKeepServers → putReplicas -/

theorem mem_writableIdx (l : List Svc) (i : Nat) (h : i ∈ writableIdx l) :
    ∃ hi : i < l.length, ∃ e ∈ (load false l).writable, e.1 = l[i].uuid := by
  unfold writableIdx at h
  rw [List.mem_filter, List.mem_range] at h
  obtain ⟨hi, hm⟩ := h
  refine ⟨hi, ?_⟩
  rw [List.getElem?_eq_getElem hi] at hm
  simp only [List.any_eq_true, beq_iff_eq] at hm
  exact hm

/-- with distinct uuids, a position of `writableIdx l` holds a service that is not read-only -/
theorem writableIdx_ro (l : List Svc) (hu : (l.map (·.uuid)).Nodup) {i : Nat}
    (h : i ∈ writableIdx l) : ∃ hi : i < l.length, l[i].ro = false := by
  obtain ⟨hi, ent, hent, huu⟩ := mem_writableIdx l i h
  obtain ⟨t, ht, htu, _, htro⟩ := C11_writable_map_sound false l ent hent
  obtain ⟨j, hj, rfl⟩ := List.getElem_of_mem ht
  have hji : j = i := (List.getElem_inj (h₀ := by simpa using hj) (h₁ := by simpa using hi) hu).mp
    (by simp only [List.getElem_map]; exact htu.trans huu)
  exact ⟨hi, hji ▸ htro⟩

/-- **Only services that the list marks as not read-only are written to.** A client loads the
service list `l` (distinct uuids) and `putReplicas` probes the writable roots in some order `sv`
(positions in `l`, any order, any subset of `writableIdx l`): every request goes to a listed service
whose `read_only` flag is false — so every replica the Put counts was confirmed by such a service. -/
theorem C11_requests_listed_writable (l : List Svc) (hu : (l.map (·.uuid)).Nodup) (c : Cfg)
    (sv : List Srv) (picks : List Nat) (r : Res) (s : St) (hsv : ∀ x ∈ sv, x ∈ writableIdx l)
    (h : put c sv picks = some (r, s)) :
    (∀ e ∈ s.reqLog, ∃ hi : e.1 < l.length, l[e.1].ro = false) ∧
    (∀ e ∈ s.respLog, ∃ hi : e.1 < l.length, l[e.1].ro = false) := by
  have key : ∀ e ∈ s.reqLog, ∃ hi : e.1 < l.length, l[e.1].ro = false := fun e he =>
    writableIdx_ro l hu (hsv _ (C11_only_writable c sv picks r s h e he))
  exact ⟨key, fun e he => key e ((put_trace h).respReq e he)⟩

/-! ### asyncbuf: what every upload goroutine reads -/

/-- **Independent readers.** The writer goroutine writes `chunks` one after the other and then
closes the buffer with `e` (`copyProg`); readers are made at any time and read with any buffer
sizes, interleaved with the writer in any way (`sched`, any length). Then at every moment every
reader has received a prefix of the whole data, and a reader that has been given an error has
received the whole data, and the error is the one the buffer was closed with (io.EOF for nil). No
reader is ever given an error while the writer is still writing. -/
theorem C11_asyncbuf_readers (init : List Nat) (chunks : List (List Nat)) (e : Option AErr)
    (sched : List Sched) :
    ∀ r ∈ (runSys (ABuf.new init) (copyProg chunks e) sched).1.readers,
      r.got <+: init ++ chunks.flatten ∧
      (∀ e', r.ended = some e' → r.got = init ++ chunks.flatten ∧ e' = e.getD .eof ∧
        (runSys (ABuf.new init) (copyProg chunks e) sched).2 = []) := by
  obtain ⟨hb, hw⟩ := runSys_inv (init ++ chunks.flatten) e sched (ABuf.new init) (copyProg chunks e)
    (fun _ h => nomatch h) (Or.inl ⟨rfl, chunks, rfl, rfl⟩)
  exact readers_of_inv hb hw

/-- Once the buffer is closed no `Read` waits, and a `Read` never waits when there is data the
reader has not seen — so a reader that keeps reading gets to the end. -/
theorem C11_asyncbuf_no_wait (b : ABuf) (i n : Nat) (h : (AStep b (.read i n)).2 = .block) :
    b.err = none ∧ ∃ r, b.readers[i]? = some r ∧ b.data.length ≤ r.off ∧ 0 < n := by
  simp only [AStep] at h
  split at h
  · cases h
  · rename_i r hr
    split at h
    · cases h
    · rename_i hge
      split at h
      · cases h
      · rename_i herr
        split at h
        · cases h
        · exact ⟨herr, r, hr, by omega, by omega⟩

theorem endOf_closeArg (x : BodyEnd) : endOf ((closeArg x).getD .eof) = x := by
  cases x <;> rfl

/-- **Every request body of a `PutHR` is the whole stream and ends as `bufferEnd` says.** The copy
goroutine delivers the stream `st` in any pieces (`chunks.flatten = st.data`) and closes the buffer
with the outcome of the checked copy (`closeArg (bufferEnd md5hex hash st)`); the upload goroutines
read through `buf.NewReader()` at their own pace (`sched`). A body that has reached its end has
delivered exactly `st.data`, and its end is `bufferEnd md5hex hash st`: EOF only for a stream that
ended normally with MD5 `hash` — this is the pair `putHRWire` puts into every request
(`C11_puthr_delivered` takes it from there), for every retry and every interleaving. -/
theorem C11_puthr_body (md5hex : List Nat → List Char) (hash : List Char) (st : Stream)
    (chunks : List (List Nat)) (sched : List Sched) (hch : chunks.flatten = st.data) :
    ∀ r ∈ (runSys (ABuf.new []) (copyProg chunks (closeArg (bufferEnd md5hex hash st))) sched).1.readers,
      r.got <+: st.data ∧
      (∀ e', r.ended = some e' → (r.got, endOf e') = (st.data, bufferEnd md5hex hash st)) := by
  intro r hr
  obtain ⟨h1, h2⟩ := C11_asyncbuf_readers [] chunks (closeArg (bufferEnd md5hex hash st)) sched r hr
  rw [List.nil_append, hch] at h1 h2
  refine ⟨h1, fun e' he' => ?_⟩
  obtain ⟨hg, he, _⟩ := h2 e' he'
  rw [hg, he, endOf_closeArg]

/-! ### Non-vacuity -/

namespace ExamplesExt

/-- header texts: canonical, blanks and trailing text, negative, huge, malformed -/
example : parseRep "2".toList = 2 ∧ parseRep " \t2 replicas".toList = 2 ∧ parseRep "-1".toList = -1 ∧
    parseRep "99999999999999999999".toList = 1 ∧ parseRep "x2".toList = 1 ∧ parseRep "- 2".toList = 1 ∧
    parseRep "+2".toList = 2 ∧ parseRep "".toList = 1 := by
  -- the kernel is slow at `toList` of a string literal, not at the list of its characters
  repeat rw [String.toList_ofList]
  decide +kernel

/-- `C11_locator_trim`: "abc\n" with leading blanks -/
example : (upload (.resp 200 none [32, 9, 97, 98, 99, 13, 10] false)).body = [97, 98, 99] := by decide +kernel

/-- `C11_count_is_confirmed`: service 0 confirms 2 replicas, service 1 one (no header) -/
def httpConf : Srv → Nat → Http := fun x _ =>
  if x = 0 then .resp 200 (some (toString 2).toList) [76] false else .resp 200 none [77] false

example : ∀ x k, (upload (httpConf x k)).code = 200 → Confirms (httpConf x k) (if x = 0 then 2 else 1) := by
  intro x k _
  unfold httpConf Confirms
  split
  · exact ⟨[76], false, Or.inr ⟨rfl, by decide⟩⟩
  · exact ⟨[77], false, Or.inl ⟨rfl, rfl⟩⟩

example : (put { want := 3, rps := 1, retries := 0, script := fun x k => upload (httpConf x k) } [1, 0] []).map
    (fun r => r.1.count) = some 3 := by decide +kernel

/-- `C11_requests_listed_writable`: the second of three services is read-only -/
def svcs3 : List Svc :=
  [⟨['a'], ['h'], 1, false, "disk".toList, false⟩, ⟨['b'], ['g'], 1, false, "disk".toList, true⟩,
   ⟨['c'], ['f'], 1, false, "proxy".toList, false⟩]

example : writableIdx svcs3 = [0, 2] ∧ (svcs3.map (·.uuid)).Nodup := by decide +kernel

/-- `C11_asyncbuf_readers` / `C11_puthr_body`: two readers, the second made after the first write;
reader 0 reads to the end, reader 1 is still in the middle -/
example : ((runSys (ABuf.new []) (copyProg [[1, 2], [3]] none)
      [.newReader, .writer, .read 0 1, .newReader, .writer, .read 1 2, .read 0 5, .writer, .read 0 5, .read 1 0]).1.readers.map
      fun r => (r.got, r.ended)) = [([1, 2, 3], some .eof), ([1, 2], none)] := by decide +kernel

/-- a Read that has to wait, and one that does not because the buffer was closed -/
example : (AStep (AStep (ABuf.new []) .newReader).1 (.read 0 4)).2 = .block ∧
    (AStep (AStep (AStep (ABuf.new []) .newReader).1 (.close (some (.other 1)))).1 (.read 0 4)).2 =
      .fin (.other 1) := by decide +kernel

end ExamplesExt

end ArvVerif.C11
