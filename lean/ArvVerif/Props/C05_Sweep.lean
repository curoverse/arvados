/-
C05, the sweep around balanceBlock (Model/C05_Run.lean): from what the keepstores and the API server
answer to the inputs of `plan`, and from the result of `plan` to what is sent.
The statements about `selectedAttrsOld`, the select list before finding F05b was repaired, are
regression statements.
-/
import ArvVerif.Props.C05
import ArvVerif.Proofs.C05_Run
namespace ArvVerif.C05

/-- `KeepService.index` keeps a nanosecond timestamp (≥ 1e12) as it is and converts a timestamp in
seconds (anything before the year 2262) exactly, so the age test `t < MinMtime` that balanceBlock
makes on the rescaled value is the age test on the replica's real timestamp. -/
theorem C05_index_mtime_faithful (v minMtime : Int) :
    (1000000000000 ≤ v → normMtime v = v) ∧
    (0 ≤ v → v ≤ 9223372036 → normMtime v = v * 1000000000 ∧
      (normMtime v < minMtime ↔ v * 1000000000 < minMtime)) := by
  refine ⟨normMtime_ns, fun h0 h1 => ?_⟩
  have := normMtime_seconds (v := v) (by omega) h1
  exact ⟨this, by rw [this]⟩

example : normMtime 1600000000 = 1600000000000000000 ∧ normMtime 1600000000000000000 = 1600000000000000000 ∧
    normMtime 999999999999 = wrap64 999999999999000000000 := by decide +kernel

/-- One sweep, any block `b`, any arrival order `ops` of the index entries (applied to every mount of
the cleaned-up layout through the mount `rep` chose for its device) and of the collections: every
trash request `plan` computes for the gathered block
* is older than MinMtime,
* names a mount that is writable on a service that is writable (as reported), and
* carries as timestamp the rescaled timestamp of an index entry for `b` in the index that was
  applied to that very mount — the request is `{bare hash, that timestamp, that mount's UUID}`. -/
theorem C05_sweep_trash_backed (dflt : Class) (sel : Bool) (defRepl : Nat) (idx : Nat → List IdxEntry)
    (rep : Nat → Nat) (svcs : List RawService) (colls : List Coll) (b : Nat) (ops : List BlockOp)
    (hperm : ops.Perm (blockOps sel defRepl idx rep (effMounts dflt (cleanupMounts svcs)) colls b))
    (rank : Nat → Nat) (devLess : Dev → Dev → Bool) (minMtime : Int) (sorter : Class → List Slot → List Slot)
    (hok : PlanPerm (envOf rank devLess minMtime (gather dflt ops)) dflt sorter svcs (gather dflt ops).replicas)
    (s : Slot) (t : Int)
    (ht : (s, t) ∈ (plan (envOf rank devLess minMtime (gather dflt ops)) dflt sorter svcs
            (gather dflt ops).replicas).trashes)
    (blkid hash size : List Char) (hb : blkid = hash ++ '+' :: size) (hl : hash.length = 32)
    (uuidOf : Nat → List Char) :
    t < minMtime ∧
    (∃ sv ∈ svcs, ∃ rm ∈ sv.mounts, rm.id = s.mnt.id ∧ sv.id = s.mnt.srv ∧ rm.ro = false ∧ sv.ro = false) ∧
    (∃ e ∈ idx (rep s.mnt.id), e.blk = b ∧ t = normMtime e.raw) ∧
    trashReq blkid uuidOf s t = ⟨hash, t, uuidOf s.mnt.id⟩ := by
  have hp := mem_trashes.1 ht
  have h1 := C05_no_trash_newer_than_ttl _ _ _ _ _ _ t hp rfl
  have h2 := C05_no_trash_on_readonly _ _ _ dflt svcs hok _ t hp rfl
  obtain ⟨hloc, _, hrep, _, _, _⟩ := (C05_json_shape _ _ _ _ _ hok blkid hash size hb hl uuidOf uuidOf).1 s t ht
  obtain ⟨r, hr, hrm, hrt⟩ := replicaOn_mem hrep
  obtain ⟨m, _, e, he, heb, rfl⟩ := mem_delivered.1 (gathered_replica_backed hperm hr)
  exact ⟨h1.2, h2, ⟨e, hrm ▸ he, heb, hrt.symm⟩, by rw [trashReq, show locatorOf blkid = hash from hloc]⟩

/-- non-vacuity: two single-mount services, the second reporting seconds; block 0 is unreferenced
garbage with an old replica on each; a collection wants block 1. Both replicas of block 0 are
trashed with the rescaled timestamps. -/
example :
    let svcs : List RawService := [⟨0, false, [⟨0, 0, false, 1, []⟩]⟩, ⟨1, false, [⟨1, 0, false, 1, []⟩]⟩]
    let idx : Nat → List IdxEntry := fun id => if id = 0 then [⟨0, 1599999990000000000⟩] else [⟨0, 1599999980⟩]
    let ops := blockOps false 2 idx id (effMounts 0 (cleanupMounts svcs)) [⟨7, none, [], [1]⟩] 0
    let env := envOf (fun s => s) (fun a b => decide (a < b)) 1600000000000000000 (gather 0 ops)
    (plan env 0 (wSorter env) svcs (gather 0 ops).replicas).trashes.map (fun p => (p.1.mnt.id, p.2)) =
      [(0, 1599999990000000000), (1, 1599999980000000000)] := by decide +kernel

/-- The desired replication balanceBlock reads for class `c` after any arrival order is the largest
replication asked for by a collection that references the block and — as far as keep-balance was
told (`fetchedClasses`) — wants it in `c` (no class = `default`); replication_desired null counts as
the cluster default. -/
theorem C05_sweep_desired (dflt c : Class) (sel : Bool) (defRepl : Nat) (idx : Nat → List IdxEntry)
    (rep : Nat → Nat) (mounts : List Mount) (colls : List Coll) (b : Nat) (ops : List BlockOp)
    (hperm : ops.Perm (blockOps sel defRepl idx rep mounts colls b)) :
    (∀ coll ∈ colls, b ∈ coll.blocks → c ∈ collClasses dflt (fetchedClasses sel coll) →
      coll.repl.getD defRepl ≤ desiredOf (gather dflt ops) c) ∧
    (desiredOf (gather dflt ops) c = 0 ∨
      ∃ coll ∈ colls, b ∈ coll.blocks ∧ c ∈ collClasses dflt (fetchedClasses sel coll) ∧
        desiredOf (gather dflt ops) c = coll.repl.getD defRepl) := by
  obtain ⟨hge, hatt⟩ := desiredOf_gather_max dflt c ops
  refine ⟨fun coll hc hb hcl => ?_, ?_⟩
  · have := hge _ (hperm.mem_iff.2 (List.mem_append_right _ (mem_collOps.2 ⟨coll, hc, hb, rfl⟩)))
    rwa [askOf_collOp, if_pos hcl] at this
  · rcases hatt with h0 | ⟨op, hop, hval⟩
    · exact Or.inl h0
    · exact (askOf_blockOps (hperm.mem_iff.1 hop)).imp (hval.trans ·)
        fun ⟨coll, hc, hb, hcl, e⟩ => ⟨coll, hc, hb, hcl, hval.trans e⟩

/-- Full strength (the code after the fix: commit for F05b, `selClassesNow`): a collection that
references the block and asks for class `c` in `storage_classes_desired` (none = default) bounds the
desired replication of `c` from below, whatever the arrival order — so with `C05_sweep_desired` the
desired replication balanceBlock works with is exactly the maximum over the collections as stored. -/
theorem C05_sweep_desired_full (dflt c : Class) (defRepl : Nat) (idx : Nat → List IdxEntry) (rep : Nat → Nat)
    (mounts : List Mount) (colls : List Coll) (b : Nat) (ops : List BlockOp)
    (hperm : ops.Perm (blockOps selClassesNow defRepl idx rep mounts colls b)) :
    ∀ coll ∈ colls, b ∈ coll.blocks → c ∈ collClasses dflt coll.classes →
      coll.repl.getD defRepl ≤ desiredOf (gather dflt ops) c :=
  fun coll hc hb hin =>
    (C05_sweep_desired dflt c selClassesNow defRepl idx rep mounts colls b ops hperm).1 coll hc hb hin

/-- Regression (finding F05b): the same statement about the select list before the fix
(`selectedAttrsOld`, without `storage_classes_desired`). -/
def C05_sweep_desired_Old_Full : Prop :=
  ∀ (dflt c : Class) (defRepl : Nat) (idx : Nat → List IdxEntry) (rep : Nat → Nat) (mounts : List Mount)
    (colls : List Coll) (b : Nat) (ops : List BlockOp),
    ops.Perm (blockOps selClassesOld defRepl idx rep mounts colls b) →
    ∀ coll ∈ colls, b ∈ coll.blocks → c ∈ collClasses dflt coll.classes →
      coll.repl.getD defRepl ≤ desiredOf (gather dflt ops) c

/-- F05b: it did not hold. A collection asking for replication 2 in class 1 left the desired
replication of class 1 at 0 (and raised that of `default`). -/
theorem C05_sweep_desired_old_full_fails : ¬ C05_sweep_desired_Old_Full := by
  intro h
  exact absurd (h 0 1 2 (fun _ => []) id [] [⟨1, some 2, [1], [0]⟩] 0 _ (List.Perm.refl _)
    ⟨1, some 2, [1], [0]⟩ (List.mem_singleton_self _) (List.mem_singleton_self _) (List.mem_singleton_self _))
    (by decide +kernel)

/-- …it held only when no collection named a class other than `default`. -/
theorem C05_sweep_desired_old_partial (dflt c : Class) (defRepl : Nat) (idx : Nat → List IdxEntry) (rep : Nat → Nat)
    (mounts : List Mount) (colls : List Coll) (b : Nat) (ops : List BlockOp)
    (hperm : ops.Perm (blockOps selClassesOld defRepl idx rep mounts colls b))
    (hcl : ∀ coll ∈ colls, collClasses dflt coll.classes = [dflt]) :
    ∀ coll ∈ colls, b ∈ coll.blocks → c ∈ collClasses dflt coll.classes →
      coll.repl.getD defRepl ≤ desiredOf (gather dflt ops) c := by
  intro coll hc hb hin
  -- no class was fetched, which counts as `default`
  have hd : c ∈ [dflt] := hcl coll hc ▸ hin
  exact (C05_sweep_desired dflt c selClassesOld defRepl idx rep mounts colls b ops hperm).1 coll hc hb hd

/-- `C05_sweep_desired_full` for any code that selects the attribute -/
theorem C05_sweep_desired_selected (dflt c : Class) (defRepl : Nat) (idx : Nat → List IdxEntry) (rep : Nat → Nat)
    (mounts : List Mount) (colls : List Coll) (b : Nat) (ops : List BlockOp)
    (hperm : ops.Perm (blockOps true defRepl idx rep mounts colls b)) :
    ∀ coll ∈ colls, b ∈ coll.blocks → c ∈ collClasses dflt coll.classes →
      coll.repl.getD defRepl ≤ desiredOf (gather dflt ops) c :=
  fun coll hc hb hin =>
    (C05_sweep_desired dflt c true defRepl idx rep mounts colls b ops hperm).1 coll hc hb hin

example : collClasses 0 ([] : List Class) = [0] ∧ collClasses 0 [0] = [0] ∧ selClassesNow = true ∧
    selClassesOld = false := by decide +kernel

/-- For every block of a sweep and every arrival order: carrying out the computed trash requests
while no pull succeeds leaves every class with at least min(desired, previously existing)
replication over distinct physical devices — `desired` being what was gathered
(`C05_sweep_desired`: the maximum over the collections as fetched). -/
theorem C05_sweep_trash_safe (dflt : Class) (ops : List BlockOp) (rank : Nat → Nat) (devLess : Dev → Dev → Bool)
    (minMtime : Int) (sorter : Class → List Slot → List Slot) (svcs : List RawService)
    (hok : PlanPerm (envOf rank devLess minMtime (gather dflt ops)) dflt sorter svcs (gather dflt ops).replicas)
    (hid : RawDistinctIds svcs) (hcons : RawDeviceConsistent svcs)
    (c : Class) (hd : desiredOf (gather dflt ops) c ≠ 0) :
    min (desiredOf (gather dflt ops) c)
        (physRepl c (plan (envOf rank devLess minMtime (gather dflt ops)) dflt sorter svcs
          (gather dflt ops).replicas).heldBefore) ≤
      physRepl c (plan (envOf rank devLess minMtime (gather dflt ops)) dflt sorter svcs
        (gather dflt ops).replicas).heldAfter :=
  C05_trash_safe_plan (envOf rank devLess minMtime (gather dflt ops)) sorter (gather dflt ops).replicas
    dflt svcs hok hid hcons c hd

/-! F05b at the level of the trash lists (the first corpus witness; layout in Proofs/C05_Run.lean): two
`archive` (class 1) mounts and two `default` (class 0) mounts, each on its own service, all holding
an old replica; one collection asks for replication 2 in `archive`. -/

/-- Regression: with the select list before the fix the sweep gathered desired 2 for `default` and 0
for `archive`, so both `archive` replicas were trashed: class 1 went from 2 to 0 although the
collection wants 2 there. -/
theorem C05_sweep_trash_safe_old_fails_F05b :
    PlanOK f05bEnv 0 (wSorter f05bEnv) f05bSvcs (gather 0 f05bOps).replicas ∧
    desiredOf (gather 0 f05bOps) 1 = 0 ∧ desiredOf (gather 0 f05bOps) 0 = 2 ∧
    physRepl 1 f05bResult.heldBefore = 2 ∧ physRepl 1 f05bResult.heldAfter = 0 := by
  decide +kernel

/-- the same sweep with the fixed select list: desired 2 for `archive`, its two replicas stay (the
two `default` replicas go) -/
example :
    PlanOK f05bEnvNow 0 (wSorter f05bEnvNow) f05bSvcs (gather 0 f05bOpsNow).replicas ∧
    desiredOf (gather 0 f05bOpsNow) 1 = 2 ∧ desiredOf (gather 0 f05bOpsNow) 0 = 0 ∧
    physRepl 1 f05bResultNow.heldBefore = 2 ∧ physRepl 1 f05bResultNow.heldAfter = 2 ∧
    f05bResultNow.trashes.map (fun p => p.1.mnt.id) = [2, 3] := by
  decide +kernel

/-- A change set leaves the process only if the commit option is set and CheckSanityLate passed —
at least one collection was scanned, some block has desired replication > 0 and the default
replication is ≥ 1 — and then it is the computed list. -/
theorem C05_sweep_sent {α : Type} (cfg : RunCfg) (ncoll : Nat) (states : List BlockSt) (commit : Bool)
    (computed l : List α) (h : sentList commit (sanityLate cfg ncoll states) computed = some l) :
    commit = true ∧ l = computed ∧ ncoll ≠ 0 ∧ (∃ bs ∈ states, ∃ p ∈ bs.desired, 0 < p.2) ∧ 1 ≤ cfg.defRepl := by
  unfold sentList at h
  split at h
  · rename_i hc
    cases h
    simp only [Bool.and_eq_true, Option.isNone_iff_eq_none] at hc
    obtain ⟨hcommit, hnone⟩ := hc
    -- CheckSanityLate returned no error: none of its three tests fired
    unfold sanityLate at hnone
    split at hnone
    · cases hnone
    split at hnone
    · cases hnone
    split at hnone
    · cases hnone
    rename_i h1 h2 h3
    simp only [Bool.not_eq_true', Bool.not_eq_false, List.any_eq_true, decide_eq_true_eq] at h2
    exact ⟨hcommit, rfl, h1, h2, by omega⟩
  · cases h

example : sentList true (sanityLate ⟨true, true, false, 2, 0, false⟩ 1 [⟨none, 1, [], [(0, 2)]⟩]) [1, 2] = some [1, 2] ∧
    sentList true (sanityLate ⟨true, true, false, 2, 0, false⟩ 0 [⟨none, 1, [], [(0, 2)]⟩]) [1, 2] = none ∧
    sentList false (sanityLate ⟨true, false, false, 2, 0, false⟩ 1 [⟨none, 1, [], [(0, 2)]⟩]) [1, 2] = none ∧
    clearCount ⟨true, true, false, 2, 0, false⟩ 3 = 3 ∧ clearCount ⟨true, true, true, 2, 0, false⟩ 3 = 0 := by decide +kernel

end ArvVerif.C05
