/-
C10 — property theorems for the Python range mapper: `replace_range`
(sdk/python/arvados/_ranges.py:140-227, named in the property's mechanism list next to `first_block` and
`locators_and_ranges`), and the explicit three-way agreement of the range mappers
on one file token.
-/
import ArvVerif.Proofs.C10_PyReplace
import ArvVerif.Props.C10
namespace ArvVerif.C10

/-- **C10_py_replace_range.** For every contiguous segment list starting at `s` (zero-length segments allowed,
any length) and every non-empty write `[ns, ns+nsize)` that starts inside the file or exactly at its end,
`replace_range` raises nothing (no IndexError out of `first_block`, no silently dropped write), leaves a list
that is again contiguous from `s` and ends at `max(old end, ns+nsize)`, and re-maps exactly the written range:
position `p` of the range now lives at offset `new_segment_offset + (p - ns)` of the new locator, every other
position lives where it lived before. (`pyrAt` = where a position lives: the first segment that holds it.) -/
theorem C10_py_replace_range (rs : List PyR) (s : Nat) (hc : ContigFrom s rs) (ns nsize : Nat) (nl : Bytes) (no : Nat)
    (hsz : 0 < nsize) (hlo : s ≤ ns) (hhi : ns ≤ s + totalR rs) :
    ∃ rs', pyReplaceRange rs ns nsize nl no = .ok rs' ∧ ContigFrom s rs' ∧
      s + totalR rs' = max (ns + nsize) (s + totalR rs) ∧
      ∀ p, pyrAt rs' p = if ns ≤ p ∧ p < ns + nsize then some (nl, no + (p - ns)) else pyrAt rs p :=
  pyReplaceRange_spec rs s hc ns nsize nl no hsz hlo hhi

/-- a zero-length write changes nothing -/
theorem C10_py_replace_range_empty (rs : List PyR) (ns : Nat) (nl : Bytes) (no : Nat) :
    pyReplaceRange rs ns 0 nl no = .ok rs := by
  simp [pyReplaceRange]

/-- a sequence of writes (start, size, locator, segment offset) applied in turn; a write that starts beyond the
current end of the file is outside `replace_range`'s precondition and skipped here -/
def applyWrites (rs : List PyR) (ws : List (Nat × Nat × Bytes × Nat)) : List PyR :=
  ws.foldl (fun acc w =>
    if w.1 ≤ totalR acc then
      match pyReplaceRange acc w.1 w.2.1 w.2.2.1 w.2.2.2 with | .ok r => r | _ => acc
    else acc) rs

/-- **C10_py_replace_sequence.** The precondition of `C10_py_replace_range` is preserved, so it applies to every
further write: any sequence of writes, each starting inside the file or at its end, keeps the list contiguous
from 0 (the file being written piecewise, as `arvfile` does). -/
theorem C10_py_replace_sequence : ∀ (ws : List (Nat × Nat × Bytes × Nat)) (rs : List PyR), ContigFrom 0 rs →
    ContigFrom 0 (applyWrites rs ws)
  | [], _, hc => hc
  | w :: ws, rs, hc => by
    unfold applyWrites
    simp only [List.foldl_cons]
    apply C10_py_replace_sequence ws
    by_cases hw : w.1 ≤ totalR rs
    · rw [if_pos hw]
      by_cases hz : w.2.1 = 0
      · rw [hz, C10_py_replace_range_empty]; exact hc
      · obtain ⟨rs', h1, h2, _⟩ := pyReplaceRange_spec rs 0 hc w.1 w.2.1 w.2.2.1 w.2.2.2 (by omega) (by omega) (by omega)
        rw [h1]; exact h2
    · rw [if_neg hw]; exact hc

/-- non-vacuity and the quirk the model keeps: a write that starts exactly on a segment start and runs past
its end leaves a zero-length segment behind (harmless: it holds no position) -/
example : pyReplaceRange [⟨[97], 0, 4, 0⟩, ⟨[98], 4, 4, 0⟩, ⟨[99], 8, 4, 0⟩] 4 8 [100] 0 =
    .ok [⟨[97], 0, 4, 0⟩, ⟨[98], 4, 0, 0⟩, ⟨[100], 4, 8, 0⟩] := by decide
example : ContigFrom 0 [⟨[97], 0, 4, 0⟩, ⟨[98], 4, 4, 0⟩, ⟨[99], 8, 4, 0⟩] := ⟨rfl, rfl, rfl, trivial⟩
example : pyReplaceRange [⟨[97], 0, 5, 0⟩, ⟨[98], 5, 3, 0⟩] 3 4 [99] 7 =
    .ok [⟨[97], 0, 3, 0⟩, ⟨[99], 3, 4, 7⟩, ⟨[98], 7, 1, 2⟩] := by decide
example : pyReplaceRange [⟨[97], 0, 5, 0⟩] 5 3 [97] 5 = .ok [⟨[97], 0, 8, 0⟩] := by decide

/-- **C10_codecs_agree_token.** One file token inside its stream (sizes as the Go integer types hold them): the
three range mappers — `sendFileSegmentIterByName` of the Go manifest package (segments `segment()` keeps),
`locators_and_ranges` of the Python SDK (non-empty entries) and the block loop of `loadManifest` (segments it
appends from the start of the line) — produce the *same* list of (block, offset, length), namely the
reference interpreter's. -/
theorem C10_codecs_agree_token (name : Bytes) (bs : List Loc) (files : List FTok) (f : FTok)
    (hsz : ∀ b ∈ bs, b.size < two63) (htot : streamLen bs < two64) (hin : f.pos + f.len ≤ streamLen bs) :
    ∃ gsegs psegs,
      sendTok firstBlock ⟨name, bs, offsetsFrom 0 bs, files, false⟩ f = .ok gsegs ∧
      pyLocatorsAndRanges pyFirstBlock (pyRangesFrom 0 bs) f.pos f.len = .ok psegs ∧
      keepPositive gsegs = pyKeep psegs ∧
      (fsLoop (f.pos : Int) ((f.pos + f.len : Nat) : Int) bs 0 0 []).2.2 = pyKeep psegs ∧
      pyKeep psegs = resolveTok bs 0 f.pos f.len := by
  obtain ⟨g, hg1, hg2⟩ := C10_pkg_token_agrees name bs files f hsz htot hin
  obtain ⟨p, hp1, hp2⟩ := C10_py_token_agrees bs f.pos f.len hin
  have hf := (C10_fs_token_agrees f.pos f.len bs 0 0 []).1
  refine ⟨g, p, hg1, hp1, by rw [hg2, hp2], ?_, hp2⟩
  rw [hp2]
  simpa using hf

end ArvVerif.C10
