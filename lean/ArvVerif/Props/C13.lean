/-
C13 — concurrent use of a collection filesystem never loses or mixes file data.
Property theorems on three models that no theorem connects.

The atomic-step model (Model/C13.lean, on top of C08's model): the invariant, the background completions, every
interleaving as a sequential history, saves. The heap model of memSegment (Model/C13_Cow.lean, C13_CowRt.lean):
copy-on-write. The lock models (Model/C13_Lock.lean, C13_RW.lean): no wait-for cycle.

What these theorems do NOT say: that the Go code really is atomic at these steps (data-race freedom),
that sync.RWMutex / channels behave, deadlock freedom with the throttle and real goroutines. Those
are exercised by the correspondence run (race detector, parked PutB, deadline), not proved.
-/
import ArvVerif.Proofs.C13_Hist
import ArvVerif.Proofs.C13_Cow
import ArvVerif.Proofs.C13_Lock
import ArvVerif.Proofs.C13_RW
import ArvVerif.Proofs.C13_CowRt
import ArvVerif.Proofs.Lib_List
namespace ArvVerif.C13
open ArvVerif.C08

variable {max : Nat} {hash : Bytes → Loc}

/-- **Invariant.** From the empty collection, after any sequence of atomic steps — foreground
operations of any workers in any interleaving (including single `read` calls), async flushes,
completions of any background write in any order with any outcome, saves — the state satisfies
`Inv13`: C08's invariant (files well-formed, pointers valid, Keep consistent) and every `flushing`
token on a segment is backed: the segment's bytes are a prefix of the piece of the block that was
handed to PutB under that token, and the block is in Keep. -/
theorem C13_inv_invariant (hinj : Function.Injective hash) (hmax : 1 ≤ max) :
    Inv13 max hash St.init ∧
    ∀ (s : St) (e : Ev), Inv13 max hash s → Inv13 max hash (evStep hash max s e).1 := by
  refine ⟨init_inv13, ?_⟩
  intro s e hinv
  by_cases hdet : e.det = true
  · exact (event_refines hinj hmax hinv e hdet).2.2
  · -- the only event that is not `det` is a single Read call
    cases e with
    | fg w op =>
      cases op with
      | read h n =>
        obtain ⟨_, _, _, h3, _⟩ := C08_read_step_refines hinv.base h n
        exact ⟨h3, plain_step_marks hinv (Op.read h n) rfl⟩
      | _ => exact absurd rfl hdet
    | _ => exact absurd rfl hdet

/-- **A background completion is safe.** In any state satisfying the invariant — i.e. at any later
time, after any other completions and foreground operations — the goroutine tail of
pruneMemSegments / async commitBlock, run for ANY list of (file, captured index, token) references
and with success or failure of PutB:

* leaves the abstract filesystem (every file's content, the tree, every handle's offset) unchanged
  and keeps the invariant (so it can be followed by anything);
* is a no-op when PutB failed;
* per reference, is a no-op unless the segment at the captured index is a mem segment that still
  carries this very token (overwritten data got a new buffer and lost the token: it is never put
  back) and, for pruneMemSegments, still has the captured length;
* when it does replace, installs the stored segment over the handed-off block with the segment's
  current length — whose bytes are the segment's bytes (C08_flush_invisible). -/
theorem C13_flush_completion_safe {s : St} (hinv : Inv13 max hash s) (refs : List (Nat × Nat × Nat)) (ok : Bool) :
    absFS (completeRefs hash max s.toks ok s.fs refs) = absFS s.fs ∧
    Inv13 max hash { s with fs := completeRefs hash max s.toks ok s.fs refs } ∧
    completeRefs hash max s.toks false s.fs refs = s.fs ∧
    (∀ (fs : Conc) (r : Nat × Nat × Nat), (∀ buf, segAt fs r.1 r.2.1 ≠ some (Seg.mem buf (mark max r.2.2))) →
      completeRef hash max s.toks ok fs r = fs) ∧
    (∀ (fs : Conc) (r : Nat × Nat × Nat) (tk : Tok) (n : Nat) (buf : Bytes) (fl : Flush),
      s.toks[r.2.2]? = some tk → tk.plen = some n → segAt fs r.1 r.2.1 = some (Seg.mem buf fl) → buf.length ≠ n →
      completeRef hash max s.toks ok fs r = fs) ∧
    (∀ (fs : Conc) (r : Nat × Nat × Nat) (tk : Tok) (buf : Bytes),
      s.toks[r.2.2]? = some tk → segAt fs r.1 r.2.1 = some (Seg.mem buf (mark max r.2.2)) →
      (tk.plen = none ∨ tk.plen = some buf.length) →
      completeRef hash max s.toks true fs r =
        setSegAt fs r.1 r.2.1 (Seg.stored (hash tk.block) tk.block.length tk.off buf.length)) := by
  obtain ⟨h1, h2⟩ := completeRefs_spec ok refs hinv
  exact ⟨h2, h1, Lib.foldl_fixed fun r _ => completeRef_failed ..,
    completeRef_guard s.toks ok, fun fs r _ _ _ _ => completeRef_resized s.toks ok fs r,
    fun fs r _ _ => completeRef_replaces s.toks fs r⟩

/-- the completion of a whole group, and the "complete everything" loop before a save -/
theorem C13_complete_group_safe {s : St} (hinv : Inv13 max hash s) (g : Nat) (ok : Bool) :
    Inv13 max hash (complete hash max s g ok).1 ∧ absFS (complete hash max s g ok).1.fs = absFS s.fs :=
  complete_spec hinv g ok

/-- **Copy-on-write.** In the heap model of memSegment (slice header + allocation; Truncate and
WriteAt allocate a new buffer exactly when the Go code does), after any sequence of Truncate /
WriteAt / Slice / hand-off / drop operations on any number of segments, every buffer that was ever
handed to a background writer still holds exactly the bytes it held at hand-off. -/
theorem C13_handoff_immutable (ops : List Cow.Op) {st st' : Cow.State} (hinv : Cow.Inv st)
    (hrun : Cow.run st ops = some st') :
    (∀ sh ∈ st.shared, sh ∈ st'.shared) ∧
    (∀ sh ∈ st'.shared, ((st'.heap[sh.ptr]?).getD []).take sh.len = sh.snap) ∧ Cow.Inv st' := by
  obtain ⟨h1, h2⟩ := Cow.run_inv ops hinv hrun
  exact ⟨h2, h1.intact, h1⟩

/-- **Copy-on-write, whatever capacity the runtime picks.** The heap model the `cow` correspondence
run compares with the real memSegment (`Cow.stepRt acap`: the copy made by WriteAt on a shared buffer
gets capacity `acap len`, everything else as in `Cow.step`), for EVERY `acap`: from the driver's
initial state (one empty segment) or any state satisfying the invariant, after any operation
sequence every handed-off buffer still holds its bytes; and — the aliasing rule of the `cow` oracle —
right after a WriteAt, or a Truncate that grows the segment, that segment has `flushing == nil` and
shares its array with no handed-off buffer. -/
theorem C13_handoff_immutable_rt (acap : Nat → Nat) :
    Cow.Inv Cow.initRt ∧
    (∀ (ops : List Cow.Op) (st st' : Cow.State), Cow.Inv st → Cow.runRt acap st ops = some st' →
      Cow.Inv st' ∧ (∀ sh ∈ st.shared, sh ∈ st'.shared) ∧
      ∀ sh ∈ st'.shared, ((st'.heap[sh.ptr]?).getD []).take sh.len = sh.snap) ∧
    (∀ (st st' : Cow.State) (i off : Nat) (p : Bytes), Cow.Inv st → Cow.stepRt acap st (Cow.Op.writeAt i p off) = some st' →
      ∃ sg', st'.segs[i]? = some sg' ∧ sg'.flushing = none ∧ ∀ sh ∈ st'.shared, sh.ptr ≠ sg'.ptr) ∧
    (∀ (st st' : Cow.State) (i n : Nat) (sg : Cow.MSeg), Cow.Inv st → st.segs[i]? = some sg → sg.len < n →
      Cow.stepRt acap st (Cow.Op.truncate i n) = some st' →
      ∃ sg', st'.segs[i]? = some sg' ∧ sg'.flushing = none ∧ sg'.len = n ∧ ∀ sh ∈ st'.shared, sh.ptr ≠ sg'.ptr) :=
  ⟨Cow.initRt_inv,
   fun ops _ _ hinv hrun => let h := Cow.runRt_inv acap ops hinv hrun; ⟨h.1, h.2, h.1.intact⟩,
   fun _ _ _ _ _ hinv => Cow.writeAt_unshared acap hinv, fun _ _ _ _ _ hinv => Cow.truncate_grow_unshared acap hinv⟩

/-- non-vacuity: hand-off, overwrite (copy with a rounded-up capacity 8), grow within that capacity
(in place: the heap keeps 2 allocations), the handed-off bytes stay -/
example : ((Cow.runRt (fun _ => 8) ⟨[[1, 2, 3, 0]], [⟨0, 3, 4, none⟩], []⟩
      [Cow.Op.handOff 0 0, Cow.Op.writeAt 0 [7] 1, Cow.Op.truncate 0 5]).map
      (fun st => (st.segs, st.shared.map (·.snap), st.heap))) =
    some ([⟨1, 5, 8, none⟩], [[1, 2, 3]], [[1, 2, 3, 0], [1, 7, 3, 0, 0, 0, 0, 0]]) := by decide

theorem C13_cow_init : Cow.Inv ⟨[], [], []⟩ :=
  Cow.Inv.empty

/-- **Linearizability.** For every schedule — any list of atomic steps: foreground operations tagged
with the worker that issues them, async flushes, completions of background writes (any of them, in
any order, at any time, succeeding or failing), saves — run from any state satisfying the invariant
(in particular the empty collection): the results the workers get are the results of the plain
in-memory filesystem executing the foreground operations sequentially in schedule order
(completions and flushes invisible); the final state abstracts to the plain model's final state;
the invariant holds at the end. Since the sequential order IS the schedule order, it respects every
worker's program order (`C13_program_order`). -/
theorem C13_linearizable (hinj : Function.Injective hash) (hmax : 1 ≤ max) (evs : List Ev) (s : St)
    (hinv : Inv13 max hash s) (hdet : ∀ e ∈ evs, e.det = true) :
    OutsRef (run13 hash max s evs).2 (runSpec (absFS s.fs) evs).2 ∧
    absFS (run13 hash max s evs).1.fs = (runSpec (absFS s.fs) evs).1 ∧
    Inv13 max hash (run13 hash max s evs).1 :=
  history_refines hinj hmax evs s hinv hdet

/-- the worker that issues an event (completions are issued by no worker) -/
def Ev.worker : Ev → Option Nat
  | Ev.fg w _ => some w
  | Ev.flush w _ _ => some w
  | Ev.save w _ _ => some w
  | Ev.complete _ _ => none

/-- the foreground part of a schedule: what the sequential specification executes -/
def fgPart (evs : List Ev) : List Ev := evs.filter (fun e => e.worker.isSome)

/-- A schedule is an interleaving of the workers' programs iff its projection to each worker is that
worker's program; the sequential history (the foreground part, in schedule order) has the same
projections: every handle's program order is respected. -/
theorem C13_program_order (progs : Nat → List Ev) (evs : List Ev)
    (h : ∀ w, evs.filter (fun e => e.worker == some w) = progs w) :
    ∀ w, (fgPart evs).filter (fun e => e.worker == some w) = progs w := by
  intro w
  rw [← h w]
  unfold fgPart
  rw [List.filter_filter]
  congr 1
  funext e
  cases hw : e.worker <;> simp

/-- the specification ignores completion events -/
theorem runSpec_complete (S : Plain) (g : Nat) (ok : Bool) (rest : List Ev) :
    (runSpec S (Ev.complete g ok :: rest)).1 = (runSpec S rest).1 := rfl

theorem run13_append (s : St) (a b : List Ev) :
    run13 hash max s (a ++ b) =
      ((run13 hash max (run13 hash max s a).1 b).1, (run13 hash max s a).2 ++ (run13 hash max (run13 hash max s a).1 b).2) := by
  induction a generalizing s with
  | nil => rfl
  | cons e rest ih => simp only [List.cons_append, run13, ih]

theorem runSpec_append (S : Plain) (a b : List Ev) :
    runSpec S (a ++ b) = ((runSpec (runSpec S a).1 b).1, (runSpec S a).2 ++ (runSpec (runSpec S a).1 b).2) := by
  induction a generalizing S with
  | nil => rfl
  | cons e rest ih => simp only [List.cons_append, runSpec, ih]

/-- **Saved manifests.** A save issued at any point of any schedule (after any prefix `pre`) either
fails (only when Keep writes were made to fail) or returns, for every file, exactly the content the
plain model holds after the prefix — a content the file actually passed through, consistent across
files. -/
theorem C13_saved_manifest (hinj : Function.Injective hash) (hmax : 1 ≤ max) (pre : List Ev) (s : St)
    (hinv : Inv13 max hash s) (hdet : ∀ e ∈ pre, e.det = true) (w mask : Nat) (fail : Bool) :
    (evStep hash max (run13 hash max s pre).1 (Ev.save w mask fail)).2 =
        Out.snap (snapshot id (runSpec (absFS s.fs) pre).1) ∨
    ((evStep hash max (run13 hash max s pre).1 (Ev.save w mask fail)).2 = Out.failed ∧ fail = true) := by
  obtain ⟨_, h2, h3⟩ := history_refines hinj hmax pre s hinv hdet
  obtain ⟨_, _, h⟩ := save_spec hinj h3 w mask fail
  rw [h2] at h
  exact h

/-- **Lock order.** Operations that obey the hierarchical rule (first lock taken holding nothing;
every further lock is the child of a held lock; exclusive locks) cannot form a wait-for cycle, in
any configuration of any number of operations. -/
theorem C13_lock_order {parent : Lock.Lk → Lock.Lk} {depth : Lock.Lk → Nat} {ops : List Lock.OpState}
    (hok : ∀ o ∈ ops, Lock.OpOK parent depth o) (hex : Lock.Exclusive ops) (i : Nat) : ¬ Lock.Path ops i i :=
  Lock.no_cycle hok hex i

/-- Rename (mutex, ancestors of newdir then of olddir root-first without repetition, moved inode)
and Flush / MarshalManifest (directory, then descendants level by level) take their locks by the
rule, on every inode tree; hence every state they pass through is `OpOK` (`Lock.script_opOK`). -/
theorem C13_lock_scripts {par : Nat → Nat} {dep : Nat → Nat} (ht : Lock.TreeOK par dep) :
    (∀ (fuel od nd moved : Nat), dep od ≤ fuel → dep nd ≤ fuel → moved ≠ 0 → par moved = od →
      moved + 1 ∉ ((Lock.chainUp par fuel od ++ Lock.chainUp par fuel nd).reverse.map (· + 1)).foldl Lock.addNew [0] →
      Lock.ScriptOK (Lock.lparent par) (Lock.ldepth dep) (Lock.renameScript par fuel od nd moved)) ∧
    (∀ (kids : Nat → List Nat), (∀ d c, c ∈ kids d → par c = d ∧ c ≠ 0) → ∀ (fuel d : Nat),
      (Lock.flushScript kids fuel d).Nodup →
      Lock.ScriptOK (Lock.lparent par) (Lock.ldepth dep) (Lock.flushScript kids fuel d)) ∧
    (∀ (script : List Lock.Lk) (s0 : Lock.Lk), script[0]? = some s0 →
      Lock.ScriptOK (Lock.lparent par) (Lock.ldepth dep) script → ∀ k,
      Lock.OpOK (Lock.lparent par) (Lock.ldepth dep) ⟨s0, script.take k, (script[k]?).toList⟩) :=
  ⟨fun fuel od nd moved h1 h2 h3 h4 h5 => (Lock.renameScript_ok ht fuel od nd moved h1 h2 h3 h4 h5).1,
   fun _ hk => Lock.flushScript_ok ht hk, fun _ _ => Lock.script_opOK⟩

/-- **Lock order with reader/writer locks.** With read locks shared, write locks exclusive and a
pending `Lock()` blocking every later `RLock()` (sync.RWMutex), operations that only ever ask for a
lock ranking strictly above every lock they hold — in any mode, so never one they hold — cannot form a
wait-for cycle (no `Exclusive` hypothesis: any number of readers may share a lock). On every inode tree
the single-path operations keep this discipline at every step with rank = depth: filehandle
Read / Seek / Stat (one read lock), Write / Truncate / completion goroutines / waitPrune (one write
lock), OpenFile, Readdir, remove / Mkdir (directory, then one child). The discipline cannot be
dropped: a second read lock on a held mutex is a cycle as soon as a writer is pending — the state
the Seek of seed C13-h reaches. -/
theorem C13_rwlock_order {par : Nat → Nat} {dep : Nat → Nat} (ht : Lock.TreeOK par dep) :
    (∀ (ops : List RW.ROp), (∀ o ∈ ops, RW.Ordered (Lock.ldepth dep) o) → ∀ i, ¬ RW.Path ops i i) ∧
    (∀ n k, RW.Ordered (Lock.ldepth dep) (RW.atStep (RW.readScript n) k) ∧
            RW.Ordered (Lock.ldepth dep) (RW.atStep (RW.seekScript n) k) ∧
            RW.Ordered (Lock.ldepth dep) (RW.atStep (RW.statScript n) k) ∧
            RW.Ordered (Lock.ldepth dep) (RW.atStep (RW.writeScript n) k)) ∧
    (∀ d c, c ≠ 0 → par c = d → ∀ k (create isDir : Bool),
            RW.Ordered (Lock.ldepth dep) (RW.atStep (RW.openScript create d c) k) ∧
            RW.Ordered (Lock.ldepth dep) (RW.atStep (RW.readdirScript d c isDir) k) ∧
            RW.Ordered (Lock.ldepth dep) (RW.atStep (RW.removeScript d c) k)) ∧
    (∀ n, RW.Path [RW.atStep (RW.reentrantSeekScript n) 1, RW.atStep (RW.writeScript n) 0] 0 0 ∧
          ∀ rank : Lock.Lk → Nat, ¬ RW.Ordered rank (RW.atStep (RW.reentrantSeekScript n) 1)) :=
  ⟨fun _ hord i => RW.no_cycle hord i,
   fun _ k => ⟨RW.script_ordered (RW.single_inc _) k, RW.script_ordered (RW.single_inc _) k,
               RW.script_ordered (RW.single_inc _) k, RW.script_ordered (RW.single_inc _) k⟩,
   fun _ _ hc hp k _ _ => ⟨RW.script_ordered (RW.pair_inc ht hc hp _ _) k, RW.script_ordered (RW.pair_inc ht hc hp _ _) k,
                           RW.script_ordered (RW.pair_inc ht hc hp _ _) k⟩,
   fun n => ⟨RW.reentrant_read_cycle (n + 1), fun _ => RW.reentrantSeek_not_ordered n⟩⟩

/-- non-vacuity: three readers sharing a file's lock (a Read, a Seek inside Size, a Stat), a pending
completion goroutine, and a non-creating OpenFile with O_TRUNC holding the directory's read lock
together with a Readdir: every one keeps the discipline (root = inode 0, directory 1, file 2) -/
example : ∀ o ∈ [RW.atStep (RW.readScript 2) 1, RW.atStep (RW.seekScript 2) 1, RW.atStep (RW.statScript 2) 0,
      RW.atStep (RW.writeScript 2) 0, RW.atStep (RW.openScript false 1 2) 1, RW.atStep (RW.readdirScript 1 2 false) 1],
    RW.Ordered (Lock.ldepth (fun n => n)) o := by
  -- each is an instance of `C13_rwlock_order` on the tree "the directory of inode n is n - 1"
  have ht : Lock.TreeOK (fun n => n - 1) (fun n => n) := ⟨rfl, fun n hn => ⟨by omega, by omega⟩⟩
  obtain ⟨_, h1, h2, _⟩ := C13_rwlock_order ht
  have h3 := h2 1 2 (by decide) rfl 1 false false
  simp only [List.forall_mem_cons]
  exact ⟨(h1 2 1).1, (h1 2 1).2.1, (h1 2 0).2.2.1, (h1 2 0).2.2.2, h3.1, h3.2.1, nofun⟩

example : Lock.TreeOK (fun n => n - 1) (fun n => n) :=
  ⟨rfl, fun n hn => ⟨by omega, by omega⟩⟩

/-- `id` is a collision-free locator function; block size 2 -/
example : Function.Injective (id : Bytes → Loc) := fun _ _ h => h

example : Inv13 2 id St.init := init_inv13

/-- a state with one empty file and two read-write handles on it (two workers) -/
def exState : St :=
  { fs := { world := fun _ => none, ents := [((0, "a"), Node.file 0)], dirs := [(".", 0)],
            files := [("a", FileNode.empty)],
            handles := [(0, ⟨Node.file 0, Ptr.zero, false, true, true⟩), (1, ⟨Node.file 0, Ptr.zero, false, true, true⟩)] },
    toks := [], groups := [] }

theorem exState_inv : Inv13 2 id exState := by
  refine ⟨⟨nofun, ?_, ?_, ?_⟩, ?_⟩
  · intro nf hnf
    cases List.mem_singleton.mp hnf
    exact ⟨⟨rfl, nofun⟩, by decide⟩
  · intro e he f hf
    have he2 : e.2 = ⟨Node.file 0, Ptr.zero, false, true, true⟩ := by
      simp only [exState, List.mem_cons, List.not_mem_nil, or_false] at he
      rcases he with rfl | rfl <;> rfl
    rw [he2] at hf ⊢
    cases hf
    exact ⟨("a", FileNode.empty), rfl, by decide, fun _ => Or.inl (by decide)⟩
  · intro e he f hf
    cases List.mem_singleton.mp he
    cases hf
    decide
  · intro nf hnf sg hsg
    cases List.mem_singleton.mp hnf
    cases hsg

/-- A schedule with two workers: worker 0 writes 4 bytes with block size 2 (two background writes
start), worker 1 overwrites the first block through its own handle (copy-on-write: the segment loses
its token and is flushed again under a new one), then the first background write completes
successfully (stale: it must not replace), then the second one (replaces). -/
def exSched : List Ev :=
  [Ev.fg 0 (Op.write 0 [1, 2, 3, 4]), Ev.fg 1 (Op.write 1 [9, 9]), Ev.complete 0 true, Ev.complete 1 true,
   Ev.fg 0 (Op.seek 0 0 0), Ev.fg 0 (Op.readn 0 4)]

example : ∀ e ∈ exSched, e.det = true := by decide

/-- segment kinds of file 0 (true = mem) -/
def memShape (s : St) : List Bool :=
  match s.fs.files[0]? with
  | some nf => nf.2.segs.map Seg.isMem
  | none => []

example : memShape (run13 id 2 exState (exSched.take 2)).1 = [true, true] := by decide
example : ((run13 id 2 exState (exSched.take 2)).1.groups.map (·.isOpen)) = [true, true, true] := by decide
/-- the stale completion of group 0 leaves the overwritten segment alone -/
example : memShape (run13 id 2 exState (exSched.take 3)).1 = [true, true] := by decide
/-- the completion of group 1 replaces the second segment -/
example : memShape (run13 id 2 exState (exSched.take 4)).1 = [true, false] := by decide

/-- the theorems apply to it: the invariant holds at the end, and the reader sees the overwrite -/
example : Inv13 2 id (run13 id 2 exState exSched).1 :=
  (C13_linearizable (fun _ _ h => h) (by decide) exSched exState exState_inv (by decide)).2.2

/-- a non-trivial copy-on-write run: write, hand off, overwrite (new allocation), truncate -/
def exCow : List Cow.Op :=
  [Cow.Op.handOff 0 7, Cow.Op.writeAt 0 [9] 1, Cow.Op.truncate 0 1, Cow.Op.handOff 0 8, Cow.Op.truncate 0 3]

def exCowState : Cow.State := ⟨[[1, 2, 3, 0]], [⟨0, 3, 4, none⟩], []⟩

example : Cow.Inv exCowState := Cow.Inv.single ..

example : ((Cow.run exCowState exCow).map (fun st => (st.shared.map (·.snap), st.heap.length))) =
    some ([[1], [1, 2, 3]], 3) := by decide

/-- a configuration obeying the locking rule: a Rename holding mutex, root and directory 1, blocked
on directory 2 held by a Flush of directory 2 that is blocked on its child 3 held by a writer -/
example : ∀ o ∈ [(⟨0, [0, 1, 2], [3]⟩ : Lock.OpState), ⟨3, [3], [4]⟩, ⟨4, [4], []⟩],
    Lock.OpOK (fun l => if l = 0 then 0 else if l = 4 then 3 else if l = 3 then 1 else l - 1)
      (fun l => if l = 4 then 3 else if l = 3 then 2 else l) o := by
  intro o ho
  simp only [List.mem_cons, List.not_mem_nil, or_false] at ho
  rcases ho with h | h | h <;> subst h <;> constructor <;> decide

end ArvVerif.C13
