/-
C02 — keepstore PUT is all-or-nothing and survives process death once acknowledged.

Property theorems about the model in Model/C02.lean (a Directory volume as a finite map
path → (bytes, mtime); operations as ordered lists of filesystem micro-steps; a crash = truncation
of the list at any prefix). `hash` is an arbitrary function; no theorem needs collision-freeness.
"Process death" = loss of all state except the map as of the last completed system call; power
loss / missing fsync, NFS semantics and the atomicity of rename(2) are trusted, not modelled.
-/
import ArvVerif.Proofs.C02_Reach
import ArvVerif.Proofs.C02_Pipe
import ArvVerif.Proofs.C02_Conc
namespace ArvVerif.C02

/-- A temp file name `tmp<hash><suffix>` is never a block name (`blockFileRe`: not listed by
`IndexTo`, not reachable by GET, whose route only accepts 32 hex digits), never matches
`EmptyTrash`'s trash regexp, and is never picked up by `Untrash`; so it never shows up in the index
of any volume state. No hypothesis on `h` or the suffix. -/
theorem C02_tmp_never_visible (h sfx : Name) :
    isBlockName (tmpName h sfx) = false ∧ isTrashName (tmpName h sfx) = false ∧
    isTrashLike (tmpName h sfx) = false ∧ owner (tmpName h sfx) = none ∧
    ∀ (fs : FS) (line : Name × Nat × Nat), line ∈ index fs → line.1 ≠ tmpName h sfx := by
  refine ⟨tmp_not_blockName h sfx, tmp_not_trashName h sfx, tmp_not_trashLike h sfx, owner_tmp h sfx, ?_⟩
  intro fs line hl heq
  simp only [index, List.mem_map, List.mem_filter, Bool.and_eq_true] at hl
  obtain ⟨e, ⟨_, _, hb⟩, rfl⟩ := hl
  simp only at heq
  rw [heq, tmp_not_blockName] at hb
  cases hb

/-- Crash atomicity of `WriteBlock`: for every initial volume state, every body, every chunking
of what the reader handed over, every reader outcome, every choice of first failing system call
and **every prefix** `k` of the resulting step list, the block path holds either exactly what it
held before or the complete body (with the new timestamp) — and the complete body only if the
reader reached EOF and no call failed. -/
theorem C02_crash_atomic (fs : FS) (body : Bytes) (w : WBIn) (hv : WBValid body w.chunks w.rend) (k : Nat) :
    (run fs ((writeBlockEvs w).1.take k)).get (blockPath w.h) = fs.get (blockPath w.h) ∨
    ((run fs ((writeBlockEvs w).1.take k)).get (blockPath w.h) = some ⟨body, w.now⟩ ∧
      w.rend = .eof ∧ w.fail = .none ∧ (writeBlockEvs w).1.length ≤ k) := by
  rcases wb_crash_atomic fs w k with h | ⟨h1, h2, h3, _, h5⟩
  · exact Or.inl h
  · exact Or.inr ⟨by rw [h1, hv.2 h2], h2, h3, h5⟩

/-- The same on the level of the request (`handlePUT` → `PutBlock` → CompareAndTouch / any number
of `WriteBlock` attempts), for every prefix of everything the request does to the volume: the bytes
at the block path are the old bytes or the complete request body. -/
theorem C02_put_crash_atomic (hash : Bytes → Name) (fs : FS) (p : PutIn)
    (hv : (Op.put p).valid hash) (k : Nat) :
    (run fs ((handlePut hash fs p).1.take k)).data (blockPath p.h) = fs.data (blockPath p.h) ∨
    (run fs ((handlePut hash fs p).1.take k)).data (blockPath p.h) = some p.body :=
  (put_crash_atomic hash fs p hv k).imp_right And.left

/-- `handlePUT` answers 200 only after `PutBlock` returned nil, i.e. after the whole step list ran
(Touch of an identical copy, or a `WriteBlock` whose rename was performed). Hence after an
acknowledgement, a crash at any later instant (`k ≥` the number of steps) leaves a volume on which a
fresh process's `GetBlock` returns the complete body. -/
theorem C02_ack_implies_renamed (hash : Bytes → Name) (fs : FS) (p : PutIn)
    (hv : (Op.put p).valid hash) (hack : (handlePut hash fs p).2 = .ok200)
    (k : Nat) (hk : (handlePut hash fs p).1.length ≤ k) :
    getBlock hash (run fs ((handlePut hash fs p).1.take k)) p.h = .ok p.body := by
  obtain ⟨hh, hd⟩ := (handlePut_spec hash fs p).2 hv hack
  rw [List.take_of_length_le hk]
  exact getBlock_of_data hd hh

/-- A stored intact block survives any later PUT of the same hash, however that PUT ends: killed
after any number of micro-steps, cancelled during `Compare` (`compareCancelled`), during the write
(`cancelled`, reader outcome `err`) or not at all — the fresh process's `GetBlock` still succeeds. -/
theorem C02_stored_block_survives_put (hash : Bytes → Name) (fs : FS) (p : PutIn)
    (hv : (Op.put p).valid hash) (k : Nat) (b : Bytes) (hb : getBlock hash fs p.h = .ok b) :
    ∃ b', getBlock hash (run fs ((handlePut hash fs p).1.take k)) p.h = .ok b' := by
  rcases put_getBlock hash fs p hv k with h | h
  · exact ⟨b, h.trans hb⟩
  · exact ⟨p.body, h⟩

/-- Two `WriteBlock` runs for the same hash at the same time (a client retry, two clients uploading
the same data), with **distinct temp names** (what `ioutil.TempFile`'s O_EXCL + random suffix
provides; tied by `tie_tempFileText`): for every interleaving of their step lists and a crash at
any moment (`sched` of any length), the block path holds its old content or the complete data of
a run that returned nil — an abandoned writer has no effect on what the other one publishes. -/
theorem C02_concurrent_writes_atomic (fs : FS) (wA wB : WBIn) (hh : wB.h = wA.h) (hs : wA.sfx ≠ wB.sfx)
    (sched : List Bool) :
    (run fs (interleave sched (writeBlockEvs wA).1 (writeBlockEvs wB).1)).get (blockPath wA.h) = fs.get (blockPath wA.h) ∨
    ((writeBlockEvs wA).2 = true ∧
      (run fs (interleave sched (writeBlockEvs wA).1 (writeBlockEvs wB).1)).get (blockPath wA.h) = some ⟨wA.chunks.flatten, wA.now⟩) ∨
    ((writeBlockEvs wB).2 = true ∧
      (run fs (interleave sched (writeBlockEvs wA).1 (writeBlockEvs wB).1)).get (blockPath wA.h) = some ⟨wB.chunks.flatten, wB.now⟩) := by
  have hB := wb_rem fs wB
  rw [hh] at hB
  exact conc_atomic (tmpPath_inj hs) (tmpPath_ne_blockPath _ _) (tmpPath_ne_blockPath _ _) sched fs _ _ _ _
    (wb_rem fs wA) hB

/-- Invariant over all histories of PUT / WriteBlock / Touch / Trash / Untrash / EmptyTrash
micro-steps and environment steps **with a crash possible after every micro-step**: if every visible
block (and every trashed copy that `Untrash` could bring back) of the initial state is intact, the
same holds in every reachable state; and every line of the index names a file whose bytes hash to
the listed name and whose length is the listed size — the very file a GET for that name in that
directory opens. -/
theorem C02_index_complete_blocks (hash : Bytes → Name) (fs0 fs : FS)
    (hi : Intact hash fs0) (hw : WF fs0) (hr : Reach hash fs0 fs) :
    Intact hash fs ∧
    ∀ line ∈ index fs, ∃ (p : Path) (f : File), fs.get p = some f ∧ isBlockDir p.dir = true ∧
      isBlockName p.name = true ∧ line = (p.name, f.data.length, f.mtime) ∧ hash f.data = p.name := by
  have hi' := intact_reach hash hi hr
  have hw' := wf_reach hash hw hr
  refine ⟨hi', ?_⟩
  intro line hl
  simp only [index, List.mem_map, List.mem_filter, Bool.and_eq_true] at hl
  obtain ⟨⟨p, f⟩, ⟨hm, hd, hb⟩, rfl⟩ := hl
  exact ⟨p, f, get_of_mem hw' hm, hd, hb, rfl, hi' _ hm p.name (owner_block hb)⟩

/-- putWithPipe's contract: in every reachable state of every interleaving of the copy goroutine,
the writer, the context and the closing goroutine, a writer that sees EOF has received the whole
body and putWithPipe's first `select` ended without error; so if the first `select` ended with an
error (in particular: the context ended first), or the context ends while bytes are still
undelivered, the writer's reader ends with an error, never with EOF. What the writer received is
always a prefix of the body (`WBValid`). -/
theorem C02_cancel_is_error (body : Bytes) (s : Pipe) (hr : PReach body s) :
    (s.writer = .sawEOF → s.got.flatten = body ∧ s.mainErr = some false) ∧
    (s.mainErr = some true → s.writer ≠ .sawEOF) ∧
    (s.got.flatten ≠ body → s.writer ≠ .sawEOF) ∧
    (s.writer = .sawEOF → WBValid body s.got .eof) ∧
    (s.writer = .sawErr → WBValid body s.got .err ∧ s.mainErr = some true) := by
  obtain ⟨hi, hb⟩ := pinv_reach hr
  have heof : s.writer = .sawEOF → s.got.flatten = body ∧ s.mainErr = some false := by
    intro hw
    have hm := hi.closed _ (hi.eof hw)
    refine ⟨?_, hm⟩
    rcases hi.main hm with h | h
    · rw [h, hb]
    · rw [hw] at h; cases h
  refine ⟨heof, ?_, ?_, ?_, ?_⟩
  · intro hm hw
    rw [(heof hw).2] at hm; cases hm
  · intro hne hw
    exact hne (heof hw).1
  · intro hw
    exact ⟨hb ▸ hi.pre, fun _ => (heof hw).1⟩
  · intro hw
    exact ⟨⟨hb ▸ hi.pre, fun h => by cases h⟩, hi.closed _ (hi.err hw)⟩

/-! ### Non-vacuity -/

section Examples

/-- a toy digest: 32 copies of the hex digit of the length mod 16 -/
def toyHash (b : Bytes) : Name := List.replicate 32 (hexDigit (b.length % 16))

def exBody : Bytes := [1, 2, 3]
def exH : Name := toyHash exBody
def exW : WBIn := ⟨exH, ['4', '2'], [[1], [2, 3]], .eof, .none, 7, true⟩
def exCorrupt : FS := FS.empty.set (blockPath exH) ⟨[9, 9], 0⟩

-- a real block name is visible, the matching temp name is not
example : isBlockName exH = true ∧ isBlockName (tmpName exH ['4', '2']) = false := by decide +kernel

-- hypotheses of C02_crash_atomic hold for a two-chunk body; killed before the rename the corrupt
-- old copy is still there (and the temp file holds the whole body), after it the body is
example : WBValid exBody exW.chunks exW.rend := ⟨by decide +kernel, fun _ => by decide +kernel⟩
example : (run exCorrupt ((writeBlockEvs exW).1.take 10)).get (blockPath exH) = some ⟨[9, 9], 0⟩ ∧
    (run exCorrupt ((writeBlockEvs exW).1.take 10)).get (tmpPath exH ['4', '2']) = some ⟨exBody, 7⟩ := by decide +kernel
example : (run exCorrupt ((writeBlockEvs exW).1.take 11)).get (blockPath exH) = some ⟨exBody, 7⟩ := by decide +kernel
-- a reader error after the first chunk: every prefix keeps the old copy, the temp file is removed
example : (run exCorrupt (writeBlockEvs { exW with chunks := [[1]], rend := .err }).1).files
    = [(blockPath exH, ⟨[9, 9], 0⟩)] := by decide +kernel

-- C02_concurrent_writes_atomic: B starts while A is mid-copy, A finishes, B is abandoned: A's data
-- is published. The hypothesis `sfx ≠` is needed: with one shared temp name (createTemp truncates)
-- the same schedule publishes a block that lacks A's first chunk.
def exWB : WBIn := { exW with sfx := ['4', '3'], chunks := [], rend := .err }
def exSched : List Bool := [true, true, true, true, false, false, false, true, true, true, true, true, true, true]
example : (run FS.empty (interleave exSched (writeBlockEvs exW).1 (writeBlockEvs exWB).1)).get (blockPath exH)
    = some ⟨exBody, 7⟩ := by decide +kernel
example : (run FS.empty (interleave exSched (writeBlockEvs exW).1
    (writeBlockEvs { exWB with sfx := exW.sfx }).1)).get (blockPath exH) = some ⟨[2, 3], 7⟩ := by decide +kernel

def exPut : PutIn := ⟨exH, exBody, 7, none, [exW], false, false, false⟩

-- hypotheses of C02_ack_implies_renamed / C02_put_crash_atomic: an acknowledged PUT over a corrupt copy
example : (Op.put exPut).valid toyHash := by unfold Op.valid; decide +kernel
example : (handlePut toyHash exCorrupt exPut).2 = .ok200 := by decide +kernel
example : getBlock toyHash (run exCorrupt (handlePut toyHash exCorrupt exPut).1) exH = .ok exBody := by decide +kernel
-- C02_stored_block_survives_put: a stored block and a second PUT whose context ends during Compare
example : ∃ b, getBlock toyHash (run exCorrupt (handlePut toyHash exCorrupt exPut).1) exH = .ok b := ⟨exBody, by decide +kernel⟩
example : (handlePut toyHash (run exCorrupt (handlePut toyHash exCorrupt exPut).1) { exPut with compareCancelled := true }).2
      = .disconnect ∧
    (handlePut toyHash (run exCorrupt (handlePut toyHash exCorrupt exPut).1) { exPut with compareCancelled := true }).1.length
      = 3 := by decide +kernel
-- a full volume: nothing happens beyond Compare and the answer is 503, never 200
example : (handlePut toyHash FS.empty { exPut with volumeFull := true }).2 = .full ∧
    (handlePut toyHash FS.empty { exPut with volumeFull := true }).1.length = 1 := by decide +kernel
-- a cancelled request is not acknowledged although the block gets published
example : (handlePut toyHash exCorrupt { exPut with cancelled := true }).2 = .disconnect := by decide +kernel

-- hypotheses of C02_index_complete_blocks: the empty volume is intact and well-formed, and a
-- reachable state with a non-empty index exists (PUT, then a Trash that is killed before its rename)
example : Intact toyHash FS.empty ∧ WF FS.empty := ⟨fun e he => by simp [FS.empty] at he, wf_empty⟩
example : ∃ fs, Reach toyHash FS.empty fs ∧ index fs = [(exH, 3, 7)] :=
  ⟨_, .step (.trash ⟨100, 10, 50⟩ exH) 4
        (.step (.put exPut) 100 .init (by unfold Op.valid; decide +kernel))
        trivial,
    by decide +kernel⟩

-- C02_cancel_is_error: a reachable state in which the context ended after one of three bytes was
-- delivered and the writer has seen an error …
example : ∃ s, PReach exBody s ∧ s.ctxDone = true ∧ s.got = [[1]] ∧ s.writer = .sawErr :=
  ⟨_, .step (.step (.step (.step (.step .init
        (.read _ [1] rfl rfl (by decide) (by decide)))
        (.cancel _)) (.selectCtx _ rfl rfl)) (.close _ true rfl rfl)) (.seeErr _ rfl rfl),
    rfl, rfl, rfl⟩
-- … and one in which the writer has seen EOF (after the whole body)
example : ∃ s, PReach exBody s ∧ s.writer = .sawEOF ∧ s.got.flatten = exBody :=
  ⟨_, .step (.step (.step (.step (.step .init
        (.read _ exBody rfl rfl (by decide) (by decide)))
        (.copyFinish _ rfl (by decide))) (.selectCopy _ rfl rfl)) (.close _ false rfl rfl)) (.seeEOF _ rfl rfl),
    rfl, by decide⟩

end Examples

end ArvVerif.C02
