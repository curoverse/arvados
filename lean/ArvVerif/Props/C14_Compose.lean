/-
C14: theorems that link the layers.

* L1 on a `Running()` snapshot with exit times (`RunSnap`): a pass never starts or locks a
  container that is a key of the snapshot, whatever its time value — in particular not one whose
  crunch-run has exited so recently that the pool still keeps the "exited at T" placeholder.
* L1 ∘ L2: a pass fed with the real pool's `Running()` (`Pool.snapshot`) starts a container only
  if no worker tracks it (starting/running) and the pool has no exit placeholder for it.
* L2 on reachable pools: `C14_start_needs_idle_run` without the well-formedness hypothesis.
* The outcome of the start command plays no part: after `startContainer` and its completion
  closure the container is in `running` of a Running worker.
-/
import ArvVerif.Props.C14
import ArvVerif.Props.C14_L2
import ArvVerif.Proofs.C14_WF
namespace ArvVerif.C14

theorem snapKeys_false {snap : RunSnap} {u : Uuid} (h : snapKeys snap u = false) : ∀ x, (u, x) ∉ snap := by
  unfold snapKeys at h
  grind

/-- **A container with an exit placeholder is not started.** Whatever time value `Running()`
reports for a container — zero (live) or the time its crunch-run exited — a pass makes no
`StartContainer` call for it. (The placeholder is what keeps a container that has just run from
being started again before its final state has reached the queue cache.) -/
theorem C14_no_start_for_exited (entries sorted : List Ent) (hord : IsPriorityOrder entries sorted)
    (snap : RunSnap) (un : Unalloc) (script : List Bool) (t : IType) (u : Uuid) (a : Bool)
    (h : Call.start t u a ∈ runQueue sorted (snapKeys snap) un script) :
    ∀ x, (u, x) ∉ snap := by
  obtain ⟨⟨e, _, _, _, _, _, hr⟩, _⟩ := C14_start_only_locked entries sorted hord _ un script t u a h
  exact snapKeys_false hr

/-- … and no `go lockContainer` either. -/
theorem C14_no_lock_for_exited (entries sorted : List Ent) (hord : IsPriorityOrder entries sorted)
    (snap : RunSnap) (un : Unalloc) (script : List Bool) (u : Uuid)
    (h : Call.goLock u ∈ runQueue sorted (snapKeys snap) un script) :
    ∀ x, (u, x) ∉ snap := by
  obtain ⟨⟨e, _, _, _, _, hr⟩, _⟩ := C14_lock_only_queued entries sorted hord _ un script u h
  exact snapKeys_false hr

/-- non-vacuity: with the placeholder nothing is started, without it the container is -/
example : runQueue [⟨7, .locked, 5, 1⟩] (snapKeys [(7, some 3)]) [(1, 1)] [false, true] = [] := by decide
example : Call.start 1 7 true ∈ runQueue [⟨7, .locked, 5, 1⟩] (snapKeys [(8, some 3)]) [(1, 1)] [false, true] := by
  decide

theorem snapKeys_snapshot (p : Pool) (u : Uuid) : snapKeys p.snapshot u = true ↔ u ∈ p.runningKeys := by
  have := (C14_running_view p u).2.1
  unfold snapKeys Pool.snapshot
  simp only [List.any_eq_true, List.mem_filterMap, Option.map_eq_some_iff, beq_iff_eq, Prod.exists]
  cases hv : p.runningView u <;> grind

/-- **L1 ∘ L2.** A pass that reads the pool's own `Running()` makes a `StartContainer(t, u)` call
only if, in that pool, no worker has `u` in `starting` or `running` and there is no exit
placeholder for `u` — and `u` is Locked with priority ≥ 1 in the queue snapshot. -/
theorem C14_pass_on_pool_snapshot (p : Pool) (entries sorted : List Ent) (hord : IsPriorityOrder entries sorted)
    (un : Unalloc) (script : List Bool) (t : IType) (u : Uuid) (a : Bool)
    (h : Call.start t u a ∈ runQueue sorted (snapKeys p.snapshot) un script) :
    (∀ w ∈ p.workers, u ∉ w.starting ∧ u ∉ w.running) ∧ (∀ x, (u, x) ∉ p.exited) ∧
    (∃ e ∈ entries, e.uuid = u ∧ e.itype = t ∧ e.state = .locked ∧ 1 ≤ e.prio) := by
  obtain ⟨⟨e, he, h1, h2, h3, h4, hr⟩, _⟩ := C14_start_only_locked entries sorted hord _ un script t u a h
  have := snapKeys_snapshot p u
  have := C14_running_view p u
  grind

example : Call.start 1 7 true ∈ runQueue [⟨7, .locked, 5, 1⟩]
    (snapKeys (Pool.snapshot ⟨[⟨1, 1, .idle, .run, [], [], 0, 0, 0⟩], [(8, 4)]⟩)) [(1, 1)] [false, true] := by decide

/-- **Start needs an idle worker in run mode — on every reachable pool.** The pools reachable from
the empty pool by any sequence of pool operations have distinct worker ids (`Pool.WF_of_reachable`),
so `C14_start_needs_idle_run` holds for them without a well-formedness hypothesis. -/
theorem C14_start_needs_idle_run_reachable (p p' : Pool) (hr : p.Reachable) (it : IType) (u : Uuid) (wid : Nat)
    (h : p.startContainer it u wid = some p') :
    ∃ w ∈ p.workers, w.id = wid ∧ w.itype = it ∧ w.state = .idle ∧ w.idleB = .run ∧
      (∀ x ∈ p.workers, x.busy ≤ w.busy ∨ ¬(x.itype = it ∧ x.state = .idle ∧ x.idleB = .run)) ∧
      p' = p.put (w.accept u) ∧ (w.accept u).state = .running ∧ u ∈ (w.accept u).starting :=
  C14_start_needs_idle_run p p' (Pool.WF_of_reachable hr) it u wid h

/-- Every pool operation keeps the worker ids distinct; every reachable pool is well-formed. -/
theorem C14_pool_ops_preserve_wf (p : Pool) (h : p.WF) (op : PoolOp) : (p.apply op).WF := Pool.WF_apply h op

theorem C14_reachable_pool_wf (p : Pool) (h : p.Reachable) : p.WF := Pool.WF_of_reachable h

/-- non-vacuity: a reachable pool with two workers, one of which accepts a container -/
example : Pool.Reachable
    (((Pool.empty.apply (.sync 0 [⟨1, 1, none, false⟩, ⟨2, 1, none, true⟩] (fun _ => false) 5)).apply
      (.probeApply 1 ⟨5, true, true, false, [], false, false⟩ 6)).apply (.start 1 7 1)) :=
  .step _ (.step _ (.step _ .init))
example : ((((Pool.empty.apply (.sync 0 [⟨1, 1, none, false⟩, ⟨2, 1, none, true⟩] (fun _ => false) 5)).apply
      (.probeApply 1 ⟨5, true, true, false, [], false, false⟩ 6)).apply (.start 1 7 1)).workers.map
        (fun w => (w.id, w.state, w.starting))) = [(1, .running, [7]), (2, .booting, [])] := by decide

/-- **The start command's outcome plays no part.** `remoteRunner.Start()` returns nothing, so the
completion closure is the same whether `crunch-run --detach` reported success or an error: the
container is then in `running` of a worker in state Running — it stays a key of `Running()` and
`KillContainer` finds it — until a probe that began after this moment, or a successful kill,
says the process is gone (`C14_fresh_probe_applied`, `C14_stale_probe_ignored`). -/
theorem C14_start_outcome_not_consulted (w : Worker) (u : Uuid) (now : Nat) :
    u ∈ ((w.accept u).startDone u now).running ∧ ((w.accept u).startDone u now).state = .running ∧
    ((w.accept u).startDone u now).updated = now := by
  simp [Worker.startDone_running, Worker.startDone_updated]

end ArvVerif.C14
