/-
C18 — non-vacuity: concrete, non-trivial instances satisfying the hypotheses of the theorems in
Props/C18.lean (kept in a file of its own so that both files check quickly). No `theorem` here.

Every evaluation first rewrites `"…".toList` to the list of characters (`String.toList_ofList`; a
literal is by definition `String.ofList` of its characters): evaluating `toList` of a literal makes
the kernel decode UTF-8 bytes, which costs far more than everything else in these examples.
-/
import ArvVerif.Props.C18
namespace ArvVerif.C18

section examples

def exGood : Str :=
  ". 0123456789abcdef0123456789abcdef+3+Kzzz+A0123456789abcdef0123456789abcdef01234567@5e000000 0:3:f\n".toList
def exBad : Str := ". 0123456789abcdef0123456789abcdef+4 0:3:f\n".toList
def exReq : Str := pdh toyMd5 ". 0123456789abcdef0123456789abcdef+3 0:3:f\n".toList

def exScript : Script :=
  { clusterID := "aaaaa".toList, req := exReq, fwd := [], loc := .err 404,
    remotes := [("bbbbb".toList, .coll ⟨"u1".toList, exBad⟩), ("ccccc".toList, .coll ⟨"u2".toList, exGood⟩),
                ("ddddd".toList, .hang)],
    order := [("bbbbb".toList, .coll ⟨"u1".toList, exBad⟩), ("ccccc".toList, .coll ⟨"u2".toList, exGood⟩)] }

/-- a mismatching answer first, an honest one second, a third remote hanging: the honest one is
returned with its signature rewritten (hypotheses of C18_only_valid_returned,
C18_mismatch_first_never_wins, C18_honest_remote_succeeds, C18_returned_hashes_to_requested) -/
example : collectionGet toyMd5 exScript = .ok ⟨"u2".toList,
    ". 0123456789abcdef0123456789abcdef+3+Kzzz+Rccccc-0123456789abcdef0123456789abcdef01234567@5e000000 0:3:f\n".toList⟩ := by
  unfold exScript exReq exBad exGood
  repeat rw [String.toList_ofList]
  decide +kernel
example : exScript.req.length ≠ 27 := by
  unfold exScript exReq
  repeat rw [String.toList_ofList]
  decide +kernel
example : pdhOK toyMd5 exReq exBad = false ∧ pdhOK toyMd5 exReq exGood = true := by
  unfold exReq exBad exGood
  repeat rw [String.toList_ofList]
  decide +kernel
set_option linter.defProp false in
def exGood_tail_eq : (splitOn ' ' exGood).tail =
    ["0123456789abcdef0123456789abcdef+3+Kzzz+A0123456789abcdef0123456789abcdef01234567@5e000000".toList,
      "0:3:f\n".toList] := by decide
example : SizedLocs exGood := by
  unfold SizedLocs exGood
  repeat rw [String.toList_ofList]
  decide +kernel
/-- a request with trailing hints is accepted as well -/
example : pdhOK toyMd5 (exReq ++ "+Afoo@bar".toList) exGood = true := by
  unfold exReq exGood
  repeat rw [String.toList_ofList]
  decide +kernel

/-- every remote mismatches / errs / hangs (hypothesis of C18_mismatch_is_error): 502; all 404: 404 -/
example : collectionGet toyMd5 { exScript with order := [("bbbbb".toList, .coll ⟨"u1".toList, exBad⟩)] } = .error 502 := by
  unfold exScript exReq exBad exGood
  repeat rw [String.toList_ofList]
  decide +kernel
example : collectionGet toyMd5 { exScript with remotes := [("bbbbb".toList, .err 404)], order := [("bbbbb".toList, .err 404)] }
    = .error 404 := by
  unfold exScript exReq exBad exGood
  repeat rw [String.toList_ofList]
  decide +kernel

/-- two honest remotes answering together, each with its own signature: exactly two results are
possible, each remote's manifest labelled with that remote's own id (hypotheses of
C18_any_order_only_valid / C18_any_order_honest_succeeds) -/
def exGood2 : Str :=
  ". 0123456789abcdef0123456789abcdef+3+Afedcba9876543210fedcba9876543210fedcba98@5e000000 0:3:f\n".toList
def exRace : Script :=
  { exScript with
    remotes := [("bbbbb".toList, .coll ⟨"u1".toList, exGood2⟩), ("ccccc".toList, .coll ⟨"u2".toList, exGood⟩)],
    order := [("bbbbb".toList, .coll ⟨"u1".toList, exGood2⟩), ("ccccc".toList, .coll ⟨"u2".toList, exGood⟩)] }
example : collectionGetAnyOrder toyMd5 exRace =
    [.ok ⟨"u1".toList, ". 0123456789abcdef0123456789abcdef+3+Rbbbbb-fedcba9876543210fedcba9876543210fedcba98@5e000000 0:3:f\n".toList⟩,
     .ok ⟨"u2".toList, ". 0123456789abcdef0123456789abcdef+3+Kzzz+Rccccc-0123456789abcdef0123456789abcdef01234567@5e000000 0:3:f\n".toList⟩] := by
  unfold exRace exScript exReq exBad exGood exGood2
  repeat rw [String.toList_ofList]
  decide +kernel

/-- a digest with fixed length and no collision at one given text (hypotheses of
C18_accepted_equals_genuine_modulo_hints and C18_legacy_mismatch_is_error) -/
def pointMd5 (g x : Str) : Str := if x = g then List.replicate 32 'a' else List.replicate 32 'b'
example (g : Str) : (∀ x, (pointMd5 g x).length = 32) ∧ (∀ x, pointMd5 g x = pointMd5 g g → x = g) := by
  constructor
  · intro x; unfold pointMd5; split <;> simp
  · intro x h
    unfold pointMd5 at h
    by_cases hx : x = g
    · exact hx
    · rw [if_neg hx, if_pos rfl] at h
      exact absurd h (by decide)

/-- by-UUID: unknown prefix ⇒ served by the local backend and still rewritten with that prefix -/
def exUUIDScript : Script :=
  { exScript with
    req := "xxxxx-4zz18-000000000000000".toList
    loc := .coll ⟨"u0".toList, ". 0123456789abcdef0123456789abcdef+3+Afoo 0:3:f\n".toList⟩ }
example : collectionGet toyMd5 exUUIDScript
    = .ok ⟨"u0".toList, ". 0123456789abcdef0123456789abcdef+3+Rxxxxx-foo 0:3:f\n".toList⟩ := by
  unfold exUUIDScript exScript exReq exBad exGood
  repeat rw [String.toList_ofList]
  decide +kernel

/-- a valid manifest: no block token contains a newline; hypothesis of C18_pdh_is_spec_partial -/
example : ∀ t ∈ (splitOn ' ' exGood).tail, locPrefix t = true → '\n' ∉ t := by
  unfold exGood
  repeat rw [String.toList_ofList]
  decide +kernel
example : ∀ t ∈ (splitOn ' ' exGood).tail, ∀ n, sizedLen t = some n → wfHints (t.drop n) = true := by
  have h : ∀ t ∈ (splitOn ' ' exGood).tail, stripTok t = specStripTok t := by
    unfold exGood
    repeat rw [String.toList_ofList]
    decide +kernel
  exact fun t ht => (stripTok_eq_specStripTok_iff t).mp (h t ht)

/-- legacy: a normal, signed record is accepted and its signature rewritten (hypotheses of
C18_legacy_checks_hash, C18_legacy_bytes_partial); SignedLocatorRe accepts the token -/
def exLegacyHashed : Str := ". 0123456789abcdef0123456789abcdef+3 0:3:f\n".toList
example : rewriteSignatures toyMd5 "zzzzz".toList (toyMd5 exLegacyHashed ++ "+43".toList) exGood
      (toyMd5 exLegacyHashed ++ "+43".toList)
    = .ok ". 0123456789abcdef0123456789abcdef+3+Kzzz+Rzzzzz-0123456789abcdef0123456789abcdef01234567@5e000000 0:3:f\n".toList := by
  unfold exLegacyHashed exGood
  repeat rw [String.toList_ofList]
  decide +kernel
example : LegacyNormal exGood := by
  unfold LegacyNormal exGood
  repeat rw [String.toList_ofList]
  decide +kernel
set_option maxRecDepth 8192 in
example : (parseSigned "0123456789abcdef0123456789abcdef+3+Kzzz+A0123456789abcdef0123456789abcdef01234567@5e000000".toList).isSome
    ∧ parseSigned "0123456789abcdef0123456789abcdef+3+Kzzz".toList = none := by
  repeat rw [String.toList_ofList]
  decide +kernel
-- an unsigned locator with a hint is hashed verbatim by the legacy path: the honest record is refused
set_option maxRecDepth 8192 in
example : rewriteSignatures toyMd5 "zzzzz".toList (toyMd5 exLegacyHashed ++ "+43".toList)
      ". 0123456789abcdef0123456789abcdef+3+Kzzz 0:3:f\n".toList (toyMd5 exLegacyHashed ++ "+43".toList)
    = .error .hash := by
  unfold exLegacyHashed
  repeat rw [String.toList_ofList]
  decide +kernel
/-- legacy fan-out: first a 404, then an accepted record -/
example : legacyFanOut toyMd5 (toyMd5 exLegacyHashed ++ "+43".toList)
      [("bbbbb".toList, .status 404), ("zzzzz".toList, .record exGood (toyMd5 exLegacyHashed ++ "+43".toList))]
    = .ok ". 0123456789abcdef0123456789abcdef+3+Kzzz+Rzzzzz-0123456789abcdef0123456789abcdef01234567@5e000000 0:3:f\n".toList := by
  unfold exLegacyHashed exGood
  repeat rw [String.toList_ofList]
  decide +kernel

/-- legacy by-UUID delegate: a GET of another cluster's UUID relays that cluster's self-consistent
record with `+A` → `+R<prefix>-` (hypothesis of C18_legacy_by_uuid_checked); the own cluster's UUID
and a POST are declined -/
example : legacyFetchByUUID toyMd5 "aaaaa".toList "zzzzz-4zz18-000000000000001".toList true
      (some (.reply (.record exGood (toyMd5 exLegacyHashed ++ "+43".toList))))
    = .ok ". 0123456789abcdef0123456789abcdef+3+Kzzz+Rzzzzz-0123456789abcdef0123456789abcdef01234567@5e000000 0:3:f\n".toList := by
  unfold exLegacyHashed exGood
  repeat rw [String.toList_ofList]
  decide +kernel
example : legacyFetchByUUID toyMd5 "zzzzz".toList "zzzzz-4zz18-000000000000001".toList true none = .unhandled
    ∧ legacyFetchByUUID toyMd5 "aaaaa".toList "zzzzz-4zz18-000000000000001".toList false none = .unhandled
    ∧ legacyFetchByUUID toyMd5 "aaaaa".toList "zzzzz-4zz18-000000000000001".toList true none = .error 404 := by
  repeat rw [String.toList_ofList]
  decide +kernel

end examples

end ArvVerif.C18
