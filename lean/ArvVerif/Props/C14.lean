/-
C14 — the dispatcher never runs a container twice at once or without holding its lock.
Layer L1: property theorems about one scheduler pass (`runQueue`, `sync`) and the per-container
operation latch. Every theorem is for any number of queue entries, any priority order the
unstable sort may produce, any `Running()`/`Unallocated()` snapshot and any answers of the pool.
(L2: Props/C14_L2.lean, L3: Props/C14_L3.lean and Props/C14_Queue.lean; between the layers:
Props/C14_Compose.lean, C14_Link.lean, C14_Runner.lean.)
-/
import ArvVerif.Proofs.C14_L1
namespace ArvVerif.C14

/-- `StartContainer(t, u)` occurs in a pass only if the queue snapshot has `u` Locked with
priority ≥ 1 and instance type `t`, `u` is not in the `Running()` snapshot, and the call made
directly before it is `KillContainer(u)` answering false (no lingering runner). -/
theorem C14_start_only_locked (entries sorted : List Ent) (hord : IsPriorityOrder entries sorted)
    (running : Uuid → Bool) (un : Unalloc) (script : List Bool) (t : IType) (u : Uuid) (a : Bool)
    (h : Call.start t u a ∈ runQueue sorted running un script) :
    (∃ e ∈ entries, e.uuid = u ∧ e.itype = t ∧ e.state = .locked ∧ 1 ≤ e.prio ∧ running u = false) ∧
    ∃ pre post, runQueue sorted running un script = pre ++ [.kill u false, .start t u a] ++ post := by
  obtain ⟨e, he, hp, pre, post, hi⟩ := runQueue_guarded rfl h
  cases hp.1
  exact ⟨⟨e, hord.perm.mem_iff.mp he, hp⟩, pre, post, hi.symm⟩

/-- Non-vacuity: a pass that starts a container. -/
example : Call.start 1 7 true ∈ runQueue [⟨7, .locked, 5, 1⟩] (fun _ => false) [(1, 1)] [false, true] := by
  decide

/-- `go lockContainer(u)` is issued only for a Queued entry with priority ≥ 1 that is not in the
`Running()` snapshot, directly after `KillContainer(u)` answered false. -/
theorem C14_lock_only_queued (entries sorted : List Ent) (hord : IsPriorityOrder entries sorted)
    (running : Uuid → Bool) (un : Unalloc) (script : List Bool) (u : Uuid)
    (h : Call.goLock u ∈ runQueue sorted running un script) :
    (∃ e ∈ entries, e.uuid = u ∧ e.state = .queued ∧ 1 ≤ e.prio ∧ running u = false) ∧
    ∃ pre post, runQueue sorted running un script = pre ++ [.kill u false, .goLock u] ++ post := by
  obtain ⟨e, he, hp, pre, post, hi⟩ := runQueue_guarded rfl h
  cases hp.1
  exact ⟨⟨e, hord.perm.mem_iff.mp he, hp⟩, pre, post, hi.symm⟩

example : Call.goLock 7 ∈ runQueue [⟨7, .queued, 5, 1⟩] (fun _ => false) [(1, 1)] [false] := by
  decide

/-- The spawned goroutine calls `queue.Lock(u)` only if it obtained the latch and the queue still
reports `u` as Queued; a goroutine that finds the latch taken makes no call at all, whatever its
operation; only `lockContainer` ever calls `queue.Lock`. -/
theorem C14_lock_effect (latchHeld : Bool) (stateNow : Option CState) (op : Op) (u v : Uuid) :
    (Effect.queueLock v ∈ asyncEffect latchHeld stateNow op u ↔
      latchHeld = false ∧ stateNow = some .queued ∧ op = .lock ∧ v = u) ∧
    (latchHeld = true → asyncEffect latchHeld stateNow op u = []) := by
  unfold asyncEffect
  cases latchHeld <;> cases op <;> grind

example : Effect.queueLock 3 ∈ asyncEffect false (some .queued) .lock 3 := by decide

/-- The executable order is one of the orders the unstable sort may produce. -/
theorem C14_exec_order_allowed (entries : List Ent) : IsPriorityOrder entries (priorityOrder entries) :=
  ⟨List.mergeSort_perm _ _, (List.pairwise_mergeSort (by grind) (by grind) entries).imp (by simp)⟩

/-- **Latch.** Under any interleaving of any number of lock/cancel/kill/requeue goroutines, at
most one operation per container is in flight at any time, and the latch is held exactly while
one is. -/
theorem C14_latch (s : LSys) (h : LReach s) (u : Uuid) :
    inFlight s u ≤ 1 ∧ (inFlight s u = 1 ↔ s.latch.held u = true) := by
  have := LInv_reach h u
  grind

/-- Non-vacuity: a reachable state with an operation in flight, and a second goroutine for the
same container being refused. -/
example : LReach ⟨[(3, .lock)], [⟨3, .kill, .done⟩, ⟨3, .lock, .holding⟩]⟩ := by
  have h0 := LReach.init
  have h1 := LReach.step h0 (LStep.spawn _ 3 .lock)
  have h2 := LReach.step h1 (LStep.spawn _ 3 .kill)
  have h3 := LReach.step h2 (LStep.acquire [] [⟨3, .kill, .pending⟩] [] 3 .lock rfl)
  exact LReach.step h3 (LStep.refuse [(3, .lock)] [] [⟨3, .lock, .holding⟩] 3 .kill rfl)

/-- What `Running()` says about a container relative to the last queue update. -/
inductive ProcView where
  | absent        -- not a key of Running()
  | live          -- key with zero time: process not known to have exited
  | exitedOld     -- exited strictly before the queue was last updated
  | exitedRecent  -- exited, but the queue has not been updated since
deriving DecidableEq, Repr

def procView (rv : RunView) (qUpdated : Nat) : ProcView :=
  match rv with
  | none => .absent
  | some none => .live
  | some (some t) => if t < qUpdated then .exitedOld else .exitedRecent

inductive SyncKind where
  | nothing | cancel | kill | requeue | forget
deriving DecidableEq, Repr

def SyncAct.kind : SyncAct → SyncKind
  | .goCancel _ => .cancel | .goKill _ => .kill | .goRequeue _ => .requeue | .forget _ => .forget

def SyncAct.uuid : SyncAct → Uuid
  | .goCancel u => u | .goKill u => u | .goRequeue u => u | .forget u => u

/-- The decision table of `sync` as the property states it. -/
def syncTable (st : CState) (pv : ProcView) (prio0 anyUnknown : Bool) : SyncKind :=
  match st, pv with
  -- Running in the API
  | .running, .absent => if anyUnknown then .nothing else .cancel
  | .running, .exitedOld => .cancel
  | .running, .live => if prio0 then .kill else .nothing
  | .running, .exitedRecent => if prio0 then .kill else .nothing
  -- finished: kill what lingers, otherwise drop from the queue
  | .complete, .absent => .forget
  | .complete, _ => .kill
  | .cancelled, .absent => .forget
  | .cancelled, _ => .kill
  -- unlocked / re-queued / on hold
  | .queued, .absent => if prio0 then .forget else .nothing
  | .queued, _ => .kill
  -- Locked
  | .locked, .exitedOld => .requeue
  | .locked, .live => if prio0 then .kill else .nothing
  | .locked, .absent => if prio0 then .requeue else .nothing
  | .locked, .exitedRecent => .nothing
  | .other, _ => .nothing

/-- `sync` acts on every queue entry exactly as the table says, and the action is about that
entry's container. In particular it never starts or locks anything (no such action exists),
a finished, re-queued or on-hold container with a process gets `kill`, and `cancel` is issued
for a Running container without a process only when no worker is in state Unknown. -/
theorem C14_sync_table (anyUnknown : Bool) (qUpdated : Nat) (rv : RunView) (e : Ent) :
    ((syncEntry anyUnknown qUpdated rv e).map SyncAct.kind).getD .nothing
        = syncTable e.state (procView rv qUpdated) (decide (e.prio = 0)) anyUnknown ∧
    ∀ a, syncEntry anyUnknown qUpdated rv e = some a → a.uuid = e.uuid := by
  rcases e with ⟨u, st, prio, ty⟩
  unfold syncEntry
  constructor
  · unfold syncTable procView exitedBefore
    cases st <;> rcases rv with _ | _ | t <;> grind [SyncAct.kind]
  · grind [SyncAct.uuid]

/-- A process of a container that is not in the queue at all is killed. -/
theorem C14_sync_stray (anyUnknown : Bool) (qUpdated : Nat) (entries : List Ent) (runKeys : List Uuid)
    (rv : Uuid → RunView) (u : Uuid) (hu : u ∈ runKeys) (hq : ∀ e ∈ entries, e.uuid ≠ u) :
    SyncAct.goKill u ∈ syncPass anyUnknown qUpdated entries runKeys rv := by
  unfold syncPass
  grind

example : syncEntry false 5 (some (some 3)) ⟨1, .locked, 1, 1⟩ = some (.goRequeue 1) := by decide
example : syncEntry false 5 (some none) ⟨1, .cancelled, 1, 1⟩ = some (.goKill 1) := by decide
example : syncEntry true 5 none ⟨1, .running, 1, 1⟩ = none := by decide

/-- `fixStaleLocks` unlocks only containers that are Locked in the queue and not reported by
`Running()`, and only if some worker is in state Unknown; … -/
theorem C14_fixStale_unlocks_only_stale (anyUnknown : Bool) (entries : List Ent) (running : Uuid → Bool)
    (u : Uuid) (h : u ∈ fixStaleLocks anyUnknown entries running) :
    anyUnknown = true ∧ ∃ e ∈ entries, e.uuid = u ∧ e.state = .locked ∧ running u = false := by
  unfold fixStaleLocks staleLocks at h
  grind

/-- … it does not look at containers in any other state: when no *Locked* container is missing
from `Running()` it returns at once, however many workers are still Unknown. (This is one of the
ways assumption A1 can fail, see F11.) -/
theorem C14_fixStale_ignores_unlocked (anyUnknown : Bool) (entries : List Ent) (running : Uuid → Bool)
    (h : ∀ e ∈ entries, e.state = .locked → running e.uuid = true) :
    fixStaleLocks anyUnknown entries running = [] := by
  unfold fixStaleLocks staleLocks
  grind [List.map_eq_nil_iff, List.filter_eq_nil_iff]

example : fixStaleLocks true [⟨1, .locked, 5, 1⟩, ⟨2, .queued, 5, 1⟩] (fun _ => false) = [1] := by decide

end ArvVerif.C14
