/-
C09 — saved manifests reproduce the tree and reference only blocks that were stored.

Setting. `marshal9 hash max k t` is the model of `MarshalManifest(".")` on the directory list `t`
(marshal order) with Keep `k = {store, acked, script}`: every block group the synchronous flush hands
to `commitBlock` consumes one outcome of the script — `ok` (PutB succeeded: stored, acknowledged,
segments replaced), `fail` (PutB returned an error: nothing replaced, error returned) or `skip` (the
context group had already been cancelled by a failing sibling: PutB not even called). The theorems
hold for EVERY script, so for every goroutine interleaving of the real code, every failure position
and every cancellation pattern; for every `max`; for every locator function satisfying `HashOK`
(collision-free, returns grammar locators carrying the block length); for every tree satisfying
`SaveOK` (distinct directories, distinct names, proper names, well-formed segments whose stored
blocks are in Keep, stored locators that are grammar locators carrying the block size).
`NoDel` (no name holds byte 0x7f) is needed only where the TEXT must be inside the grammar (F9a).
-/
import ArvVerif.Proofs.C09_Glue
import ArvVerif.Proofs.C09_Example
import ArvVerif.Proofs.C09_Content
import ArvVerif.Proofs.C09_FlushComplete
namespace ArvVerif.C09

open ArvVerif.C08 (Seg FileNode Store SegWF AllWF StoreOK StoreExt)
open ArvVerif.C10 (bSlash bDot bColon specLocator)

variable {max : Nat} {hash : Bytes → C08.Loc}

/-- **Escape round trip, every byte string**: `manifestUnescape (manifestEscape s) = s`, the
specification's `\ooo` reader reads it back as well, and the escaped form holds no space, newline,
other control byte ≤ 0x20 or raw colon (so it can never be mistaken for a token boundary or a
`pos:len:name` separator). -/
theorem C09_escape_roundtrip (s : Bytes) :
    C10.fsUnescape (C10.fsEscape s) = s ∧ C10.specUnescape (C10.fsEscape s) = some s ∧
    (∀ x ∈ C10.fsEscape s, 32 < x ∧ x ≠ bColon) := by
  exact ⟨C10.goUnescape_escapeWith C10.isOctDigit _ (fun _ h => h) (by decide) s,
    C10.specUnescape_escapeWith _ (by decide) s, fun x hx => ⟨(fsEscape_bytes s x hx).1, (fsEscape_bytes s x hx).2.1⟩⟩

structure SaveOK (max : Nat) (hash : Bytes → C08.Loc) (k : Keep) (t : Tree9) : Prop where
  keep : KeepOK hash k
  wf : TreeAllWF max hash k.store t
  paths_nodup : (dirPaths t).Nodup
  names_nodup : ∀ d ∈ t, (d.files.map (·.1)).Nodup
  paths : ∀ d ∈ t, ∀ c ∈ d.path, NameOK c
  names : ∀ d ∈ t, ∀ f ∈ d.files, NameOK f.1
  locs : ∀ d ∈ t, ∀ f ∈ d.files, ∀ loc size off len, Seg.stored loc size off len ∈ f.2.segs →
    specLocator loc = some ⟨loc, size⟩

/-- no directory or file name holds the byte 0x7f -/
def NoDel (t : Tree9) : Prop := ∀ d ∈ t, (∀ c ∈ d.path, (127 : UInt8) ∉ c) ∧ ∀ f ∈ d.files, (127 : UInt8) ∉ f.1

theorem SaveOK.shape {k : Keep} {t : Tree9} (h : SaveOK max hash k t) : TreeShape t :=
  ⟨h.paths_nodup, h.names_nodup, fun d hd => ⟨fun c hc => (h.paths d hd c hc).2.2.2, fun f hf => (h.names d hd f hf).2.2.2⟩⟩

theorem SaveOK.treeOK {k : Keep} {t : Tree9} (h : SaveOK max hash k t) (hnd : NoDel t) : TreeOK max hash k.store t :=
  fun d hd => ⟨fun c hc => ⟨h.paths d hd c hc, (hnd d hd).1 c hc⟩, fun f hf => ⟨h.names d hd f hf, (hnd d hd).2 f hf⟩,
    h.wf.segs d hd, h.locs d hd⟩

/-- `marshal9` by components: Keep and tree are those of the flush, the result is decided by its flag and the text -/
theorem marshal9_eq (k : Keep) (t : Tree9) : marshal9 hash max k t =
    ((flushTree9 hash max k t).1, (flushTree9 hash max k t).2.1,
      if (flushTree9 hash max k t).2.2 then
        (match treeText (flushTree9 hash max k t).2.1 with
          | some txt => MRes.ok txt
          | none => MRes.panic)
      else MRes.err) := by
  unfold marshal9
  simp only []
  split
  · split <;> simp [*]
  · rfl

/-- a stored segment of the flushed tree was a segment of the tree before, or lies in a block the flush wrote
and Keep acknowledged -/
theorem TreeKept.stored_from {k' : Keep} {t t' : Tree9} (h : TreeKept max hash k'.store (Fresh hash k') t t')
    {d' : Dir9} (hd' : d' ∈ t') {f' : Bytes × FileNode} (hf' : f' ∈ d'.files) {loc : C08.Loc} {size off len : Nat}
    (hs : Seg.stored loc size off len ∈ f'.2.segs) :
    (∃ d ∈ t, ∃ f ∈ d.files, Seg.stored loc size off len ∈ f.2.segs) ∨
    ∃ block ∈ k'.acked, loc = hash block ∧ size = block.length := by
  rcases h.segs_from d' hd' f' hf' _ hs with h | h | ⟨block, hblk, _, _, hx, _⟩
  · exact Or.inl h
  · cases h
  · cases hx
    exact Or.inr ⟨block, hblk, rfl, rfl⟩

/-- the pieces of a run of `marshal9` -/
theorem marshal9_run (hh : HashOK hash) {k : Keep} {t : Tree9} (hok : SaveOK max hash k t) :
    SaveOK max hash (marshal9 hash max k t).1 (marshal9 hash max k t).2.1 ∧
    KeepStep hash k (marshal9 hash max k t).1 ∧
    TreeKept max hash (marshal9 hash max k t).1.store (Fresh hash (marshal9 hash max k t).1) t (marshal9 hash max k t).2.1 ∧
    ((marshal9 hash max k t).2.2 = MRes.err ↔ allOk (treeGroups max t) k = false) ∧
    (∀ txt, (marshal9 hash max k t).2.2 = MRes.ok txt → treeText (marshal9 hash max k t).2.1 = some txt) ∧
    (NoDel t → NoDel (marshal9 hash max k t).2.1) := by
  obtain ⟨f1, f2, f3, f4, _⟩ := flushTree9_spec (max := max) hh.inj t k hok.keep hok.wf
  rw [marshal9_eq]
  simp only []
  have hshape := TreeKept.shape f3
  refine ⟨⟨f1, TreeKept.wf f3, by rw [TreeKept.paths f3]; exact hok.paths_nodup, ?_, ?_, ?_, ?_⟩, f2, f3, ?_, ?_, ?_⟩
  · intro d' hd'
    obtain ⟨d, hd, _, _, e3⟩ := hshape d' hd'
    rw [e3]; exact hok.names_nodup d hd
  · intro d' hd' c hc
    obtain ⟨d, hd, e1, _, _⟩ := hshape d' hd'
    rw [e1] at hc; exact hok.paths d hd c hc
  · intro d' hd' f' hf'
    obtain ⟨d, hd, _, f, hf, hn⟩ := f3.file hd' hf'
    rw [← hn]; exact hok.names d hd f hf
  · intro d' hd' f' hf' loc size off len hseg
    rcases f3.stored_from hd' hf' hseg with ⟨d, hd, f, hf, hx⟩ | ⟨block, _, rfl, rfl⟩
    · exact hok.locs d hd f hf _ _ off len hx
    · exact hh.loc block
  · rw [f4]
    cases allOk (treeGroups max t) k
    · simp
    · simp only [if_true]
      split <;> simp
  · intro txt h
    split at h
    · split at h
      · next htxt => cases h; exact htxt
      · cases h
    · cases h
  · intro hnd d' hd'
    refine ⟨?_, fun f' hf' => ?_⟩
    · obtain ⟨d, hd, e1, _, _⟩ := hshape d' hd'
      rw [e1]; exact (hnd d hd).1
    · obtain ⟨d, hd, _, f, hf, hn⟩ := f3.file hd' hf'
      rw [← hn]; exact (hnd d hd).2 f hf

/-- **The saved text is inside the grammar.** Whenever `MarshalManifest` succeeds on a tree none of
whose names holds 0x7f, the text is valid under the published grammar (with the empty-directory
marker), and it parses to exactly the lines the stream builder computed for the flushed tree. -/
theorem C09_marshal_valid (hh : HashOK hash) {k : Keep} {t : Tree9} (hok : SaveOK max hash k t) (hnd : NoDel t)
    {txt : Bytes} (h : (marshal9 hash max k t).2.2 = MRes.ok txt) :
    ValidManifest9 txt ∧ ∃ L, treeLines (marshal9 hash max k t).2.1 = some L ∧ parse9 txt = some L := by
  obtain ⟨r1, _, _, _, r5, r6⟩ := marshal9_run (max := max) hh hok
  obtain ⟨L, h1, h2⟩ := treeText_parse9 _ (r1.treeOK (r6 hnd)) txt (r5 txt h)
  exact ⟨by unfold ValidManifest9; rw [h2]; rfl, L, h1, h2⟩

/-- the full statement, without the 0x7f restriction … -/
def C09_marshal_valid_Full : Prop :=
  ∀ (max : Nat) (hash : Bytes → C08.Loc), HashOK hash → ∀ (k : Keep) (t : Tree9), SaveOK max hash k t →
    ∀ txt, (marshal9 hash max k t).2.2 = MRes.ok txt → ValidManifest9 txt

/-- an empty Keep -/
def exKeep0 : Keep := ⟨fun _ => none, [], [], Outcome.ok, 0, 0⟩

/-- a buffered segment of legal length that no flush has touched -/
def freshMem (max : Nat) : Seg → Bool
  | Seg.mem buf C08.Flush.none => decide (0 < buf.length ∧ buf.length ≤ max)
  | _ => false

/-- a tree of the right shape whose data is all in fresh buffers can be saved over the empty Keep -/
theorem saveOK_fresh {t : Tree9} (hshape : shapeOK t = true)
    (hmem : ∀ d ∈ t, ∀ f ∈ d.files, ∀ s ∈ f.2.segs, freshMem max s = true) : SaveOK max hash exKeep0 t := by
  obtain ⟨_, _, h1, h2, h3, h4⟩ := shapeOK_sound t hshape
  refine ⟨⟨fun l b h => (by cases h), fun b hb => (by cases hb)⟩, ?_, h1, h2, h3, h4, ?_⟩
  · refine .of_segs fun d hd f hf s hs => ?_
    have := hmem d hd f hf s hs
    unfold freshMem at this
    split at this
    · simp only [decide_eq_true_eq] at this
      exact ⟨this.1, this.2, fun i l h => (by cases h)⟩
    · cases this
  · intro d hd f hf loc size off len hs
    cases hmem d hd f hf _ hs

/-- the witness of finding F9a: a root directory holding one empty file named `a\x7f` -/
def exTreeDel : Tree9 := [⟨[], [([97, 127], FileNode.empty)], 0⟩]

theorem exTreeDel_ok : SaveOK 4 exHash exKeep0 exTreeDel := saveOK_fresh (by decide) (by decide)

/-- … **is false of the code (finding F9a)**: `manifestEscape` leaves 0x7f unescaped, so the saved
text `. d41d8cd98f00b204e9800998ecf8427e+0 0:0:a\x7f` holds a raw control code. -/
theorem C09_marshal_valid_full_fails : ¬ C09_marshal_valid_Full := by
  intro hfull
  have h := hfull 4 exHash exHash_ok exKeep0 exTreeDel exTreeDel_ok
    (C10.str ". d41d8cd98f00b204e9800998ecf8427e+0 0:0:a\x7f\n") (by rw [str_ofList]; decide +kernel)
  rw [str_ofList] at h
  revert h
  decide +kernel

/-- **Reading the saved text back yields the same tree.** Whenever `MarshalManifest` succeeds, the
text parses (grammar + marker) to lines `L` such that
* the tree still has the directories, names and bytes it had before the save (a save changes
  nothing visible), and its total size;
* read as the manifest-format document says (`C10.fileContent`: for every file token with the
  combined path, in order of appearance, the bytes pos…pos+size of the concatenated blocks of its
  stream, block contents taken from Keep), every file of the tree gets exactly its bytes;
* the text has no token for anything that is not a file of the tree;
* the marker streams are exactly the empty directories below the root, in tree order
  (every non-empty directory either has a stream of its own or is a prefix of its subdirectories'
  stream names). -/
theorem C09_marshal_load_roundtrip (hh : HashOK hash) {k : Keep} {t : Tree9} (hok : SaveOK max hash k t) (hnd : NoDel t)
    {txt : Bytes} (h : (marshal9 hash max k t).2.2 = MRes.ok txt) :
    ∃ L, parse9 txt = some L ∧
      (absTree (marshal9 hash max k t).1.store (marshal9 hash max k t).2.1 = absTree k.store t ∧
       dirPaths (marshal9 hash max k t).2.1 = dirPaths t ∧
       (marshal9 hash max k t).2.1.map (·.nsub) = t.map (·.nsub) ∧
       treeSize (marshal9 hash max k t).2.1 = treeSize t) ∧
      (∀ d ∈ (marshal9 hash max k t).2.1, ∀ f ∈ d.files,
        C10.fileContent (blkOf (marshal9 hash max k t).1.store) (streamsOf L) (C10.pathOf (prefixOf d.path) f.1) =
          C08.abs (marshal9 hash max k t).1.store f.2) ∧
      (∀ s ∈ streamsOf L, ∀ ft ∈ s.files, ∃ d ∈ (marshal9 hash max k t).2.1, ∃ f ∈ d.files,
        s.name = prefixOf d.path ∧ ft.name = f.1) ∧
      markersOf L = ((marshal9 hash max k t).2.1.filter fun d => d.isEmpty && !d.path.isEmpty).map fun d => prefixOf d.path := by
  obtain ⟨r1, r2, r3, _⟩ := marshal9_run (max := max) hh hok
  obtain ⟨_, L, h1, h2⟩ := C09_marshal_valid hh hok hnd h
  obtain ⟨a1, a2, a3, a4⟩ := TreeKept.abs_eq r3 r2.ext hok.wf
  exact ⟨L, h2, ⟨a1, a2, a4, a3⟩, treeLines_content (max := max) (hash := hash) _ L r1.shape r1.wf.segs h1,
    treeLines_tokens h1 r1.wf.segs, treeLines_markers _ L h1⟩

/-- **Every locator is accounted for, every file part lies inside its stream.** In the text of a
successful save every block locator of every stream
* is the placeholder `d41d8cd98f00b204e9800998ecf8427e+0` of a stream without data, or
* was already referenced by a stored segment of the tree before this save (by induction over the
  history: it came from the manifest the filesystem was loaded from, or from an earlier
  acknowledged write — see `C09_accounted_invariant`), or
* is the locator of a block that Keep ACKNOWLEDGED (`PutB` answered ok), Keep holds exactly those
  bytes under it, and its size field is the block's length;
and every file token `pos:len:name` lies inside its stream. -/
theorem C09_locators_accounted (hh : HashOK hash) {k : Keep} {t : Tree9} (hok : SaveOK max hash k t) (hnd : NoDel t)
    {txt : Bytes} (h : (marshal9 hash max k t).2.2 = MRes.ok txt) :
    ∃ L, parse9 txt = some L ∧ ∀ s ∈ streamsOf L,
      (∀ b ∈ s.blocks,
        b = ⟨emptyLoc, 0⟩ ∨
        (∃ d ∈ t, ∃ f ∈ d.files, ∃ off len, Seg.stored b.text b.size off len ∈ f.2.segs) ∨
        (∃ block ∈ (marshal9 hash max k t).1.acked, hash block = b.text ∧
          (marshal9 hash max k t).1.store b.text = some block ∧ block.length = b.size)) ∧
      (∀ ft ∈ s.files, ft.pos + ft.len ≤ C10.streamLen s.blocks) := by
  obtain ⟨r1, _, r3, _⟩ := marshal9_run (max := max) hh hok
  obtain ⟨_, L, h1, h2⟩ := C09_marshal_valid hh hok hnd h
  refine ⟨L, h2, fun s hs => ?_⟩
  obtain ⟨d, hd, hds⟩ := treeLines_stream h1 r1.wf.segs hs
  refine ⟨fun b hb => (hds.blocks b hb).imp_right ?_, fun ft hft => (hds.toks ft hft).2⟩
  rintro ⟨_, f, hf, off, len, hseg⟩
  rcases r3.stored_from hd hf hseg with ⟨d0, hd0, f0, hf0, hx⟩ | ⟨block, hblk, e1, e2⟩
  · exact Or.inl ⟨d0, hd0, f0, hf0, off, len, hx⟩
  · exact Or.inr ⟨block, hblk, e1.symm, by rw [e1]; exact r1.keep.acked block hblk, e2.symm⟩

/-- a stored segment is accounted for: its locator is one of `orig` (the manifest the filesystem was
loaded from) or the locator of an acknowledged block that Keep holds under it -/
def SegAcc (hash : Bytes → C08.Loc) (orig : Bytes → Prop) (k : Keep) : Seg → Prop
  | Seg.mem .. => True
  | Seg.stored loc _ _ _ => orig loc ∨ ∃ block ∈ k.acked, hash block = loc ∧ k.store loc = some block

/-- **Accounting is an invariant of saving**, whatever Keep answers and whether or not the save
succeeds: if every stored segment of the tree is accounted for before, so is every one after. -/
theorem C09_accounted_invariant (hh : HashOK hash) {k : Keep} {t : Tree9} (hok : SaveOK max hash k t)
    (orig : Bytes → Prop) (hacc : ∀ d ∈ t, ∀ f ∈ d.files, ∀ s ∈ f.2.segs, SegAcc hash orig k s) :
    ∀ d ∈ (marshal9 hash max k t).2.1, ∀ f ∈ d.files, ∀ s ∈ f.2.segs, SegAcc hash orig (marshal9 hash max k t).1 s := by
  obtain ⟨r1, r2, r3, _⟩ := marshal9_run (max := max) hh hok
  intro d hd f hf s hs
  cases s with
  | mem => trivial
  | stored loc size off len =>
    rcases r3.stored_from hd hf hs with ⟨d0, hd0, f0, hf0, hx⟩ | ⟨block, hblk, e1, _⟩
    · rcases hacc d0 hd0 f0 hf0 _ hx with h1 | ⟨block, hb, e1, e2⟩
      · exact Or.inl h1
      · obtain ⟨more, hm⟩ := r2.acked
        exact Or.inr ⟨block, by rw [hm]; simp [hb], e1, r2.ext _ _ e2⟩
    · exact Or.inr ⟨block, hblk, e1.symm, by rw [e1]; exact r1.keep.acked block hblk⟩

/-- **A failing Keep write fails the save and loses nothing; a later save succeeds.** For every
script of outcomes (every failure position, every cancellation pattern):
1. the save returns the error exactly when one of the outcomes its block groups consume is not `ok`
   (in particular: any failing required write ⇒ error; all writes ok ⇒ no error);
2. whatever happened, the tree afterwards has the same directories, names, bytes and size, is still
   well-formed over the new Keep (every stored segment's block is held by Keep — so everything is
   still readable), and Keep grew by acknowledged blocks only;
3. a later save on the resulting tree with any Keep that holds at least those blocks and answers ok
   from then on succeeds (returns a text, neither an error nor the "can't marshal" panic). -/
theorem C09_failure_keeps_data (hh : HashOK hash) {k : Keep} {t : Tree9} (hok : SaveOK max hash k t) :
    ((marshal9 hash max k t).2.2 = MRes.err ↔ allOk (treeGroups max t) k = false) ∧
    (absTree (marshal9 hash max k t).1.store (marshal9 hash max k t).2.1 = absTree k.store t ∧
     dirPaths (marshal9 hash max k t).2.1 = dirPaths t ∧ treeSize (marshal9 hash max k t).2.1 = treeSize t ∧
     SaveOK max hash (marshal9 hash max k t).1 (marshal9 hash max k t).2.1 ∧
     KeepStep hash k (marshal9 hash max k t).1) ∧
    (∀ k2 : Keep, KeepOK hash k2 → StoreExt (marshal9 hash max k t).1.store k2.store → (∀ n, allOk n k2 = true) →
      ∃ txt, (marshal9 hash max k2 (marshal9 hash max k t).2.1).2.2 = MRes.ok txt) := by
  obtain ⟨r1, r2, r3, r4, _⟩ := marshal9_run (max := max) hh hok
  obtain ⟨a1, a2, a3, _⟩ := TreeKept.abs_eq r3 r2.ext hok.wf
  refine ⟨r4, ⟨a1, a2, a3, r1, r2⟩, ?_⟩
  intro k2 _ _ hall
  -- all answers ok: no mem segment is left, so there is a text; neither fact looks at what Keep holds
  have hnomem := flushTree9_no_mem (hash := hash) (max := max) (marshal9 hash max k t).2.1 k2 (hall _)
  obtain ⟨txt, htxt⟩ := treeText_some _ hnomem
  exact ⟨txt, by rw [marshal9_eq]; simp only [(flushTree9_script _ k2).1, hall, if_true, htxt]⟩

/-! ## non-vacuity: the hypotheses are satisfiable by a non-trivial instance -/

example : HashOK exHash := exHash_ok

/-- a tree with a root file `a` of two buffered segments (3 + 1 bytes, `max = 4`), an empty directory
`e` and a directory `d` holding an empty file `x y` (a name that needs escaping) -/
def exTree : Tree9 :=
  [⟨[], [([97], ⟨[Seg.mem [1, 2, 3] C08.Flush.none, Seg.mem [4] C08.Flush.none], 4, 0⟩)], 2⟩,
   ⟨[[100]], [([120, 32, 121], FileNode.empty)], 0⟩,
   ⟨[[101]], [], 0⟩]

theorem exTree_ok : SaveOK 4 exHash exKeep0 exTree := saveOK_fresh (by decide) (by decide)

example : NoDel exTree := by unfold NoDel; decide

/-- Running the model on that instance with all writes ok: the two small segments are packed into one
block, the file part is merged into `0:4:a`, `x y` is escaped, the empty directory gets its marker. -/
example : ∃ txt, (marshal9 exHash 4 exKeep0 exTree).2.2 = MRes.ok txt ∧
    (C10.splitOn C10.bNL txt).length = 4 ∧ ValidManifest9 txt := by
  refine ⟨_, rfl, ?_, ?_⟩ <;> decide +kernel

/-- … and with a script whose first outcome is `fail`: the save fails (hypothesis of
`C09_failure_keeps_data`'s interesting direction) -/
example : (marshal9 exHash 4 { exKeep0 with script := [Outcome.fail] } exTree).2.2 = MRes.err := by decide +kernel

/-- the hypotheses of part 3 of `C09_failure_keeps_data` are satisfiable: a Keep that answers ok for ever -/
example : ∀ n, allOk n exKeep0 = true := by
  intro n
  induction n with
  | zero => rfl
  | succ n ih => exact (by unfold allOk; simp only [exKeep0, Keep.next]; exact ih)

end ArvVerif.C09
