/-
C02: the property on a server with SEVERAL Directory volumes
(Model/C02_MV.lean: CompareAndTouch over the writable mounts, NextWritable, the fall-through loop of
PutBlock over every writable mount, GetBlock and /index over all mounts; a crash = truncation of the
cross-volume event list at any prefix), plus the single-volume "kill, then restart" statement in
terms of what the restarted server shows (GetBlock, index).

`hash` is an arbitrary function. `MPutIn.valid` = every WriteBlock run of the request writes the
request's hash and sees EOF only after the whole body (the second half of `WBValid`, which
`C02_cancel_is_error` proves of putWithPipe; taken over as a hypothesis here). Nothing is assumed about which volumes are full,
read-only or failing, about the round-robin counter, or about where each WriteBlock run fails.
-/
import ArvVerif.Props.C02
import ArvVerif.Proofs.C02_MV
namespace ArvVerif.C02

/-- **Crash atomicity on every volume.** For every configuration of mounts (read-only / full / ordinary),
every initial content of every volume, every request (any failing system call in any of its
WriteBlock runs, any cancellation point) and **every prefix** `k` of everything the request does on
all volumes together: on every volume `i` the block path holds the bytes it held before or the
complete request body. -/
theorem C02_mv_crash_atomic (hash : Bytes → Name) (c : MVCfg) (vs : Nat → FS) (p : MPutIn) (hp : p.valid)
    (k i : Nat) :
    (runMV vs ((handlePutMV hash c vs p).1.take k) i).data (blockPath p.h) = (vs i).data (blockPath p.h) ∨
    (runMV vs ((handlePutMV hash c vs p).1.take k) i).data (blockPath p.h) = some p.body :=
  (mv_crash_atomic hash c vs p hp k i).imp_right And.left

/-- **Read-only volumes are never touched, full volumes never change a byte.** No event of a PUT
happens on a mount that is not writable (its state after any crash prefix is its initial state),
and on a full volume every file keeps its bytes (only Compare's reads and Touch's timestamp). -/
theorem C02_mv_readonly_full_untouched (hash : Bytes → Name) (c : MVCfg) (vs : Nat → FS) (p : MPutIn) (k i : Nat) :
    (c.readOnly i = true → runMV vs ((handlePutMV hash c vs p).1.take k) i = vs i) ∧
    (c.full i = true → ∀ q, (runMV vs ((handlePutMV hash c vs p).1.take k) i).data q = (vs i).data q) := by
  rcases (handlePutMV_spec hash c vs p).1 with h | ⟨_, _, hs⟩
  · rw [h, List.take_nil]
    exact ⟨fun _ => rfl, fun _ _ => rfl⟩
  · refine ⟨fun hro => ?_, fun hf q => ?_⟩
    · have hn : Always (fun a b => b = a) (projEvs i (handlePutMV hash c vs p).1) := by
        rw [hs.untouched fun hm => by simp [(mem_writables hm).2] at hro]
        exact always_nil fun _ => rfl
      exact hn.runMV vs k
    · -- a full volume refuses every `WriteBlock`
      have hl := (hs.proj i).looks_of_no_write fun w hw => by simp [hw.1] at hf
      exact (looks_data hl).runMV vs k q

/-- **Acknowledged ⇒ durable on the volume that acknowledged.** If the reply is 200 then some writable
mount `j` (< n, not read-only) made `PutBlock` return nil — by Touch of an identical copy or by a
`WriteBlock` whose rename was performed, possibly after other volumes refused (full) or failed — and
after a crash at any later instant (`k ≥` number of events) a fresh process finds the complete body
on that very volume; hence `GetBlock` over all mounts serves a complete block with that hash,
whatever the other volumes hold (absent, corrupt, stale copies). -/
theorem C02_mv_ack_durable (hash : Bytes → Name) (c : MVCfg) (vs : Nat → FS) (p : MPutIn) (hp : p.valid)
    (hack : (handlePutMV hash c vs p).2.1 = .ok200) (k : Nat) (hk : (handlePutMV hash c vs p).1.length ≤ k) :
    ∃ j, (handlePutMV hash c vs p).2.2 = some j ∧ j < c.n ∧ c.readOnly j = false ∧
      getBlock hash (runMV vs ((handlePutMV hash c vs p).1.take k) j) p.h = .ok p.body ∧
      ∃ b, getBlockMV hash c (runMV vs ((handlePutMV hash c vs p).1.take k)) p.h = .ok b ∧ hash b = p.h := by
  obtain ⟨hh, j, hm, hj, hd⟩ := (handlePutMV_spec hash c vs p).2 hp hack
  have hg : getBlock hash (runMV vs ((handlePutMV hash c vs p).1.take k) j) p.h = .ok p.body := by
    rw [List.take_of_length_le hk]
    exact getBlock_of_data hd hh
  exact ⟨j, hj, (mem_writables hm).1, (mem_writables hm).2, hg, getBlockMV_ok (mem_writables hm).1 hg⟩

/-- **A block the server could serve stays servable** through any later PUT of that hash on any set
of volumes, killed after any prefix or cancelled anywhere: no fall-through, retry or failed write on
any volume takes the only good copy away. -/
theorem C02_mv_stored_block_survives (hash : Bytes → Name) (c : MVCfg) (vs : Nat → FS) (p : MPutIn) (hp : p.valid)
    (k : Nat) (b : Bytes) (hb : getBlockMV hash c vs p.h = .ok b) :
    ∃ b', getBlockMV hash c (runMV vs ((handlePutMV hash c vs p).1.take k)) p.h = .ok b' ∧ hash b' = p.h := by
  obtain ⟨j, hj, hgj⟩ := getBlockMV_ok_inv hb
  rcases mv_crash_atomic hash c vs p hp k j with h1 | h1
  · exact getBlockMV_ok hj ((getBlock_congr_data h1).trans hgj)
  · exact getBlockMV_ok hj (getBlock_of_data h1.1 h1.2)

/-- **Link to the single-volume history model, and the index after a kill.** After any crash prefix of a
multi-volume PUT, every volume is in a state the single-volume history model (`Reach`: PUT /
WriteBlock / Touch / … micro-steps with a crash anywhere) reaches from its initial state — so every
theorem about `Reach` applies volume by volume. In particular, if all volumes were intact, the index
the restarted server sends (all mounts, one after the other) lists only files whose bytes hash to
the listed name and have the listed size. -/
theorem C02_mv_reach_and_index (hash : Bytes → Name) (c : MVCfg) (vs : Nat → FS) (p : MPutIn) (hp : p.valid) (k : Nat) :
    (∀ i, Reach hash (vs i) (runMV vs ((handlePutMV hash c vs p).1.take k) i)) ∧
    ((∀ i, Intact hash (vs i) ∧ WF (vs i)) →
      ∀ line ∈ indexMV c (runMV vs ((handlePutMV hash c vs p).1.take k)),
        ∃ (i : Nat) (q : Path) (f : File), i < c.n ∧
          (runMV vs ((handlePutMV hash c vs p).1.take k) i).get q = some f ∧ isBlockName q.name = true ∧
          line = (q.name, f.data.length, f.mtime) ∧ hash f.data = q.name) := by
  have hr : ∀ i, Reach hash (vs i) (runMV vs ((handlePutMV hash c vs p).1.take k) i) := fun i => by
    rcases (handlePutMV_spec hash c vs p).1 with h | ⟨hb, hh, hs⟩
    · rw [h, List.take_nil]; exact .init
    · exact ((respects_reach hash).putEvs (fun _ hw => valid_of_writes hash hb hh (hp.writes hw)) (hs.proj i)).runMV vs k
  refine ⟨hr, ?_⟩
  intro hi line hl
  simp only [indexMV, List.mem_flatMap, List.mem_range] at hl
  obtain ⟨i, hin, hli⟩ := hl
  obtain ⟨_, hidx⟩ := C02_index_complete_blocks hash (vs i) _ (hi i).1 (hi i).2 (hr i)
  obtain ⟨q, f, hq, _, hb, hline, hh⟩ := hidx line hli
  exact ⟨i, q, f, hin, hq, hb, hline, hh⟩

/-- **Kill anywhere, restart on the same directory** (single volume, in terms of what the restarted
server shows): after any prefix of a PUT's micro-steps on an intact volume, `GetBlock` answers what it
answered before the PUT or the complete body, the volume is still intact, and every index line is
a complete block with its true size. (`C02_put_crash_atomic` + `C02_index_complete_blocks` composed.) -/
theorem C02_kill_then_restart (hash : Bytes → Name) (fs : FS) (p : PutIn) (hv : (Op.put p).valid hash)
    (hi : Intact hash fs) (hw : WF fs) (k : Nat) :
    (getBlock hash (run fs ((handlePut hash fs p).1.take k)) p.h = getBlock hash fs p.h ∨
      getBlock hash (run fs ((handlePut hash fs p).1.take k)) p.h = .ok p.body) ∧
    Intact hash (run fs ((handlePut hash fs p).1.take k)) ∧
    ∀ line ∈ index (run fs ((handlePut hash fs p).1.take k)), ∃ (q : Path) (f : File),
      (run fs ((handlePut hash fs p).1.take k)).get q = some f ∧ isBlockName q.name = true ∧
      line = (q.name, f.data.length, f.mtime) ∧ hash f.data = q.name := by
  have hr : Reach hash fs (run fs ((handlePut hash fs p).1.take k)) := Reach.step (Op.put p) k Reach.init hv
  obtain ⟨hint, hidx⟩ := C02_index_complete_blocks hash fs _ hi hw hr
  refine ⟨?_, hint, ?_⟩
  · exact put_getBlock hash fs p hv k
  · intro line hl
    obtain ⟨q, f, hq, _, hb, hline, hh⟩ := hidx line hl
    exact ⟨q, f, hq, hb, hline, hh⟩

section Examples

/-- three mounts: 0 full, 1 ordinary, 2 read-only -/
def exCfg : MVCfg := ⟨3, fun i => i == 2, fun i => i == 0⟩
def exVs : Nat → FS := fun _ => FS.empty
/-- NextWritable = writables[1] = volume 1, whose WriteBlock fails at Chtimes; the loop then skips
volume 0 (full) and writes volume 1 again, successfully -/
def exMPut : MPutIn :=
  ⟨exH, exBody, 7, fun _ => none, 1, { exW with fail := .chtimes }, fun _ => { exW with sfx := ['8'] }, none, none⟩

example : exMPut.valid := ⟨⟨rfl, fun _ => by decide⟩, fun _ => ⟨rfl, fun _ => rfl⟩⟩
example : exCfg.writables = [0, 1] := by decide +kernel
-- fall-through: the reply is 200 and volume 1 acknowledged, after a failed attempt on it and a refusal by volume 0
example : (handlePutMV toyHash exCfg exVs exMPut).2 = (.ok200, some 1) := by decide +kernel
example : getBlock toyHash (runMV exVs (handlePutMV toyHash exCfg exVs exMPut).1 1) exH = .ok exBody := by decide +kernel
example : getBlock toyHash (runMV exVs (handlePutMV toyHash exCfg exVs exMPut).1 0) exH = .notFound := by decide +kernel
example : getBlockMV toyHash exCfg (runMV exVs (handlePutMV toyHash exCfg exVs exMPut).1) exH = .ok exBody := by decide +kernel
-- killed during the first attempt (after its Close, before the failing Chtimes): nothing visible anywhere
example : getBlockMV toyHash exCfg (runMV exVs ((handlePutMV toyHash exCfg exVs exMPut).1.take 8)) exH = .notFound := by
  decide +kernel
-- all writable volumes full: 503, and nothing but Compare's stat on each of them
example : (handlePutMV toyHash ⟨2, fun _ => false, fun _ => true⟩ exVs exMPut).2 = (.full, none) ∧
    (handlePutMV toyHash ⟨2, fun _ => false, fun _ => true⟩ exVs exMPut).1.map (·.1) = [0, 1] := by
  decide +kernel

end Examples

end ArvVerif.C02
