/-
C14 layer L2: property theorems about the worker pool's bookkeeping (atomic steps under
`wp.mtx`), for any number of workers and containers.
-/
import ArvVerif.Proofs.C14_L2
namespace ArvVerif.C14

theorem Pool.find_put (p : Pool) (w : Worker) (j : Nat) :
    (p.put w).find j = if j = w.id then (p.find j).map (fun _ => w) else p.find j :=
  find?_replace w j p.workers

theorem Pool.mem_of_find {p : Pool} {i : Nat} {w : Worker} (h : p.find i = some w) : w ∈ p.workers ∧ w.id = i :=
  ⟨List.mem_of_find?_eq_some h, by simpa using List.find?_some h⟩

/-- **Start needs an idle worker in run mode.** `StartContainer(it, u)` succeeds only by
choosing a worker of type `it` whose state is Idle and whose idle behaviour is Run — never a
held, draining, booting, unknown, running or shut-down one — and in the same atomic step that
worker becomes Running with `u` in `starting`; all other workers and `exited` are unchanged. -/
theorem C14_start_needs_idle_run (p p' : Pool) (hwf : p.WF) (it : IType) (u : Uuid) (wid : Nat)
    (h : p.startContainer it u wid = some p') :
    ∃ w ∈ p.workers, w.id = wid ∧ w.itype = it ∧ w.state = .idle ∧ w.idleB = .run ∧
      (∀ x ∈ p.workers, x.busy ≤ w.busy ∨ ¬(x.itype = it ∧ x.state = .idle ∧ x.idleB = .run)) ∧
      p' = p.put (w.accept u) ∧ (w.accept u).state = .running ∧ u ∈ (w.accept u).starting := by
  unfold Pool.startContainer at h
  split at h
  next hc =>
    simp only [Pool.startCandidates, Pool.startable, List.contains_iff_mem, List.mem_map,
      List.mem_filter, List.all_eq_true, decide_eq_true_eq, Bool.and_eq_true, beq_iff_eq] at hc
    obtain ⟨w, ⟨hw, hmax⟩, rfl⟩ := hc
    rw [Pool.find_of_mem hwf hw.1] at h
    cases h
    exact ⟨w, hw.1, rfl, hw.2.1.1, hw.2.1.2, hw.2.2, by grind, rfl, rfl, by simp⟩
  · cases h

/-- … and it fails (returns false) exactly when no worker of that type is Idle in run mode. -/
theorem C14_start_fails_iff (p : Pool) (it : IType) :
    p.startCandidates it = [] ↔ p.startable it = [] := by
  unfold Pool.startCandidates
  dsimp only
  generalize p.startable it = l
  constructor
  · -- a non-empty finite list has an element with maximal `busy`
    intro h
    induction l with
    | nil => rfl
    | cons a rest ih => grind
  · intro h; rw [h]; rfl

example : (Pool.startContainer ⟨[⟨1, 1, .idle, .run, [], [], 0, 0, 0⟩], []⟩ 1 7 1).isSome = true := by decide
example : Pool.startCandidates ⟨[⟨1, 1, .idle, .drain, [], [], 0, 0, 0⟩, ⟨2, 1, .booting, .run, [], [], 0, 0, 0⟩,
    ⟨3, 1, .idle, .hold, [], [], 0, 0, 0⟩, ⟨4, 1, .shutdown, .run, [], [], 0, 0, 0⟩], []⟩ 1 = [] := by decide

/-- **`Running()` is a superset of everything tracked.** A container is a key of `Running()`
iff some worker has it in `starting` or `running`, or it has an `exited` entry; its time value
is zero exactly when there is no `exited` entry. -/
theorem C14_running_view (p : Pool) (u : Uuid) :
    ((p.runningView u).isSome ↔
      (∃ w ∈ p.workers, u ∈ w.starting ∨ u ∈ w.running) ∨ (∃ t, (u, t) ∈ p.exited)) ∧
    (u ∈ p.runningKeys ↔ (p.runningView u).isSome) ∧
    (p.runningView u = some none ↔
      (∃ w ∈ p.workers, u ∈ w.starting ∨ u ∈ w.running) ∧ ¬ ∃ t, (u, t) ∈ p.exited) := by
  have hex : (p.exited.find? (fun q => q.1 == u)).isSome ↔ ∃ t, (u, t) ∈ p.exited := by
    simp only [List.find?_isSome, beq_iff_eq, Prod.exists]
    grind
  unfold Pool.runningView Pool.runningKeys
  simp only [List.mem_append, List.mem_flatMap, List.mem_map, List.any_eq_true, Bool.or_eq_true,
    List.contains_iff_mem]
  cases hf : p.exited.find? (fun q => q.1 == u)
  · dsimp only
    split <;> grind
  · grind

/-- **A stale probe result is ignored.** If the worker was updated after the probe began (its
`updated` stamp differs from the one the probe read), applying the probe result — to any worker
whatsoever — changes neither
`running` nor `starting` and records no exit — whatever the probe saw. (`hlt`: the probe's stamp was
read before this critical section. It is needed because a "broken" report may shut the worker down
inside the section, stamping `updated := now`, and the guard compares with that stamp.) -/
theorem C14_stale_probe_ignored (w : Worker) (p : Probe) (now : Nat)
    (hlt : p.stamp < now) (hstale : p.stamp ≠ w.updated) :
    (w.probeApply p now).1.running = w.running ∧ (w.probeApply p now).1.starting = w.starting ∧
    (w.probeApply p now).2 = [] := by
  apply Worker.probeApply_not_fresh
  cases h : Worker.probeFresh w p now
  · rfl
  · exact absurd (Worker.probeFresh_stamp hlt h).1 hstale

/-- In particular a probe that began before a start completed never removes that container from
`running`: the completion closure (when its runner is still in `starting`) stamps `updated`,
which makes the probe stale. -/
theorem C14_start_completion_not_undone (w : Worker) (u : Uuid) (p : Probe) (t1 t2 : Nat)
    (hu : u ∈ w.starting) (hbegin : p.stamp = w.updated)
    (h1 : w.updated < t1) (h2 : t1 < t2) :
    u ∈ ((w.startDone u t1).probeApply p t2).1.running := by
  have := C14_stale_probe_ignored (w.startDone u t1) p t2 (by omega)
    (by rw [Worker.startDone_updated]; simp [hu]; omega)
  rw [this.1, Worker.startDone_running]
  exact Or.inr ⟨rfl, hu⟩

example : (7 : Uuid) ∈ ((Worker.startDone ⟨1, 1, .running, .run, [7], [], 5, 5, 5⟩ 7 10).probeApply
    ⟨5, true, true, false, [], false, false⟩ 11).1.running := by decide

/-- Fix 18910db: a completion closure whose runner is no longer in `starting` (a probe adopted
it, and possibly closed it again) changes nothing — in particular it cannot put a container back
into `running` of a worker that has gone Idle. -/
theorem C14_late_completion_is_noop (w : Worker) (u : Uuid) (now : Nat) (h : u ∉ w.starting) :
    w.startDone u now = w := Worker.startDone_of_not_mem now h

/-- A fresh, successful probe makes `running` exactly the set the probe reported, and a
container leaves `starting` only by being reported. -/
theorem C14_fresh_probe_applied (w : Worker) (p : Probe) (now : Nat)
    (hidle : w.state = .idle → w.running = [] ∧ w.starting = [])
    (hfresh : Worker.probeFresh w p now = true) (v : Uuid) :
    (v ∈ (w.probeApply p now).1.running ↔ v ∈ p.uuids) ∧
    (v ∈ w.starting → v ∉ p.uuids → v ∈ (w.probeApply p now).1.starting) := by
  have := (Worker.probeApply_spec w p now hidle).2.1 hfresh
  grind

/-- **Every listed container is read.** Whatever the order of the lines of `crunch-run --list`
(in particular wherever "broken" stands), a container is reported running iff it has a line of
its own; "broken" and stale run locks are reported iff such a line exists; a stale line never
counts as running. -/
theorem C14_probe_reads_every_line (ls : List ProbeLine) (u : Uuid) :
    (u ∈ (parseProbe ls).1 ↔ ProbeLine.uuid u ∈ ls) ∧
    ((parseProbe ls).2.1 = true ↔ ProbeLine.broken ∈ ls) ∧
    ((parseProbe ls).2.2 = true ↔ ∃ v, ProbeLine.stale v ∈ ls) := by
  induction ls with
  | nil => simp [parseProbe]
  | cons l rest ih =>
    obtain ⟨i1, i2, i3⟩ := ih
    cases l <;> simp [parseProbe, i1, i2, i3]

example : parseProbe [.broken, .uuid 3, .stale 4, .uuid 5, .empty] = ([3, 5], true, true) := by decide

/-- **A failed instance listing drops nothing.** When `Instances()` returns an error — a
rate-limit error included — `getInstancesAndSync` leaves every worker (and so everything
`Running()` reports) in place; workers are only ever dropped by a `sync` over a list the cloud
actually returned (assumption A2 is about that list). -/
theorem C14_failed_listing_drops_nothing (p : Pool) (retry : Nat → Bool) (th now : Nat) :
    p.getInstancesAndSync .failed retry th now = p := rfl

end ArvVerif.C14
