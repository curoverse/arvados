/-
C19 property theorems, keepstore part: everything one keepstore process sends to other clusters on
its remote GET path, over its whole life (model: Model/C19_Keep.lean).
-/
import ArvVerif.Proofs.C19_Keep
namespace ArvVerif.C19

/-! ## the caller's token -/

/-- `GetAPIToken`: `OAuth2 <t>` and `Bearer <t>` (one or more white-space characters after the
scheme word) give `t` when `t` does not start with white space and has no line feed; a value that
does not start with one of the two scheme words followed by white space gives no token (401); only
the FIRST Authorization header value is read. -/
theorem C19_keepstore_get_token (t : Str) (c : Char) (ws : Str) (more : List Str)
    (hc : isReSpace c = true) (hws : ∀ x ∈ ws, isReSpace x = true)
    (ht0 : ∀ x r, t = x :: r → isReSpace x = false) (hnl : '\n' ∉ t) :
    getAPIToken ((sOAuth2 ++ c :: ws ++ t) :: more) = t ∧
    getAPIToken ((sBearerWord ++ c :: ws ++ t) :: more) = t ∧
    getAPIToken [] = [] ∧
    (∀ v, sOAuth2.isPrefixOf v = false → sBearerWord.isPrefixOf v = false → getAPIToken (v :: more) = []) ∧
    (∀ v, getAPIToken (v :: more) = getAPIToken [v]) := by
  have hk := fun w hw => keepAuthToken_scheme w t c ws hw hc hws ht0 hnl
  refine ⟨?_, ?_, rfl, fun v h1 h2 => ?_, fun v => rfl⟩
  · simp only [getAPIToken, hk _ (.inl rfl)]
  · simp only [getAPIToken, hk _ (.inr rfl)]
  · simp [getAPIToken, keepAuthToken, h1, h2]

/-! ## what a keepstore process sends to other clusters -/

/-- **Every request of every history.** A keepstore process with configured remotes `cfg` and any
client cache `cached` serves any sequence of remote GET requests (any Authorization header values,
any locators). For the request `q` of the sequence and everything `st` it causes to be sent:

* a request to a remote cluster's API endpoint (the two requests that build that remote's keep
  client) carries `Authorization: OAuth2 xxx` — a constant, no function of any caller's
  credentials, of this or of an earlier request — and goes to a configured remote that the locator
  of THIS request names in a `+R` hint and that was not in the cache the process started with;
* a block request carries `OAuth2 <t>` where `t = SaltToken(tok, r)` for the token `tok` of THIS
  request's first Authorization value and a configured remote `r` named by a `+R` hint of THIS
  request's locator (no memory of earlier requests); with a 20-byte MAC `t` never needs salting;
  it goes to a keep service of `r` — or to `keep.<x>.arvadosapi.com` for a `+K@<x>` hint that the
  caller's locator carries (see F19d below). -/
theorem C19_keepstore_process (mac : Str → Str → List UInt8) (cfg : List Str) :
    ∀ (reqs : List KeepReq) (cached : List Str) (q : KeepReq) (st : KeepStep),
    (q, st) ∈ reqs.zip (keepProc mac cfg cached reqs) →
    (∀ r a, (KeepEvent.discovery r a ∈ st.events ∨ KeepEvent.services r a ∈ st.events) →
      a = "OAuth2 xxx".toList ∧ r ∈ cfg ∧ r ∉ cached ∧
      ∃ p ∈ q.hash :: q.hints, isRemoteHint p = true ∧ hintRemote p = r) ∧
    (∀ d loc a, KeepEvent.block d loc a ∈ st.events →
      ∃ r t, r ∈ cfg ∧ (∃ p ∈ q.hash :: q.hints, isRemoteHint p = true ∧ hintRemote p = r) ∧
        saltToken mac (getAPIToken q.auths) r = .ok t ∧ a = sOAuth2sp ++ t ∧
        ((∀ k m, (mac k m).length = 20) → ¬ MustSalt t) ∧
        (d = .svc r ∨ ∃ x, d = .ext x ∧ (sKAt ++ x) ∈ q.hash :: q.hints ∧ x.length = 5)) := by
  intro reqs cached q st h
  obtain ⟨c', hsub, rfl⟩ := mem_zip_keepProc h
  have hev := (keepProxyGet_spec mac cfg c' q.auths q.hash q.hints).2
  refine ⟨fun r a hmem => ?_, fun d loc a hmem => ?_⟩
  · obtain ⟨h1, h2, h3, h4⟩ := hmem.elim (hev _) (hev _)
    exact ⟨h3.trans placeholderAuth_eq, h1, fun hx => h2 (hsub hx), h4⟩
  · obtain ⟨r, t, ⟨g1, g2, g3⟩, ha, hd⟩ := hev _ hmem
    exact ⟨r, t, g1, g2, g3, ha, fun hmac => not_mustSalt_of_saltToken_ok hmac g3, hd⟩

/-- Once a remote has a keep client it keeps it: the client cache only grows, and a remote whose
`+R` hint was processed (configured remote) is in the cache afterwards — so the two client-building
requests happen on the first use of a remote only (previous theorem: never for a cached remote). -/
theorem C19_keepstore_cache_grows (mac : Str → Str → List UInt8) (cfg cached : List Str) (q : KeepReq) :
    ∀ x ∈ cached, x ∈ (keepProxyGet mac cfg cached q.auths q.hash q.hints).1 :=
  fun _ hx => (keepProxyGet_spec mac cfg cached q.auths q.hash q.hints).1 hx

/-! ## F19d: a `+K@<cluster>` hint sends the token salted for R to another cluster

Full statement: every block request carries the caller's token salted for the cluster it goes to. -/

def destCluster : KeepDest → Str
  | .svc r => r
  | .ext x => x

def C19_keepstore_dest_Full : Prop :=
  ∀ (mac : Str → Str → List UInt8) (cfg cached : List Str) (q : KeepReq) (d : KeepDest) (loc a : Str),
    KeepEvent.block d loc a ∈ (keepProxyGet mac cfg cached q.auths q.hash q.hints).2.events →
    ∃ t, saltToken mac (getAPIToken q.auths) (destCluster d) = .ok t ∧ a = sOAuth2sp ++ t

/-- a MAC whose value depends on the message (the remote id) -/
def macW : Str → Str → List UInt8 := fun _ m => List.replicate 20 (UInt8.ofNat (m.headD 'a').toNat)

def witnessF19d : KeepReq :=
  { auths := ["Bearer v2/u/secret".toList], hash := "acbd18db4cc2f85cedef654fccc4a4d8".toList,
    hints := ["3".toList, "Rzzzzz-sig@5f000000".toList, "K@yyyyy".toList] }

/-- The witness: remote `zzzzz` configured, locator `<hash>+3+Rzzzzz-<sig>+K@yyyyy`. The request to
`keep.yyyyy.arvadosapi.com` carries the token salted for `zzzzz`, which cluster `yyyyy` can replay
at `zzzzz`. -/
theorem C19_keepstore_dest_full_fails : ¬ C19_keepstore_dest_Full := by
  intro h
  have hmem : KeepEvent.block (.ext "yyyyy".toList)
      "acbd18db4cc2f85cedef654fccc4a4d8+3+Asig@5f000000+K@yyyyy".toList
      (sOAuth2sp ++ saltedForm macW "u".toList "secret".toList "zzzzz".toList) ∈
      (keepProxyGet macW ["zzzzz".toList] [] witnessF19d.auths witnessF19d.hash witnessF19d.hints).2.events := by
    unfold witnessF19d
    -- literals to character lists before evaluating: see the note in Props/C19.lean
    repeat rw [String.toList_ofList]
    decide +kernel
  obtain ⟨t, h1, h2⟩ := h macW ["zzzzz".toList] [] witnessF19d _ _ _ hmem
  -- `h1` computes `t`, the token salted for `yyyyy`; `h2` says it is the one salted for `zzzzz`
  unfold witnessF19d at h1
  repeat rw [String.toList_ofList] at h1 h2
  cases Except.ok.inj h1
  revert h2
  decide +kernel

/-- What holds: a block request goes to a keep service of the remote `r` the token was salted for,
unless the caller's locator carries a `+K@<x>` hint — then also to `keep.<x>.arvadosapi.com`. In
particular: no 7-character `+K@` part in the locator ⇒ every block request carries the caller's
token salted for the cluster it goes to. -/
theorem C19_keepstore_dest_partial (mac : Str → Str → List UInt8) (cfg cached : List Str) (q : KeepReq)
    (hk : ∀ p ∈ q.hash :: q.hints, isProxyHint p = false) (d : KeepDest) (loc a : Str)
    (hmem : KeepEvent.block d loc a ∈ (keepProxyGet mac cfg cached q.auths q.hash q.hints).2.events) :
    ∃ t, saltToken mac (getAPIToken q.auths) (destCluster d) = .ok t ∧ a = sOAuth2sp ++ t ∧
      ∃ r, d = .svc r ∧ r ∈ cfg := by
  obtain ⟨r, t, ⟨g1, _, g3⟩, ha, hd⟩ := (keepProxyGet_spec mac cfg cached q.auths q.hash q.hints).2 _ hmem
  rcases hd with rfl | ⟨x, rfl, hx, hlen⟩
  · exact ⟨t, g3, ha, r, rfl, g1⟩
  · exfalso
    have := hk _ hx
    simp [isProxyHint, sKAt, hlen] at this

/-! ## Non-vacuity -/

-- C19_keepstore_get_token: separators and a token as the theorem wants them
example : isReSpace ' ' = true ∧ (∀ x ∈ ['\t', ' '], isReSpace x = true) ∧ '\n' ∉ "v2/u/s".toList := by
  decide +kernel
example : ∀ x r, "v2/u/s".toList = x :: r → isReSpace x = false := by
  rw [String.toList_ofList]
  rintro x r ⟨⟩
  decide
example : getAPIToken ["Bearer \t v2/u/s".toList, "Bearer other".toList] = "v2/u/s".toList := by
  repeat rw [String.toList_ofList]
  decide +kernel
example : getAPIToken ["bearer v2/u/s".toList] = [] := by
  rw [String.toList_ofList]
  decide +kernel

-- C19_keepstore_process: a fresh process, two requests for the same remote by two users: the
-- client is built on the first request only, each block request carries its own caller's token
example : keepProc macW ["zzzzz".toList] []
    [⟨["OAuth2 v2/a/s".toList], "h".toList, ["Rzzzzz-sig".toList]⟩,
     ⟨["OAuth2 v2/b/s".toList], "h".toList, ["Rzzzzz-sig".toList]⟩] =
    [⟨404, [.discovery "zzzzz".toList "OAuth2 xxx".toList, .services "zzzzz".toList "OAuth2 xxx".toList,
            .block (.svc "zzzzz".toList) "h+Asig".toList
              (sOAuth2sp ++ saltedForm macW "a".toList "s".toList "zzzzz".toList)]⟩,
     ⟨404, [.block (.svc "zzzzz".toList) "h+Asig".toList
              (sOAuth2sp ++ saltedForm macW "b".toList "s".toList "zzzzz".toList)]⟩] := by
  repeat rw [String.toList_ofList]
  decide +kernel

-- C19_keepstore_dest_partial: the hypothesis holds for an ordinary signed remote locator
example : ∀ p ∈ ["acbd18db4cc2f85cedef654fccc4a4d8".toList, "3".toList, "Rzzzzz-sig@5f000000".toList],
    isProxyHint p = false := by
  repeat rw [String.toList_ofList]
  decide +kernel

end ArvVerif.C19
