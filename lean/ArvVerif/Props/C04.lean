/-
C04 — a freshly written or touched block survives garbage collection for the TTL.

Sequential layer (`Model/C04.lean`): theorems over ARBITRARY request histories (any length, any
initial state, any configuration). Interleaving layer (`Model/C04_Race.lean`): theorems for EVERY
schedule `List Bool` of one PUT/TOUCH against one Trash.

Both models describe the tree AFTER the two repairs this check led to (both statements were false
before, with machine-checked witnesses, see notes/C04.md):
  * fix 7e105eb (finding F4): WriteBlock takes the flock of the file it is about to replace;
  * fix f7a86a4 (finding F04a): Untrash gives the restored block a current timestamp.
The former witnesses are kept below as `example`s that now satisfy the property, and in
corpus/C04/witnesses.txt for the correspondence check.
-/
import ArvVerif.Proofs.C04_Trash
import ArvVerif.Proofs.C04_HistGood
import ArvVerif.Proofs.C04_Race
import ArvVerif.Proofs.C04_ComposeCheck
import ArvVerif.Proofs.C04_ComposeSeq
import ArvVerif.Proofs.C04_Race3
import ArvVerif.Proofs.C04_Queue
namespace ArvVerif.C04

def emptyGhost : Ghost := fun _ => none

/-- Full strength: after ANY history (any number of volumes, any initial contents and ages, any
TTL / lifetime / BlobTrash setting, any sequence of PUT, TOUCH, GET, DELETE, trash-list items with any
mtime and mount, untrash, empty-trash sweeps and clock ticks), every hash acknowledged (PUT/TOUCH
answered 200) at time t is, while now < t + TTL, still stored on the server with a timestamp ≥ t. -/
theorem C04_history_protects (c : Cfg) (s : St) (ops : List Op) :
    Prot c (runG c s emptyGhost ops).1 (runG c s emptyGhost ops).2 :=
  prot_run ops s emptyGhost (fun _ _ hg => by cases hg)

/-- the conclusion unfolded for one hash, as the property states it -/
theorem C04_acknowledged_block_survives (c : Cfg) (s : St) (ops : List Op)
    (h : Hash) (t : Time) (hack : (runG c s emptyGhost ops).2 h = some t)
    (hlt : (runG c s emptyGhost ops).1.now < t + c.ttl) :
    ∃ v ∈ (runG c s emptyGhost ops).1.vols, ∃ f, v.blocks h = some f ∧ t ≤ f.mtime :=
  (C04_history_protects c s ops h t hack).2 hlt

/-- ... and it is served: if no copy on the server was corrupt to begin with (block files and trashed
files), a hash acknowledged at t is answered 200 by GET at every moment before t + TTL -/
theorem C04_acknowledged_block_is_readable (c : Cfg) (s : St) (ops : List Op) (hgood : AllGood s)
    (h : Hash) (t : Time) (hack : (runG c s emptyGhost ops).2 h = some t)
    (hlt : (runG c s emptyGhost ops).1.now < t + c.ttl) :
    (step c (runG c s emptyGhost ops).1 (.get h)).2 = .code 200 := by
  obtain ⟨v, hv, f, hf, _⟩ := C04_acknowledged_block_survives c s ops h t hack hlt
  exact get_200 c _ ⟨v, hv, f, hf, (allGood_runG (c := c) ops s emptyGhost hgood v hv).1 h f hf⟩

/-! ### content of an acknowledged PUT

Beyond the property text (which speaks of trash-list entries, DELETE requests and sweeps REMOVING the
block): is a block whose PUT was acknowledged also still READABLE? Not unconditionally — `untrash`
renames the trashed copy over whatever is at the block path, and a trashed copy that was corrupt on
disk then replaces the intact fresh one (GET 500). No garbage-collection request is involved and the
bad bytes pre-exist, so this is not a violation of C04 as stated; the exact boundary is: -/

/-- Full: GET answers 200 before t + TTL for every hash whose PUT was acknowledged at t. -/
def C04_put_readable_Full : Prop :=
  ∀ (c : Cfg) (s : St) (ops : List Op) (h : Hash) (t : Time),
    (runGP c s emptyGhost ops).2 h = some t → (runGP c s emptyGhost ops).1.now < t + c.ttl →
    (step c (runGP c s emptyGhost ops).1 (.get h)).2 = .code 200

/-- witness: a corrupt copy of h0 sits in the trash; PUT h0 (acknowledged, intact copy written);
untrash h0 renames the corrupt copy over it; GET h0 → 500 -/
def cVol : Vol := { id := 0, ro := false, blocks := fun _ => none,
                    trash := [{ hash := 0, deadline := 500, file := { good := false, mtime := 0 } }] }
def cSt : St := { vols := [cVol], now := 100, rr := 0 }
def cOps : List Op := [.put 0 true, .untrash 0]

theorem C04_put_readable_full_fails : ¬ C04_put_readable_Full := by
  intro hF
  have := hF { ttl := 10, life := 4, blobTrash := true, conc := 1, res := 1 } cSt cOps 0 100 (by decide) (by decide)
  revert this
  decide

/-- What holds, with no assumption about the other copies on the server: over every history in which
each `untrash` restores an intact file (`CleanUntrash`), a hash whose PUT was acknowledged at t is
answered 200 by GET at every moment before t + TTL. -/
theorem C04_put_readable_partial (c : Cfg) (s : St) (ops : List Op) (hclean : CleanUntrash c s ops)
    (h : Hash) (t : Time) (hack : (runGP c s emptyGhost ops).2 h = some t)
    (hlt : (runGP c s emptyGhost ops).1.now < t + c.ttl) :
    (step c (runGP c s emptyGhost ops).1 (.get h)).2 = .code 200 := by
  have hp := protG_run (c := c) ops s emptyGhost (fun _ _ hg => by cases hg) hclean
  obtain ⟨v, hv, f, hf, _, hg⟩ := (hp h t hack).2 hlt
  exact get_200 c _ ⟨v, hv, f, hf, hg⟩

example : CleanUntrash { ttl := 10, life := 4, blobTrash := true, conc := 1, res := 1 } cSt [.put 0 true, .delete 0, .get 0] := by
  simp [CleanUntrash, CleanOp]
example : (runGP { ttl := 10, life := 4, blobTrash := true, conc := 1, res := 1 } cSt emptyGhost [.put 0 true, .delete 0, .get 0]).2 0 = some 100 := by
  decide

/-! non-vacuity, on the former F04a witness: one writable volume holding h0 with an old timestamp; TTL
10; time 100: DELETE h0 (trashed) · PUT h0 (acknowledged at 100) · untrash h0 (old copy renamed over the
new one — now stamped 100) · DELETE h0 (kept: younger than the TTL) · GET 200. -/
def wCfg : Cfg := { ttl := 10, life := 4, blobTrash := true, conc := 1, res := 1 }
def wVol : Vol := { id := 0, ro := false, trash := [],
                    blocks := fun h => if h = 0 then some { good := true, mtime := 0 } else none }
def wSt : St := { vols := [wVol], now := 100, rr := 0 }
def wOps : List Op := [.delete 0, .put 0 true, .untrash 0, .delete 0, .get 0]

example : (runG wCfg wSt emptyGhost wOps).2 0 = some 100 := by decide
example : (runG wCfg wSt emptyGhost wOps).1.now < 100 + wCfg.ttl := by decide
example : (run wCfg wSt wOps).2 = [.deleted 1 0, .code 200, .code 200, .deleted 1 0, .code 200] := by decide
example : (runG wCfg wSt emptyGhost wOps).1.vols.map (fun v => v.blocks 0) = [some { good := true, mtime := 100 }] := by
  decide
example : AllGood wSt := by
  intro v hv
  simp only [wSt, List.mem_singleton] at hv
  subst hv
  refine ⟨fun h f hf => ?_, fun e he => by cases he⟩
  simp only [wVol] at hf
  split at hf
  · cases hf; rfl
  · cases hf
def okOps : List Op := [.delete 0, .untrash 0, .put 0 true, .tick 3, .delete 0, .emptyTrash, .get 0]
example : (runG wCfg wSt emptyGhost okOps).2 0 = some 100 := by decide
example : (run wCfg wSt okOps).2 = [.deleted 1 0, .code 200, .code 200, .quiet, .deleted 1 0, .quiet, .code 200] := by decide

/-- A trash-list item changes the block map of a volume only by removing the copy of the requested
hash, and only if: the volume is writable, BlobTrash is on, the mount matches, the request's mtime is
at least TTL old, and the stored mtime EQUALS the requested one. -/
theorem C04_trash_preconditions (c : Cfg) (s : St) (h : Hash) (req : Time) (mount : Option Nat) :
    (step c s (.trashItem h req mount)).1.now = s.now ∧
    ∃ F : Vol → Vol, (step c s (.trashItem h req mount)).1.vols = s.vols.map F ∧
      ∀ v h', (F v).blocks h' ≠ v.blocks h' →
        h' = h ∧ v.ro = false ∧ c.blobTrash = true ∧ (mount = none ∨ mount = some v.id) ∧
        ¬ (s.now < req + c.ttl) ∧ (F v).blocks h = none ∧ ∃ f, v.blocks h = some f ∧ f.mtime = req := by
  by_cases hy : young c s.now req = true
  · exact ⟨by simp [step, hy], id, by simp [step, hy], fun v h' hne => absurd rfl hne⟩
  · exact ⟨by simp [step, hy], tiVol c s.now h req mount, by simp [step, hy], tiVol_acts c s.now h req mount⟩

/-- DELETE: the same without the mtime match; the stored copy must be at least TTL old. -/
theorem C04_delete_preconditions (c : Cfg) (s : St) (h : Hash) :
    (step c s (.delete h)).1.now = s.now ∧
    ∃ F : Vol → Vol, (step c s (.delete h)).1.vols = s.vols.map F ∧
      ∀ v h', (F v).blocks h' ≠ v.blocks h' →
        h' = h ∧ v.ro = false ∧ c.blobTrash = true ∧ (F v).blocks h = none ∧
        ∃ f, v.blocks h = some f ∧ ¬ (s.now < f.mtime + c.ttl) := by
  by_cases hb : c.blobTrash = true
  · by_cases hn : (s.vols.filter (delHit c s.now h)).length = 0
    · exact ⟨by simp [step, hb, hn], id, by simp [step, hb, hn], fun v h' hne => absurd rfl hne⟩
    · exact ⟨by simp [step, hb, hn], delVol c s.now h, by simp [step, hb, hn], delVol_acts c s.now h⟩
  · exact ⟨by simp [step, hb], id, by simp [step, hb], fun v h' hne => absurd rfl hne⟩

/-- a trashed copy is kept as `<hash>.trash.<deadline>` with deadline = ⌊(now + lifetime) / second⌋
(unless the lifetime is zero) -/
theorem C04_trash_moves_to_trash (c : Cfg) (now : Time) (v : Vol) (h : Hash) (f : File)
    (hf : v.blocks h = some f) (hgone : (Vol.trashBlock c now v h).2.blocks h = none) (hlife : c.life ≠ 0) :
    { hash := h, deadline := (now + c.life) / c.res, file := f } ∈ (Vol.trashBlock c now v h).2.trash := by
  rcases trashBlock_cases c now v h with he | ⟨f', -, -, hf', -, he⟩ <;> rw [he] at hgone ⊢
  · rw [hf] at hgone; cases hgone
  · rw [hf] at hf'; cases hf'
    simp [hlife, trashInsert, deadlineOf]

example : (step wCfg wSt (.trashItem 0 0 none)).1.vols.map (fun v => (v.blocks 0, v.trash.length)) = [(none, 1)] := by decide
example : (step wCfg wSt (.trashItem 0 1 none)).1.vols.map (fun v => (v.blocks 0).isSome) = [true] := by decide

/-- An empty-trash sweep never touches a block file and removes from the writable volumes exactly the
trash entries whose deadline (whole seconds) is not in the future. -/
theorem C04_empty_trash_exact (c : Cfg) (s : St) :
    (step c s .emptyTrash).1.vols = s.vols.map (sweepVol c s.now) ∧
    ∀ v, (sweepVol c s.now v).blocks = v.blocks ∧
      ∀ e, e ∈ (sweepVol c s.now v).trash ↔ e ∈ v.trash ∧ (v.ro = true ∨ c.conc < 1 ∨ s.now / c.res < e.deadline) :=
  ⟨rfl, fun v => ⟨sweepVol_blocks c s.now v, fun e => sweepVol_trash c s.now v e⟩⟩

/-- A trashed copy `<h>.trash.<D>` on a writable volume stays restorable through ANY history that does
not itself untrash `h`, for as long as the clock (in whole seconds) is before `D`: `untrash h` then
answers 200 and the block file is back on that volume. -/
theorem C04_untrash_until_deadline (c : Cfg) (s : St) (ops : List Op) (id : Nat) (h : Hash) (D : Nat)
    (hno : NoUntrashOf h ops) (hent : HasEntry s.vols id h D)
    (hD : (run c s ops).1.now / c.res < D) :
    (step c (run c s ops).1 (.untrash h)).2 = .code 200 ∧
    ∃ v ∈ (step c (run c s ops).1 (.untrash h)).1.vols, v.id = id ∧ (v.blocks h).isSome = true :=
  untrash_restores c _ id h D (hasEntry_run c id h D ops s hno hent hD)

/-- deadlines are whole seconds: an entry made at `now` survives every sweep at a time before
⌊(now + lifetime)/res⌋ · res, i.e. the lifetime is honoured up to rounding down to a second -/
theorem C04_deadline_whole_seconds (c : Cfg) (hres : 0 < c.res) (now now' : Time) :
    now' / c.res < deadlineOf c now ↔ now' < ((now + c.life) / c.res) * c.res := by
  unfold deadlineOf
  exact Nat.div_lt_iff_lt_mul hres

def trashedSt : St := (step wCfg wSt (.delete 0)).1
example : HasEntry trashedSt.vols 0 0 104 := by
  unfold HasEntry
  decide
example : (run wCfg trashedSt [.tick 3, .emptyTrash, .put 1 true]).1.now / wCfg.res < 104 := by decide
example : (step wCfg (run wCfg trashedSt [.tick 4, .emptyTrash]).1 (.untrash 0)).2 = .code 404 := by decide

open Race in
/-- P's request has been answered 200 -/
def Acked (s : Race.St) : Prop := s.resP = .okTouch ∨ s.resP = .okWrite

open Race in
/-- the block path holds a copy younger than the TTL (for a PUT: an intact one) -/
def Protected (s : Race.St) : Prop :=
  ∃ i, s.blk = some i ∧ s.fresh i = true ∧ (s.cfg.pop = .put → s.good i = true)

theorem ackSafe_prop {s : Race.St} (h : Race.ackSafe s = true) (ha : Acked s) : Protected s := by
  have hacked : s.acked = true := by cases ha <;> simp [Race.St.acked, *]
  simp only [Race.ackSafe, hacked, Bool.not_true, Bool.false_or, Race.St.protected] at h
  split at h
  · rename_i i hi
    simp only [Bool.and_eq_true, Bool.or_eq_true, bne_iff_ne, ne_eq] at h
    exact ⟨i, hi, h.1, fun hp => h.2.resolve_left (fun hne => hne hp)⟩
  · cases h

/-- For EVERY interleaving of one PUT/TOUCH with one DELETE or trash-list item, every configuration
(Serialize on or off, trash lifetime zero or not, copy absent / intact / corrupt, old or young): an
acknowledged PUT/TOUCH leaves a copy with a current timestamp (intact, for a PUT) at the block path at
every later point of the execution. -/
theorem C04_race_protects (c : Race.Cfg) (sched : List Bool) (htop : c.top ≠ .untrash) :
    Acked (Race.run sched (Race.init c)) → Protected (Race.run sched (Race.init c)) :=
  ackSafe_prop (Race.run_ackSafe c htop sched)

/-- One PUT/TOUCH against one UNTRASH of the same block (Untrash takes neither the Serialize lock nor
the flock; it renames the trashed copy over whatever is at the block path, then stamps it): for every
interleaving, once both requests have finished an acknowledged PUT/TOUCH has a copy with a current
timestamp at the block path. (Between Untrash's Rename and its Chtimes the path transiently holds the
restored copy with its old timestamp; a Trash running exactly then would be a third request — outside
this property's quantifier, which pairs the write with ONE trash request.) -/
theorem C04_race_untrash (c : Race.Cfg) (sched : List Bool)
    (hfin : Race.finished (Race.run sched (Race.init c)) = true) :
    Acked (Race.run sched (Race.init c)) → Protected (Race.run sched (Race.init c)) :=
  ackSafe_prop (Race.run_ackSafe_fin c sched hfin)

/-- The Volume-interface contract (volume.go): never both "Touch succeeded" and "Trash trashed the
block"; and an acknowledged TOUCH, or an acknowledged PUT that found an intact copy (compare-and-touch,
falling back to WriteBlock if the touch fails), is protected. -/
theorem C04_race_closed (c : Race.Cfg) (sched : List Bool) (htop : c.top ≠ .untrash)
    (_hc : c.pop = .touch ∨ c.pre = .good) :
    ¬ ((Race.run sched (Race.init c)).resP = .okTouch ∧ (Race.run sched (Race.init c)).resT = .trashed) ∧
    (Acked (Race.run sched (Race.init c)) → Protected (Race.run sched (Race.init c))) := by
  exact ⟨Race.run_contract c sched, C04_race_protects c sched htop⟩

/-- the contract half holds in every configuration -/
theorem C04_race_contract (c : Race.Cfg) (sched : List Bool) :
    ¬ ((Race.run sched (Race.init c)).resP = .okTouch ∧ (Race.run sched (Race.init c)).resT = .trashed) :=
  Race.run_contract c sched

/-- A PUT that resolves to WriteBlock (no intact copy on the volume: absent, or a corrupt copy that is
overwritten): full strength, Serialize on or off. (False before fix 7e105eb: finding F4.) -/
theorem C04_race_overwrite (c : Race.Cfg) (sched : List Bool) (htop : c.top ≠ .untrash)
    (_hp : c.pop = .put) (_hpre : c.pre ≠ .good) :
    Acked (Race.run sched (Race.init c)) → Protected (Race.run sched (Race.init c)) :=
  C04_race_protects c sched htop

/-! the former F4 witness: Serialize off, corrupt old copy; schedule (true = P, false = T):
T: v.lock, OpenFile, lockfile, Stat (old ⇒ will trash) · P: stat, lock, Open, read (corrupt), MkdirAll,
TempFile, lock, Copy, Close, Chtimes, OpenFile(old) , lockfile(old) — now WAITS for Trash · T: Rename
(moves the OLD copy) · P: Rename, acknowledged: the new block stays. -/
def f4Cfg : Race.Cfg := { serialize := false, life0 := false, pre := .corrupt, ageOld := true, pop := .put, top := .del }
def f4Sched : List Bool := [false, false, false, false] ++ List.replicate 13 true ++ [false] ++ [true, true]

example : Acked (Race.run f4Sched (Race.init f4Cfg)) := Or.inr (by decide)
example : (Race.run f4Sched (Race.init f4Cfg)).resT = .trashed := by decide
example : (Race.run f4Sched (Race.init f4Cfg)).blk = some .b := by decide
example : (Race.run f4Sched (Race.init f4Cfg)).locA = .trash := by decide

/-- no deadlock: after any schedule, 30 fair rounds finish both requests -/
theorem C04_race_no_deadlock (c : Race.Cfg) (sched : List Bool) :
    Race.finished (Race.run Race.drain (Race.run sched (Race.init c))) = true :=
  Race.pairs_finish c 30 sched (Nat.le_trans (Race.rank_le _) (by decide))

/-- the schedule controller's runner (a lock waiter proceeds as soon as the holder lets go) only
reaches states of the pure interleaving semantics -/
theorem C04_race_controller_refines (c : Race.Cfg) (sched : List Bool) :
    ∃ sched', (Race.runE sched (Race.init c) []).1 = Race.run sched' (Race.init c) :=
  Race.runE_is_run sched _ _

/-! non-vacuity: schedules in which the PUT / TOUCH is acknowledged while Trash really trashes -/
def gCfg : Race.Cfg := { serialize := false, life0 := false, pre := .good, ageOld := true, pop := .put, top := .del }
example : Acked (Race.run (f4Sched ++ Race.drain) (Race.init gCfg)) := Or.inr (by decide +kernel)
example : (Race.run (f4Sched ++ Race.drain) (Race.init gCfg)).resT = .trashed := by decide +kernel
example : Acked (Race.run (List.replicate 4 true ++ Race.drain) (Race.init { gCfg with pop := .touch })) :=
  Or.inl (by decide +kernel)
example : Acked (Race.run (f4Sched ++ Race.drain) (Race.init { f4Cfg with serialize := true })) :=
  Or.inr (by decide +kernel)
example : (Race.run (f4Sched ++ Race.drain) (Race.init { f4Cfg with serialize := true })).resT = .trashed := by
  decide +kernel

/-! untrash pair: TOUCH opens the old copy, Untrash renames the trashed copy over it, TOUCH stamps BY
PATH (so it stamps the restored copy), both finish -/
def uCfg : Race.Cfg := { serialize := false, life0 := false, pre := .good, ageOld := true, pop := .touch, top := .untrash }
example : Race.finished (Race.run ([true, false, false] ++ Race.drain) (Race.init uCfg)) = true := by decide +kernel
example : Acked (Race.run ([true, false, false] ++ Race.drain) (Race.init uCfg)) := Or.inl (by decide +kernel)
example : (Race.run ([true, false, false] ++ Race.drain) (Race.init uCfg)).blk = some .x := by decide +kernel
example : (Race.run ([true, false, false] ++ Race.drain) (Race.init uCfg)).resT = .restored := by decide +kernel

/-! The interleaving layer abstracts time to "younger than the TTL or not" and the server to one block path;
the history layer has real timestamps but runs requests one after the other. `Model/C04_Compose.lean`
builds, for a race configuration `c` and times `τ`, the history-layer instance of the same situation and
defines what an observer sees at quiescence in both layers (`Obs`: both responses, the file at the block
path with intact? / younger-than-TTL?, the trashed copies of the hash). -/

/-- On SEQUENTIAL executions the two layers agree: all of P then all of T (and vice versa) in the
interleaving model ends exactly like the two-request history [P, T] ([T, P]) of the history model — for all
times that fit the configuration (TTL > 0, lifetime > 0, the stored copy older than the TTL exactly when
the configuration says so). This is the soundness of the fresh/old abstraction where the layers overlap. -/
theorem C04_layers_agree_sequential (c : Race.Cfg) (τ : Compose.Times) (hfit : τ.fits c) :
    Race.finished (Race.run Compose.schedPT (Race.init c)) = true ∧
    Race.finished (Race.run Compose.schedTP (Race.init c)) = true ∧
    Compose.obsR (Race.run Compose.schedPT (Race.init c)) = Compose.seqPT c τ ∧
    Compose.obsR (Race.run Compose.schedTP (Race.init c)) = Compose.seqTP c τ :=
  ⟨(Race.serial_lit c).2.2.1, (Race.serial_lit c).2.2.2, (Race.serial_lit c).1.trans (Race.seq_lit c τ hfit).1.symm,
    (Race.serial_lit c).2.1.trans (Race.seq_lit c τ hfit).2.symm⟩

/-- Linearizability: EVERY interleaving of one PUT/TOUCH with one DELETE / trash-list item / untrash that
lets both finish ends, for an observer, like one of the two sequential HISTORIES [P, T] or [T, P] of the
history layer (to which `C04_history_protects` and the other history theorems apply) — all 144
configurations, every schedule, all times that fit the configuration. -/
theorem C04_race_linearizable (c : Race.Cfg) (sched : List Bool) (τ : Compose.Times) (hfit : τ.fits c)
    (hfin : Race.finished (Race.run sched (Race.init c)) = true) :
    Compose.obsR (Race.run sched (Race.init c)) = Compose.seqPT c τ ∨
    Compose.obsR (Race.run sched (Race.init c)) = Compose.seqTP c τ := by
  rw [(Race.seq_lit c τ hfit).1, (Race.seq_lit c τ hfit).2]
  exact Race.lin_run c sched hfin

/-! non-vacuity: the times of the correspondence check fit every configuration; on the former F4
configuration the two histories end differently ([P,T]: DELETE keeps the new block; [T,P]: the old copy is
in the trash), and the F4 schedule (Trash decides first, PUT finishes in between) ends like [T, P]. -/
example (c : Race.Cfg) : (Compose.drvTimes c).fits c := Race.drvTimes_fits c
example : Compose.seqPT f4Cfg (Compose.drvTimes f4Cfg) ≠ Compose.seqTP f4Cfg (Compose.drvTimes f4Cfg) := by decide
example : Compose.obsR (Race.run (f4Sched ++ Race.drain) (Race.init f4Cfg)) = Compose.seqTP f4Cfg (Compose.drvTimes f4Cfg) := by
  decide +kernel
example : Compose.seqTP f4Cfg (Compose.drvTimes f4Cfg) =
    { p := .code 200, t := .deleted 1 0, blk := some (true, true), trash := [false] } := by decide

/-! `Model/C04_Race3.lean`: one filesystem step of `EmptyTrash`, as far as the files of one block are concerned,
is the `Remove` of an inode currently linked at a name `<hash>.trash.<deadline>` (`sweep i`; OVER-approximated:
any trashed copy, at any moment, whether or not its deadline has passed). -/

/-- In EVERY state of the interleaving model (reachable or not), a sweep step on any inode leaves the file at
the block path, its timestamp class and content, the temp file and both requests' results untouched — the
only possible change is trashed copy → gone. Hence it preserves `Acked` and `Protected`: a sweep step at
any point of a PUT/TOUCH-vs-Trash race cannot remove the acknowledged block. (The full three-party
statement — arbitrary schedules over P steps, T steps and sweeps — additionally needs that P's and T's
later steps do not depend on whether a trashed copy still exists; see notes, open gaps.) -/
theorem C04_sweep_step_keeps_block (i : Race.Ino) (s : Race.St) :
    (Race.sweep i s).blk = s.blk ∧ (Race.sweep i s).resP = s.resP ∧
    (∀ j, (Race.sweep i s).loc j = s.loc j ∨ (s.loc j = .trash ∧ (Race.sweep i s).loc j = .gone)) ∧
    (Acked (Race.sweep i s) ↔ Acked s) ∧ (Protected (Race.sweep i s) ↔ Protected s) := by
  refine ⟨Race.sweep_blk i s, Race.sweep_resP i s, fun j => Race.sweep_loc i j s, ?_, ?_⟩
  · simp only [Acked, Race.sweep_resP]
  · simp only [Protected, Race.sweep_blk, Race.sweep_fresh, Race.sweep_good, Race.sweep_cfg]

/-- after any two-party schedule, any number of sweep steps: still protected -/
theorem C04_race_then_sweeps (c : Race.Cfg) (sched : List Bool) (htop : c.top ≠ .untrash) (is : List Race.Ino) :
    Acked (Race.run3 (is.map .sweep) (Race.run sched (Race.init c))) →
    Protected (Race.run3 (is.map .sweep) (Race.run sched (Race.init c))) :=
  ackSafe_prop ((Race.sweeps_ackSafe is _).trans (Race.run_ackSafe c htop sched))

example : (Race.sweep .x (Race.init3 f4Cfg true)).locX = .gone := by decide
example : (Race.sweep .a (Race.run (f4Sched ++ Race.drain) (Race.init f4Cfg))).locA = .gone := by decide +kernel

/-! `Model/C04_Queue.lean` models work_queue.go's manager (ReplaceQueue abandons the unprocessed rest of the old
list, items already handed to a worker are finished), RunTrashWorker (any number of workers) and the moment
at which `TrashItem` runs: LATER than the submission, at a time of the scheduler's choosing. -/

/-- Every execution of the server — requests, trash-list submissions, hand-overs to workers, workers running
their item, in ANY order and with ANY delay — is a request history of the history layer (the executed items
appear as `.trashItem` ops at the time they actually run). Hence `C04_history_protects` covers it: whatever the
queue does, an item that runs after the block was written or touched meets the TTL test and the mtime
comparison of that moment. -/
theorem C04_queue_protects (c : Cfg) (s : St) (q : Queue.QSt) (evs : List Queue.Ev) :
    (Queue.srun c s q evs).1 = (runG c s emptyGhost (Queue.opsOf q evs)).1 ∧
    Prot c (runG c s emptyGhost (Queue.opsOf q evs)).1 (runG c s emptyGhost (Queue.opsOf q evs)).2 :=
  ⟨(Queue.srun_is_run c evs s q).trans (runG_fst c _ s emptyGhost).symm, C04_history_protects c s _⟩

/-- Replacement semantics: after `PUT /trash` with list `l`, and until the next submission, the workers execute
only items of `l` or items that were already in a worker's hands at that moment — the unprocessed rest of the
abandoned list never runs (and nothing is invented). -/
theorem C04_queue_replace (q : Queue.QSt) (l : List Queue.Item) (evs : List Queue.Ev) (hno : Queue.noReplace evs) :
    ∀ x ∈ Queue.executed q (.putTrash l :: evs), x ∈ l ++ q.busy := by
  intro x hx
  have hx' : x ∈ Queue.executed (Queue.qstep q (.putTrash l)) evs := by simpa [Queue.executed] using hx
  simpa [Queue.qstep] using Queue.executed_sub evs _ hno x hx'

/-- ... and each executed item is a `.trashItem` op of the history of `C04_queue_protects` -/
theorem C04_queue_executed_in_history (q : Queue.QSt) (evs : List Queue.Ev) (x : Queue.Item)
    (hx : x ∈ Queue.executed q evs) : x.op ∈ Queue.opsOf q evs :=
  Queue.executed_ops evs q x hx

/-! non-vacuity: list [i0, i1] submitted; a worker takes i0; the list is replaced by [i2]; the worker runs i0,
then takes and runs i2; i1 never runs. With the block touched in between, i0 (naming the old timestamp) no
longer matches and the block stays. -/
def qi0 : Queue.Item := { hash := 0, mtime := 0, mount := none }
def qi1 : Queue.Item := { hash := 1, mtime := 0, mount := none }
def qi2 : Queue.Item := { hash := 2, mtime := 0, mount := none }
def qEvs : List Queue.Ev := [.putTrash [qi0, qi1], .take, .req (.touch 0), .putTrash [qi2], .exec 0, .take, .exec 0]
example : Queue.executed { todo := [], busy := [] } qEvs = [qi0, qi2] := by decide
example : Queue.opsOf { todo := [], busy := [] } qEvs = [.touch 0, .trashItem 0 0 none, .trashItem 2 0 none] := by decide
example : (Queue.srun wCfg wSt { todo := [], busy := [] } qEvs).1.vols.map (fun v => v.blocks 0) =
    [some { good := true, mtime := 100 }] := by decide
example : (Queue.srun wCfg wSt { todo := [], busy := [] } [.putTrash [qi0], .take, .exec 0]).1.vols.map (fun v => v.blocks 0) =
    [none] := by decide

end ArvVerif.C04
