/-
C15 property theorems, part 1b (glue):

* a container whose crunch-run has exited — the instance lists it as `"<uuid> stale"` or not at all —
  is found gone by the next successful probe: its runner is closed, `wp.exited[uuid]` is recorded
  (which is what lets `scheduler.sync` cancel / re-queue it, `C15_resp_cancel` / `C15_resp_requeue`)
  and it no longer keeps the worker busy;
* the scheduler's per-container operation latch is free again after every goroutine that has
  returned, on every path, so the responses `cancel` / `requeue` / `lock` are never refused for ever.
-/
import ArvVerif.Proofs.C15_Glue
import ArvVerif.Proofs.C15
import ArvVerif.Props.C14_L2
namespace ArvVerif.C15
open ArvVerif.C14

/-- **A dead process is detected by the probe.** Worker not shut down and booted (Idle/Running, or
the boot probe succeeds now); `crunch-run --list` exits 0 printing any lines `ls` — in any order,
with any number of `"<uuid> stale"` lines, the one of `u` included — but no line `u` of its own, and
the probe does not report the instance broken (no "broken" line, stale run locks not yet reported
for longer than timeoutStaleRunLock). Then the tracked container `u` is among the uuids whose exit
is recorded and is no longer in `running`. -/
theorem C15_resp_dead_process_detected (w : Worker) (T : Timeouts) (gu : List Uuid) (bootOk : Bool)
    (ls : List ProbeLine) (staleFor : Option Nat) (dur now : Nat) (u : Uuid)
    (hs : w.state ≠ .shutdown) (hb : w.state = .idle ∨ w.state = .running ∨ bootOk = true)
    (hnb : ProbeLine.broken ∉ ls) (hst : ∀ d, staleFor = some d → d ≤ T.staleRunLock)
    (hu : u ∈ w.running) (hno : ProbeLine.uuid u ∉ ls) :
    u ∈ (probeLines w T gu bootOk ls staleFor dur now).2 ∧
    u ∉ (probeLines w T gu bootOk ls staleFor dur now).1.running := by
  unfold probeLines
  rw [probeAndUpdate_of_ne hs]
  have hp := C14_probe_reads_every_line ls u
  have hbooted : ((w.state == .idle || w.state == .running) || bootOk) = true := by
    rcases hb with h | h | h <;> simp [h]
  have hstale : staleBroken T (probeOfLines bootOk ls staleFor dur) = false := by
    cases hsf : staleFor with
    | none => simp [staleBroken, probeOfLines]
    | some d => have := hst d hsf; simp [staleBroken, probeOfLines]; omega
  have hbr : (mkProbe w T gu (probeOfLines bootOk ls staleFor dur)).broken = false := by
    simp only [mkProbe, hstale]
    simp [probeOfLines, mt hp.2.1.mp hnb]
  have hfresh : Worker.probeFresh w (mkProbe w T gu (probeOfLines bootOk ls staleFor dur)) now = true := by
    -- not broken, so nothing is drained; listed successfully and booted; not overtaken
    simp only [Worker.probeFresh, Worker.drainStep, hbr, Worker.probeFailed]
    simp [mkProbe, hbooted, probeOfLines]
  have hno' : u ∉ (mkProbe w T gu (probeOfLines bootOk ls staleFor dur)).uuids := by
    simp [mkProbe, hbooted, probeOfLines, mt hp.1.mp hno]
  exact ⟨(Worker.probeApply_closed hfresh u).mpr ⟨hu, hno'⟩, mt (Worker.probeApply_running hfresh u).mp hno'⟩

/-- the configuration of seeded change C15-g: crunch-run of container 7 has crashed, its arv-mount
hangs, so the instance lists `7 stale` on every probe; container 8 is alive -/
example : probeLines ⟨1, 1, .running, .run, [], [7, 8], 5, 5, 5⟩ ⟨60, 60, 180, 60, 60, 60⟩ [] true
    [.uuid 8, .stale 7, .empty] none 0 10 =
    (⟨1, 1, .running, .run, [], [8], 10, 10, 10⟩, [7]) := by decide

example : probeLines ⟨1, 1, .running, .run, [], [7], 5, 5, 5⟩ ⟨60, 60, 180, 60, 60, 60⟩ [] true
    [.stale 7, .empty] (some 30) 0 10 =
    (⟨1, 1, .idle, .run, [], [], 10, 10, 10⟩, [7]) := by decide

/-- A stale line never adds a container: what a fresh successful probe leaves in `running` is
exactly the set of plain uuid lines (C14's `C14_fresh_probe_applied` read through the parser). -/
theorem C15_resp_stale_not_adopted (w : Worker) (T : Timeouts) (gu : List Uuid) (bootOk : Bool)
    (ls : List ProbeLine) (staleFor : Option Nat) (dur now : Nat) (v : Uuid)
    (hidle : w.state = .idle → w.running = [] ∧ w.starting = [])
    (hs : w.state ≠ .shutdown)
    (hfresh : Worker.probeFresh w (mkProbe w T gu (probeOfLines bootOk ls staleFor dur)) now = true) :
    (v ∈ (probeLines w T gu bootOk ls staleFor dur now).1.running ↔ ProbeLine.uuid v ∈ ls) := by
  unfold probeLines
  rw [probeAndUpdate_of_ne hs, (C14_fresh_probe_applied w _ now hidle hfresh v).1]
  have hok : (mkProbe w T gu (probeOfLines bootOk ls staleFor dur)).ok = true := by
    cases h : (mkProbe w T gu (probeOfLines bootOk ls staleFor dur)).ok
    · simp [Worker.probeFresh, Worker.probeFailed, h] at hfresh
    · rfl
  simp only [mkProbe] at hok ⊢
  rw [hok]
  exact (C14_probe_reads_every_line ls v).1

/-! ### the operation latch -/

/-- **The latch is released on every path.** After any number of `lockContainer` / `cancel` / `kill`
/ `requeue` goroutines that have run to completion — refused or not, whatever state `queue.Get`
reported (in particular "no longer Queued", the early return of `lockContainer`) and whether or not
their API call failed — the latch holds exactly the containers it held before. -/
theorem C15_resp_latch_released (l : Latch) (bs : List Body) (v : Uuid) :
    (runBodies l bs).1.held v = l.held v := runBodies_held bs l v

/-- **A lock race does not block the responses.** Two scheduler passes both decided to lock `u`; the
second goroutine finds it already Locked and returns early. Whatever else completed meanwhile, a
later `requeue` (resp. `cancel`, `lock`) goroutine for `u` — the response to a crashed crunch-run —
obtains the latch and makes its call. -/
theorem C15_resp_after_lock_race (bs : List Body) (u : Uuid) (st : Option CState) (ok : Bool) (op : Op) :
    let l := (runBodies [] (bs ++ [⟨.lock, u, some .locked, true⟩])).1
    (runBody l ⟨op, u, st, ok⟩).effects = bodyEffects st ok op u ∧
    (runBody l ⟨op, u, st, ok⟩).wake = false ∧
    Effect.queueUnlock u ∈ (runBody l ⟨.requeue, u, st, ok⟩).effects ∧
    Effect.queueCancel u ∈ (runBody l ⟨.cancel, u, st, ok⟩).effects := by
  intro l
  have hl : l.held u = false := by
    show (runBodies [] (bs ++ [⟨.lock, u, some .locked, true⟩])).1.held u = false
    rw [runBodies_held]; rfl
  have he := fun op => runBody_effects l ⟨op, u, st, ok⟩ hl
  refine ⟨(he op).1, (he op).2, ?_, ?_⟩
  · rw [(he .requeue).1]; simp [bodyEffects, asyncEffect]
  · rw [(he .cancel).1]; simp [bodyEffects, asyncEffect]

/-- While another operation on `u` is in flight the goroutine does nothing, leaves the latch alone
and re-arms the scheduler's wake-up (the next pass retries). -/
theorem C15_resp_latch_refused (l : Latch) (b : Body) (h : l.held b.uuid = true) :
    (runBody l b).effects = [] ∧ (runBody l b).wake = true ∧ (runBody l b).latch = l := by
  unfold runBody uuidLock
  simp [h]

example : (runBodies [] [⟨.lock, 1, some .queued, true⟩, ⟨.lock, 1, some .locked, true⟩,
    ⟨.requeue, 1, some .locked, true⟩]).2.map (·.effects) =
    [[.queueGet 1, .queueLock 1, .queueGet 1], [.queueGet 1], [.queueUnlock 1]] := by decide

example : (runBodies [(1, .kill)] [⟨.requeue, 1, some .locked, true⟩]).2.map (·.wake) = [true] := by decide

end ArvVerif.C15
