/-
C14: the L2 pool model refines the pool part of the L3 protocol state.

L3 keeps the workers as a function `wk : instance id → Option Worker`; L2 keeps them as the list
`Pool.workers` with distinct ids. For a reachable pool `p` and an L3 state whose `wk` is `p.find`,
* `KillContainer(c) = false` in L2 is exactly the guard of `Step.schedKillFalse` (no worker
  claims `c`), and `= true` the guard of `Step.schedKillTrue`;
* a successful `StartContainer(it, u)` in L2, made directly after `KillContainer(u) = false`
  (which is what L1 `C14_start_only_locked` proves about a pass), *is* `Step.schedStart`: the
  chosen worker is Idle in run mode and the new pool is the L3 successor state.
So the L2 side of the guards of the L3 scheduler steps is not taken "by construction": the link is
these theorems. (The L1 side — a pass's call order feeding the `lastKillFalse` register — is
stated on the call list only, `C14_L1_start_follows_kill_false`.)
-/
import ArvVerif.Model.C14_Proto
import ArvVerif.Props.C14_Compose
namespace ArvVerif.C14

/-- **`KillContainer` answers false iff no worker claims the container** — the guard of
`Step.schedKillFalse` / `Step.schedKillTrue`, read off the L2 pool. -/
theorem C14_L2_kill_is_L3_guard (p : Pool) (hwf : p.WF) (s : PState) (hwk : s.wk = p.find) (c : Uuid) :
    p.killContainer c = false ↔ ∀ i, ¬ s.claims i c := by
  have h1 := @Pool.mem_of_find p
  have h2 := @Pool.find_of_mem p hwf
  unfold Pool.killContainer PState.claims
  rw [hwk]
  grind

/-- `KillContainer(c)` of the L2 pool as an L3 step. -/
theorem C14_L2_kill_is_L3_step (p : Pool) (hr : p.Reachable) (s : PState) (hwk : s.wk = p.find)
    (hph : s.phase = .scheduling) (c : Uuid) :
    Step s { s with lastKillFalse := if p.killContainer c then none else some c } := by
  have hg := C14_L2_kill_is_L3_guard p (Pool.WF_of_reachable hr) s hwk c
  cases hk : p.killContainer c
  · exact Step.schedKillFalse s c hph (hg.mp hk)
  · exact Step.schedKillTrue s c hph (by grind)

/-- **L2 `StartContainer` is L3 `schedStart`.** On a reachable pool, a `StartContainer(it, u)` that
succeeds directly after `KillContainer(u) = false` is a step of the protocol model: the chosen
worker is Idle in run mode, and the new pool is the successor state's `wk`. -/
theorem C14_L2_start_is_L3_step (p p' : Pool) (hr : p.Reachable) (s : PState) (hwk : s.wk = p.find)
    (hph : s.phase = .scheduling) (it : IType) (u : Uuid) (wid : Nat) (hk : s.lastKillFalse = some u)
    (h : p.startContainer it u wid = some p') :
    Step s { s with wk := p'.find, out := upd s.out wid (some (u, false)), lastKillFalse := none } := by
  obtain ⟨w, hm, rfl, _, hidle, hrun, _, rfl, _, _⟩ :=
    C14_start_needs_idle_run_reachable p p' hr it u wid h
  have hfind : s.wk w.id = some w := hwk ▸ Pool.find_of_mem (Pool.WF_of_reachable hr) hm
  have hfun : (p.put (w.accept u)).find = upd s.wk w.id (some (w.accept u)) := by
    funext j
    rw [Pool.find_put, ← hwk]
    show (if j = w.id then _ else _) = _
    grind [upd]
  rw [hfun]
  exact Step.schedStart s w.id u w hph hk hfind hidle hrun

/-- Together with L1: in a pass, `StartContainer(t, u)` comes directly after `KillContainer(u)`
answering false (`C14_start_only_locked`), so the hypothesis `lastKillFalse = some u` above is
what the pass establishes. Stated here on the call list for reference. -/
theorem C14_L1_start_follows_kill_false (entries sorted : List Ent) (hord : IsPriorityOrder entries sorted)
    (running : Uuid → Bool) (un : Unalloc) (script : List Bool) (t : IType) (u : Uuid) (a : Bool)
    (h : Call.start t u a ∈ runQueue sorted running un script) :
    ∃ pre post, runQueue sorted running un script = pre ++ [.kill u false, .start t u a] ++ post :=
  (C14_start_only_locked entries sorted hord running un script t u a h).2

/-- non-vacuity: a reachable pool on which `StartContainer` succeeds -/
example : ∃ p, Pool.Reachable p ∧ (p.startContainer 1 7 1).isSome = true :=
  ⟨(Pool.empty.apply (.sync 0 [⟨1, 1, none, false⟩] (fun _ => false) 5)).apply
      (.probeApply 1 ⟨5, true, true, false, [], false, false⟩ 6), .step _ (.step _ .init), by decide⟩

end ArvVerif.C14
