/-
C01 property theorems over histories: the clauses of the property hold at *every* step of *every*
sequence of GET/HEAD/PUT requests interleaved with arbitrary changes of the stored bytes (any mount,
any block path, any new content, any number of times, before or after successful reads).
-/
import ArvVerif.Model.C01_History
import ArvVerif.Props.C01
namespace ArvVerif.C01
set_option linter.unusedSectionVars false

section
variable {δ β : Type} [DecidableEq δ] [DecidableEq β]

/-- What the property text demands of a GET/HEAD answer `r` for `h` over mounts `vols`. -/
def ReadSound (hash : β → δ) (size : β → Nat) (vols : List (Vol δ β)) (h : δ) (r : GetResp β) (isHead : Bool) :
    Prop :=
  -- success only with an intact stored copy, the reported length being its length
  (r.status = 200 → ∃ b, (if isHead then r.body = none else r.body = some b) ∧
      r.contentLength = some (size b) ∧ Intact hash size h b ∧ ∃ v ∈ vols, v.files h = some b) ∧
  -- an intact copy anywhere is found, whatever sits on the other mounts
  ((∃ v ∈ vols, ∃ b, v.files h = some b ∧ Intact hash size h b) → r.status = 200) ∧
  -- otherwise an error status instead of data
  (r.status ≠ 200 → r.body = none ∧ r.contentLength = none ∧ (r.status = 404 ∨ r.status = 500))

/-- What the property text (plus the frame) demands of one step of a trace. -/
def StepSound (hash : β → δ) (size : β → Nat) (s : Step δ β) : Prop :=
  match s.ev, s.obs with
  | .get h, .get r => s.after = s.before ∧ ReadSound hash size s.before h r false
  | .head h, .head r => s.after = s.before ∧ ReadSound hash size s.before h r true
  | .put h body _, .put r =>
    Pointwise (Frame h body) s.before s.after ∧
    (r.status = 200 →
      hash body = h ∧ size body ≤ blockSize ∧
      (∃ v' ∈ s.after, v'.ro = false ∧ v'.files h = some body) ∧
      ∃ b', (handleGet hash size s.after h).status = 200 ∧ (handleGet hash size s.after h).body = some b' ∧
        hash b' = h ∧ (NoColl hash h body → b' = body)) ∧
    (r.status ≠ 200 → s.after = s.before)
  | .fault i h c, .fault => s.after = corruptAt s.before i h c
  | _, _ => False

theorem readSound_get (hash : β → δ) (size : β → Nat) (vols : List (Vol δ β)) (h : δ) :
    ReadSound hash size vols h (handleGet hash size vols h) false :=
  ⟨fun h200 =>
      have ⟨b, hb, hcl, hh, hs, hv⟩ := C01_get_sound hash size vols h h200
      ⟨b, hb, hcl, ⟨hh, hs⟩, hv⟩,
    fun ⟨v, hv, b, hf, hint⟩ =>
      have ⟨_, h200, _⟩ := C01_get_skips_corrupt hash size vols h b ⟨v, hv, hf⟩ hint
      h200,
    handleGet_error hash size vols h rfl⟩

theorem readSound_head (hash : β → δ) (size : β → Nat) (vols : List (Vol δ β)) (h : δ) :
    ReadSound hash size vols h (handleHead hash size vols h) true :=
  -- status and Content-Length of HEAD are those of GET by definition
  have ⟨h1, h2, h3⟩ := readSound_get hash size vols h
  ⟨fun h200 => have ⟨b, _, hcl, hint, hv⟩ := h1 h200; ⟨b, rfl, hcl, hint, hv⟩, h2,
    fun hne => have ⟨_, hcl, hst⟩ := h3 hne; ⟨rfl, hcl, hst⟩⟩

theorem stepEvent_sound (hash : β → δ) (size : β → Nat) (vols : List (Vol δ β)) (rr : Nat) (e : Event δ β) :
    StepSound hash size
      { before := vols, ev := e, obs := (stepEvent hash size vols rr e).1,
        after := (stepEvent hash size vols rr e).2.1 } := by
  cases e with
  | get h => exact ⟨rfl, readSound_get hash size vols h⟩
  | head h => exact ⟨rfl, readSound_head hash size vols h⟩
  | put h body cl =>
    have ⟨hf, hack, hun, _⟩ := handlePut_spec hash size vols rr h body cl
    refine ⟨hf, fun h200 => ?_, hun⟩
    have ⟨hh, hsz, hst⟩ := hack h200
    have ⟨b', hs, hb, _, hb', hnc⟩ := C01_put_ack_then_get hash size vols rr h body cl h200
    exact ⟨hh, hsz, hst, b', hs, hb, hb', hnc⟩
  | fault i h c => exact rfl

/-- **Every step of every history is sound**: whatever requests and whatever changes of the stored
bytes came before (successful reads of the same block included), a GET/HEAD succeeds only with an
intact copy stored *now*, finds an intact copy if one is stored *now*, and answers 404/500 without
data otherwise; an acknowledged PUT has the right digest, leaves its body on a writable mount and an
immediate GET serves an intact copy; a refused PUT changes nothing; a fault changes one block path. -/
theorem C01_history_sound (hash : β → δ) (size : β → Nat) :
    ∀ (evs : List (Event δ β)) (vols : List (Vol δ β)) (rr : Nat),
      ∀ s ∈ runHistory hash size evs vols rr, StepSound hash size s := by
  intro evs
  induction evs with
  | nil => intro vols rr s hs; simp [runHistory] at hs
  | cons e rest ih =>
    intro vols rr s hs
    simp only [runHistory, List.mem_cons] at hs
    rcases hs with hs | hs
    · subst hs; exact stepEvent_sound hash size vols rr e
    · exact ih _ _ s hs

/-- The steps of a trace are chained: each starts from the mounts the previous one left. -/
def Chained : List (Vol δ β) → List (Step δ β) → Prop
  | _, [] => True
  | vols, s :: rest => s.before = vols ∧ Chained s.after rest

theorem C01_history_chained (hash : β → δ) (size : β → Nat) :
    ∀ (evs : List (Event δ β)) (vols : List (Vol δ β)) (rr : Nat),
      Chained vols (runHistory hash size evs vols rr) ∧
      (runHistory hash size evs vols rr).map (·.ev) = evs := by
  intro evs
  induction evs with
  | nil => intro vols rr; simp [runHistory, Chained]
  | cons e rest ih =>
    intro vols rr
    have := ih (stepEvent hash size vols rr e).2.1 (stepEvent hash size vols rr e).2.2
    simp only [runHistory, Chained, List.map_cons, true_and]
    exact ⟨this.1, by rw [this.2]⟩

/-- A fault touches one block path of one mount: every other mount, and every other block path of
that mount, and the mount's flags are as before. -/
theorem C01_fault_frame (vols : List (Vol δ β)) (i : Nat) (h : δ) (c : β) (j : Nat) (v : Vol δ β)
    (hv : vols[j]? = some v) :
    ∃ v', (corruptAt vols i h c)[j]? = some v' ∧ v'.ro = v.ro ∧ v'.full = v.full ∧ v'.repl = v.repl ∧
      (∀ k, k ≠ h → v'.files k = v.files k) ∧
      (j ≠ i → v' = v) ∧ (j = i → v'.files h = some c) := by
  unfold corruptAt
  rw [List.getElem?_modify, hv]
  by_cases hij : i = j
  · subst hij
    refine ⟨{ v with files := update v.files h c }, by simp, rfl, rfl, rfl, ?_,
      fun hne => absurd rfl hne, fun _ => by simp [update]⟩
    intro k hk; simp [update, hk]
  · refine ⟨v, by simp [hij], rfl, rfl, rfl, fun _ _ => rfl, fun _ => rfl, fun hji => absurd hji.symm hij⟩

end

/-! ## Non-vacuity: a concrete history with a read, a silent same-size decay, a read, a repair -/
section Examples

/-- one writable mount holding [1,2,3] under 6 (toy hash: the sum) -/
def hxVol : Vol Nat (List Nat) := ⟨false, false, 1, fun k => if k = 6 then some [1, 2, 3] else none⟩

def hxHistory : List (Event Nat (List Nat)) :=
  [.get 6, .head 6, .fault 0 6 [1, 2, 4], .get 6, .head 6, .put 6 [1, 2, 3] true, .get 6]

def hxStatuses : List (Step Nat (List Nat)) → List Nat
  | [] => []
  | s :: rest =>
    (match s.obs with
      | .get r => r.status
      | .head r => r.status
      | .put r => r.status
      | .fault => 0) :: hxStatuses rest

-- read twice (200), the copy decays to another three-element list, both reads now answer 500,
-- the PUT repairs it (the corrupt copy is replaced), the read is served again
example : hxStatuses (runHistory exHash List.length hxHistory [hxVol] 0) = [200, 200, 0, 500, 500, 200, 200] := by
  decide +kernel
-- the hypotheses of the "intact copy is found" clause are satisfiable after a fault on another mount
example : ∃ v ∈ corruptAt [hxVol, hxVol] 0 6 [9], ∃ b, v.files 6 = some b ∧ Intact exHash List.length 6 b :=
  ⟨hxVol, by simp [corruptAt], [1, 2, 3], by decide, by decide, by decide⟩

end Examples

end ArvVerif.C01
