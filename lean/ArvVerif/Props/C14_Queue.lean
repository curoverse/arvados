/-
C14 layer L3, queue cache: what the dispatcher's view of the queue (`cq.current`, Model/C14_Queue.lean)
guarantees about the API record behind it — for every reachable state of the cache/API transition
system, any interleaving of polls, the dispatcher's own calls and changes made by others.
-/
import ArvVerif.Proofs.C14_Queue
namespace ArvVerif.C14

/-- Once the dispatcher's queue shows a container as Complete or Cancelled it never shows it as
anything else again (it stays finished or is dropped) … -/
theorem C14_finished_stays_finished (s t : QState) (hs : QReach s) (h : QReachFrom s t) (c : Uuid)
    (st : CState) (hc : s.cache c = some st) (hf : st.final = true) :
    t.cache c = none ∨ ∃ st', t.cache c = some st' ∧ st'.final = true := by
  have hfin : Finished t c := by
    induction h with
    | refl => exact .of_cache (QInv_reach hs) hc hf
    | step _ stp ih => exact ih.step stp
  cases ht : t.cache c with
  | none => exact .inl rfl
  | some x => exact .inr ⟨x, rfl, hfin.cache x ht⟩

/-- **No restart of a finished container.** … hence no later scheduler pass ever starts it. -/
theorem C14_no_restart_of_finished (s t u : QState) (hs : QReach s) (h : QReachFrom s t) (c : Uuid)
    (st : CState) (hc : s.cache c = some st) (hf : st.final = true) :
    ¬ QStep t (.start c) u := by
  intro hstep
  cases hstep with
  | start _ hl =>
    have := C14_finished_stays_finished s t hs h c st hc hf
    grind [CState.final]

/-- **Started only while Locked.** Whenever `StartContainer(c)` happens the queue shows `c` as
Locked, and the API record is not Queued: a container that was unlocked / re-queued (by
`requeue`, the over-quota unlock or `fixStaleLocks`) is started again only after a successful
`Lock` by this dispatcher, because nothing else moves an API record from Queued to Locked. -/
theorem C14_start_requires_lock (s t : QState) (hs : QReach s) (c : Uuid) (h : QStep s (.start c) t) :
    s.cache c = some .locked ∧ s.api c ≠ .queued ∧ s.api c ≠ .other := by
  cases h with
  | start _ hl => exact ⟨hl, (QInv_reach hs).q3 c hl⟩

/-- … and only the dispatcher's own `Lock` makes a Queued record Locked. -/
theorem C14_only_lock_locks (s t : QState) (ev : QEv) (c : Uuid) (h : QStep s ev t)
    (h1 : s.api c = .queued) (h2 : t.api c = .locked) : ev = .lock c := by
  cases h <;> (try simp only [qupd_eq, QState.localUpdate] at h2) <;> grind

example : ∃ s t, QReach s ∧ QStep s (.start 3) t := by
  have r0 : QReach QState.init := QReachFrom.refl
  have r1 := QReachFrom.step r0 (QStep.apiSubmit _ 3 rfl rfl)
  have r2 := QReachFrom.step r1 (QStep.pollBegin _ rfl)
  have r3 := QReachFrom.step r2 (QStep.pollRead _ 3 rfl)
  have r4 := QReachFrom.step r3 (QStep.pollEnd _ rfl)
  have r5 := QReachFrom.step r4 (QStep.lockOk _ 3 (by decide))
  exact ⟨_, _, r5, QStep.start _ 3 (by decide)⟩

end ArvVerif.C14
