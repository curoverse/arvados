/-
C09 — property theorems on loading a valid manifest and saving it unchanged: every file's content is
preserved and no Keep write is needed. `C09_load_marshal_preserves` for every directory list that holds
exactly the loaded files, `C09_load_marshal_checked` for the list the model driver marshals (hypotheses
decided by `glueOK`), `C09_load_marshal_total` for the canonical list `groupTree` (no hypothesis left).
-/
import ArvVerif.Proofs.C09_Represents
import ArvVerif.Proofs.C09_Glue
import ArvVerif.Proofs.C09_GroupTree
import ArvVerif.Props.C09
namespace ArvVerif.C09

open ArvVerif.C08 (Seg FileNode Store SegWF AllWF StoreOK StoreExt)
open ArvVerif.C10 (bSlash bDot specLocator)

variable {max : Nat} {hash : Bytes → C08.Loc}

theorem flushTree9_stored (k : Keep) : ∀ (t : Tree9), (∀ d ∈ t, ∀ f ∈ d.files, ∀ s ∈ f.2.segs, s.isMem = false) →
    flushTree9 hash max k t = (k, t, true)
  | [], _ => rfl
  | d :: rest, h => by
    obtain ⟨hd, hr⟩ := List.forall_mem_cons.mp h
    have hdir : flushDir9 hash max k d = (k, d, true) := by
      unfold flushDir9
      split
      · rfl
      · unfold flushFilesK
        rw [flushGroups_stored max true _ hd]
        simp only [commitGroups, Dir9.setFiles, zip_fst_snd]
    unfold flushTree9
    rw [hdir]
    simp only []
    rw [flushTree9_stored k rest hr]
    rfl

theorem marshal9_stored (k : Keep) (t : Tree9) (h : ∀ d ∈ t, ∀ f ∈ d.files, ∀ s ∈ f.2.segs, s.isMem = false) :
    ∃ L, treeLines t = some L ∧ marshal9 hash max k t = (k, t, MRes.ok (render L)) := by
  obtain ⟨txt, htxt⟩ := treeText_some t h
  obtain ⟨L, hL, rfl⟩ := Option.map_eq_some_iff.mp (treeText_eq t ▸ htxt)
  refine ⟨L, hL, ?_⟩
  unfold marshal9
  simp only [flushTree9_stored (hash := hash) (max := max) k t h, if_true, htxt]

/-- **Load, then save unchanged.** Let `txt` be any text inside the published grammar whose sizes
the loader can represent and in which no path is both file and directory; let Keep hold its blocks
(with the sizes the locators state). Then (for ANY locator function `hash`) `loadManifest` succeeds, and for every tree that holds
exactly the loaded files (directories with proper, pairwise distinct names; the glue that arranges
the loader's files into directories is exercised by the differential check):
* saving succeeds whatever the Keep script says — no Keep write is attempted, Keep and tree are
  unchanged;
* the saved manifest, read as the format document says, assigns to the path of every file exactly the
  bytes the ORIGINAL manifest assigns to it, and the tree has a file for every path of the original
  manifest and no other (so content and total size are preserved file by file);
* if no name holds 0x7f the saved text is inside the grammar and parses to those lines;
* the tree satisfies `SaveOK` over this Keep (so every other C09 theorem applies to it). -/
theorem C09_load_marshal_preserves (txt : Bytes) (M : C10.Manifest)
    (hvalid : C10.parseSpec txt = some M) (hfit : ∀ s ∈ M, C10.FitsFs s) (htree : C10.TreeConsistent M)
    (k : Keep) (hk : KeepOK hash k)
    (hblocks : ∀ s ∈ M, ∀ b ∈ s.blocks, ∃ x, k.store b.text = some x ∧ x.length = b.size)
    (size : Bytes → Nat) (hsize : ∀ s ∈ M, ∀ b ∈ s.blocks, size b.text = b.size) :
    ∃ tr, C10.fsLoad txt = some tr ∧
      ∀ (t : Tree9), Represents size tr t → (dirPaths t).Nodup → (∀ d ∈ t, (d.files.map (·.1)).Nodup) →
        (∀ d ∈ t, ∀ c ∈ d.path, NameOK c) →
        ∃ txt' L', marshal9 hash max k t = (k, t, MRes.ok txt') ∧ treeLines t = some L' ∧
          (∀ d ∈ t, ∀ f ∈ d.files,
            C10.pathOf (prefixOf d.path) f.1 ∈ C10.pathsOf M ∧
            C08.abs k.store f.2 = C10.fileContent (blkOf k.store) M (C10.pathOf (prefixOf d.path) f.1) ∧
            C10.fileContent (blkOf k.store) (streamsOf L') (C10.pathOf (prefixOf d.path) f.1) =
              C10.fileContent (blkOf k.store) M (C10.pathOf (prefixOf d.path) f.1)) ∧
          (∀ p ∈ C10.pathsOf M, ∃ d ∈ t, ∃ f ∈ d.files, p = C10.pathOf (prefixOf d.path) f.1) ∧
          (NoDel t → parse9 txt' = some L') ∧ SaveOK max hash k t := by
  obtain ⟨tr, hload, hinv⟩ := C10.fsLoad_valid txt M hvalid hfit htree
  refine ⟨tr, hload, fun t hrep hpn hnn hdirs => ?_⟩
  have hseg := hrep.seg_wf (max := max) (hash := hash) hinv (parseSpec_blocks hvalid) hblocks hsize
  have hok : SaveOK max hash k t :=
    ⟨hk, .of_segs fun d hd f hf s hs => (hseg d hd f hf s hs).2.1, hpn, hnn, hdirs, fun d hd f hf => nameOK_of_keyOk (hrep.file hinv hd hf).1 f.1 (by simp),
      fun d hd f hf loc sz off len hs => (hseg d hd f hf _ hs).2.2 loc sz off len rfl⟩
  obtain ⟨L', hL', hrun⟩ := marshal9_stored (hash := hash) (max := max) k t fun d hd f hf s hs => (hseg d hd f hf s hs).1
  refine ⟨_, L', hrun, hL', fun d hd f hf => ?_, hrep.covers hinv, fun hnd => ?_, hok⟩
  · have habs := hrep.abs hinv hblocks hd hf
    refine ⟨(hrep.file hinv hd hf).2.1, habs, ?_⟩
    rw [← habs]
    exact treeLines_content (max := max) (hash := hash) t L' hok.shape hok.wf.segs hL' d hd f hf
  · exact treeLines_parse9 (hok.treeOK hnd) hL'

/-- **Load, then save unchanged — with the glue hypotheses decided by execution.** The model driver
builds C08's directory/handle layer from the loader's flat image (`fsOfTree`), extracts the directory
list it marshals (`treeOf`) and evaluates `glueOK` on it after every load (`loadFSChecked`; a failed
check is printed as `load=glue`, which never agrees with the implementation). Whenever that check
passes, all conclusions of `C09_load_marshal_preserves` hold for the very list the driver marshals —
no hypothesis about the glue is left; and the loader's size function is `sizeOfLoc` (what
`fsLocator` reads from the locator). -/
theorem C09_load_marshal_checked (txt : Bytes) (M : C10.Manifest)
    (hvalid : C10.parseSpec txt = some M) (hfit : ∀ s ∈ M, C10.FitsFs s) (htree : C10.TreeConsistent M)
    (k : Keep) (hk : KeepOK hash k)
    (hblocks : ∀ s ∈ M, ∀ b ∈ s.blocks, ∃ x, k.store b.text = some x ∧ x.length = b.size) :
    (∃ r, loadFSChecked k txt = some r) ∧
      ∀ s, loadFSChecked k txt = some (some s) →
        ∃ txt' L', marshal9 hash max k (treeOf s) = (k, treeOf s, MRes.ok txt') ∧ treeLines (treeOf s) = some L' ∧
          (∀ d ∈ treeOf s, ∀ f ∈ d.files,
            C10.pathOf (prefixOf d.path) f.1 ∈ C10.pathsOf M ∧
            C08.abs k.store f.2 = C10.fileContent (blkOf k.store) M (C10.pathOf (prefixOf d.path) f.1) ∧
            C10.fileContent (blkOf k.store) (streamsOf L') (C10.pathOf (prefixOf d.path) f.1) =
              C10.fileContent (blkOf k.store) M (C10.pathOf (prefixOf d.path) f.1)) ∧
          (∀ p ∈ C10.pathsOf M, ∃ d ∈ treeOf s, ∃ f ∈ d.files, p = C10.pathOf (prefixOf d.path) f.1) ∧
          (NoDel (treeOf s) → parse9 txt' = some L') ∧ SaveOK max hash k (treeOf s) := by
  obtain ⟨tr, hload, hmain⟩ := C09_load_marshal_preserves (max := max) (hash := hash) txt M hvalid hfit htree k hk hblocks
    sizeOfLoc (sizeOfLoc_blocks hvalid hfit)
  constructor
  · unfold loadFSChecked; rw [hload]; exact ⟨_, rfl⟩
  · intro s hs
    unfold loadFSChecked at hs
    rw [hload] at hs
    simp only [Option.map_some, Option.some.injEq] at hs
    split at hs
    · next hg =>
      cases hs
      obtain ⟨g1, g2, g3, g4⟩ := glueOK_sound sizeOfLoc tr _ hg
      exact hmain _ g1 g2 g3 g4
    · cases hs

/-- **Load, then save unchanged — no side condition.** For every text inside the published grammar whose
sizes the loader can represent, in which no path is both file and directory and whose blocks Keep holds:
`loadManifest` succeeds, and for the directory list of the loaded tree (`groupTree`: the root and the
loader's directories, each with the loader's files directly in it — `C09_loader_tree_wellformed` and
`C09_loader_makes_ancestors` show it satisfies every hypothesis on the list) saving succeeds whatever Keep
would answer, attempts no write, and the saved text assigns to every path of the original manifest, and to
no other, exactly the original bytes. (The model driver marshals `treeOf (fsOfTree …)`, C08's tables built
from the same loaded tree; that this list also satisfies the hypotheses is decided per executed case by
`glueOK`, see `C09_load_marshal_checked`.) -/
theorem C09_load_marshal_total (txt : Bytes) (M : C10.Manifest)
    (hvalid : C10.parseSpec txt = some M) (hfit : ∀ s ∈ M, C10.FitsFs s) (htree : C10.TreeConsistent M)
    (k : Keep) (hk : KeepOK hash k)
    (hblocks : ∀ s ∈ M, ∀ b ∈ s.blocks, ∃ x, k.store b.text = some x ∧ x.length = b.size) :
    ∃ tr txt' L', C10.fsLoad txt = some tr ∧
      marshal9 hash max k (groupTree tr) = (k, groupTree tr, MRes.ok txt') ∧ treeLines (groupTree tr) = some L' ∧
      (∀ d ∈ groupTree tr, ∀ f ∈ d.files,
        C10.pathOf (prefixOf d.path) f.1 ∈ C10.pathsOf M ∧
        C08.abs k.store f.2 = C10.fileContent (blkOf k.store) M (C10.pathOf (prefixOf d.path) f.1) ∧
        C10.fileContent (blkOf k.store) (streamsOf L') (C10.pathOf (prefixOf d.path) f.1) =
          C10.fileContent (blkOf k.store) M (C10.pathOf (prefixOf d.path) f.1)) ∧
      (∀ p ∈ C10.pathsOf M, ∃ d ∈ groupTree tr, ∃ f ∈ d.files, p = C10.pathOf (prefixOf d.path) f.1) ∧
      (NoDel (groupTree tr) → parse9 txt' = some L') ∧ SaveOK max hash k (groupTree tr) := by
  obtain ⟨tr, hload, hmain⟩ := C09_load_marshal_preserves (max := max) (hash := hash) txt M hvalid hfit htree k hk hblocks
    sizeOfLoc (sizeOfLoc_blocks hvalid hfit)
  obtain ⟨g1, g2, g3, g4⟩ := groupTree_ok tr (fsLoad_inv txt tr hload).1 (fsLoad_inv txt tr hload).2
  obtain ⟨txt', L', r⟩ := hmain _ g1 g2 g3 g4
  exact ⟨tr, txt', L', hload, r⟩

def exLoc : Bytes := C10.str "aaaaaaaaaaaaaaaaaaaaaaaaaaaaaaaa+3"
def exTxt : Bytes := C10.str ". aaaaaaaaaaaaaaaaaaaaaaaaaaaaaaaa+3 aaaaaaaaaaaaaaaaaaaaaaaaaaaaaaaa+3 1:4:a 0:0:b\n"
def exM : C10.Manifest := [⟨[46], [⟨exLoc, 3⟩, ⟨exLoc, 3⟩], [⟨1, 4, [97]⟩, ⟨0, 0, [98]⟩]⟩]
/-- Keep holding the one block of the text -/
def exKeepL : Keep := ⟨fun l => if l = exLoc then some [7, 8, 9] else none, [], [], Outcome.fail, 0, 0⟩

/-- a valid text: one block listed twice, a file spanning both copies, an empty file -/
example : C10.parseSpec exTxt = some exM := by
  unfold exTxt exM exLoc
  repeat rw [str_ofList]
  decide +kernel
example : ∀ s ∈ exM, C10.FitsFs s := by
  unfold C10.FitsFs
  decide
example : C10.TreeConsistent exM := by
  unfold exM exLoc
  rw [str_ofList]
  decide +kernel
example : KeepOK (fun _ => exLoc) exKeepL :=
  ⟨fun l b h => by simp only [exKeepL] at h; split at h <;> simp_all, fun b hb => (by cases hb)⟩
/-- what the loader builds from it -/
theorem exTxt_loads : C10.fsLoad exTxt = some ⟨[], [([[97]], [⟨exLoc, 1, 2⟩, ⟨exLoc, 0, 2⟩]), ([[98]], [])]⟩ := by
  unfold exTxt exLoc
  repeat rw [str_ofList]
  rfl

example : (C10.fsLoad exTxt).map (fun t => (t.dirs, t.files)) =
    some ([], [([[97]], [⟨exLoc, 1, 2⟩, ⟨exLoc, 0, 2⟩]), ([[98]], [])]) := by
  rw [exTxt_loads]
  rfl
/-- a tree holding exactly those files -/
example : Represents (fun _ => 3) ⟨[], [([[97]], [⟨exLoc, 1, 2⟩, ⟨exLoc, 0, 2⟩]), ([[98]], [])]⟩
    [⟨[], [([97], ⟨[Seg.stored exLoc 3 1 2, Seg.stored exLoc 3 0 2], 4, 0⟩), ([98], FileNode.empty)], 0⟩] :=
  (glueOK_sound _ _ _ (by unfold exLoc; rw [str_ofList]; decide +kernel)).1
/-- saving it although every Keep write would fail: `. a…a+3 1:2:a 0:2:a 0:0:b` (the adjacent identical
locator is listed once, the two parts of `a` are not contiguous and stay apart) -/
example : (marshal9 (fun _ => exLoc) 4 exKeepL
    [⟨[], [([97], ⟨[Seg.stored exLoc 3 1 2, Seg.stored exLoc 3 0 2], 4, 0⟩), ([98], FileNode.empty)], 0⟩]).2.2 =
    MRes.ok (C10.str ". aaaaaaaaaaaaaaaaaaaaaaaaaaaaaaaa+3 1:2:a 0:2:a 0:0:b\n") := by
  unfold exKeepL exLoc
  repeat rw [str_ofList]
  decide +kernel

/-- the glue check passes on that text (the driver's own path: loader, `fsOfTree`, `treeOf`), and the
list it yields is the one of the example above -/
example : (match loadFSChecked exKeepL exTxt with
    | some (some s) => (treeOf s).map (fun d => (d.path, d.files.map (·.1), d.nsub))
    | _ => []) = [([], [[97], [98]], 0)] := by
  unfold exKeepL exTxt exLoc
  repeat rw [str_ofList]
  decide +kernel

/-- the check is not trivially true: a list lacking the loaded file `b`, and a list whose file `a` has
its two segments swapped, are both rejected -/
example : glueOK (fun _ => 3) ⟨[], [([[97]], [⟨exLoc, 1, 2⟩, ⟨exLoc, 0, 2⟩]), ([[98]], [])]⟩
    [⟨[], [([97], ⟨[Seg.stored exLoc 3 1 2, Seg.stored exLoc 3 0 2], 4, 0⟩)], 0⟩] = false := by
  unfold exLoc
  rw [str_ofList]
  decide +kernel
example : glueOK (fun _ => 3) ⟨[], [([[97]], [⟨exLoc, 1, 2⟩, ⟨exLoc, 0, 2⟩]), ([[98]], [])]⟩
    [⟨[], [([97], ⟨[Seg.stored exLoc 3 0 2, Seg.stored exLoc 3 1 2], 4, 0⟩), ([98], FileNode.empty)], 0⟩] = false := by
  unfold exLoc
  rw [str_ofList]
  decide +kernel

/-- the canonical list of the example text is the list of the examples above -/
example : (match C10.fsLoad exTxt with
    | some tr => (groupTree tr).map (fun d => (d.path, d.files.map (·.1), d.nsub))
    | none => []) = [([], [[97], [98]], 0)] := by
  rw [exTxt_loads]
  unfold exLoc
  rw [str_ofList]
  decide +kernel

end ArvVerif.C09
