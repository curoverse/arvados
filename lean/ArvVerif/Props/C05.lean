/-
C05 — keep-balance never trashes a replica that is still needed or too new.

All theorems are about `balanceBlock env classes sorter mounts reps` (Model/C05.lean, the code with
the fixes for findings F1, F2, F12, F05a) for ANY number of services, mounts and classes, any flags,
replication counts, device ids (blank, unique, shared between servers) and timestamps, and for EVERY
behaviour of the unstable per-class sort: `sorter` is arbitrary, the only hypothesis (`BalancePerm` /
`PlanPerm`) is that each of its calls during the run returned a permutation of its input — not even
that it is sorted (`BalanceOK`, what `sort.Slice` guarantees, implies it). `plan` adds cleanupMounts
and setupLookupTables in front.

The central clause `C05_trash_safe`, the physical under-replication clause and the lost clause hold
at full strength: no hypothesis on servers, devices or classes beyond (a) mount identities are
distinct (pointer identity in Go) and (b) mounts of one device agree on classes and replication
(a device has one configuration).
-/
import ArvVerif.Proofs.C05_TrashSafe
import ArvVerif.Proofs.C05_UnderrepFlag
import ArvVerif.Proofs.C05_Plan
import ArvVerif.Proofs.C05_BlockState
import ArvVerif.Proofs.C05_Comparator
import ArvVerif.Proofs.C05Witness
namespace ArvVerif.C05

variable (env : Env) (classes : List Class) (sorter : Class → List Slot → List Slot)
  (mounts : List Mount) (reps : List Replica)

/-- `plan`'s sort calls all returned sorted permutations (what `sort.Slice` guarantees) -/
def PlanOK (env : Env) (dflt : Class) (sorter : Class → List Slot → List Slot)
    (svcs : List RawService) (reps : List Replica) : Prop :=
  BalanceOK env (classesOf dflt (cleanupMounts svcs)) sorter (effMounts dflt (cleanupMounts svcs)) reps

/-- `plan`'s sort calls all returned permutations (all the theorems below need) -/
def PlanPerm (env : Env) (dflt : Class) (sorter : Class → List Slot → List Slot)
    (svcs : List RawService) (reps : List Replica) : Prop :=
  BalancePerm env (classesOf dflt (cleanupMounts svcs)) sorter (effMounts dflt (cleanupMounts svcs)) reps

/-- The sort hypothesis of the theorems below, `BalancePerm`/`PlanPerm` ("each sort call returned some
permutation of its input"), holds for the real sort (`BalanceOK`: a permutation that is moreover
sorted w.r.t. the code's comparator) and for every choice the executable model makes from its
enumeration of possible sort results — so the theorems cover the code for every behaviour of the
unstable sort, and every outcome the model driver prints. -/
theorem C05_hypothesis_covers_sort_and_model (env : Env) (classes : List Class)
    (sorter : Class → List Slot → List Slot) (mounts : List Mount) (reps : List Replica) :
    (BalanceOK env classes sorter mounts reps → BalancePerm env classes sorter mounts reps) ∧
    ((∀ c l, ∃ rs, allSorted (less env c) l = some rs ∧ sorter c l ∈ rs) →
      BalancePerm env classes sorter mounts reps) :=
  ⟨BalanceOK.toPerm, fun h => runPerm_of_enumerated env sorter h classes _⟩

/-- The comparator balanceBlock hands to `sort.Slice` is a strict weak order whenever
`rendezvousLess` compares a weight of the device id (it compares MD5 digests; the driver's
`devLess` is of this form), and then the model's enumeration of sort results is EXACT: the lists it
produces for a class iteration are precisely the permutations of the slots that are sorted w.r.t.
the comparator — everything an unstable sort may return and nothing else. So the correspondence
check's membership test `implementation ∈ allowed(model)` neither misses an admissible behaviour
(no false alarm) nor admits an inadmissible one. -/
theorem C05_enumeration_exact (env : Env) (c : Class) (hw : DevLessByWeight env)
    (l : List Slot) (rs : List (List Slot)) (h : allSorted (less env c) l = some rs) (r : List Slot) :
    StrictWeak (less env c) ∧ (r ∈ rs ↔ IsSorted (less env c) l r) :=
  ⟨less_strictWeak env c hw, allSorted_exact (less_strictWeak env c hw) l rs h r⟩

/-- …and it does not depend on the order in which the slots reach the sort (the model driver
forgets that order between class iterations): permuted inputs have the same set of results. -/
theorem C05_enumeration_order_independent (env : Env) (c : Class) (hw : DevLessByWeight env)
    (l l' : List Slot) (hp : l.Perm l') (rs rs' : List (List Slot))
    (h : allSorted (less env c) l = some rs) (h' : allSorted (less env c) l' = some rs') (r : List Slot) :
    r ∈ rs ↔ r ∈ rs' := by
  rw [(C05_enumeration_exact env c hw l rs h r).2, (C05_enumeration_exact env c hw l' rs' h' r).2]
  exact and_congr_left' ⟨fun h1 => h1.trans hp, fun h1 => h1.trans hp.symm⟩

/-- non-vacuity: two blank-device mounts of one server compare equal, so there are exactly two
sorted orders; the witnesses' `devLess` is a weight comparison -/
example : DevLessByWeight okEnv ∧
    (allSorted (less okEnv 0) (initSlots [mkMount 0 0 0 [0], mkMount 1 0 0 [0], mkMount 2 1 0 [0]] [])).map
      (fun rs => rs.map (fun r => r.map (fun s => s.mnt.id))) = some [[0, 1, 2], [1, 0, 2]] :=
  ⟨⟨fun d => d, fun _ _ => rfl⟩, by decide +kernel⟩

/-- Every emitted trash names a slot that holds a replica with exactly that mtime, and the mtime is
older than `MinMtime` (now − BlobSignatureTTL). No hypothesis at all (not even on the sort). -/
theorem C05_no_trash_newer_than_ttl (p : Slot × Change) (t : Int)
    (hp : p ∈ (balanceBlock env classes sorter mounts reps).changes) (ht : p.2 = .trash t) :
    p.1.repl = some t ∧ t < env.minMtime := by
  have h := mem_changes hp
  have := change_trash (h.2 ▸ ht)
  exact ⟨this.1, this.2.2⟩

example : ∃ p ∈ okResult.changes, p.2 = .trash 800 := by decide +kernel

/-- No trash names a read-only mount (read-only as balanceBlock sees it, i.e. after
setupLookupTables merged the server flag into the mount flag). -/
theorem C05_no_trash_on_readonly_mount (hok : BalancePerm env classes sorter mounts reps)
    (p : Slot × Change) (t : Int)
    (hp : p ∈ (balanceBlock env classes sorter mounts reps).changes) (ht : p.2 = .trash t) :
    p.1.mnt.ro = false ∧ p.1.mnt ∈ mounts := by
  have h := mem_changes hp
  have htr := change_trash (h.2 ▸ ht)
  obtain ⟨hm, _, hw⟩ := final_origin hok p.1 h.1
  refine ⟨?_, hm⟩
  cases hro : p.1.mnt.ro with
  | false => rfl
  | true =>
    have := hw (by rw [htr.1]; rfl) hro
    rw [htr.2.1] at this; cases this

/-- End to end: a trash computed from the discovered layout names a mount that is not read-only and
sits on a service that is not read-only. -/
theorem C05_no_trash_on_readonly (dflt : Class) (svcs : List RawService)
    (hok : PlanPerm env dflt sorter svcs reps) (p : Slot × Change) (t : Int)
    (hp : p ∈ (plan env dflt sorter svcs reps).changes) (ht : p.2 = .trash t) :
    ∃ sv ∈ svcs, ∃ rm ∈ sv.mounts, rm.id = p.1.mnt.id ∧ sv.id = p.1.mnt.srv ∧ rm.ro = false ∧ sv.ro = false := by
  have h := C05_no_trash_on_readonly_mount env _ sorter _ reps hok p t hp ht
  obtain ⟨s0, hs0, m0, hm0, _, e⟩ := mem_plan_mounts.1 h.2
  have hro := h.1
  rw [e] at hro ⊢
  simp only [effMount, fixRepl_eq, Bool.or_eq_false_iff] at hro ⊢
  exact ⟨s0, hs0, m0, hm0, rfl, rfl, hro⟩

instance RunOK.dec (env : Env) (sorter : Class → List Slot → List Slot) :
    ∀ (cs : List Class) (b : BState), Decidable (RunOK env sorter cs b)
  | [], _ => isTrue trivial
  | c :: cs, b =>
    have := RunOK.dec env sorter cs
    inferInstanceAs (Decidable (if env.desired c = 0 then RunOK env sorter cs b else
      IsSorted (less env c) b.slots (sorter c b.slots) ∧
        RunOK env sorter cs (classIter env c (sorter c b.slots) b)))

instance (env : Env) (classes : List Class) (sorter : Class → List Slot → List Slot)
    (mounts : List Mount) (reps : List Replica) : Decidable (BalanceOK env classes sorter mounts reps) :=
  RunOK.dec ..

instance (env : Env) (dflt : Class) (sorter : Class → List Slot → List Slot) (svcs : List RawService)
    (reps : List Replica) : Decidable (PlanOK env dflt sorter svcs reps) :=
  inferInstanceAs (Decidable (BalanceOK ..))

/-- non-vacuity: on a layout with read-only mounts and a read-only service a trash is still issued
somewhere (service 0), and nothing is trashed on the read-only ones -/
example :
    PlanOK roEnv 1 (wSorter roEnv) rawLayout roReps ∧
    ((plan roEnv 1 (wSorter roEnv) rawLayout roReps).changes.map (fun p => (p.1.mnt.id, p.2))) =
      [(2, .stay), (0, .trash 900), (3, .stay)] := by
  decide +kernel

/-- If for ANY storage class with desired > 0 — offered by some mount or not — the replication of the
block, counted over distinct physical devices, is below desired, no trash is emitted for the block
at all. (For a class that no mount offers the replication is 0, so this always applies: a block
wanted in such a class is never trashed.) The clause does not go through the code's own
`underreplicated` flag: such a class cannot fill its protection quota, so `final_guar` leaves only
"every replica is wanted". That the flag is set as well under these hypotheses is proved beside it,
in Proofs/C05_UnderrepFlag.lean (`underrep_of_phys` for a class some mount offers,
`underrep_of_unoffered` otherwise); that module is imported here only to be checked with the
property. -/
theorem C05_underreplicated_no_trash (hok : BalancePerm env classes sorter mounts reps)
    (hid : DistinctIds mounts) (hcons : DeviceConsistent mounts)
    (c : Class) (hd : env.desired c ≠ 0)
    (hu : physRepl c (balanceBlock env classes sorter mounts reps).heldBefore < env.desired c) :
    ∀ p ∈ (balanceBlock env classes sorter mounts reps).changes, ∀ t, p.2 ≠ .trash t := by
  intro p hp t ht
  have h := mem_changes hp
  have htr := change_trash (h.2 ▸ ht)
  have hall := kept_of_underrep (keyConsistent_of c hid hcons) (fun s hs => (final_origin hok s hs).1)
    (final_guar env classes sorter mounts reps hok hid c hd) (balanceBlock_heldBefore .. ▸ hu)
  rw [(hall p.1 h.1 t htr.1).resolve_right List.not_mem_nil] at htr
  cases htr.2.1

/-- non-vacuity: desired 3 with two replicas (one badly placed and old) — nothing is trashed; and
the F1 layout with desired 3: device 7 is mounted twice but counts once (2 < 3), nothing trashed -/
example :
    let env := wEnv [(0, 3)]
    BalanceOK env [0] (wSorter env) okMounts [⟨2, 2, 900⟩, ⟨3, 3, 800⟩] ∧ DistinctIds okMounts ∧
    DeviceConsistent okMounts ∧
    physRepl 0 (balanceBlock env [0] (wSorter env) okMounts [⟨2, 2, 900⟩, ⟨3, 3, 800⟩]).heldBefore = 2 ∧
    BalanceOK env [0] (wSorter env) f1Mounts f1Reps ∧ DeviceConsistent f1Mounts ∧
    physRepl 0 (balanceBlock env [0] (wSorter env) f1Mounts f1Reps).heldBefore = 2 := by
  decide +kernel

/-- the F05a layout (two old replicas on `default` mounts, the block wanted only in class 5, which
no mount offers): nothing is trashed -/
example : f05aEnv.desired 5 = 2 ∧ physRepl 5 f05aResult.heldBefore = 0 ∧
    f05aResult.changes.map (fun p => (p.1.mnt.id, p.2)) = [(0, .stay), (1, .stay)] := by decide +kernel

/-- Every pull targets a writable mount of the layout that lacks the block, is emitted only when
the block has a replica, and names as source the service of a replica (`blk.Replicas[0]`). -/
theorem C05_pull_targets (hok : BalancePerm env classes sorter mounts reps)
    (p : Slot × Change) (src : Option Nat)
    (hp : p ∈ (balanceBlock env classes sorter mounts reps).changes) (hpull : p.2 = .pull src) :
    p.1.mnt ∈ mounts ∧ p.1.mnt.ro = false ∧ replicaOn reps p.1.mnt.id = none ∧
    ∃ r ∈ reps, src = some r.srv := by
  have h := mem_changes hp
  obtain ⟨hr, _, hro, r, rest, rfl, hsrc⟩ := change_pull (h.2 ▸ hpull)
  obtain ⟨hm, hrep, _⟩ := final_origin hok p.1 h.1
  exact ⟨hm, hro, hrep ▸ hr, r, List.mem_cons_self .., hsrc⟩

example : ∃ p ∈ okResult.changes, p.2 = .pull (some 1) := by decide +kernel

/-- A block is reported lost exactly when it has no replica anywhere and is referenced: desired > 0
for some storage class, offered by a mount or not — whatever the mounts are. -/
theorem C05_lost_reported :
    (balanceBlock env classes sorter mounts reps).lost = true ↔
      reps = [] ∧ ∃ c, env.desired c ≠ 0 := by
  show lostFlag env reps (balanceBlock env classes sorter mounts reps).changes = true ↔ _
  unfold lostFlag
  rw [Bool.or_eq_true, Bool.and_eq_true, wantsSome_iff]
  constructor
  · rintro (hl | ⟨he, c, hd, _⟩)
    · obtain ⟨p, hp, hpl⟩ := List.any_eq_true.1 hl
      have hpl' : p.2 = .lost := by simpa using hpl
      have h := mem_changes hp
      have hch := change_lost.1 (h.2 ▸ hpl')
      refine ⟨hch.2.2, Classical.byContradiction fun hno => ?_⟩
      -- otherwise the loop does nothing, and an initial slot without replica is not wanted
      have hs := h.1
      rw [show (balanceBlock env classes sorter mounts reps).final = initState env classes mounts reps from
        runClasses_all_zero env sorter classes _ fun c _ => Classical.byContradiction fun hne => hno ⟨c, hne⟩] at hs
      obtain ⟨s0, hs0, e⟩ := List.mem_map.1 hs
      have hr0 : s0.repl = none := by rw [← e] at hch; simpa [finalSlot_eq] using hch.1
      have hw0 := (mem_initSlots hs0).2.2
      rw [show s0 = p.1 by rw [← e]; unfold finalSlot; rw [hr0], hch.1, hch.2.1] at hw0
      cases hw0
    · exact ⟨by simpa using he, c, hd⟩
  · rintro ⟨hreps, c, hd⟩
    right
    exact ⟨by rw [hreps]; rfl, c, hd, rfl⟩

/-- the F12 layout (one read-only mount, desired 2, no replica) is reported; a block that
nobody references is not -/
example : f12Result.lost = true ∧
    (balanceBlock (wEnv []) [0] (wSorter (wEnv [])) f12Mounts []).lost = false ∧
    (balanceBlock f05aEnv [0] (wSorter f05aEnv) f05aMounts []).lost = true := by
  decide +kernel

/-- A trash request carries the bare hash (first 32 characters of the block id), the mtime that was
observed for the replica on that mount (the last index entry naming it), and that mount's UUID;
a pull request carries the bare hash, the URL of the service of `blk.Replicas[0]`, and the target
mount's UUID. The JSON texts have exactly the keepstore field names. -/
theorem C05_json_shape (hok : BalancePerm env classes sorter mounts reps)
    (blkid hash size : List Char) (hb : blkid = hash ++ '+' :: size) (hl : hash.length = 32)
    (uuidOf urlOf : Nat → List Char) :
    (∀ s t, (s, t) ∈ (balanceBlock env classes sorter mounts reps).trashes →
      let q := trashReq blkid uuidOf s t
      q.locator = hash ∧ q.blockMtime = t ∧ replicaOn reps s.mnt.id = some t ∧ q.mountUUID = uuidOf s.mnt.id ∧
      s.mnt ∈ mounts ∧
      q.json = "{\"locator\":" ++ quote hash ++ ",\"block_mtime\":" ++ toString t ++ ",\"mount_uuid\":" ++
        quote (uuidOf s.mnt.id) ++ "}") ∧
    (∀ s src, (s, Change.pull (some src)) ∈ (balanceBlock env classes sorter mounts reps).changes →
      let q := pullReq blkid uuidOf urlOf s src
      q.locator = hash ∧ q.servers = [urlOf src] ∧ (∃ r ∈ reps, r.srv = src) ∧ q.mountUUID = uuidOf s.mnt.id ∧
      q.json = "{\"locator\":" ++ quote hash ++ ",\"servers\":[" ++ quote (urlOf src) ++ "],\"mount_uuid\":" ++
        quote (uuidOf s.mnt.id) ++ "}") := by
  have hloc : locatorOf blkid = hash := by
    unfold locatorOf; rw [hb, ← hl]; simp
  subst hloc
  constructor
  · intro s t hst
    have h := mem_changes (mem_trashes.1 hst)
    have htr := change_trash (show change env reps s = Change.trash t from h.2.symm)
    obtain ⟨hm, hrep, _⟩ := final_origin hok s h.1
    exact ⟨rfl, rfl, hrep ▸ htr.1, rfl, hm, rfl⟩
  · intro s src hp
    obtain ⟨r, hr, hsrc⟩ := (C05_pull_targets env classes sorter mounts reps hok _ _ hp rfl).2.2.2
    exact ⟨rfl, rfl, ⟨r, hr, by simpa using hsrc.symm⟩, rfl, rfl⟩

example : (trashReq "acbd18db4cc2f85cedef654fccc4a4d8+3".toList (fun _ => "zzzzz-nyw5e-000000000000000".toList)
    ⟨mkMount 0 0 0 [0], some 12345, false⟩ 12345).json =
    "{\"locator\":\"acbd18db4cc2f85cedef654fccc4a4d8\",\"block_mtime\":12345,\"mount_uuid\":\"zzzzz-nyw5e-000000000000000\"}" := by
  -- compared as character lists: string operations on literals are slow in the kernel
  apply String.toList_injective
  unfold TrashReq.json quote
  repeat rw [String.toList_append]
  repeat rw [String.toList_ofList]
  decide +kernel

/-- After cleanupMounts no read-only mount shares a non-blank device with a writable mount; nothing
else is dropped (a writable mount, or a mount whose device is not read-write anywhere, is kept); and
every replication count is ≥ 1. -/
theorem C05_cleanup_drops_ro_duplicates (svcs : List RawService) :
    (∀ s ∈ cleanupMounts svcs, ∀ m ∈ s.mounts, m.ro = true → m.dev ≠ 0 →
      ∀ s' ∈ cleanupMounts svcs, ∀ m' ∈ s'.mounts, m'.dev = m.dev → m'.ro = true) ∧
    (∀ s0 ∈ svcs, ∀ m0 ∈ s0.mounts, (m0.ro = false ∨ (rwDevs svcs).contains m0.dev = false) →
      ∃ s ∈ cleanupMounts svcs, s.id = s0.id ∧ s.ro = s0.ro ∧ fixRepl m0 ∈ s.mounts) ∧
    (∀ s ∈ cleanupMounts svcs, ∀ m ∈ s.mounts, 1 ≤ m.repl) :=
  ⟨cleanup_no_ro_duplicate svcs, cleanup_keeps svcs, cleanup_repl_pos svcs⟩

example : (cleanupMounts rawLayout).map (fun s => s.mounts.map (fun m => (m.id, m.repl))) = [[(0, 2)], [(2, 1)], [(3, 1)]] := by
  decide +kernel

/-- setupLookupTables: the mounts balanceBlock sees are the mounts of the services, read-only if the
mount or its service is, in class `default` when they list none; `bal.classes` is `default` plus
every listed class, sorted, without duplicates. -/
theorem C05_setup_tables (dflt : Class) (svcs : List RawService) :
    (∀ m, m ∈ effMounts dflt svcs ↔ ∃ s ∈ svcs, ∃ rm ∈ s.mounts, m = effMount dflt s rm) ∧
    (∀ s rm, (effMount dflt s rm).ro = (rm.ro || s.ro) ∧
      (effMount dflt s rm).classes = (if rm.classes.isEmpty then [dflt] else rm.classes)) ∧
    (∀ c, c ∈ classesOf dflt svcs ↔ c = dflt ∨ ∃ m ∈ allRawMounts svcs, c ∈ m.classes) ∧
    (classesOf dflt svcs).Pairwise (· ≤ ·) ∧ (classesOf dflt svcs).Nodup :=
  ⟨fun _ => mem_effMounts, fun _ _ => ⟨rfl, rfl⟩, (classesOf_spec dflt svcs).1, (classesOf_spec dflt svcs).2.1,
    (classesOf_spec dflt svcs).2.2⟩

example : classesOf 1 (cleanupMounts rawLayout) = [1, 3] ∧
    (effMounts 1 (cleanupMounts rawLayout)).map (fun m => (m.id, m.ro, m.classes)) =
      [(0, false, [1]), (2, true, [1]), (3, true, [3])] := by decide +kernel

/-- Whatever the order in which index entries and collections arrive: the desired replication
balanceBlock reads for class `c` is the largest replication any collection referencing the block
asks for in `c` (a collection that lists no class counts for `default`) — it is never lowered — and
the replicas are the index entries in arrival order. -/
theorem C05_gather_desired_is_max (dflt : Class) (ops : List BlockOp) (c : Class) :
    desiredOf (gather dflt ops) c = ops.foldl (wantStepOf dflt c) 0 ∧
    (gather dflt ops).replicas = ops.filterMap BlockOp.repOf :=
  gather_spec dflt ops c

example :
    let ops : List BlockOp := [.coll (some 1) [] 2, .rep ⟨0, 0, 900⟩, .coll (some 2) [3, 0] 1, .coll none [3] 4]
    desiredOf (gather 0 ops) 0 = 2 ∧ desiredOf (gather 0 ops) 3 = 4 ∧ desiredOf (gather 0 ops) 7 = 0 ∧
    (gather 0 ops).replicas = [⟨0, 0, 900⟩] ∧ lostRefs (gather 0 ops) = [] ∧
    lostRefs (gather 0 [.coll (some 1) [] 2, .coll (some 5) [] 1, .coll (some 1) [3] 1]) = [1, 5] := by decide +kernel

/-- `C05_trash_safe`, at full strength: for every layout and every block, carrying out every
computed trash request while no pull succeeds leaves each class with desired d > 0 at
replication ≥ min(d, what it was), counted over distinct physical devices (a trash on any view of a
device is taken to remove the device's replica) — for every class, offered by some mount or not. -/
theorem C05_trash_safe (hok : BalancePerm env classes sorter mounts reps)
    (hid : DistinctIds mounts) (hcons : DeviceConsistent mounts)
    (c : Class) (hd : env.desired c ≠ 0) :
    min (env.desired c) (physRepl c (balanceBlock env classes sorter mounts reps).heldBefore) ≤
      physRepl c (balanceBlock env classes sorter mounts reps).heldAfter :=
  trash_safe_of_kept (keyConsistent_of c hid hcons) rfl (fun s hs => (final_origin hok s hs).1)
    (final_guar env classes sorter mounts reps hok hid c hd)

/-- End to end from the discovered layout (`plan` = cleanupMounts, setupLookupTables,
balanceBlock), with the hypotheses stated on what the keepstore servers report: the mounts are
distinct objects and mounts of one device report the same classes and replication. The hypotheses
of the block-level theorem are derived (`plan_distinctIds`, `plan_deviceConsistent`). -/
theorem C05_trash_safe_plan (dflt : Class) (svcs : List RawService) (hok : PlanPerm env dflt sorter svcs reps)
    (hid : RawDistinctIds svcs) (hcons : RawDeviceConsistent svcs)
    (c : Class) (hd : env.desired c ≠ 0) :
    min (env.desired c) (physRepl c (plan env dflt sorter svcs reps).heldBefore) ≤
      physRepl c (plan env dflt sorter svcs reps).heldAfter :=
  C05_trash_safe env _ sorter _ reps hok (plan_distinctIds dflt svcs hid) (plan_deviceConsistent dflt svcs hcons) c hd

/-- the same for the under-replication clause -/
theorem C05_underreplicated_no_trash_plan (dflt : Class) (svcs : List RawService)
    (hok : PlanPerm env dflt sorter svcs reps) (hid : RawDistinctIds svcs) (hcons : RawDeviceConsistent svcs)
    (c : Class) (hd : env.desired c ≠ 0)
    (hu : physRepl c (plan env dflt sorter svcs reps).heldBefore < env.desired c) :
    ∀ p ∈ (plan env dflt sorter svcs reps).changes, ∀ t, p.2 ≠ .trash t :=
  C05_underreplicated_no_trash env _ sorter _ reps hok (plan_distinctIds dflt svcs hid)
    (plan_deviceConsistent dflt svcs hcons) c hd hu

example : RawDistinctIds rawLayout ∧ RawDeviceConsistent rawLayout := by
  decide +kernel

/-- Device consistency cannot be dropped: "replication of class c over distinct physical devices"
has no meaning when two servers report one device in different classes. Device 7 is in class 0
according to server 0 and in class 1 according to server 1; class 0 desired 1: the replica on
device 8 is trashed, and the surviving device 7 counts for class 0 or not depending on the view. -/
theorem C05_trash_safe_needs_device_consistency :
    ¬ (∀ (env : Env) (classes : List Class) (sorter : Class → List Slot → List Slot) (mounts : List Mount)
        (reps : List Replica), BalanceOK env classes sorter mounts reps → DistinctIds mounts →
        ∀ c, env.desired c ≠ 0 →
          min (env.desired c) (physRepl c (balanceBlock env classes sorter mounts reps).heldBefore) ≤
            physRepl c (balanceBlock env classes sorter mounts reps).heldAfter) := by
  intro h
  exact absurd (h ncEnv [0, 1] (wSorter ncEnv) ncMounts ncReps (by decide +kernel) (by decide +kernel) 0
    (by decide +kernel)) (by decide +kernel)

/-- non-vacuity, on the layouts of findings F1 and F2 (the code without their fixes fails on them):
F1 (device 7 mounted on two servers; ranks empty, empty, 7, 7, 8-old; desired 2): device 8 is
kept (2 → 2); F2 (class 1 desired 2; two class-1 mounts on server 0, a class-0 mount on server 1,
all holding the block): nothing is trashed (2 → 2); and a layout where something IS trashed: four
single-mount servers, replicas new/old/old, desired 2: the worst-placed old replica goes (3 → 2). -/
example :
    BalanceOK f1Env [0] (wSorter f1Env) f1Mounts f1Reps ∧ DistinctIds f1Mounts ∧ DeviceConsistent f1Mounts ∧
    physRepl 0 f1Result.heldBefore = 2 ∧ physRepl 0 f1Result.heldAfter = 2 ∧
    BalanceOK f2Env [0, 1] (wSorter f2Env) f2Mounts f2Reps ∧ DistinctIds f2Mounts ∧ DeviceConsistent f2Mounts ∧
    physRepl 1 f2Result.heldBefore = 2 ∧ physRepl 1 f2Result.heldAfter = 2 ∧
    BalanceOK okEnv [0] (wSorter okEnv) okMounts okReps ∧ DistinctIds okMounts ∧ DeviceConsistent okMounts ∧
    physRepl 0 okResult.heldBefore = 3 ∧ physRepl 0 okResult.heldAfter = 2 ∧
    okResult.changes.map (fun p => (p.1.mnt.id, p.2)) = [(0, .pull (some 1)), (1, .stay), (2, .stay), (3, .trash 800)] := by
  decide +kernel

/-- a shared device with two mounts per server and two classes, something trashed -/
example :
    let ms : List Mount := [mkMount 0 0 7 [0], mkMount 1 0 2 [1], mkMount 2 1 7 [0], mkMount 3 1 4 [0], mkMount 4 2 5 [0]]
    let rs : List Replica := [⟨0, 0, 900⟩, ⟨2, 1, 900⟩, ⟨3, 1, 901⟩, ⟨4, 2, 902⟩, ⟨1, 0, 903⟩]
    let env := wEnv [(0, 2)]
    BalanceOK env [0, 1] (wSorter env) ms rs ∧ DistinctIds ms ∧ DeviceConsistent ms ∧
    physRepl 0 (balanceBlock env [0, 1] (wSorter env) ms rs).heldBefore = 3 ∧
    physRepl 0 (balanceBlock env [0, 1] (wSorter env) ms rs).heldAfter = 2 := by
  decide +kernel

end ArvVerif.C05
