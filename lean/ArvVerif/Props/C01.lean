/-
C01 — keepstore never serves or accepts a block whose content mismatches its hash.
Property theorems only: the GET theorems are read off `handleGet_spec` (Proofs/C01_Get.lean), the PUT
theorems off `handlePut_spec` (Proofs/C01_FaultCalm.lean). Every theorem is for an arbitrary digest
type `δ`, content type `β` (read: byte strings), hash `hash : β → δ`, size `size : β → Nat`, any
list of volumes (any length, any mix of read-only / full / writable), any content under any block
path, and any value of the round-robin counter. Collision-freeness appears only as the explicit
hypothesis `NoColl`.
-/
import ArvVerif.Proofs.C01_Get
import ArvVerif.Proofs.C01_Bytes
import ArvVerif.Proofs.C01_FaultCalm
namespace ArvVerif.C01
set_option linter.unusedSectionVars false

section
variable {δ β : Type} [DecidableEq δ] [DecidableEq β]

/-- collision-freeness of `hash` at `h`: `b` is the only content with digest `h` -/
def NoColl (hash : β → δ) (h : δ) (b : β) : Prop := ∀ x, hash x = h → x = b

/-- A copy that can be served: right digest, not above BlockSize. -/
def Intact (hash : β → δ) (size : β → Nat) (h : δ) (b : β) : Prop := hash b = h ∧ size b ≤ blockSize

/-- The GetBlock loop is sound for *whatever* the volumes hand back (including short, garbled or
stale reads): a returned buffer always has the requested digest. -/
theorem C01_get_sound_any_reads (hash : β → δ) (h : δ) (reads : List (ReadResult β)) (e : GetErr) (b : β)
    (hg : getLoop hash h reads e = .ok b) : hash b = h ∧ ReadResult.data b ∈ reads := by
  have hs := getLoop_spec hash h id reads e
  rw [List.map_id] at hs
  rcases hs with ⟨pre, _, post, b', he, rfl, hb, _, hg'⟩ | ⟨_, hg'⟩ | ⟨_, _, hg'⟩
  all_goals cases hg'.symm.trans hg
  exact ⟨hb, he ▸ List.mem_append_cons_self⟩

/-- GET answers 200 only with a body whose digest is the requested hash, whose length is the
Content-Length it reports, and which is stored under that hash on some volume. -/
theorem C01_get_sound (hash : β → δ) (size : β → Nat) (vols : List (Vol δ β)) (h : δ)
    (h200 : (handleGet hash size vols h).status = 200) :
    ∃ b, (handleGet hash size vols h).body = some b ∧
      (handleGet hash size vols h).contentLength = some (size b) ∧
      hash b = h ∧ size b ≤ blockSize ∧ ∃ v ∈ vols, v.files h = some b := by
  rcases handleGet_spec hash size vols h with ⟨_, v, _, b, hv, hf, hb, hs, _, hg⟩ | ⟨_, hg⟩ | ⟨_, _, hg⟩
  · rw [hg]
    exact ⟨b, rfl, rfl, hb, hs, v, hv ▸ List.mem_append_cons_self, hf⟩
  · cases hg ▸ h200
  · cases hg ▸ h200

/-- HEAD answers 200 only with the length of a servable copy stored under that hash. -/
theorem C01_head_sound (hash : β → δ) (size : β → Nat) (vols : List (Vol δ β)) (h : δ)
    (h200 : (handleHead hash size vols h).status = 200) :
    ∃ b, (handleHead hash size vols h).contentLength = some (size b) ∧
      Intact hash size h b ∧ ∃ v ∈ vols, v.files h = some b :=
  have ⟨b, _, hcl, hh, hs, hv⟩ := C01_get_sound hash size vols h h200
  ⟨b, hcl, ⟨hh, hs⟩, hv⟩

/-- If some volume holds an intact copy, GET answers 200 with an intact body: corrupt, truncated,
extended, substituted, empty or oversize copies on other volumes — earlier or later in the mount
order, read-only or not — are passed over. Under collision-freeness the body is that copy. -/
theorem C01_get_skips_corrupt (hash : β → δ) (size : β → Nat) (vols : List (Vol δ β)) (h : δ) (b : β)
    (hex : ∃ v ∈ vols, v.files h = some b) (hint : Intact hash size h b) :
    ∃ b', (handleGet hash size vols h).status = 200 ∧
      (handleGet hash size vols h).body = some b' ∧
      (handleGet hash size vols h).contentLength = some (size b') ∧
      hash b' = h ∧ (NoColl hash h b → b' = b) := by
  rcases hex with ⟨v, hv, hf⟩
  rcases handleGet_spec hash size vols h with ⟨_, _, _, b', _, _, hb', _, _, hg⟩ | ⟨hno, _⟩ | ⟨hno, _, _⟩
  · rw [hg]
    exact ⟨b', rfl, rfl, rfl, hb', fun hnc => hnc b' hb'⟩
  · exact absurd hint.2 (hno v hv b hf)
  · exact absurd hint.1 (hno v hv b hf hint.2)

/-- If no volume holds an intact copy, GET and HEAD answer with an error status and no data:
500 (DiskHashError) if some volume returned readable bytes (which then mismatched), else 404. -/
theorem C01_get_none_intact (hash : β → δ) (size : β → Nat) (vols : List (Vol δ β)) (h : δ)
    (hnone : ∀ v ∈ vols, ∀ b, v.files h = some b → ¬ Intact hash size h b) :
    (handleGet hash size vols h).body = none ∧
    (handleGet hash size vols h).contentLength = none ∧
    (handleHead hash size vols h).contentLength = none ∧
    (handleHead hash size vols h).status = (handleGet hash size vols h).status ∧
    ((∃ v ∈ vols, ∃ b, v.files h = some b ∧ size b ≤ blockSize) →
        (handleGet hash size vols h).status = 500) ∧
    ((¬ ∃ v ∈ vols, ∃ b, v.files h = some b ∧ size b ≤ blockSize) →
        (handleGet hash size vols h).status = 404) := by
  unfold handleHead
  rcases handleGet_spec hash size vols h with ⟨_, v, _, b, hv, hf, hb, hs, _, _⟩ | ⟨hno, hg⟩ | ⟨_, hex, hg⟩
  · exact absurd ⟨hb, hs⟩ (hnone v (hv ▸ List.mem_append_cons_self) b hf)
  · rw [hg]
    exact ⟨rfl, rfl, rfl, rfl, fun ⟨u, hu, c, hc, hs⟩ => absurd hs (hno u hu c hc), fun _ => rfl⟩
  · rw [hg]
    exact ⟨rfl, rfl, rfl, rfl, fun _ => rfl, fun hn => absurd hex hn⟩

/-- PUT is acknowledged only if the digest of the request body is the requested hash (and the
body is not above BlockSize). -/
theorem C01_put_ack_hash (hash : β → δ) (size : β → Nat) (vols : List (Vol δ β)) (rr : Nat) (h : δ)
    (body : β) (cl : Bool) (h200 : (handlePut hash size vols rr h body cl).1.status = 200) :
    hash body = h ∧ size body ≤ blockSize :=
  have ⟨hh, hsz, _⟩ := (handlePut_spec hash size vols rr h body cl).ack h200
  ⟨hh, hsz⟩

/-- A PUT whose body does not hash to the requested hash is refused with 422 (given a
Content-Length, a size within BlockSize and at least one writable mount — otherwise it is refused
earlier with 411 / 413 / 503) and no volume changes. -/
theorem C01_put_rejects_mismatch (hash : β → δ) (size : β → Nat) (vols : List (Vol δ β)) (rr : Nat)
    (h : δ) (body : β) (cl : Bool) (hne : hash body ≠ h) :
    (handlePut hash size vols rr h body cl).1.status ≠ 200 ∧
    (handlePut hash size vols rr h body cl).2.1 = vols ∧
    (cl = true → size body ≤ blockSize → (allWritable vols).length ≠ 0 →
      handlePut hash size vols rr h body cl = ({ status := 422, replicas := none }, vols, rr)) := by
  have hno : (handlePut hash size vols rr h body cl).1.status ≠ 200 :=
    fun h200 => hne (C01_put_ack_hash hash size vols rr h body cl h200).1
  refine ⟨hno, (handlePut_spec hash size vols rr h body cl).unchanged hno, fun hcl hsz hw => ?_⟩
  rw [handlePut_eq hash size vols rr h body hcl hsz hw, putBlock, if_pos hne]
  rfl

/-- What a PUT may change: on each mount either nothing, or — only on a mount that is neither
read-only nor full — the file under the requested hash becomes the request body. -/
theorem C01_put_frame (hash : β → δ) (size : β → Nat) (vols : List (Vol δ β)) (rr : Nat) (h : δ)
    (body : β) (cl : Bool) :
    Pointwise (Frame h body) vols (handlePut hash size vols rr h body cl).2.1 :=
  (handlePut_spec hash size vols rr h body cl).frame

/-- No step of a PUT changes a read-only (or full) mount; the mount list keeps its length. -/
theorem C01_put_never_writes_ro (hash : β → δ) (size : β → Nat) (vols : List (Vol δ β)) (rr : Nat)
    (h : δ) (body : β) (cl : Bool) (i : Nat) (v : Vol δ β) (hv : vols[i]? = some v)
    (hro : v.ro = true ∨ v.full = true) :
    (handlePut hash size vols rr h body cl).2.1[i]? = some v := by
  rcases (C01_put_frame hash size vols rr h body cl).getElem? i v hv with ⟨v', hv', hf⟩
  rcases hf with hf | ⟨h1, h2, _⟩
  · rw [hv', hf]
  · rcases hro with hro | hro
    · rw [h1] at hro; cases hro
    · rw [h2] at hro; cases hro

/-- A refused PUT changes nothing. -/
theorem C01_put_error_no_change (hash : β → δ) (size : β → Nat) (vols : List (Vol δ β)) (rr : Nat)
    (h : δ) (body : β) (cl : Bool) (hne : (handlePut hash size vols rr h body cl).1.status ≠ 200) :
    (handlePut hash size vols rr h body cl).2.1 = vols :=
  (handlePut_spec hash size vols rr h body cl).unchanged hne

/-- An acknowledged PUT leaves the request body itself under the requested hash on a *writable*
mount (found there by CompareAndTouch or written there) — whatever the read-only mounts hold. -/
theorem C01_put_stores_on_writable (hash : β → δ) (size : β → Nat) (vols : List (Vol δ β)) (rr : Nat)
    (h : δ) (body : β) (cl : Bool) (h200 : (handlePut hash size vols rr h body cl).1.status = 200) :
    ∃ v' ∈ (handlePut hash size vols rr h body cl).2.1, v'.ro = false ∧ v'.files h = some body :=
  ((handlePut_spec hash size vols rr h body cl).ack h200).2.2

/-- Once a PUT is acknowledged, a GET over the resulting volumes (e.g. by a freshly started
keepstore over the same directories) answers 200 with an intact body — whatever corrupt copies of
the hash were or still are on any subset of the volumes, read-only or writable. Under
collision-freeness the body is the PUT body. -/
theorem C01_put_ack_then_get (hash : β → δ) (size : β → Nat) (vols : List (Vol δ β)) (rr : Nat) (h : δ)
    (body : β) (cl : Bool) (h200 : (handlePut hash size vols rr h body cl).1.status = 200) :
    ∃ b', (handleGet hash size (handlePut hash size vols rr h body cl).2.1 h).status = 200 ∧
      (handleGet hash size (handlePut hash size vols rr h body cl).2.1 h).body = some b' ∧
      (handleGet hash size (handlePut hash size vols rr h body cl).2.1 h).contentLength = some (size b') ∧
      hash b' = h ∧ (NoColl hash h body → b' = body) := by
  have hack := C01_put_ack_hash hash size vols rr h body cl h200
  rcases C01_put_stores_on_writable hash size vols rr h body cl h200 with ⟨v', hv', _, hf⟩
  exact C01_get_skips_corrupt hash size _ h body ⟨v', hv', hf⟩ hack

end

/-! ### Byte level (collision.go, pipe_adapters.go) -/

section
variable {δ : Type} [DecidableEq δ]

/-- `compareReaderWithBuf` gives the same verdict for every way the file's bytes are cut into
reads (buffer of `min(1<<20, len(expect))` bytes, short reads, a final empty read): identical
content → nil; otherwise CollisionError if the stored bytes hash to the requested hash, else
DiskHashError — which is what `volCompare` says. -/
theorem C01_compare_chunks (hash : Bytes → δ) (h : δ) (expect : Bytes) (chunks : List Bytes) :
    compareReaderWithBuf hash h expect expect chunks =
      if chunks.flatten = expect then .same else collisionOrCorrupt hash h chunks.flatten := by
  have := compareReaderWithBuf_spec hash h expect chunks [] expect rfl
  simpa [collisionOrCorrupt] using this

/-- `UnixVolume.Compare` through the chunk-level loop is `volCompare`. -/
theorem C01_volCompare_chunks (hash : Bytes → δ) (v : Vol δ Bytes) (h : δ) (body : Bytes)
    (chunks : List Bytes) (f : Bytes) (hf : v.files h = some f) (hc : chunks.flatten = f)
    (hs : f.length ≤ blockSize) :
    volCompare hash List.length v h body = compareReaderWithBuf hash h body body chunks := by
  rw [C01_compare_chunks, hc]
  have hs' : ¬ f.length > blockSize := by omega
  simp only [volCompare, hf, hs', if_false]

/-- `getWithPipe`'s bounded read returns the whole file when stat said it fits the buffer. -/
theorem C01_readFull_exact (stream : Bytes) (hs : stream.length ≤ blockSize) :
    readFull blockSize stream = stream := by
  simp [readFull, List.take_of_length_le hs]

/-- Whatever prefix the bounded read delivers (short read, file changed under the reader), it is
served only if it hashes to the requested hash (the re-hash in GetBlock does not depend on what
the volume claims). -/
theorem C01_short_read_harmless (hash : Bytes → δ) (h : δ) (n : Nat) (stream : Bytes) (e : GetErr)
    (rest : List (ReadResult Bytes)) (b : Bytes)
    (hg : getLoop hash h (.data (readFull n stream) :: rest) e = .ok b) : hash b = h :=
  (C01_get_sound_any_reads hash h _ e b hg).1

end

/-! ### Non-vacuity: concrete instances of the hypotheses -/

section
/-- toy hash for the examples: the sum of the bytes -/
def exHash (b : List Nat) : Nat := b.foldl (· + ·) 0
def exVolCorrupt : Vol Nat (List Nat) :=
  ⟨false, false, 1, fun k => if k = 6 then some [1, 2, 4] else none⟩
def exVolIntact : Vol Nat (List Nat) :=
  ⟨true, false, 2, fun k => if k = 6 then some [1, 2, 3] else none⟩
def exVolEmpty : Vol Nat (List Nat) := ⟨false, false, 0, fun _ => none⟩
/-- toy hash on bytes: the sum of the byte values -/
def exHashB (b : Bytes) : Nat := b.foldl (fun a x => a + x.toNat) 0

-- a corrupt copy first, an intact copy on a read-only volume second: served from the second
example : (handleGet exHash List.length [exVolCorrupt, exVolIntact] 6).status = 200 := by decide +kernel
example : (handleGet exHash List.length [exVolCorrupt, exVolIntact] 6).body = some [1, 2, 3] := by decide +kernel
example : ∃ v ∈ [exVolCorrupt, exVolIntact], v.files 6 = some [1, 2, 3] := ⟨exVolIntact, by simp, by decide⟩
example : Intact exHash List.length 6 [1, 2, 3] := ⟨by decide, by decide⟩
-- no intact copy: 500 after a mismatch, 404 with nothing stored
example : ∀ v ∈ [exVolCorrupt], ∀ b, v.files 6 = some b → ¬ Intact exHash List.length 6 b := by
  intro v hv b hb
  simp at hv; subst hv
  have : b = [1, 2, 4] := by simpa [exVolCorrupt] using hb.symm
  subst this; intro hi; exact absurd hi.1 (by decide)
example : (handleGet exHash List.length [exVolCorrupt] 6).status = 500 := by decide +kernel
example : (handleGet exHash List.length [exVolEmpty] 6).status = 404 := by decide +kernel
-- an acknowledged PUT over a corrupt copy, and a refused one
example : (handlePut exHash List.length [exVolIntact, exVolCorrupt] 0 6 [3, 2, 1] true).1.status = 200 := by decide +kernel
example : (handlePut exHash List.length [exVolIntact, exVolCorrupt] 0 6 [3, 2, 2] true).1.status = 422 := by decide +kernel
example : exHash [3, 2, 2] ≠ 6 := by decide +kernel
-- a hash with a collision (sum): NoColl is a real restriction, satisfiable for the digest 0 of []
example : ¬ NoColl exHash 6 [1, 2, 3] := fun hn => absurd (hn [3, 2, 1] (by decide)) (by decide)
example : NoColl (fun b : List Nat => b.length) 0 [] := by
  intro x hx; exact List.eq_nil_of_length_eq_zero hx
-- a first write is acknowledged; the collision branch of CompareAndTouch is an error, not an acknowledgement
example : (handlePut exHash List.length [exVolCorrupt, exVolEmpty] 0 7 [7] true).1.status = 200 := by decide +kernel
example : (handlePut exHash List.length
    [⟨false, false, 1, fun k => if k = 6 then some [1, 2, 3] else none⟩] 0 6 [3, 2, 1] true).1.status = 500 := by
  decide +kernel
-- the hypotheses of `C01_put_never_writes_ro` have an instance
example : ([exVolIntact, exVolCorrupt] : List (Vol Nat (List Nat)))[0]? = some exVolIntact ∧ exVolIntact.ro = true :=
  ⟨rfl, rfl⟩
-- chunkings of one file
example : compareReaderWithBuf exHashB 6 [1, 2, 3] [1, 2, 3] [[1], [], [2, 3], []] = .same := by decide +kernel
example : compareReaderWithBuf exHashB 6 [1, 2, 3] [1, 2, 3] [[1, 2], [3, 0]] = .collision := by decide +kernel
example : compareReaderWithBuf exHashB 6 [1, 2, 3] [1, 2, 3] [[1, 2]] = .corrupt := by decide +kernel
end

end ArvVerif.C01
