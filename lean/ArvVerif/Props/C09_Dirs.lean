/-
C09 — property theorem: the directories (including empty ones) can be read off the saved text.
-/
import ArvVerif.Proofs.C09_Dirs
import ArvVerif.Props.C09
namespace ArvVerif.C09

open ArvVerif.C08 (Seg FileNode Store)
open ArvVerif.C10 (bSlash)

variable {max : Nat} {hash : Bytes → C08.Loc}

/-- **Same directories, including empty ones.** Let the directory list be closed (every listed
directory's parent is listed; a directory that counts sub-directories has one listed — what the
walk over the inode tree produces). After a successful save, a non-root path `p` is a directory of the
tree **iff** it is a prefix of the directory some line of the text names (a stream name or an
empty-directory marker) — and those prefixes are exactly the directories `loadManifest` creates for
the text (`createFileAndParents` makes every ancestor of every stream/marker directory; the file
tokens of a saved text hold no '/'). In particular an empty directory is never lost: it has its own
marker line; and a directory holding only sub-directories is a prefix of theirs. -/
theorem C09_directories_recovered (hh : HashOK hash) {k : Keep} {t : Tree9} (hok : SaveOK max hash k t) (hnd : NoDel t)
    (hclosed : TreeClosed t) {txt : Bytes} (h : (marshal9 hash max k t).2.2 = MRes.ok txt) :
    ∃ L, parse9 txt = some L ∧ ∀ p : List Bytes, p ≠ [] → (∀ c ∈ p, bSlash ∉ c) →
      (p ∈ dirPaths t ↔ ∃ n ∈ lineNames L, ∃ q, (∀ c ∈ q, bSlash ∉ c) ∧ n = prefixOf (p ++ q)) := by
  obtain ⟨r1, _, r3, _⟩ := marshal9_run (max := max) hh hok
  obtain ⟨_, L, h1, h2⟩ := C09_marshal_valid hh hok hnd h
  refine ⟨L, h2, fun p hp hps => ?_⟩
  rw [← TreeKept.paths r3]
  exact dirs_recovered h1 (TreeKept.closed r3 hclosed) (fun d hd c hc => (r1.paths d hd c hc).2.2.2) p hp hps

/-- non-vacuity: the example tree of Props/C09.lean is closed -/
example : TreeClosed exTree := (shapeOK_sound exTree (by decide)).1

end ArvVerif.C09
