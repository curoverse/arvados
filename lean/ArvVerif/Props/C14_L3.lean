/-
C14 layer L3: the protocol invariant. Mutual exclusion of executions for every reachable state of
the transition system of Model/C14_Proto.lean — any number of containers and instances, any
interleaving of scheduler calls, probes, start commands, process exits, instance lifecycle events
and dispatcher restarts — under the environment assumptions A1, A2 written into the guards of
`Step` (see the header of Model/C14_Proto.lean).
-/
import ArvVerif.Proofs.C14_L3
namespace ArvVerif.C14

/-- **Mutual exclusion.** In every reachable state a container has live crunch-run processes on
at most one instance. -/
theorem C14_mutual_exclusion (s : PState) (h : Reach s) (c : Uuid) (i j : Nat)
    (hi : c ∈ s.procs i) (hj : c ∈ s.procs j) : i = j :=
  (Inv_reach h).m1 c i j hi hj

/-- … and while it has one, no start command for it is pending on any worker; at most one start
command per container is pending at any time. -/
theorem C14_no_pending_start_while_running (s : PState) (h : Reach s) (c : Uuid) (i j : Nat) :
    (c ∈ s.procs i → s.out j ≠ some (c, false)) ∧
    (s.out i = some (c, false) → s.out j = some (c, false) → i = j) :=
  ⟨(Inv_reach h).m2 c i j, (Inv_reach h).m3 c i j⟩

/-- In every state in which the scheduler's `StartContainer(c)` can be accepted (its previous call
was `KillContainer(c) = false`, the guard of `Step.schedStart`), `c` has no process on any
instance and no other start of `c` is pending. -/
theorem C14_start_only_when_free (s : PState) (h : Reach s) (c : Uuid)
    (h2 : s.lastKillFalse = some c) :
    (∀ j, c ∉ s.procs j) ∧ (∀ j, s.out j ≠ some (c, false)) :=
  (Inv_reach h).kf c h2

/-- On every instance the pool has probed since the last restart, each live process is in its
worker's `starting` or `running` map (design invariant I1), so `Running()` reports it. -/
theorem C14_processes_tracked (s : PState) (h : Reach s) (i : Nat) (c : Uuid)
    (hp : s.probed i = true) (hc : c ∈ s.procs i) : s.claims i c :=
  (Inv_reach h).tracked i c hp hc

/-- Containers are started only on workers that are Idle with idle behaviour Run (never held,
draining, booting, unknown or shut down): every step that adds a container to a worker's
`starting` map is a `schedStart` on such a worker. -/
theorem C14_start_on_idle_run_only (s t : PState) (st : Step s t) (i : Nat) (c : Uuid)
    (w w' : Worker) (hw : s.wk i = some w) (hw' : t.wk i = some w')
    (hnew : c ∈ w'.starting) (hold : c ∉ w.starting) :
    w.state = .idle ∧ w.idleB = .run ∧ s.lastKillFalse = some c := by
  cases st with
  | schedStart i' c' w0 h1 h2 h3 h4 h5 => have := Worker.accept_starting w0 c' c; grind [upd_eq]
  | probeDone i' w0 p smp h1 h2 h3 =>
    have := Worker.probeApply_starting_sub w0 p (s.clock + 1) c
    grind [upd_eq]
  | startDone i' c' w0 h1 h2 => have := Worker.startDone_starting w0 c' c (s.clock + 1); grind [upd_eq]
  | killed i' c' w0 h1 h2 => have := (Worker.closeRunner_spec w0 c' (s.clock + 1)).2.1; grind [upd_eq]
  | setIdle i' w0 b t g h1 =>
    have := (Worker.setIdleBehavior_spec w0 b t g (s.clock + 1)).2.1; grind [upd_eq]
  | shutdown i' w0 h1 => have := Worker.shutdown_starting w0 (s.clock + 1); grind [upd_eq]
  | _ => grind [upd_eq]

/-! ### non-vacuity: a reachable state in which a container runs, started by the scheduler -/

/-- The state after recovery, creation and first probe of instance 1, `KillContainer(7) = false`,
`StartContainer(7)` on it and the execution of the start command — with the steps that lead to it. -/
def run7 : { s : PState // Reach s } := by
  have r0 := Reach.init
  have r1 := Reach.step r0 (Step.recoveryDone _ rfl (by intro i _; rfl))
  have r2 := Reach.step r1 (Step.instCreate _ 1 rfl rfl rfl rfl)
  have r3 := Reach.step r2 (Step.poolAdd _ 1 .booting .run 1 rfl (Or.inr rfl))
  have r4 := Reach.step r3 (Step.probeBegin _ 1 _ rfl rfl (by decide))
  have r5 := Reach.step r4 (Step.probeSample _ 1 _ rfl rfl)
  have r6 := Reach.step r5 (Step.probeDone _ 1 _
    ⟨1, true, true, false, [], false, false⟩ (some []) rfl rfl (fun _ => rfl))
  have r7 := Reach.step r6 (Step.schedKillFalse _ 7 rfl (by
    intro i
    by_cases hi : i = 1 <;> simp [PState.claims, upd, hi, PState.init]
    decide))
  have r8 := Reach.step r7 (Step.schedStart _ 1 7 _ rfl rfl rfl (by decide) (by decide))
  have r9 := Reach.step r8 (Step.startExec _ 1 7 true rfl)
  exact ⟨_, r9⟩

example : ∃ s, Reach s ∧ (7 : Uuid) ∈ s.procs 1 ∧ s.phase = .scheduling :=
  ⟨run7.1, run7.2, by decide, rfl⟩

/-- **Snapshot check is sound.** Whatever set of instances a snapshot covers, a reachable model
state passes `snapOK`: Idle workers track nothing, every process on an Idle/Running worker's
instance is in its `starting` or `running` map, and no container has processes on two instances.
(The e2e driver evaluates `snapOK` on snapshots of the real pool + stub cloud.) -/
theorem C14_snapshot_check_sound (s : PState) (h : Reach s) (dom : List Nat) :
    snapOK (s.snap dom) = true := by
  have inv := Inv_reach h
  have h1 := inv.idleEmpty
  have h2 := inv.activeProbed
  have h3 := fun i w (hw : s.wk i = some w) => (inv.fits hw).tr
  have h4 := inv.m1
  unfold snapOK PState.snap SnapW.ok
  simp only [Bool.and_eq_true, List.all_eq_true, List.mem_filterMap, Option.map_eq_some_iff]
  constructor
  · rintro w ⟨i, _, wk, hwk, rfl⟩
    grind [List.isEmpty_iff]
  · rintro a ⟨i, _, wa, hwa, rfl⟩ b ⟨j, _, wb, hwb, rfl⟩
    grind

example : snapOK [⟨1, .running, [], [7], [7]⟩, ⟨2, .idle, [], [], []⟩, ⟨3, .unknown, [], [], [9]⟩] = true := by decide
example : snapOK [⟨1, .running, [], [7], [7]⟩, ⟨2, .running, [7], [], [7]⟩] = false := by decide

/-! ### A1 is necessary: the escape hatch of `fixStaleLocks` (finding F11)

`fixStaleLocks` may finish while an instance that still runs a container has not been probed:
on its timeout, when such an instance is shut down as unresponsive while still Unknown, or at
once when no *Locked* container is missing from `Running()` (e.g. the surviving process belongs
to a container that was unlocked before the restart). `StepU` adds that step without the A1
guard; mutual exclusion then fails. -/

inductive StepU : PState → PState → Prop where
  | base {s t : PState} : Step s t → StepU s t
  /-- `fixStaleLocks` returns although an unprobed instance may still run containers -/
  | giveUp (s : PState) (h1 : s.phase = .recovering) : StepU s { s with phase := .scheduling }

inductive ReachU : PState → Prop where
  | init : ReachU PState.init
  | step {s t : PState} : ReachU s → StepU s t → ReachU t

/-- Mutual exclusion without assumption A1. -/
def C14_mutual_exclusion_Full : Prop :=
  ∀ s, ReachU s → ∀ (c : Uuid) (i j : Nat), c ∈ s.procs i → c ∈ s.procs j → i = j

/-- `C14_mutual_exclusion` above is the partial theorem: it holds for `Reach`, whose
`recoveryDone` step carries A1 as its guard. Every `Reach`able state is `ReachU`able. -/
theorem C14_reach_sub (s : PState) (h : Reach s) : ReachU s := by
  induction h with
  | init => exact ReachU.init
  | step _ st ih => exact ReachU.step ih (.base st)

/-- It is false: container 7 runs on instance 1, the dispatcher restarts and gives up waiting
before instance 1 has been probed, locks (not modelled) and starts 7 on the new instance 2. -/
theorem C14_mutual_exclusion_full_fails : ¬ C14_mutual_exclusion_Full := by
  intro hfull
  have r9 := C14_reach_sub _ run7.2
  -- the dispatcher dies; the new one gives up before instance 1 is probed
  have r10 := ReachU.step r9 (.base (Step.restart _))
  have r11 := ReachU.step r10 (.giveUp _ rfl)
  have r12 := ReachU.step r11 (.base (Step.instCreate _ 2 rfl rfl rfl rfl))
  have r13 := ReachU.step r12 (.base (Step.poolAdd _ 2 .booting .run 1 rfl (Or.inr rfl)))
  have r14 := ReachU.step r13 (.base (Step.probeBegin _ 2 _ rfl rfl (by decide)))
  have r15 := ReachU.step r14 (.base (Step.probeSample _ 2 _ rfl rfl))
  have r16 := ReachU.step r15 (.base (Step.probeDone _ 2 _
    ⟨3, true, true, false, [], false, false⟩ (some []) rfl rfl (fun _ => rfl)))
  have r17 := ReachU.step r16 (.base (Step.schedKillFalse _ 7 rfl (by
    intro i
    by_cases hi : i = 2 <;> simp [PState.claims, upd, hi]
    decide)))
  have r18 := ReachU.step r17 (.base (Step.schedStart _ 2 7 _ rfl rfl rfl (by decide) (by decide)))
  have r19 := ReachU.step r18 (.base (Step.startExec _ 2 7 true rfl))
  have := hfull _ r19 7 1 2 (by decide) (by decide)
  cases this

end ArvVerif.C14
