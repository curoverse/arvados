/-
C09 — property theorems about the goroutine protocol of a synchronous flush
(contextgroup.go, throttle.go, the channel/throttle protocol of `dirnode.commitBlock`;
Model/C09_Conc.lean). They connect the scheduler-level behaviour of the code to the outcome scripts
all other C09 theorems quantify over (`C09_schedule_outcomes`).

For every capacity ≥ 1, every number of groups, every number of background writers ≤ capacity, every
Keep answer script, every schedule (any interleaving of the micro-steps, parent cancellation at any
time).
-/
import ArvVerif.Proofs.C09_ConcContextGroup
import ArvVerif.Proofs.C09_Flush
namespace ArvVerif.C09

open Conc
open ArvVerif.C08 (FileNode AllWF)

/-- **Acquire/Release balance.** In every reachable state the throttle holds exactly the background
writers plus the tasks between `Acquire` and `Release`, never more than its capacity; once the
WaitGroup is at zero (what `Wait` waits for) the flush holds no slot at all — also after failed and
skipped writes. -/
theorem C09_throttle_balanced (cap n bg : Nat) (script : List Bool) (dflt : Bool) (hbg : bg ≤ cap) (s : CS)
    (h : Reach cap (init n bg script dflt) s) :
    s.inUse = s.bg + nHold s.pcs ∧ s.inUse ≤ cap ∧ (s.pcs.all PC.done = true → s.inUse = s.bg) := by
  have hi := reach_tinv (TInv.init n bg script dflt hbg) h
  refine ⟨hi.use, hi.le, fun hd => ?_⟩
  have := nHold_of_done hd
  have := hi.use
  omega

/-- **No deadlock, no livelock.** From every reachable state: (1) while some task is not quiet, a
goroutine of the flush or a background writer can move (never only the environment); (2) every run
from here has at most `mu s` steps, and `mu` of the initial state is `9·n + bg + 1`; (3) hence
quiescence is reachable. -/
theorem C09_flush_no_deadlock (cap n bg : Nat) (script : List Bool) (dflt : Bool) (hcap : 1 ≤ cap) (hbg : bg ≤ cap)
    (s : CS) (h : Reach cap (init n bg script dflt) s) :
    (s.pcs.all PC.quiet = false → ∃ a, a.own = true ∧ (step cap s a).isSome = true) ∧
    (∀ acts u, runAll cap s acts = some u → acts.length + mu u ≤ mu s) ∧
    mu (init n bg script dflt) = 9 * n + bg + 1 ∧
    (∃ u, Reach cap s u ∧ u.pcs.all PC.quiet = true) := by
  have hi := reach_tinv (TInv.init n bg script dflt hbg) h
  refine ⟨progress hcap hi, fun acts u => runAll_mu acts s u, ?_, reach_quiet hcap (mu s) s (Nat.le_refl _) hi⟩
  simp only [mu, Conc.init, sumF_replicate, PC.rank, cond_false]
  omega

/-- **Quiescence.** A reachable state in which no goroutine of the flush and no background writer
can move (the end of every maximal run): every task was dropped by `Go` or has finished AND closed
its `done` channel — so no segment keeps an open `flushing` channel and `waitPrune` of the next save
returns —, every slot of the throttle is free, and `Wait` is enabled. -/
theorem C09_flush_quiescent (cap n bg : Nat) (script : List Bool) (dflt : Bool) (hcap : 1 ≤ cap) (hbg : bg ≤ cap)
    (s : CS) (h : Reach cap (init n bg script dflt) s) (hmax : ∀ a, a.own = true → step cap s a = none) :
    s.pcs.all PC.quiet = true ∧ (∀ p ∈ s.pcs, p.chanOpen = false) ∧ s.inUse = 0 ∧ (wait s).isSome = true := by
  have hi := reach_tinv (TInv.init n bg script dflt hbg) h
  have hq : s.pcs.all PC.quiet = true := Bool.of_not_eq_false fun hq => by
    obtain ⟨a, ha, hs⟩ := progress hcap hi hq
    rw [hmax a ha] at hs; cases hs
  have hcases := fun p hp => PC.quiet_cases (List.all_eq_true.mp hq p hp)
  have hd : s.pcs.all PC.done = true :=
    List.all_eq_true.mpr fun p hp => by rcases hcases p hp with rfl | ⟨o, rfl⟩ <;> rfl
  refine ⟨hq, fun p hp => by rcases hcases p hp with rfl | ⟨o, rfl⟩ <;> rfl, ?_, by simp [wait, hd]⟩
  have hb : s.bg = 0 := by simpa [step] using hmax Act.bgRelease rfl
  have := nHold_of_done hd
  have := hi.use
  omega

/-- **`Wait`: barrier, first error.** In every reachable state: (1) `Wait` returns only when every
func started by `Go` has returned and been accounted (none holds a slot or is inside PutB); (2) a
recorded error is the error of a task that has finished, and while none is recorded every finished
task returned nil; (3) once recorded the error never changes (the first one wins); (4) `Wait`
returns nil exactly when every group's write was acknowledged and the parent did not cancel. -/
theorem C09_wait_first_error (cap n bg : Nat) (script : List Bool) (dflt : Bool) (s : CS)
    (h : Reach cap (init n bg script dflt) s) :
    (∀ r, wait s = some r → ∀ p ∈ s.pcs, p.done = true ∧ p.holding = false) ∧
    (∀ i, s.cgErr = some i → ∃ o c, s.pcs[i]? = some (PC.finished o c) ∧ o ≠ Outcome.ok) ∧
    (s.cgErr = none → ∀ (j : Nat) (o : Outcome) (c : Bool), s.pcs[j]? = some (PC.finished o c) → o = Outcome.ok) ∧
    (∀ i u, s.cgErr = some i → Reach cap s u → u.cgErr = some i) ∧
    (∀ r, wait s = some r → (r = WaitRes.nil ↔ (∀ o ∈ outs s, o = Outcome.ok) ∧ s.ext = false)) := by
  have he := reach_einv (EInv.init n bg script dflt) h
  refine ⟨?_, fun i hi => (he.errSome i hi).2, he.errNone, fun i u hi hu => reach_cgErr hu hi, ?_⟩
  · intro r hr p hp
    have hd := List.all_eq_true.mp (wait_some hr).1 p hp
    exact ⟨hd, by rcases PC.done_cases hd with rfl | ⟨o, c, rfl⟩ <;> rfl⟩
  · intro r hr
    obtain ⟨hd, hnil⟩ := wait_some hr
    rw [hnil]
    constructor
    · intro ⟨hce, hc⟩
      refine ⟨fun o ho => ?_, ?_⟩
      · obtain ⟨p, hp, rfl⟩ := List.mem_map.mp ho
        obtain ⟨j, hj⟩ := List.getElem?_of_mem hp
        rcases PC.done_cases (List.all_eq_true.mp hd p hp) with rfl | ⟨o, c, rfl⟩
        · have := he.dropC j hj; rw [hce] at this; cases this
        · exact he.errNone hce j o c hj
      · cases hx : s.ext with
        | false => rfl
        | true => have := he.extC hx; rw [hc] at this; cases this
    · intro ⟨hall, hx⟩
      have hout : ∀ {j : Nat} {o c}, s.pcs[j]? = some (PC.finished o c) → o = Outcome.ok :=
        fun hj => hall _ (List.mem_map.mpr ⟨_, List.mem_of_getElem? hj, rfl⟩)
      constructor
      · cases hce : s.cgErr with
        | none => rfl
        | some i =>
          obtain ⟨_, o, c, hi, ho⟩ := he.errSome i hce
          exact absurd (hout hi) ho
      · cases hcc : s.cancelled with
        | false => rfl
        | true =>
          rcases he.why hcc with hx' | ⟨j, c, hj⟩
          · rw [hx] at hx'; cases hx'
          · cases hout hj

theorem allOk_of_script : ∀ (l : List Outcome) (k : Keep), k.script = l → allOk l.length k = l.all (· == Outcome.ok)
  | [], k, _ => rfl
  | o :: l, k, h => by
    have hn : k.next = (o, { k with script := l }) := by simp only [Keep.next, h]
    simp only [List.length_cons, allOk, hn, List.all_cons]
    rw [allOk_of_script l { k with script := l } rfl]

/-- **Every schedule amounts to an outcome script.** When `Wait` returns `r` after any run, the
per-group outcomes `outs s` (`ok` = written and acknowledged, segments replaced; `fail` = PutB
failed; `skip` = the write was never attempted) satisfy: one entry per group; a `skip` occurs only
when the parent cancelled or some write of this flush failed; and for a Keep whose script is that
list, the model's `flushFilesK` (which every other C09 theorem is about, for EVERY script) reports
"no error" exactly when `Wait` returned nil. -/
theorem C09_schedule_outcomes (cap n bg : Nat) (script : List Bool) (dflt : Bool) (s : CS)
    (h : Reach cap (init n bg script dflt) s) (r : WaitRes) (hw : wait s = some r) :
    (outs s).length = n ∧
    (∀ o ∈ outs s, o = Outcome.skip → s.ext = true ∨ Outcome.fail ∈ outs s) ∧
    (s.ext = false → ∀ {hash : Bytes → C08.Loc} {max : Nat} (k : Keep) (files : List FileNode) (short : Bool),
      Function.Injective hash → KeepOK hash k → AllWF max hash k.store files →
      (C08.flushGroups max short files).length = n → k.script = outs s →
      ((flushFilesK hash max k files short).2.2 = true ↔ r = WaitRes.nil)) := by
  have he := reach_einv (EInv.init n bg script dflt) h
  have hlen : (outs s).length = n := by rw [outs, List.length_map, reach_len h]; simp [Conc.init]
  have hd := (wait_some hw).1
  refine ⟨hlen, ?_, ?_⟩
  · intro o ho hskip
    subst hskip
    obtain ⟨p, hp, hpo⟩ := List.mem_map.mp ho
    obtain ⟨j, hj⟩ := List.getElem?_of_mem hp
    have hcan : s.cancelled = true := by
      rcases PC.done_cases (List.all_eq_true.mp hd p hp) with rfl | ⟨o, c, rfl⟩
      · obtain ⟨i, hi⟩ := Option.isSome_iff_exists.mp (he.dropC j hj)
        exact (he.errSome i hi).1
      · cases (hpo : o = Outcome.skip)
        exact (he.skipC j c (Or.inr hj)).2
    exact (he.why hcan).imp_right fun ⟨i, c, hi⟩ => List.mem_map.mpr ⟨_, List.mem_of_getElem? hi, rfl⟩
  · intro hx hash max k files short _ _ _ hg hs
    rw [(flushFilesK_script k files short).1, hg, ← hlen, allOk_of_script (outs s) k hs,
      (C09_wait_first_error cap n bg script dflt s h).2.2.2.2 r hw]
    simp only [List.all_eq_true, beq_iff_eq, hx, and_true]

/-- three groups, one writer slot, the first write fails while the other two wait in `Acquire`:
they still write (no second context check), `Wait` returns the first task's error, all slots are
free and no channel stays open -/
def exSched : List Act :=
  [.spawn 0, .spawn 1, .spawn 2, .check 0, .check 1, .check 2, .acquire 0, .acquire 1, .putb 0, .release 0, .ret 0,
   .finish 0, .acquire 1, .putb 1, .release 1, .acquire 2, .ret 1, .finish 1, .closeDone 0, .closeDone 1,
   .putb 2, .release 2, .ret 2, .closeDone 2, .finish 2]

def exRun1 : CS := runSched 1 (init 3 0 [false] true) exSched

example : wait exRun1 = some (WaitRes.taskErr 0) ∧ outs exRun1 = [Outcome.fail, Outcome.ok, Outcome.ok] ∧
    exRun1.inUse = 0 ∧ exRun1.pcs.all PC.quiet = true ∧ exRun1.log.reverse = [(0, false), (1, true), (2, true)] := by
  decide

/-- a group spawned after the error was recorded is dropped by `Go`; one that checks the context
after the cancellation skips its write without making a channel; a background writer keeps its slot -/
def exRun2 : CS := runSched 2 (init 3 1 [false] true)
  [.spawn 0, .spawn 1, .check 0, .acquire 0, .putb 0, .release 0, .ret 0, .finish 0, .spawn 2, .check 1, .finish 1,
   .closeDone 0]

example : wait exRun2 = some (WaitRes.taskErr 0) ∧ outs exRun2 = [Outcome.fail, Outcome.skip, Outcome.skip] ∧
    exRun2.inUse = 1 ∧ exRun2.bg = 1 ∧ exRun2.pcs.all PC.quiet = true ∧ exRun2.log = [(0, false)] := by decide

/-- all writes acknowledged, parent cancels late: `Wait` returns the context's error although every outcome is ok -/
def exRun3 : CS := runSched 4 (init 1 0 [] true)
  [.spawn 0, .check 0, .extCancel, .acquire 0, .putb 0, .release 0, .ret 0, .finish 0]

example : wait exRun3 = some WaitRes.ctxErr ∧ outs exRun3 = [Outcome.ok] := by decide

/-- `Wait` is not enabled while a write is in flight -/
example : wait (runSched 4 (init 2 0 [] true) [.spawn 0, .spawn 1, .check 0, .check 1, .acquire 0, .acquire 1, .putb 0,
    .release 0, .ret 0, .finish 0]) = none := by decide

/-- the hypotheses of the theorems are met by these runs (they are reachable); the first `acquire 1` of
`exSched` is the blocked `Acquire` (slot taken), which `runSched` skips -/
example : Reach 1 (init 3 0 [false] true) exRun1 := by
  have : runAll 1 (init 3 0 [false] true) (exSched.erase (.acquire 1)) = some exRun1 := by decide
  exact runAll_reach _ _ _ this

end ArvVerif.C09
