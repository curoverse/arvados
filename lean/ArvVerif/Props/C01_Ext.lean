/-
C01 — property theorems about
  * the request environment: buffer-pool exhaustion, client disconnect, short request body
    (`handleGetEnv`, `handlePutEnv`) — the soundness clauses hold in every environment;
  * what is served when several copies hash to H: the first intact copy in mount order;
  * what a PUT guarantees when mounts that CompareAndTouch does not look at (read-only ones) hold
    something else under H: the outcome does not depend on them, an acknowledged body is on a
    writable mount, a 500 means a genuine collision on a writable mount;
  * `getWithPipe` at byte level: what the bounded read hands on, and when it reports an error.
Same generality as Props/C01.lean (arbitrary hash, any volumes, any counter, any environment).
-/
import ArvVerif.Props.C01
namespace ArvVerif.C01
set_option linter.unusedSectionVars false

section
variable {δ β : Type} [DecidableEq δ] [DecidableEq β]

/-- HEAD is GET without the body: same status, same Content-Length, no body. -/
theorem C01_head_eq_get (hash : β → δ) (size : β → Nat) (vols : List (Vol δ β)) (h : δ) :
    (handleHead hash size vols h).status = (handleGet hash size vols h).status ∧
    (handleHead hash size vols h).contentLength = (handleGet hash size vols h).contentLength ∧
    (handleHead hash size vols h).body = none := ⟨rfl, rfl, rfl⟩

/-- The body of a 200 GET is the *first* intact copy in mount order: every earlier mount holds
nothing servable under H (nothing, an oversize file, or bytes with another digest). -/
theorem C01_get_first_intact (hash : β → δ) (size : β → Nat) (vols : List (Vol δ β)) (h : δ) (b : β)
    (hb : (handleGet hash size vols h).body = some b) :
    ∃ pre v post, vols = pre ++ v :: post ∧ v.files h = some b ∧ Intact hash size h b ∧
      ∀ u ∈ pre, ∀ c, u.files h = some c → ¬ Intact hash size h c := by
  rcases handleGet_spec hash size vols h with ⟨pre, v, post, b', hv, hf, hb', hs, hpre, hg⟩ | ⟨_, hg⟩ | ⟨_, _, hg⟩
  all_goals cases hg ▸ hb
  exact ⟨pre, v, post, hv, hf, ⟨hb', hs⟩, fun u hu c hc hint => hpre u hu c hc hint.2 hint.1⟩

/-- In every environment (no buffer, client gone at any check) a 200 GET still carries a body with
the requested digest, the reported length, stored under that hash on some volume. -/
theorem C01_get_sound_env (hash : β → δ) (size : β → Nat) (env : GetEnv) (vols : List (Vol δ β)) (h : δ)
    (h200 : (handleGetEnv hash size env vols h).status = 200) :
    ∃ b, (handleGetEnv hash size env vols h).body = some b ∧
      (handleGetEnv hash size env vols h).contentLength = some (size b) ∧
      Intact hash size h b ∧ ∃ v ∈ vols, v.files h = some b := by
  rcases handleGetEnv_cases hash size env vols h with he | ⟨_, he⟩
  · rw [he] at h200 ⊢
    have ⟨b, hb, hcl, hh, hs, hv⟩ := C01_get_sound hash size vols h h200
    exact ⟨b, hb, hcl, ⟨hh, hs⟩, hv⟩
  · cases he ▸ h200

/-- Every answer other than 200 carries no body and no Content-Length, and is 404, 500 or 503. -/
theorem C01_get_env_error (hash : β → δ) (size : β → Nat) (env : GetEnv) (vols : List (Vol δ β)) (h : δ)
    (hne : (handleGetEnv hash size env vols h).status ≠ 200) :
    (handleGetEnv hash size env vols h).body = none ∧
    (handleGetEnv hash size env vols h).contentLength = none ∧
    ((handleGetEnv hash size env vols h).status = 404 ∨ (handleGetEnv hash size env vols h).status = 500 ∨
      (handleGetEnv hash size env vols h).status = 503) := by
  rcases handleGetEnv_cases hash size env vols h with he | ⟨_, he⟩
  · rw [he] at hne ⊢
    have ⟨hb, hcl, hst⟩ := handleGet_error hash size vols h rfl hne
    exact ⟨hb, hcl, hst.elim .inl fun h500 => .inr (.inl h500)⟩
  · rw [he]
    exact ⟨rfl, rfl, .inr (.inr rfl)⟩

/-- Without buffer shortage and disconnect the environment model is `handleGet`. -/
theorem C01_get_env_calm (hash : β → δ) (size : β → Nat) (vols : List (Vol δ β)) (h : δ) :
    handleGetEnv hash size GetEnv.calm vols h = handleGet hash size vols h := by
  rcases handleGetEnv_cases hash size GetEnv.calm vols h with he | ⟨hb | hg, _⟩
  · exact he
  · cases hb
  · exact absurd rfl hg

/-- No buffer before the client goes away: 503, whatever the volumes hold. -/
theorem C01_get_env_nobuf (hash : β → δ) (size : β → Nat) (env : GetEnv) (vols : List (Vol δ β)) (h : δ)
    (hb : env.bufOk = false) : (handleGetEnv hash size env vols h).status = 503 := by
  simp [handleGetEnv, hb]

/-- Without disturbance the environment model is `handlePut`. -/
theorem C01_put_env_calm (hash : β → δ) (size : β → Nat) (vols : List (Vol δ β)) (rr : Nat) (h : δ)
    (body : β) (cl : Bool) :
    handlePutEnv hash size PutEnv.calm vols rr h body cl = handlePut hash size vols rr h body cl := by
  rcases handlePutEnv_cases hash size PutEnv.calm vols rr h body cl rfl with he | ⟨hb | hb | hg, _⟩
  · exact he
  · cases hb
  · cases hb
  · exact absurd rfl hg

/-- In every environment an acknowledgement (200) is an undisturbed acknowledgement or a touch of
an identical copy: so everything proved about `handlePut`'s 200 carries over — the body hashes to
H, it sits on a writable mount, a GET afterwards serves an intact copy. -/
theorem C01_put_env_ack (hash : β → δ) (size : β → Nat) (env : PutEnv) (vols : List (Vol δ β)) (rr : Nat)
    (h : δ) (body : β) (cl : Bool)
    (h200 : (handlePutEnv hash size env vols rr h body cl).1.status = 200) :
    hash body = h ∧ size body ≤ blockSize ∧
    (∃ v' ∈ (handlePutEnv hash size env vols rr h body cl).2.1, v'.ro = false ∧ v'.files h = some body) ∧
    ∃ b', (handleGet hash size (handlePutEnv hash size env vols rr h body cl).2.1 h).status = 200 ∧
      (handleGet hash size (handlePutEnv hash size env vols rr h body cl).2.1 h).body = some b' ∧
      hash b' = h ∧ (NoColl hash h body → b' = body) := by
  rcases handlePutEnv_cases hash size env vols rr h body cl rfl with he | ⟨_, hne, _⟩
  · rw [he] at h200 ⊢
    have ⟨hh, hsz, hst⟩ := (handlePut_spec hash size vols rr h body cl).ack h200
    have ⟨b', h1, h2, _, h4, h5⟩ := C01_put_ack_then_get hash size vols rr h body cl h200
    exact ⟨hh, hsz, hst, b', h1, h2, h4, h5⟩
  · exact absurd h200 hne

/-- In every environment a PUT respects the frame: each mount is unchanged or — only if neither
read-only nor full — has `body` under H and is otherwise unchanged. (A disconnect during the write
answers 503 while the write may still land: the frame is all that is guaranteed then.) -/
theorem C01_put_env_frame (hash : β → δ) (size : β → Nat) (env : PutEnv) (vols : List (Vol δ β)) (rr : Nat)
    (h : δ) (body : β) (cl : Bool) :
    Pointwise (Frame h body) vols (handlePutEnv hash size env vols rr h body cl).2.1 := by
  rcases handlePutEnv_cases hash size env vols rr h body cl rfl with he | ⟨_, _, he | ⟨_, he⟩⟩
  · rw [he]; exact C01_put_frame hash size vols rr h body cl
  · rw [he]; exact frame_refl vols
  · rw [he]; exact C01_put_frame hash size vols rr h body cl

/-- Unless the write was overtaken by a disconnect and landed, a refused PUT changes nothing. -/
theorem C01_put_env_error_no_change (hash : β → δ) (size : β → Nat) (env : PutEnv) (vols : List (Vol δ β))
    (rr : Nat) (h : δ) (body : β) (cl : Bool) (hg : env.gone ≠ .duringWrite true)
    (hne : (handlePutEnv hash size env vols rr h body cl).1.status ≠ 200) :
    (handlePutEnv hash size env vols rr h body cl).2.1 = vols := by
  rcases handlePutEnv_cases hash size env vols rr h body cl rfl with he | ⟨_, _, he | ⟨hgone, _⟩⟩
  · rw [he] at hne ⊢
    exact C01_put_error_no_change hash size vols rr h body cl hne
  · exact he
  · exact absurd hgone hg

/-- No buffer ⇒ 503, short body ⇒ 500 (after the 411/413/503-no-writable exits), nothing changes. -/
theorem C01_put_env_nobuf_shortbody (hash : β → δ) (size : β → Nat) (env : PutEnv) (vols : List (Vol δ β))
    (rr : Nat) (h : δ) (body : β) (hsz : size body ≤ blockSize) (hw : (allWritable vols).length ≠ 0) :
    (env.bufOk = false →
      handlePutEnv hash size env vols rr h body true = ({ status := 503, replicas := none }, vols, rr)) ∧
    (env.bufOk = true → env.bodyOk = false →
      handlePutEnv hash size env vols rr h body true = ({ status := 500, replicas := none }, vols, rr)) := by
  have hsz' : ¬ size body > blockSize := by omega
  constructor
  · intro hb; simp [handlePutEnv, hsz', hw, hb]
  · intro hb hbo; simp [handlePutEnv, hsz', hw, hb, hbo]

/-- PUT does not depend on what read-only mounts hold: for two mount lists that differ only in the
contents (and full marker / replication) of read-only mounts, the response and the counter are the
same and the results again differ only on read-only mounts. In particular a different block with
the same digest on a read-only mount is *not* detected as a collision. -/
theorem C01_put_ignores_ro_contents (hash : β → δ) (size : β → Nat) (vols vols' : List (Vol δ β))
    (hrel : Pointwise RoRel vols vols') (rr : Nat) (h : δ) (body : β) (cl : Bool) :
    (handlePut hash size vols rr h body cl).1 = (handlePut hash size vols' rr h body cl).1 ∧
    (handlePut hash size vols rr h body cl).2.2 = (handlePut hash size vols' rr h body cl).2.2 ∧
    Pointwise RoRel (handlePut hash size vols rr h body cl).2.1 (handlePut hash size vols' rr h body cl).2.1 := by
  -- `handlePutF` over the blotted mounts is `handlePut` over either list
  have he := handlePutF_calm .blotRo hash size h body vols' rr cl
  rw [← (pointwise_iff_map_eq blotRo_eq_iff).mpr hrel, handlePutF_calm .blotRo] at he
  exact ⟨congrArg (·.1) he, congrArg (·.2.2) he, (pointwise_iff_map_eq blotRo_eq_iff).mp (congrArg (·.2.1) he)⟩

/-- A PUT is answered 500 only for a genuine collision on a *writable* mount: that mount holds, under
H, bytes different from the body with the same digest as the body. Nothing is written. -/
theorem C01_put_500_is_collision (hash : β → δ) (size : β → Nat) (vols : List (Vol δ β)) (rr : Nat)
    (h : δ) (body : β) (cl : Bool) (h500 : (handlePut hash size vols rr h body cl).1.status = 500) :
    hash body = h ∧ (handlePut hash size vols rr h body cl).2.1 = vols ∧
    ∃ v ∈ vols, v.ro = false ∧ ∃ f, v.files h = some f ∧ f ≠ body ∧ hash f = hash body :=
  have ⟨hh, v, hv, hro, f, hf, hne, hhf⟩ := (handlePut_spec hash size vols rr h body cl).status500 h500
  ⟨hh, C01_put_error_no_change hash size vols rr h body cl (h500 ▸ nofun), v, hv, hro, f, hf, hne,
    hhf.trans hh.symm⟩

/-- Under collision-freeness at H a PUT is never answered 500. -/
theorem C01_put_no_500_without_collision (hash : β → δ) (size : β → Nat) (vols : List (Vol δ β)) (rr : Nat)
    (h : δ) (body : β) (cl : Bool) (hnc : NoColl hash h body) :
    (handlePut hash size vols rr h body cl).1.status ≠ 500 := by
  intro h500
  rcases C01_put_500_is_collision hash size vols rr h body cl h500 with ⟨hh, _, v, _, _, f, _, hne, hf⟩
  exact hne (hnc f (by rw [hf, hh]))

end

/-! ### pipe_adapters.go at byte level -/

/-- Whatever the block reader writes and however it ends, `getWithPipe` hands GetBlock a prefix of
what was written, never longer than the buffer; and with a regular end (nil or the short-read
verdict, which it swallows) of a stream that fits the buffer, exactly the stream. -/
theorem C01_getWithPipe_prefix (bufLen : Nat) (written : Bytes) (wend : PipeEnd) :
    (getWithPipeBytes bufLen written wend).1 = written.take (getWithPipeBytes bufLen written wend).1.length ∧
    (getWithPipeBytes bufLen written wend).1.length ≤ max bufLen written.length ∧
    (bufLen ≤ written.length → (getWithPipeBytes bufLen written wend).1.length = bufLen) ∧
    (written.length ≤ bufLen → (getWithPipeBytes bufLen written wend).1 = written) := by
  rw [getWithPipeBytes_fst, List.length_take]
  exact ⟨by rw [List.take_eq_take_min], by omega, Nat.min_eq_left, List.take_of_length_le⟩

/-- `getWithPipe` reports an error only when the writer ended with one (other than the short-read
verdict) before the buffer was full. -/
theorem C01_getWithPipe_error (bufLen : Nat) (written : Bytes) (wend : PipeEnd)
    (he : (getWithPipeBytes bufLen written wend).2 ≠ .none) :
    written.length < bufLen ∧ (wend = .notExist ∨ wend = .other) := by
  unfold getWithPipeBytes at he
  split at he
  · exact absurd rfl he
  · refine ⟨by omega, ?_⟩
    cases wend with
    | notExist => exact .inl rfl
    | other => exact .inr rfl
    | _ => exact absurd rfl he

/-! ### Non-vacuity -/

section
-- the environments are inhabited by disturbed and undisturbed values, and they matter
example : (handleGetEnv exHash List.length ⟨false, none⟩ [exVolIntact] 6).status = 503 := by decide +kernel
example : (handleGetEnv exHash List.length ⟨true, some 0⟩ [exVolIntact] 6).status = 503 := by decide +kernel
example : (handleGetEnv exHash List.length ⟨true, some 1⟩ [exVolCorrupt, exVolIntact] 6).status = 503 := by decide +kernel
example : (handleGetEnv exHash List.length ⟨true, some 2⟩ [exVolCorrupt, exVolIntact] 6).status = 200 := by decide +kernel
example : (handlePutEnv exHash List.length ⟨false, true, .never⟩ [exVolEmpty] 0 6 [1, 2, 3] true).1.status = 503 := by decide +kernel
example : (handlePutEnv exHash List.length ⟨true, false, .never⟩ [exVolEmpty] 0 6 [1, 2, 3] true).1.status = 500 := by decide +kernel
example : (handlePutEnv exHash List.length ⟨true, true, .beforeWrite⟩ [exVolEmpty] 0 6 [1, 2, 3] true).1.status = 503 := by decide +kernel
-- a write overtaken by a disconnect: 503, but the block is there
example : (handlePutEnv exHash List.length ⟨true, true, .duringWrite true⟩ [exVolEmpty] 0 6 [1, 2, 3] true).1.status = 503 ∧
    ((handlePutEnv exHash List.length ⟨true, true, .duringWrite true⟩ [exVolEmpty] 0 6 [1, 2, 3] true).2.1.head?.bind
      (fun v => v.files 6)) = some [1, 2, 3] := by decide +kernel
-- a colliding partner ([1,2,3] vs body [3,2,1], both sum 6) on a read-only mount is not detected …
example : (handlePut exHash List.length [exVolIntact, exVolEmpty] 0 6 [3, 2, 1] true).1.status = 200 := by decide +kernel
example : (handleGet exHash List.length (handlePut exHash List.length [exVolIntact, exVolEmpty] 0 6 [3, 2, 1] true).2.1 6).body
    = some [1, 2, 3] := by decide +kernel
-- … on a writable mount it is
example : (handlePut exHash List.length [⟨false, false, 1, fun k => if k = 6 then some [1, 2, 3] else none⟩, exVolEmpty]
    0 6 [3, 2, 1] true).1.status = 500 := by decide +kernel
example : getWithPipeBytes 4 [1, 2, 3, 4, 5, 6] .other = ([1, 2, 3, 4], .none) := by decide +kernel
example : getWithPipeBytes 8 [1, 2, 3] .unexpectedEOF = ([1, 2, 3], .none) := by decide +kernel
example : getWithPipeBytes 8 [1, 2, 3] .notExist = ([1, 2, 3], .notExist) := by decide +kernel
example : Pointwise RoRel [exVolIntact, exVolEmpty] [⟨true, true, 7, fun _ => none⟩, exVolEmpty] :=
  .cons (.inr ⟨rfl, rfl⟩) (.cons (.inl rfl) .nil)
end

end ArvVerif.C01
