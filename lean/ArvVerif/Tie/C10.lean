/-
Tie for C10: source facts regenerated from /repo on every run (Gen/FactsC10.lean) equal the
literals the codec models (Model/C10_Go.lean, C10_Fs.lean, C10_Py.lean, C10_Digest.lean, C10_PyReplace.lean) were
written against. An edit to one of the regular expressions, to the binary searches, to the clipping conditions of the
three range mappers, to the escape predicates, to PortableDataHash, to blockdigest's `FromString` / `String` /
`ParseBlockLocator` or to `replace_range` breaks one of these `rfl`s.
-/
import ArvVerif.Gen.FactsC10
import ArvVerif.Model.C10_Py
import ArvVerif.Model.C10_Digest
import ArvVerif.Model.C10_PyReplace
namespace ArvVerif.Tie.C10
open ArvVerif.Facts.C10

/-- `UnescapeName`: Model `pkgUnescape = goUnescape isDigit` (digit class `[0-9]`, alternatives in this order). -/
theorem tie_escapeSeq : escapeSeq = "\\\\([0-9]{3}|\\\\)" := rfl

/-- `blockdigest.LocatorPattern`: Model `isGoLocator` / `locatorSizeDigits isAnyHex`. -/
theorem tie_locatorPattern : locatorPattern = "^[0-9a-fA-F]{32}\\+[0-9]+(\\+[A-Z][A-Za-z0-9@_-]*)*$" := rfl

/-- `manifestUnescape`: Model `fsUnescape = goUnescape isOctDigit`. -/
theorem tie_manifestEscapeSeq : manifestEscapeSeq = "\\\\([0-7]{3}|\\\\)" := rfl

/-- `manifestEscape`: Model `fsEscapePred` (`c ≤ 32`, `:`, `\\`; `\s` ⊂ `\000-\040`). -/
theorem tie_manifestEscapedChar : manifestEscapedChar = "[\\000-\\040:\\s\\\\]" := rfl

/-- `PortableDataHash`: Model `blkPrefixLen`. -/
theorem tie_blkRe : blkRe = "^ [0-9a-f]{32}\\+\\d+" := rfl

/-- `PortableDataHash`: Model `pdhScan` (optional space + maximal run of non-space bytes). -/
theorem tie_tokRe : tokRe = " ?[^ ]*" := rfl

/-- `firstBlock` after fix 584d30b: Model `fbLoop goRightNew` / `firstBlock` (move right iff `rangeStart >= blockEnd`). -/
theorem tie_firstBlockText : firstBlockText = "{ hi := len(offsets) - 1 var lo int i := ((hi + lo) / 2) blockStart := offsets[i] blockEnd := offsets[i+1] for !(rangeStart >= blockStart && rangeStart < blockEnd) { if lo == i { return -1 } if rangeStart >= blockEnd { lo = i } else { hi = i } i = ((hi + lo) / 2) blockStart = offsets[i] blockEnd = offsets[i+1] } return i }" := rfl

/-- `EscapeName` after fix d559316: Model `pkgEscapePred`. -/
theorem tie_escapeNameConds : escapeNameConds = 
    ["if c <= 32 || c == '\\\\'"] := rfl

/-- `EscapeName` output format: Model `octDigits`. -/
theorem tie_escapeNameStrings : escapeNameStrings = 
    ["\\%03o"] := rfl

/-- `unescapeSeq`: `\\\\` → `\\`, else `ParseUint(seq[1:], 8, 8)` or unchanged: Model `goUnescapeAux`. -/
theorem tie_unescapeSeqText : unescapeSeqText = "{ if seq == `\\\\` { return `\\` } i, err := strconv.ParseUint(seq[1:], 8, 8) if err != nil { return seq } return string([]byte{byte(i)}) }" := rfl

/-- `sendFileSegmentIterByName`: Model `sendByName` / `sendTok` / `sendLoop`, tests in this order. -/
theorem tie_sendConds : sendConds = 
    ["if s.StreamName+\"/\"+name != target",
     "if wantLen == 0",
     "if i == -1",
     "for i < len(s.Blocks)",
     "if blockEnd <= wantPos",
     "if blockPos >= wantPos+wantLen",
     "if blockPos < wantPos",
     "if blockEnd > wantPos+wantLen"] := rfl

/-- the zero-length marker locator and the two panics (`Res.panic`). -/
theorem tie_sendStrings : sendStrings = 
    ["/",
     "d41d8cd98f00b204e9800998ecf8427e+0",
     "File segment %v extends past end of stream",
     "Block end %v comes before start of file segment %v"] := rfl

/-- `parseManifestStream` after fixes 4f92334, b1a09e4, 2fef6b9, c203269: Model `pkgParseStream` / `pkgFileToks` (non-wrapping range test, canonical-path test for every token but the zero-length `.` marker, stream-length overflow test). -/
theorem tie_parseStreamConds : parseStreamConds = 
    ["if m.StreamName != \".\" && !strings.HasPrefix(m.StreamName, \"./\")",
     "for i < len(tokens)",
     "if !blockdigest.IsBlockLocator(tokens[i])",
     "if len(m.Blocks) == 0",
     "if err != nil",
     "if streamoffset+uint64(bl.Size) < streamoffset",
     "if len(fileTokens) == 0",
     "if err != nil",
     "if pft.SegPos > streamoffset || pft.SegLen > streamoffset-pft.SegPos",
   "if !(pft.SegLen == 0 && pft.Name == \".\") && fixStreamName(m.StreamName+\"/\"+pft.Name) != m.StreamName+\"/\"+pft.Name"] := rfl

/-- `parseFileStreamSegment`: Model `pkgFileTok`. -/
theorem tie_parseFileTokConds : parseFileTokConds = 
    ["if len(parts) != 3",
     "if err != nil",
     "if err != nil"] := rfl

/-- `parseFileStreamSegment` uses SplitN / ParseUint×2 / UnescapeName. -/
theorem tie_parseFileTokCalls : parseFileTokCalls = 
    ["strings.SplitN",
     "strconv.ParseUint",
     "strconv.ParseUint",
     "UnescapeName"] := rfl

/-- `segment()`: Model `segmentStreams` / `segmentStream` / `keepPositive`. -/
theorem tie_segmentConds : segmentConds = 
    ["if stream.Err != nil",
     "if strings.HasSuffix(sn, \"/\")",
     "if files[streamname] == nil",
     "if !currentStreamfiles[path]",
     "if seg.Len > 0"] := rfl

/-- `normalizedText`: Model `normBlocks` / `normSpans` / `normalizedText`. -/
theorem tie_normalizedTextConds : normalizedTextConds = 
    ["if !ok",
     "if len(streamTokens) == 1",
     "if spanStart == -1",
     "if streamoffset == spanEnd",
     "if spanStart != -1",
     "if len(stream[streamfile]) == 0"] := rfl

/-- `normalizedText` literals: empty-block locator, token formats. -/
theorem tie_normalizedTextStrings : normalizedTextStrings = 
    ["d41d8cd98f00b204e9800998ecf8427e+0",
     "%d:%d:%s",
     "%d:%d:%s",
     "0:0:%s",
     " ",
     "\n"] := rfl

/-- `manifestTextForPath`: Model `manifestTextForPath`. -/
theorem tie_textForPathConds : textForPathConds = 
    ["if strings.HasSuffix(relocate, \"/\")",
     "if ok",
     "if okfile",
     "if relocateFilename == \"\"",
     "if strings.HasSuffix(relocate, \"/\")",
     "if strings.HasPrefix(k, prefix) || k == srcpath"] := rfl

/-- `fixStreamName`: Model `fixStreamName` over `pathClean`. -/
theorem tie_fixStreamNameText : fixStreamNameText = "{ sn = path.Clean(sn) if strings.HasPrefix(sn, \"/\") { sn = \".\" + sn } else if sn != \".\" { sn = \"./\" + sn } return sn }" := rfl

/-- `loadManifest` after fixes c99b8a5 (`if blkLen > 0`) and 499e88b (`offset+length < offset`): Model `fsLoad` / `fsToken` / `fsLoop`. -/
theorem tie_loadManifestConds : loadManifestConds = 
    ["if streams[len(streams)-1] != \"\"",
     "if i == 0",
     "if !strings.Contains(token, \":\")",
     "if anyFileTokens",
     "if len(toks) < 2",
     "if err != nil || length < 0",
     "if len(segments) == 0",
     "if len(toks) != 3",
     "if err != nil || offset < 0",
     "if err != nil || length < 0 || offset+length < offset",
     "if fnode == nil && err == nil && length == 0",
     "if err != nil || (fnode == nil && length != 0)",
     "if pos > offset",
     "for segIdx < len(segments)",
     "if next <= offset || seg.Len() == 0",
     "if pos >= offset+length",
     "if pos < offset",
     "if pos+int64(blkOff+blkLen) > offset+length",
     "if blkLen > 0",
     "if next > offset+length",
     "if segIdx == len(segments) && pos < offset+length",
     "if !anyFileTokens",
     "if len(segments) == 0",
     "if dirname == \"\""] := rfl

/-- `loadManifest` parsing calls: Model `fsLocator`, `fsToken`. -/
theorem tie_loadManifestCalls : loadManifestCalls = 
    ["strings.Split",
     "strings.Split",
     "manifestUnescape",
     "strings.Contains",
     "strings.SplitN",
     "strconv.ParseInt",
     "strings.SplitN",
     "strconv.ParseInt",
     "strconv.ParseInt",
     "manifestUnescape",
     "dn.createFileAndParents",
     "fnode.appendSegment"] := rfl

/-- `loadManifest` integer literals (ParseInt base/bit sizes 10/32, 10/64, SplitN limits 3). -/
theorem tie_loadManifestInts : loadManifestInts = 
    [1, 1, 1, 0, 0, 3, 2, 1, 10, 32, 0, 0, 0, 3, 3, 0, 10, 64, 0, 1, 10, 64, 0, 2, 0, 0, 0, 0, 0, 0, 0] := rfl

/-- `createFileAndParents`: Model `walkParents` / `createFileAndParents`. -/
theorem tie_createFileConds : createFileConds = 
    ["switch name",
     "case \"\"",
     "case \".\"",
     "case \"..\"",
     "if node == dn",
     "if child == nil",
     "if err != nil",
     "if !child.IsDir()",
     "if err != nil",
     "if basename == \".\"",
     "if !permittedName(basename)",
     "case nil",
     "if err != nil",
     "case *filenode",
     "case *dirnode",
     "default"] := rfl

/-- `permittedName`: Model `createFileAndParents` basename test. -/
theorem tie_permittedNameText : permittedNameText = "{ return name != \"\" && name != \".\" && name != \"..\" && !strings.Contains(name, \"/\") }" := rfl

/-- `manifestEscapeFunc`: Model `octDigits`. -/
theorem tie_manifestEscapeFuncText : manifestEscapeFuncText = "{ return fmt.Sprintf(\"\\\\%03o\", byte(seq[0])) }" := rfl

/-- `manifestUnescapeFunc`: Model `goUnescapeAux`. -/
theorem tie_manifestUnescapeFuncText : manifestUnescapeFuncText = "{ if seq == `\\\\` { return `\\` } i, err := strconv.ParseUint(seq[1:], 8, 8) if err != nil { return seq } return string([]byte{byte(i)}) }" := rfl

/-- `PortableDataHash`: Model `portableDataHash` / `pdhScan`. -/
theorem tie_pdhText : pdhText = "{ h := md5.New() size := 0 _ = tokRe.ReplaceAllFunc([]byte(mt), func(tok []byte) []byte { if m := blkRe.Find(tok); m != nil { tok = m } n, err := h.Write(tok) if err != nil { panic(err) } size += n return nil }) return fmt.Sprintf(\"%x+%d\", h.Sum(nil), size) }" := rfl

/-- `SizedDigests`: Model `sizedDigests` / `sizedDigestsLine`. -/
theorem tie_sizedDigestsConds : sizedDigestsConds = 
    ["if manifestText == \"\"",
     "if manifestText == \"\" && c.PortableDataHash != \"d41d8cd98f00b204e9800998ecf8427e+0\"",
     "for scanner.Scan()",
     "if len(tokens) < 3",
     "if !blockdigest.LocatorPattern.MatchString(token)",
     "if i >= 0"] := rfl

/-- `SizedDigests` literals (`< 3` tokens, `token[33:]`). -/
theorem tie_sizedDigestsInts : sizedDigestsInts = 
    [1048576, 3, 1, 33, 0, 33] := rfl

/-- Python `first_block` after fix 9f993b5: Model `pyFbLoop goRightNew` (`hi = len`, move right iff `range_start >= block_end`). -/
theorem tie_pyFirstBlockLines : pyFirstBlockLines = 
    ["hi = len(data_locators)",
     "lo = 0",
     "i = (hi + lo) // 2",
     "block_end = block_start + block_size",
     "while not (range_start >= block_start and range_start < block_end):",
     "if lo == i:",
     "return None",
     "if range_start >= block_end:",
     "lo = i",
     "hi = i",
     "i = (hi + lo) // 2",
     "block_end = block_start + block_size",
     "return i",
     "i = first_block(data_locators, range_start)",
     "block_end = block_start + block_size",
     "i = first_block(data_locators, new_range_start)"] := rfl

/-- Python `locators_and_ranges`: Model `pyLocatorsAndRanges` / `pyLrLoop` (four cases in this order). -/
theorem tie_pyLrConds : pyLrConds = 
    ["if range_start >= block_end:",
     "if range_size == 0:",
     "i = first_block(data_locators, range_start)",
     "if i is None:",
     "while i < len(data_locators) and len(resp) != limit:",
     "if range_end <= block_start:",
     "if range_start >= block_start and range_end <= block_end:",
     "resp.append(LocatorAndRange(dl.locator, block_size, dl.segment_offset + (range_start - block_start), range_size))",
     "elif range_start >= block_start and range_end > block_end:",
     "resp.append(LocatorAndRange(dl.locator, block_size, dl.segment_offset + (range_start - block_start), block_end - range_start))",
     "elif range_start < block_start and range_end > block_end:",
     "resp.append(LocatorAndRange(dl.locator, block_size, dl.segment_offset, block_size))",
     "elif range_start < block_start and range_end <= block_end:",
     "resp.append(LocatorAndRange(dl.locator, block_size, dl.segment_offset, range_end - block_start))",
     "i = first_block(data_locators, new_range_start)",
     "if i is None:"] := rfl

/-- Python `escape`: Model `pyEscape`. -/
theorem tie_pyEscapeLines : pyEscapeLines = 
    ["path = re.sub('\\\\\\\\', lambda m: '\\\\134', path)",
     "path = re.sub('[:\\000-\\040]', lambda m: \"\\\\%03o\" % ord(m.group(0)), path)"] := rfl

/-- Python `normalize_stream`: Model `pyNormBlocks` / `pyNormSpans`. -/
theorem tie_pyNormalizeLines : pyNormalizeLines = 
    ["if segment.locator not in blocks:",
     "streamoffset += segment.block_size",
     "if len(stream_tokens) == 1:",
     "streamoffset = blocks[segment.locator] + segment.segment_offset",
     "if streamoffset == current_span[1]:",
     "if not stream[streamfile]:"] := rfl

/-- `loadManifest`: the stream cursor (`pos`, `segIdx`) and `anyFileTokens` are declared, and `segments`
is reset, *inside* the per-stream loop (gofmt indentation of exactly two tabs is part of the
pattern): Model `fsLine` starts every line from `⟨dirname, [], false, 0, 0⟩`. -/
theorem tie_loadManifestCursorDecls : loadManifestCursorDecls =
    ["var anyFileTokens bool", "var pos int64", "var segIdx int", "segments = segments[:0]"] := rfl

/-- `sendFileSegmentIterByName`: the segment arithmetic (Model `sendLoop`: `len0`, `off`, `len1`, `len2`) and the zero-length marker. -/
theorem tie_sendArith : sendArith =
    ["ch <- &FileSegment{Locator: \"d41d8cd98f00b204e9800998ecf8427e+0\", Offset: 0, Len: 0}",
     "Locator: s.Blocks[i],",
     "Offset:  0,",
     "Len:     int(blockEnd - blockPos),",
     "fseg.Offset = int(wantPos - blockPos)",
     "fseg.Len -= fseg.Offset",
     "fseg.Len = int(wantPos+wantLen-blockPos) - fseg.Offset",
     "ch <- &fseg"] := rfl

/-- `loadManifest`: the cursor and clipping arithmetic (Model `fsLoop`: `next`, `blkOff`, `blkLen0`, `blkLen`; rewind; the stored segment's fields). -/
theorem tie_loadManifestArith : loadManifestArith =
    ["offset:  0,",
     "locator: token,",
     "size:    int(length),",
     "offset:  0,",
     "length:  int(length),",
     "segIdx, pos = 0, 0",
     "next := pos + int64(seg.Len())",
     "pos = next",
     "blkOff = int(offset - pos)",
     "blkLen := seg.Len() - blkOff",
     "blkLen = int(offset + length - pos - int64(blkOff))",
     "locator: seg.locator,",
     "size:    seg.size,",
     "offset:  blkOff,",
     "length:  blkLen,",
     "pos = next"] := rfl

/-- `parseManifestStream` offsets and `normalizedText` span arithmetic (Model `offsetsFrom`, `normBlocks`, `normSpans`). -/
theorem tie_normalizedTextArith : normalizedTextArith =
    ["streamoffset += uint64(bl.Size)",
     "blocks[b.Digest] = streamoffset",
     "streamoffset += int64(b.Size)",
     "streamoffset = blocks[b.Digest] + int64(segment.Offset)",
     "spanStart = streamoffset",
     "spanEnd = streamoffset + int64(segment.Len)",
     "spanEnd += int64(segment.Len)",
     "spanStart = streamoffset",
     "spanEnd = streamoffset + int64(segment.Len)"] := rfl

/-- `EscapeName` works on the *bytes* of the name (`[]byte(s)`), byte by byte: Model `escapeWith` over
`Bytes`. (Iterating runes instead would turn ill-formed UTF-8 into U+FFFD: seeded change C10-e.) -/
theorem tie_escapeNameText : escapeNameText =
    "{ raw := []byte(s) escaped := make([]byte, 0, len(s)) for _, c := range raw { if c <= 32 || c == '\\\\' { oct := fmt.Sprintf(\"\\\\%03o\", c) escaped = append(escaped, []byte(oct)...) } else { escaped = append(escaped, c) } } return string(escaped) }" := rfl

/-! Model-side readings of the tied literals (so that the model constants are pinned too). -/

theorem tie_model_pkgEscapePred (c : UInt8) : ArvVerif.C10.pkgEscapePred c = (decide (c ≤ 32) || c == 92) := rfl
theorem tie_model_fsEscapePred (c : UInt8) :
    ArvVerif.C10.fsEscapePred c = (decide (c ≤ 32) || c == 58 || c == 92) := rfl
theorem tie_model_goRight (bs be s : Nat) : ArvVerif.C10.goRightNew bs be s = decide (be ≤ s) := rfl
theorem tie_model_emptyLocator :
    ArvVerif.C10.emptyBlockLocator = ArvVerif.C10.str (sendStrings.getD 1 "") := rfl
theorem tie_model_emptyLocator_norm :
    ArvVerif.C10.emptyBlockLocator = ArvVerif.C10.str (normalizedTextStrings.getD 0 "") := rfl

/-! ## blockdigest.go: Model/C10_Digest.lean -/

/-- `FromString`: Model `digestFromString` (length 32, two `ParseUint(·, 16, 64)` halves of 16 characters). -/
theorem tie_fromStringConds : fromStringConds = ["if len(s) != 32", "if err != nil", "if err != nil"] := rfl
theorem tie_fromStringCalls : fromStringCalls = ["strconv.ParseUint", "strconv.ParseUint"] := rfl
theorem tie_fromStringInts : fromStringInts = [32, 16, 16, 64, 16, 16, 64] := rfl

/-- `BlockDigest.String`: Model `digestString` = `hexPad 16 H ++ hexPad 16 L`. -/
theorem tie_digestStringReturns : digestStringReturns = ["fmt.Sprintf(\"%016x%016x\", d.H, d.L)"] := rfl

/-- `IsBlockLocator`: Model `isBlockLocator = isGoLocator` (the pattern itself: `tie_locatorPattern`). -/
theorem tie_isBlockLocatorReturns : isBlockLocatorReturns = ["LocatorPattern.MatchString(s)"] := rfl

/-- `blockdigest.ParseBlockLocator`: Model `parseBlockLocator` (pattern test, split on `+`, `FromString(tokens[0])`,
`ParseInt(tokens[1], 10, 0)`, `Hints = tokens[2:]`). -/
theorem tie_bdParseLocConds : bdParseLocConds = ["if !LocatorPattern.MatchString(s)", "if err != nil", "if err != nil"] := rfl
theorem tie_bdParseLocCalls : bdParseLocCalls =
    ["LocatorPattern.MatchString", "strings.Split", "FromString", "strconv.ParseInt", "int"] := rfl
theorem tie_bdParseLocInts : bdParseLocInts = [0, 1, 10, 0, 2] := rfl
theorem tie_bdParseLocAssigns : bdParseLocAssigns =
    ["tokens := strings.Split(s, \"+\")",
     "blockDigest, err = FromString(tokens[0])",
     "blockSize, err = strconv.ParseInt(tokens[1], 10, 0)",
     "b.Digest = blockDigest",
     "b.Size = int(blockSize)",
     "b.Hints = tokens[2:]"] := rfl

/-- `manifest.ParseBlockLocator` is the same function (Model: the same `parseBlockLocator`). -/
theorem tie_pkgParseLocConds : pkgParseLocConds =
    ["if !blockdigest.LocatorPattern.MatchString(s)", "if err != nil", "if err != nil"] := rfl
theorem tie_pkgParseLocCalls : pkgParseLocCalls =
    ["blockdigest.LocatorPattern.MatchString", "strings.Split", "blockdigest.FromString", "strconv.ParseInt", "int"] := rfl
theorem tie_pkgParseLocInts : pkgParseLocInts = [0, 1, 10, 0, 2] := rfl
theorem tie_pkgParseLocAssigns : pkgParseLocAssigns =
    ["tokens := strings.Split(s, \"+\")",
     "blockDigest, err = blockdigest.FromString(tokens[0])",
     "blockSize, err = strconv.ParseInt(tokens[1], 10, 0)",
     "b.Digest = blockDigest",
     "b.Size = int(blockSize)",
     "b.Hints = tokens[2:]"] := rfl

/-! ## replace_range: Model/C10_PyReplace.lean -/

/-- `replace_range`: the early exits, the append / extend-last test, the binary search call and the five range
tests of the loop: Model `pyReplaceRange` / `rrLoop`. -/
theorem tie_pyReplaceConds : pyReplaceConds =
  ["if new_range_size == 0:",
     "if len(data_locators) == 0:",
     "if (last.range_start+last.range_size) == new_range_start:",
     "if last.locator == new_locator and (last.segment_offset+last.range_size) == new_segment_offset:",
     "i = first_block(data_locators, new_range_start)",
     "while i < len(data_locators):",
     "if new_range_end <= old_segment_start:",
     "if old_segment_start <= new_range_start and new_range_end <= old_segment_end:",
     "if (new_range_start-old_segment_start) > 0:",
     "if (old_segment_end-new_range_end) > 0:",
     "elif old_segment_start <= new_range_start and new_range_end > old_segment_end:",
     "elif new_range_start < old_segment_start and new_range_end >= old_segment_end:",
     "elif new_range_start < old_segment_start and new_range_end < old_segment_end:"] := rfl

/-- the list edits of `replace_range` (and the index steps; the first `i += 1` is `locators_and_ranges`'): Model
`rrLoop`'s pieces ⟨loc, start, size, segment_offset⟩. -/
theorem tie_pyReplaceEdits : pyReplaceEdits =
  ["i += 1",
     "new_range_end = new_range_start + new_range_size",
     "data_locators.append(Range(new_locator, new_range_start, new_range_size, new_segment_offset))",
     "last.range_size += new_range_size",
     "data_locators.append(Range(new_locator, new_range_start, new_range_size, new_segment_offset))",
     "old_segment_start = dl.range_start",
     "old_segment_end = old_segment_start + dl.range_size",
     "data_locators[i] = Range(dl.locator, old_segment_start, (new_range_start-old_segment_start), dl.segment_offset)",
     "data_locators.insert(i+1, Range(new_locator, new_range_start, new_range_size, new_segment_offset))",
     "data_locators[i] = Range(new_locator, new_range_start, new_range_size, new_segment_offset)",
     "i -= 1",
     "data_locators.insert(i+2, Range(dl.locator, new_range_end, (old_segment_end-new_range_end), dl.segment_offset + (new_range_start-old_segment_start) + new_range_size))",
     "data_locators[i] = Range(dl.locator, old_segment_start, (new_range_start-old_segment_start), dl.segment_offset)",
     "data_locators.insert(i+1, Range(new_locator, new_range_start, new_range_size, new_segment_offset))",
     "i += 1",
     "del data_locators[i]",
     "i -= 1",
     "data_locators[i] = Range(dl.locator, new_range_end, (old_segment_end-new_range_end), dl.segment_offset + (new_range_end-old_segment_start))",
     "i += 1"] := rfl

end ArvVerif.Tie.C10
