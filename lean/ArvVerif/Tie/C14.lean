/-
Tie for C14: source facts regenerated from /repo on every run (Gen/FactsC14.lean) equal what the
models (Model/C14.lean L1, Model/C14_Pool.lean L2, Model/C14_Proto.lean L3) were written against.
An edit to a branch condition, to the order of the pool/queue calls of a pass, or to the
bookkeeping statements of the pool breaks one of these `rfl`s.
-/
import ArvVerif.Gen.FactsC14
namespace ArvVerif.Tie.C14
open ArvVerif.Facts.C14

/-! ### L1: scheduler pass -/

/-- Branch structure of `runQueue` in source order = the tests of `C14.iter` / `C14.startAttempt`
(skip if running or priority < 1; Queued: quota test, lingering-process test; Locked: worker
accounting, quota, create, dontstart, lingering-process test, start) and of the overquota tail
(`overquotaUnlocks`, `shutdownTypes`). -/
theorem tie_runQueue_conds : runQueueConds =
    ["if running || ctr.Priority < 1",
     "switch ctr.State",
     "case arvados.ContainerStateQueued",
     "if unalloc[it] < 1 && sch.pool.AtQuota()",
     "if sch.pool.KillContainer(ctr.UUID, \"about to lock\")",
     "case arvados.ContainerStateLocked",
     "if unalloc[it] > 0",
     "if sch.pool.AtQuota()",
     "if sch.pool.Create(it)",
     "if dontstart[it]",
     "if sch.pool.KillContainer(ctr.UUID, \"about to start\")",
     "if sch.pool.StartContainer(it, ctr)",
     "if len(overquota) > 0",
     "if ctr.State == arvados.ContainerStateLocked",
     "if err != nil",
     "if n < 1"] := rfl

/-- Pool/queue calls of `runQueue` in source order: snapshots first (`Entries`, sort, `Running`,
`Unallocated`), then exactly the calls `C14.Call` enumerates. -/
theorem tie_runQueue_calls : runQueueCalls =
    ["sch.queue.Entries", "sort.Slice", "sch.pool.Running", "sch.pool.Unallocated",
     "sch.pool.AtQuota", "sch.pool.KillContainer", "sch.lockContainer",
     "sch.pool.AtQuota", "sch.queue.Unlock", "sch.pool.Create",
     "sch.pool.KillContainer", "sch.pool.StartContainer",
     "sch.queue.Unlock", "sch.pool.Shutdown"] := rfl

/-- `lockContainer`: latch, then `Get` and the still-Queued test, then `Lock`, then `Get`
(`C14.asyncEffect … .lock`). -/
theorem tie_lockContainer : lockContainerConds =
    ["if !sch.uuidLock(uuid, \"lock\")",
     "if !ok || ctr.State != arvados.ContainerStateQueued",
     "if err != nil", "if !ok", "if ctr.State != arvados.ContainerStateLocked"] ∧
    lockContainerCalls =
    ["sch.uuidLock", "sch.uuidUnlock", "sch.queue.Get", "sch.queue.Lock", "sch.queue.Get"] := ⟨rfl, rfl⟩

/-- `uuidLock` refuses iff an operation is registered (`C14.uuidLock`); `uuidUnlock` deletes the
entry (`C14.uuidUnlock`). -/
theorem tie_latch : uuidLockConds = ["if locked"] ∧
    uuidUnlockText = "{ sch.mtx.Lock() defer sch.mtx.Unlock() delete(sch.uuidOp, uuid) }" := ⟨rfl, rfl⟩

/-- Branch structure of `sync` in source order = `C14.syncEntry` (and `C14.syncTable`). -/
theorem tie_sync_conds : syncConds =
    ["switch ent.Container.State",
     "case arvados.ContainerStateRunning",
     "if !running",
     "if !anyUnknownWorkers",
     "if !exited.IsZero() && qUpdated.After(exited)",
     "if ent.Container.Priority == 0",
     "case arvados.ContainerStateComplete",
     "case arvados.ContainerStateCancelled",
     "if running",
     "case arvados.ContainerStateQueued",
     "if running",
     "if ent.Container.Priority == 0",
     "case arvados.ContainerStateLocked",
     "if running && !exited.IsZero() && qUpdated.After(exited)",
     "if running && exited.IsZero() && ent.Container.Priority == 0",
     "if !running && ent.Container.Priority == 0",
     "default",
     "if !known"] := rfl

/-- The actions of `sync` in source order = the right-hand sides of `C14.syncEntry`:
cancel, cancel, kill | kill, Forget | kill, Forget | requeue, kill, requeue | (log) | kill. -/
theorem tie_sync_calls : syncCalls =
    ["sch.pool.CountWorkers", "sch.pool.Running", "sch.queue.Entries",
     "sch.cancel", "sch.cancel", "sch.kill",
     "sch.kill", "sch.queue.Forget",
     "sch.kill", "sch.queue.Forget",
     "sch.requeue", "sch.kill", "sch.requeue",
     "sch.kill"] := rfl

/-- `cancel`, `kill`, `requeue`: latch first, then the calls of `C14.asyncEffect`. -/
theorem tie_async_ops :
    cancelCalls = ["sch.uuidLock", "sch.uuidUnlock", "sch.queue.Cancel"] ∧
    killCalls = ["sch.uuidLock", "sch.uuidUnlock", "sch.pool.KillContainer", "sch.pool.ForgetContainer"] ∧
    requeueCalls = ["sch.uuidLock", "sch.uuidUnlock", "sch.queue.Unlock"] :=
  ⟨rfl, rfl, rfl⟩

/-- The scheduler finishes `fixStaleLocks` before the first `runQueue`/`sync` (L3: phase
`recovering` precedes `scheduling`); `fixStaleLocks` loops while a worker is Unknown, collects
Locked containers that are not in `Running()`, returns when there are none, and unlocks the
collected ones when the loop ends (all workers known, or timeout — assumption A1). -/
theorem tie_fixStaleLocks :
    schedRunCalls = ["sch.fixStaleLocks", "sch.runQueue", "sch.sync"] ∧
    fixStaleLocksConds =
      ["for sch.pool.CountWorkers()[worker.StateUnknown] > 0",
       "if ent.Container.State != arvados.ContainerStateLocked",
       "if running", "if len(stale) == 0", "if err != nil"] ∧
    fixStaleLocksCalls =
      ["sch.pool.Subscribe", "sch.pool.Unsubscribe", "sch.pool.CountWorkers", "sch.pool.Running",
       "sch.queue.Entries", "sch.queue.Unlock"] := ⟨rfl, rfl, rfl⟩

/-! ### L2: pool bookkeeping -/

/-- `Pool.StartContainer`: candidates are exactly the workers of the right type that are Idle
with IdleBehavior run; the latest `busy` wins (`C14.Pool.startable`, `startCandidates`). -/
theorem tie_pool_StartContainer : startContainerPoolConds =
    ["if w.instType == it && w.state == StateIdle && w.idleBehavior == IdleBehaviorRun",
     "if wkr == nil || w.busy.After(wkr.busy)",
     "if wkr == nil"] := rfl

/-- `Pool.Running`: running and starting keys of every worker with zero time, then the `exited`
entries (`C14.Pool.runningView`, `runningKeys`). -/
theorem tie_pool_Running : runningPoolText =
    "{ wp.setupOnce.Do(wp.setup) wp.mtx.Lock() defer wp.mtx.Unlock() r := map[string]time.Time{} for _, wkr := range wp.workers { for uuid := range wkr.running { r[uuid] = time.Time{} } for uuid := range wkr.starting { r[uuid] = time.Time{} } } for uuid, exited := range wp.exited { r[uuid] = exited } return r }" := rfl

/-- `KillContainer` looks in `running`, then `starting` (`C14.Pool.killContainer`);
`ForgetContainer` deletes an existing `exited` entry (`C14.Pool.forget`). -/
theorem tie_pool_Kill_Forget :
    killContainerConds = ["if rr == nil", "if rr != nil"] ∧ forgetContainerConds = ["if ok"] := ⟨rfl, rfl⟩

/-- `worker.startContainer`: runner into `starting`, state Running (`C14.Worker.accept`); the
goroutine calls `rr.Start()`, then under the lock — unless its runner has left `starting`
(fix 18910db) — deletes from `starting` and sets `running` (`C14.Worker.startDone`). -/
theorem tie_worker_startContainer :
    startContainerWorkerConds = ["if wkr.state != StateRunning", "if wkr.wp.mTimeFromQueueToCrunchRun != nil",
                                 "if wkr.starting[ctr.UUID] != rr"] ∧
    startContainerWorkerCalls = ["newRemoteRunner", "rr.Start", "wkr.mtx.Lock", "wkr.mtx.Unlock", "delete"] :=
  ⟨rfl, rfl⟩

/-- `worker.closeRunner` (`C14.Worker.closeRunner`): nothing without a runner; delete from
`running`, stamp `updated`, record `wp.exited`, Running → Idle when nothing is left. -/
theorem tie_worker_closeRunner : closeRunnerText =
    "{ rr := wkr.running[uuid] if rr == nil { return } wkr.logger.WithField(\"ContainerUUID\", uuid).Info(\"crunch-run process ended\") delete(wkr.running, uuid) rr.Close() now := time.Now() wkr.updated = now wkr.wp.exited[uuid] = now if wkr.state == StateRunning && len(wkr.running)+len(wkr.starting) == 0 { wkr.state = StateIdle } }" := rfl

/-- `worker.updateRunning` (`C14.Worker.adoptAlive`, `closeDead`). -/
theorem tie_worker_updateRunning :
    updateRunningConds = ["if ok", "if ok", "if !alive[uuid]"] ∧
    updateRunningCalls = ["delete", "newRemoteRunner", "wkr.closeRunner"] := ⟨rfl, rfl⟩

/-- `worker.probeAndUpdate`: the tests of `C14.Worker.drainStep`, `probeFailed`, `applyFailed`,
the stale-probe guard `updated != wkr.updated`, and `applyFresh`, in source order. -/
theorem tie_worker_probeAndUpdate : probeAndUpdateConds =
    ["switch initialState", "case StateShutdown", "case StateIdle", "case StateRunning",
     "case StateUnknown", "case StateBooting", "default",
     "if !booted", "if !booted", "if booted",
     "if booted || wkr.state == StateUnknown",
     "if reportedBroken && wkr.idleBehavior == IdleBehaviorRun",
     "if !ok || (!booted && len(ctrUUIDs) == 0 && len(wkr.running) == 0)",
     "if wkr.state == StateShutdown && wkr.updated.After(updated)",
     "if wkr.shutdownIfBroken(dur)",
     "if !booted",
     "if updated != wkr.updated",
     "if len(ctrUUIDs) > 0",
     "if len(wkr.running) > 0",
     "if booted && (wkr.state == StateUnknown || wkr.state == StateBooting)",
     "if wkr.state == StateBooting",
     "if !changed",
     "if wkr.state == StateUnknown && changed",
     "if wkr.state == StateIdle && len(wkr.starting)+len(wkr.running) > 0",
     "if wkr.state == StateRunning && len(wkr.starting)+len(wkr.running) == 0",
     "if booted && (initialState == StateUnknown || initialState == StateBooting)"] := rfl

/-- … with three critical sections (begin, after the boot probe, apply) and the probes between. -/
theorem tie_worker_probeAndUpdate_calls : probeAndUpdateCalls =
    ["wkr.mtx.Lock", "wkr.mtx.Unlock", "wkr.probeBooted", "wkr.mtx.Lock", "wkr.mtx.Unlock",
     "wkr.probeRunning", "wkr.mtx.Lock", "wkr.mtx.Unlock",
     "wkr.setIdleBehavior", "wkr.shutdownIfBroken", "wkr.updateRunning"] := rfl

/-- `Pool.sync` (`C14.Pool.sync`): update/add listed instances, retry shutdown, drop workers not
updated after the threshold. -/
theorem tie_pool_sync :
    poolSyncConds =
      ["if !ok", "if isNew",
       "if wkr.state == StateShutdown && time.Since(wkr.destroyed) > wp.timeoutShutdown",
       "if wkr.updated.After(threshold)",
       "if wp.mDisappearances != nil",
       "if wp.mTimeFromShutdownToGone != nil && !wkr.destroyed.IsZero()",
       "if !wp.loaded", "if notify"] ∧
    poolSyncCalls = ["wp.updateWorker", "wkr.shutdown", "delete", "wkr.Close"] := ⟨rfl, rfl⟩

/-- `container.Queue.Update` keeps local lock/unlock/cancel results that arrive during a poll
(`dontupdate`), as the L3 cache model assumes (`updateWithResp` marks the uuid). -/
theorem tie_queue_dontupdate :
    queueUpdateConds = ["if err != nil", "if dontupdate", "if !ok", "if dontupdate", "if !stillpresent"] ∧
    updateWithRespConds = ["if cq.dontupdate != nil", "if !ok"] := ⟨rfl, rfl⟩

/-- `Queue.poll`: three list stages (mine, available, missing — each a `fetchAll`), deletion only
for a batch the API does not know; `fetchAll` pages until an empty page and — because its
`len(params.Order) == 1` test is never true for the string "uuid" — by offset (the `lq` driver's
executable mirror); `Forget` drops only finished or on-hold entries. -/
theorem tie_queue_poll :
    queuePollCalls = ["cq.fetchAll", "cq.fetchAll", "cq.fetchAll", "cq.delEnt"] ∧
    fetchAllConds = ["if err != nil", "if len(list.Items) == 0",
                     "if len(params.Order) == 1 && params.Order == \"uuid\""] ∧
    queueForgetConds = ["if ctr.State == arvados.ContainerStateComplete || ctr.State == arvados.ContainerStateCancelled || (ctr.State == arvados.ContainerStateQueued && ctr.Priority == 0)"] :=
  ⟨rfl, rfl, rfl⟩

/-! ### statement structure: `go`/`defer`, order of assignments (kinds `skeleton_in_func`, `assigns_in_func`) -/

/-- `Scheduler.run`: the first queue update, the polling goroutine, then `fixStaleLocks` called *synchronously* (no `go`/`defer` in front of it) before the loop of `runQueue`; `sync` (L3: phase `recovering` strictly precedes `scheduling`; seed C14-d moved the call into a goroutine). -/
theorem tie_sched_run_skeleton : schedRunSkeleton =
  ["defer",
   "call sch.queue.Update => err",
   "for {",
   "if d < time.Second {",
   "}",
   "call sch.queue.Update => err",
   "}",
   "defer",
   "go",
   "func {",
   "for {",
   "call sch.queue.Update => err",
   "if err != nil {",
   "}",
   "}",
   "}",
   "call sch.fixStaleLocks",
   "call sch.pool.Subscribe => poolNotify",
   "defer",
   "call sch.queue.Subscribe => queueNotify",
   "defer",
   "for {",
   "call sch.runQueue",
   "call sch.sync",
   "case {",
   "return",
   "}",
   "case {",
   "}",
   "case {",
   "}",
   "case {",
   "}",
   "}"] := rfl

/-- `runQueue`: only `lockContainer` is launched with `go`; `KillContainer`, `StartContainer`, `Unlock`, `Create`, `Shutdown` are synchronous calls in this order inside the branches (`C14.iter`). -/
theorem tie_runQueue_skeleton : runQueueSkeleton =
  ["call sch.queue.Entries => unsorted,_",
   "for {",
   "}",
   "func {",
   "return",
   "}",
   "call sch.pool.Running => running",
   "call sch.pool.Unallocated => unalloc",
   "for {",
   "if running || ctr.Priority < 1 {",
   "continue",
   "}",
   "case {",
   "call sch.pool.AtQuota",
   "if unalloc[it] < 1 && sch.pool.AtQuota() {",
   "break",
   "}",
   "call sch.pool.KillContainer",
   "if sch.pool.KillContainer(ctr.UUID, \"about to lock\") {",
   "continue",
   "}",
   "go",
   "call sch.lockContainer",
   "}",
   "case {",
   "if unalloc[it] > 0 {",
   "} else {",
   "call sch.pool.AtQuota",
   "if sch.pool.AtQuota() {",
   "call sch.queue.Unlock",
   "break",
   "} else {",
   "call sch.pool.Create",
   "if sch.pool.Create(it) {",
   "} else {",
   "continue",
   "}",
   "}",
   "}",
   "if dontstart[it] {",
   "} else {",
   "call sch.pool.KillContainer",
   "if sch.pool.KillContainer(ctr.UUID, \"about to start\") {",
   "} else {",
   "call sch.pool.StartContainer",
   "if sch.pool.StartContainer(it, ctr) {",
   "} else {",
   "}",
   "}",
   "}",
   "}",
   "}",
   "if len(overquota) > 0 {",
   "for {",
   "if ctr.State == arvados.ContainerStateLocked {",
   "call sch.queue.Unlock => err",
   "if err != nil {",
   "}",
   "}",
   "}",
   "for {",
   "if n < 1 {",
   "continue",
   "}",
   "call sch.pool.Shutdown",
   "}",
   "}"] := rfl

/-- `sync`: every `cancel`/`kill`/`requeue` is launched with `go` (hence the latch), `Forget` is synchronous (`C14.syncEntry`). -/
theorem tie_sync_skeleton : syncSkeleton =
  ["call sch.pool.CountWorkers",
   "call sch.pool.Running => running",
   "call sch.queue.Entries => qEntries,qUpdated",
   "for {",
   "case {",
   "if !running {",
   "if !anyUnknownWorkers {",
   "go",
   "call sch.cancel",
   "}",
   "} else {",
   "if !exited.IsZero() && qUpdated.After(exited) {",
   "go",
   "call sch.cancel",
   "} else {",
   "if ent.Container.Priority == 0 {",
   "go",
   "call sch.kill",
   "}",
   "}",
   "}",
   "}",
   "case {",
   "if running {",
   "go",
   "call sch.kill",
   "} else {",
   "call sch.queue.Forget",
   "}",
   "}",
   "case {",
   "if running {",
   "go",
   "call sch.kill",
   "} else {",
   "if ent.Container.Priority == 0 {",
   "call sch.queue.Forget",
   "}",
   "}",
   "}",
   "case {",
   "if running && !exited.IsZero() && qUpdated.After(exited) {",
   "go",
   "call sch.requeue",
   "} else {",
   "if running && exited.IsZero() && ent.Container.Priority == 0 {",
   "go",
   "call sch.kill",
   "} else {",
   "if !running && ent.Container.Priority == 0 {",
   "go",
   "call sch.requeue",
   "}",
   "}",
   "}",
   "}",
   "case {",
   "}",
   "}",
   "for {",
   "if !known {",
   "go",
   "call sch.kill",
   "}",
   "}"] := rfl

/-- `lockContainer`: `uuidLock` first, `uuidUnlock` deferred, `Get` → still-Queued test → `Lock` → `Get`. -/
theorem tie_lockContainer_skeleton : lockContainerSkeleton =
  ["call sch.uuidLock",
   "if !sch.uuidLock(uuid, \"lock\") {",
   "return",
   "}",
   "defer",
   "call sch.uuidUnlock",
   "call sch.queue.Get => ctr,ok",
   "if !ok || ctr.State != arvados.ContainerStateQueued {",
   "return",
   "}",
   "call sch.queue.Lock => err",
   "if err != nil {",
   "return",
   "}",
   "call sch.queue.Get => ctr,ok",
   "if !ok {",
   "} else {",
   "if ctr.State != arvados.ContainerStateLocked {",
   "}",
   "}"] := rfl

/-- `kill`: latch, deferred release, `KillContainer` then `ForgetContainer`. -/
theorem tie_kill_skeleton : killSkeleton =
  ["call sch.uuidLock",
   "if !sch.uuidLock(uuid, \"kill\") {",
   "return",
   "}",
   "defer",
   "call sch.uuidUnlock",
   "call sch.pool.KillContainer",
   "call sch.pool.ForgetContainer"] := rfl

/-- `fixStaleLocks`: loop while a worker is Unknown; collect Locked ∧ not running; return when none; after the loop unlock the collected ones (`C14.fixStaleLocks`). -/
theorem tie_fixStaleLocks_skeleton : fixStaleLocksSkeleton =
  ["defer",
   "call sch.pool.CountWorkers",
   "for {",
   "call sch.pool.Running => running",
   "call sch.queue.Entries => qEntries,_",
   "for {",
   "if ent.Container.State != arvados.ContainerStateLocked {",
   "continue",
   "}",
   "if running {",
   "continue",
   "}",
   "}",
   "if len(stale) == 0 {",
   "return",
   "}",
   "case {",
   "}",
   "case {",
   "break",
   "}",
   "}",
   "for {",
   "call sch.queue.Unlock => err",
   "if err != nil {",
   "}",
   "}"] := rfl

/-- `worker.startContainer`: the completion runs in a goroutine after `rr.Start()`, under the lock, and returns early when its runner has left `starting`. -/
theorem tie_worker_startContainer_skeleton : startContainerWorkerSkeleton =
  ["call newRemoteRunner => rr",
   "if wkr.state != StateRunning {",
   "go",
   "}",
   "go",
   "func {",
   "call rr.Start",
   "if wkr.wp.mTimeFromQueueToCrunchRun != nil {",
   "}",
   "call wkr.mtx.Lock",
   "defer",
   "call wkr.mtx.Unlock",
   "if wkr.starting[ctr.UUID] != rr {",
   "return",
   "}",
   "call delete",
   "}"] := rfl

/-- … `starting[uuid] = rr; state = Running` synchronously (`Worker.accept`), and only then, in the closure, `updated = busy = now; running[uuid] = rr` (`Worker.startDone`): the stale-probe guard depends on `updated` being stamped *there* (seed C14-b, mutation M7). -/
theorem tie_worker_startContainer_assigns : startContainerWorkerAssigns =
  ["wkr.starting[ctr.UUID] = rr",
   "wkr.state = StateRunning",
   "wkr.updated = now",
   "wkr.busy = now",
   "wkr.running[ctr.UUID] = rr",
   "wkr.lastUUID = ctr.UUID"] := rfl

/-- `closeRunner` stamps `updated`, records `exited`, may go Idle. -/
theorem tie_worker_closeRunner_assigns : closeRunnerAssigns =
  ["wkr.updated = now",
   "wkr.wp.exited[uuid] = now",
   "wkr.state = StateIdle"] := rfl

/-- `shutdown` stamps `updated` and sets Shutdown (`Worker.shutdown`). -/
theorem tie_worker_shutdown_assigns : shutdownAssigns =
  ["wkr.updated = now",
   "wkr.destroyed = now",
   "wkr.state = StateShutdown"] := rfl

/-- `probeAndUpdate` reads `updated` and the state at its beginning and stamps `updated` only at the very end of a result that was used (`Worker.applyFresh`). -/
theorem tie_worker_probeAndUpdate_assigns : probeAndUpdateAssigns =
  ["updated := wkr.updated",
   "initialState := wkr.state",
   "wkr.probed = updateTime",
   "wkr.busy = updateTime",
   "wkr.lastUUID = ctrUUIDs[0]",
   "wkr.busy = updateTime",
   "wkr.state = StateIdle",
   "wkr.state = StateRunning",
   "wkr.state = StateIdle",
   "wkr.updated = updateTime"] := rfl

/-- `probeAndUpdate`: three critical sections around the two remote probes; the last one is deferred-unlocked and contains drain, the failed-probe branch, the stale guard, `updateRunning` and the state fix-up, in this order. -/
theorem tie_worker_probeAndUpdate_skeleton : probeAndUpdateSkeleton =
  ["call wkr.mtx.Lock",
   "call wkr.mtx.Unlock",
   "case {",
   "return",
   "}",
   "case {",
   "}",
   "case {",
   "}",
   "case {",
   "}",
   "if !booted {",
   "call wkr.probeBooted => booted,stderr",
   "if !booted {",
   "call wkr.mtx.Lock",
   "call wkr.mtx.Unlock",
   "}",
   "if booted {",
   "}",
   "}",
   "if booted || wkr.state == StateUnknown {",
   "call wkr.probeRunning => ctrUUIDs,reportedBroken,ok",
   "}",
   "call wkr.mtx.Lock",
   "defer",
   "call wkr.mtx.Unlock",
   "if reportedBroken && wkr.idleBehavior == IdleBehaviorRun {",
   "call wkr.setIdleBehavior",
   "}",
   "if !ok || (!booted && len(ctrUUIDs) == 0 && len(wkr.running) == 0) {",
   "if wkr.state == StateShutdown && wkr.updated.After(updated) {",
   "return",
   "}",
   "call wkr.shutdownIfBroken",
   "if wkr.shutdownIfBroken(dur) {",
   "if !booted {",
   "}",
   "}",
   "return",
   "}",
   "if updated != wkr.updated {",
   "return",
   "}",
   "if len(ctrUUIDs) > 0 {",
   "} else {",
   "if len(wkr.running) > 0 {",
   "}",
   "}",
   "call wkr.updateRunning => changed",
   "if booted && (wkr.state == StateUnknown || wkr.state == StateBooting) {",
   "if wkr.state == StateBooting {",
   "}",
   "}",
   "if !changed {",
   "return",
   "}",
   "if wkr.state == StateUnknown && changed {",
   "}",
   "if wkr.state == StateIdle && len(wkr.starting)+len(wkr.running) > 0 {",
   "} else {",
   "if wkr.state == StateRunning && len(wkr.starting)+len(wkr.running) == 0 {",
   "}",
   "}",
   "if booted && (initialState == StateUnknown || initialState == StateBooting) {",
   "}",
   "go"] := rfl

/-- `updateWorker` stamps `updated` of a listed worker (so `Pool.sync` keeps it) or adds a new one. -/
theorem tie_pool_updateWorker_assigns : updateWorkerAssigns =
  ["wkr.updated = time.Now()",
   "wp.workers[id] = wkr"] := rfl

/-- `Queue.Update`: `dontupdate` reset under the lock, `poll()` without the lock, merge under the lock skipping `dontupdate` entries (`QStep.pollBegin/pollRead/pollEnd`). -/
theorem tie_queue_update_skeleton : queueUpdateSkeleton =
  ["call cq.mtx.Lock",
   "call cq.mtx.Unlock",
   "call cq.poll => next,err",
   "if err != nil {",
   "return",
   "}",
   "call cq.mtx.Lock",
   "defer",
   "call cq.mtx.Unlock",
   "for {",
   "if dontupdate {",
   "continue",
   "}",
   "if !ok {",
   "call cq.addEnt",
   "} else {",
   "}",
   "}",
   "for {",
   "if dontupdate {",
   "continue",
   "} else {",
   "if !stillpresent {",
   "call cq.delEnt",
   "}",
   "}",
   "}",
   "return"] := rfl

/-- `dontupdate` is created at the beginning of `Update` and cleared only after the merge (seed C14-c cleared it at the end of `poll`). -/
theorem tie_queue_update_assigns : queueUpdateAssigns =
  ["cq.dontupdate = map[string]struct{}{}",
   "cq.current[uuid] = cur",
   "cq.dontupdate = nil",
   "cq.updated = updateStarted"] := rfl

/-- `poll` itself never touches `dontupdate` or the cache entries (apart from `delEnt` of unknown uuids). -/
theorem tie_queue_poll_assigns : queuePollAssigns =
  ["cq.auth = auth"] := rfl

/-- `poll`: mine, available, then the missing ones in batches. -/
theorem tie_queue_poll_skeleton : queuePollSkeleton =
  ["call cq.mtx.Lock",
   "call cq.mtx.Unlock",
   "if auth == nil {",
   "if err != nil {",
   "return",
   "}",
   "call cq.mtx.Lock",
   "call cq.mtx.Unlock",
   "}",
   "func {",
   "for {",
   "if next[upd.UUID] == nil {",
   "}",
   "}",
   "}",
   "call cq.fetchAll => mine,err",
   "if err != nil {",
   "return",
   "}",
   "call cq.fetchAll => avail,err",
   "if err != nil {",
   "return",
   "}",
   "call cq.mtx.Lock",
   "for {",
   "if next[uuid] == nil && ent.Container.State != arvados.ContainerStateCancelled && ent.Container.State != arvados.ContainerStateComplete {",
   "}",
   "}",
   "call cq.mtx.Unlock",
   "for {",
   "for {",
   "if len(batch) == 20 {",
   "break",
   "}",
   "}",
   "call cq.fetchAll => ended,err",
   "if err != nil {",
   "return",
   "}",
   "if len(ended) == 0 {",
   "for {",
   "call cq.mtx.Lock",
   "call cq.delEnt",
   "call cq.mtx.Unlock",
   "}",
   "continue",
   "}",
   "for {",
   "if !ok {",
   "return",
   "}",
   "}",
   "}",
   "return"] := rfl

/-- `updateWithResp` marks `dontupdate` and overwrites the cached entry. -/
theorem tie_queue_updateWithResp_assigns : updateWithRespAssigns =
  ["cq.dontupdate[uuid] = struct{}{}",
   "cq.current[uuid] = ent"] := rfl

/-- `getInstancesAndSync`: throttle check, `Instances()`, and on *any* error `return` before `wp.sync` (`C14.Pool.getInstancesAndSync`, `C14_failed_listing_drops_nothing`; seed C14-e let a rate-limit error fall through to `sync(threshold, nil)`). -/
theorem tie_pool_getInstancesAndSync : getInstancesAndSyncSkeleton =
  ["call wp.instanceSet.throttleInstances.Error => err",
   "if err != nil {",
   "return",
   "}",
   "call wp.instanceSet.Instances => instances,err",
   "if err != nil {",
   "call wp.instanceSet.throttleInstances.CheckRateLimitError",
   "return",
   "}",
   "call wp.sync",
   "return"] := rfl

/-- `runSync` reaches `Pool.sync` only through `getInstancesAndSync`. -/
theorem tie_pool_runSync : runSyncSkeleton =
  ["for {",
   "case {",
   "call wp.getInstancesAndSync => err",
   "if err != nil {",
   "}",
   "}",
   "case {",
   "return",
   "}",
   "}"] := rfl

/-- `probeRunning`: one pass over all lines of the answer, classifying each (`C14.ProbeLine`, `parseProbe`); no `break`/`return` inside the loop (`C14_probe_reads_every_line`; seed C14-f stopped reading at "broken"). -/
theorem tie_worker_probeRunning : probeRunningSkeleton =
  ["if u != \"root\" {",
   "}",
   "call wkr.executor.Execute => stdout,stderr,err",
   "if err != nil {",
   "return",
   "}",
   "call strings.Split",
   "for {",
   "if s == \"\" {",
   "} else {",
   "if s == \"broken\" {",
   "} else {",
   "call strings.Split => toks",
   "if len(toks) == 1 {",
   "} else {",
   "if toks[1] == \"stale\" {",
   "}",
   "}",
   "}",
   "}",
   "}",
   "defer",
   "if !staleRunLock {",
   "} else {",
   "if wkr.staleRunLockSince.IsZero() {",
   "} else {",
   "if dur > wkr.wp.timeoutStaleRunLock {",
   "}",
   "}",
   "}",
   "return"] := rfl

end ArvVerif.Tie.C14
