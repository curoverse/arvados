/-
Tie for C05: source facts regenerated from /repo on every run (Gen/FactsC05.lean) equal what the
model in Model/C05.lean was written against. The branch conditions of balanceBlock (comparator
order, trySlot's three tests, the two passes, the `safe` loop, the wantDev loop, the final
underreplicated/unsafeToDelete test and the trash/lost/pull/stay switch, in source order), of
cleanupMounts, setupLookupTables and computeBlockState, the text of rendezvousLess, and the
JSON field names / field sources of Trash and Pull; for Model/C05_BlockState.lean and
Model/C05_Run.lean, block_state.go (`addReplica`, `increaseDesired`), the index timestamp
rescaling, `EachCollection`'s select list, `GetCurrentState`, `addCollection` and `Run`. An edit to
any of them breaks an `rfl` here.
-/
import ArvVerif.Gen.FactsC05
import ArvVerif.Model.C05
import ArvVerif.Model.C05_Run
namespace ArvVerif.Tie.C05
open ArvVerif.Facts.C05

/-- every `if`/`for`/`case` condition of balanceBlock, in source order. Model counterparts:
`replicaOn`; `runClasses` (desired == 0); `less` (four key tests); `trySlot`, `protectStep`,
`wantStep`; `pass1`/`pass2`; `classIter` (underrep / `safeCount` / `wantDevMtimes`); `finalWant`;
`change`; `lostFlag`. The list is that of the code after the fix: commits for F1 (protDev, safeDev,
protDev in the multi-server loop), F2 (in-class test before counting), F12 (lost after the loop) and F05a (classes without a mount
table make the block under-replicated; lost ranges over blk.Desired). -/
theorem tie_balanceConds : balanceConds =
  ["if blk.Replicas[r].KeepMount == mnt",
   "if desired > 0 && bal.mountsByClass[class] == nil",
   "if desired == 0",
   "if classi != classj",
   "if si.want != sj.want",
   "if orderi != orderj",
   "if repli != replj",
   "if wantMnt[slot.mnt] || wantDev[slot.mnt.DeviceID]",
   "if replProt < desired && slot.repl != nil && !protMnt[slot.mnt]",
   "if bal.mountsByClass[class][slot.mnt] && !protDev[slot.mnt.DeviceID]",
   "if slot.mnt.DeviceID != \"\"",
   "if replWant < desired && (slot.repl != nil || !slot.mnt.ReadOnly)",
   "if slot.mnt.DeviceID != \"\"",
   "for i < len(slots) && !done",
   "if !wantSrv[slots[i].mnt.KeepService]",
   "for i < len(slots) && !done",
   "if !underreplicated",
   "if slot.repl == nil || !bal.mountsByClass[class][slot.mnt] || safeDev[slot.mnt.DeviceID]",
   "if slot.mnt.DeviceID != \"\"",
   "if safe >= desired",
   "if slot.repl != nil && (wantDev[slot.mnt.DeviceID] || protDev[slot.mnt.DeviceID])",
   "if slot.repl != nil && (underreplicated || unsafeToDelete[slot.repl.Mtime])",
   "case !slot.want && slot.repl != nil && slot.repl.Mtime < bal.MinMtime",
   "case slot.repl == nil && slot.want && len(blk.Replicas) == 0",
   "case slot.repl == nil && slot.want && !slot.mnt.ReadOnly",
   "case slot.repl != nil",
   "default",
   "if bal.Dumper != nil",
   "if slot.repl != nil",
   "if !lost && len(blk.Replicas) == 0",
   "if desired > 0",
   "if bal.Dumper != nil"] := rfl

/-- what each comparator branch and trySlot return (`less`, `trySlot`) -/
theorem tie_balanceReturns : balanceReturns =
  ["bal.mountsByClass[class][si.mnt]",
   "si.want",
   "orderi < orderj",
   "repli",
   "rendezvousLess(si.mnt.DeviceID, sj.mnt.DeviceID, blkid)",
   "false",
   "replProt >= desired && replWant >= desired",
   "balanceResult{ blk: blk, blkid: blkid, lost: lost, blockState: blockState, classState: classState, }"] := rfl

/-- the rendezvous order of servers is C12's sorter on the first 32 characters of the block id; one
sort per class; trySlot is called from exactly two loops; trash and pull are appended to the change
set of the slot's own service -/
theorem tie_balanceCalls : balanceCalls =
  ["keepclient.NewRootSorter(bal.serviceRoots, string(blkid[:32])).GetSortedRoots",
   "keepclient.NewRootSorter",
   "sort.Slice",
   "rendezvousLess",
   "trySlot",
   "trySlot",
   "computeBlockState",
   "computeBlockState",
   "slot.mnt.KeepService.AddTrash",
   "slot.mnt.KeepService.AddPull"] := rfl

/-- cleanupMounts (`rwDevs`, `cleanupMounts`, `fixRepl`) -/
theorem tie_cleanupConds : cleanupConds =
  ["if !mnt.ReadOnly && mnt.DeviceID != \"\"",
   "if mnt.ReadOnly && rwdev[mnt.DeviceID] != nil",
   "if mnt.Replication <= 0"] := rfl

/-- setupLookupTables (`effMount`, `classesOf`): a mount without classes goes to "default"; a class
seen for the first time is appended to `bal.classes`; the classes are sorted at the end. (The
read-only propagation is tied by `tie_setupAssigns`.) -/
theorem tie_setupConds : setupConds = ["if len(mnt.StorageClasses) == 0", "if mbc == nil"] := rfl
theorem tie_setupCalls : setupCalls = ["append", "sort.Strings"] := rfl
theorem tie_setupStrings : setupStrings = ["default", "default"] := rfl

/-- rendezvousLess: md5(hash ++ device id) compared bytewise (the driver's `devLess`) -/
theorem tie_rendezvousLess : rendezvousLessText =
  "{ a := md5.Sum([]byte(string(blkid[:32]) + i)) b := md5.Sum([]byte(string(blkid[:32]) + j)) return bytes.Compare(a[:], b[:]) < 0 }" := rfl

/-- computeBlockState (`computeBlockState`) -/
theorem tie_computeConds : computeConds =
  ["if onlyCount != nil && !onlyCount[slot.mnt]",
   "if countedDev[slot.mnt.DeviceID]",
   "case slot.repl != nil && slot.want",
   "case slot.repl != nil && !slot.want",
   "case slot.repl == nil && slot.want && have > 0",
   "if slot.mnt.DeviceID != \"\"",
   "if repl < needRepl"] := rfl

/-- the JSON field names of a trash request are the model's `trashFields` -/
theorem tie_trashFields :
    trashJSONStrings = ArvVerif.C05.trashFields.map (fun f => "json:\"" ++ f ++ "\"") := by decide +kernel

/-- the JSON field names of a pull request are the model's `pullFields` -/
theorem tie_pullFields :
    pullJSONStrings = ArvVerif.C05.pullFields.map (fun f => "json:\"" ++ f ++ "\"") := by decide +kernel

/-- the model's JSON rendering uses exactly these keys, in this order -/
theorem tie_trashJSON :
    (ArvVerif.C05.TrashReq.json ⟨['h'], 7, ['u']⟩) =
      "{" ++ ",".intercalate (List.zipWith (fun k v => "\"" ++ k ++ "\":" ++ v)
        ArvVerif.C05.trashFields ["\"h\"", "7", "\"u\""]) ++ "}" := by decide +kernel

theorem tie_pullJSON :
    (ArvVerif.C05.PullReq.json ⟨['h'], [['s']], ['u']⟩) =
      "{" ++ ",".intercalate (List.zipWith (fun k v => "\"" ++ k ++ "\":" ++ v)
        ArvVerif.C05.pullFields ["\"h\"", "[\"s\"]", "\"u\""]) ++ "}" := by decide +kernel

/-- field sources of a trash request: bare hash, the slot's observed mtime, the mount's UUID
(`trashReq`) -/
theorem tie_trashSources : trashJSONReturns =
  ["json.Marshal(KeepstoreTrashRequest{ Locator: string(t.SizedDigest[:32]), BlockMtime: t.Mtime, MountUUID: t.From.KeepMount.UUID, })"] := rfl

/-- field sources of a pull request (`pullReq`) -/
theorem tie_pullSources : pullJSONReturns =
  ["json.Marshal(KeepstorePullRequest{ Locator: string(p.SizedDigest[:32]), Servers: []string{p.From.URLBase()}, MountUUID: p.To.KeepMount.UUID, })"] := rfl

/-- every assignment of balanceBlock to its bookkeeping (slot construction with the initial `want`,
the replica attached to a slot, unsafeToDelete, the want/prot maps and counters, done, the safe loop,
underreplicated, the final want, lost), in source order. Model counterparts: `initSlots`,
`replicaOn`, `protectStep`, `wantStep`, `trySlot`, `pass1`/`pass2`, `safeCount`, `classIter`,
`finalSlot`, `lostFlag`. -/
theorem tie_balanceAssigns : balanceAssigns =
  ["slots := make([]slot, 0, bal.mounts)",
   "repl = &blk.Replicas[r]",
   "slots = append(slots, slot{ mnt: mnt, repl: repl, want: repl != nil && mnt.ReadOnly, })",
   "underreplicated := false",
   "underreplicated = true",
   "repli, replj := si.repl != nil, sj.repl != nil",
   "replWant := 0",
   "replProt := 0",
   "unsafeToDelete[slot.repl.Mtime] = true",
   "protMnt[slot.mnt] = true",
   "replProt += slot.mnt.Replication",
   "protDev[slot.mnt.DeviceID] = true",
   "slots[i].want = true",
   "wantSrv[slot.mnt.KeepService] = true",
   "wantMnt[slot.mnt] = true",
   "wantDev[slot.mnt.DeviceID] = true",
   "replWant += slot.mnt.Replication",
   "done := false",
   "done = trySlot(i)",
   "done = trySlot(i)",
   "safe := 0",
   "safeDev := map[string]bool{}",
   "safeDev[slot.mnt.DeviceID] = true",
   "safe += slot.mnt.Replication",
   "underreplicated = safe < desired",
   "unsafeToDelete[slot.repl.Mtime] = true",
   "slots[i].want = true",
   "lost = true",
   "lost = true"] := rfl

/-- setupLookupTables: default class table, read-only propagation from the service, class tables -/
theorem tie_setupAssigns : setupAssigns =
  ["bal.classes = defaultClasses",
   "bal.mountsByClass = map[string]map[*KeepMount]bool{\"default\": {}}",
   "mnt.ReadOnly = mnt.ReadOnly || srv.ReadOnly",
   "bal.mountsByClass[\"default\"][mnt] = true",
   "bal.classes = append(bal.classes, class)",
   "bal.mountsByClass[class] = map[*KeepMount]bool{mnt: true}",
   "mbc[mnt] = true"] := rfl

/-- cleanupMounts: rwdev, the kept mounts, replication forced to 1 -/
theorem tie_cleanupAssigns : cleanupAssigns =
  ["rwdev := map[string]*KeepService{}",
   "rwdev[mnt.DeviceID] = srv",
   "dedup = append(dedup, mnt)",
   "srv.mounts = dedup",
   "mnt.Replication = 1"] := rfl

/-- block_state.go `increaseDesired` (Model `increaseDesired`, `raiseDesired`): references are
tracked only while the block has no replica; no class listed = default; a class's desired level is
only ever raised -/
theorem tie_increaseConds : increaseConds =
  ["if pdh != \"\" && len(bs.Replicas) == 0",
   "if bs.Refs == nil",
   "if len(classes) == 0",
   "if bs.Desired == nil",
   "if !ok || d < n"] := rfl

theorem tie_increaseAssigns : increaseAssigns =
  ["bs.Refs = map[string]bool{}",
   "bs.Refs[pdh] = true",
   "bs.RefCount++",
   "classes = defaultClasses",
   "bs.Desired = map[string]int{class: n}",
   "d, ok := bs.Desired[class]",
   "bs.Desired[class] = n"] := rfl

/-- `addReplica` (Model `addReplica`): append, forget the references -/
theorem tie_addReplicaAssigns : addReplicaAssigns =
  ["bs.Replicas = append(bs.Replicas, r)", "bs.Refs = nil"] := rfl

/-- ComputeChangeSets: lookup tables, then balanceBlock for every block of the map, then the
statistics (the `cs` driver op runs exactly this) -/
theorem tie_computeCalls : computeCalls =
  ["bal.time(\"changeset_compute\", \"wall clock time to compute changesets\")",
   "bal.time",
   "bal.setupLookupTables",
   "bal.BlockStateMap.Apply",
   "bal.balanceBlock",
   "bal.collectStatistics"] := rfl

/-! ## the sweep around balanceBlock (Model/C05_Run.lean) -/

/-- sdk/go/arvados `KeepService.index`: the one place where an index timestamp is rescaled — below
1e12 it is taken to be in seconds and multiplied by 1e9 (Model `normMtime`, `secondsThreshold`,
`nsPerSecond`); the test sits between the ParseInt error check and the end-of-response checks. -/
theorem tie_indexMtime :
    indexAssigns = ["mtime, err := strconv.ParseInt(fields[1], 10, 64)", "mtime = mtime * 1e9"] ∧
    indexConds.filter (fun c => c != "if err != nil" && c != "if sawEOF" && c != "if !sawEOF" && c != "if line == \"\"" &&
        c != "for scanner.Scan()" && c != "if scanner.Err() != nil" && c != "if resp.StatusCode != 200") =
      ["if len(fields) != 2", "if mtime < 1e12"] ∧
    ArvVerif.C05.secondsThreshold = 10 ^ 12 ∧ ArvVerif.C05.nsPerSecond = 10 ^ 9 := by
  refine ⟨rfl, by decide +kernel, by decide +kernel, by decide +kernel⟩

/-- collection.go `EachCollection`: the attributes it selects are the model's `selectedAttrs`, and
whether `storage_classes_desired` is among the string literals of the function is the model's
`selClassesNow` (true since the fix: commit for F05b; before it keep-balance was never told the classes). -/
theorem tie_select :
    (ArvVerif.C05.selectedAttrs.all fun a => eachCollectionStrings.contains a) = true ∧
    eachCollectionStrings.contains "storage_classes_desired" = ArvVerif.C05.selClassesNow := by
  refine ⟨by decide +kernel, by decide +kernel⟩

/-- `GetCurrentState`: MinMtime = now − TTL (nanoseconds); default replication from the discovery
document; the equivMount bookkeeping (first mount seen for a non-blank device represents it, every
mount is appended to its representative's list — Model `delivered`'s `rep`); one IndexMount per
list, AddReplicas for every mount of the list; collections go through addCollection. -/
theorem tie_getState :
    getStateAssigns =
      ["bal.DefaultReplication = dd.DefaultCollectionReplication",
       "bal.MinMtime = time.Now().UnixNano() - dd.BlobSignatureTTL*1e9",
       "equivMount := map[*KeepMount][]*KeepMount{}",
       "equiv := deviceMount[mnt.DeviceID]",
       "equiv = mnt",
       "deviceMount[mnt.DeviceID] = equiv",
       "equivMount[equiv] = append(equivMount[equiv], mnt)"] ∧
    getStateCalls = ["mounts[0].KeepService.IndexMount", "bal.BlockStateMap.AddReplicas", "bal.addCollection",
      "EachCollection"] ∧
    getStateConds.filter (fun c => c != "if err != nil" && c != "if len(errs) > 0" && c != "if err != nil || len(errs) > 0") =
      ["if equiv == nil", "if mnt.DeviceID != \"\""] := by
  refine ⟨rfl, rfl, by decide +kernel⟩

/-- `addCollection` (Model `collOp`): replication_desired or the cluster default; the pdh is passed on
only when a lost-blocks file is written; one IncreaseDesired for the blocks of the manifest. -/
theorem tie_addCollection :
    addCollectionAssigns =
      ["blkids, err := coll.SizedDigests()", "repl := bal.DefaultReplication", "repl = *coll.ReplicationDesired",
       "pdh := \"\"", "pdh = coll.PortableDataHash"] ∧
    addCollectionConds = ["if err != nil", "if coll.ReplicationDesired != nil", "if bal.LostBlocksFile != \"\""] ∧
    addCollectionCalls = ["coll.SizedDigests", "bal.BlockStateMap.IncreaseDesired"] := by
  refine ⟨rfl, rfl, rfl⟩

/-- `Run`: the commit options guard ClearTrashLists, CommitPulls and CommitTrash (Model `clearCount`,
`sentList`), in this order; `CheckSanityLate` (Model `sanityLate`) tests collections scanned, any
desired > 0, default replication ≥ 1 in this order; what is PUT is the service's own change set. -/
theorem tie_run :
    runConds.filter (fun c => c != "if err != nil" && c != "if lbFile != nil" && c != "if bal.LostBlocksFile != \"\"" &&
        c != "if runOptions.SafeRendezvousState != \"\"") =
      ["if runOptions.CommitTrash && rs != runOptions.SafeRendezvousState", "if runOptions.CommitPulls",
       "if runOptions.CommitTrash"] ∧
    sanityLateConds = ["if bal.errors != nil", "if bal.collScanned == 0", "if desired > 0", "if !anyDesired", "if dr < 1"] ∧
    commitTrashReturns = ["srv.put(ctx, c, \"trash\", srv.ChangeSet.Trashes)"] ∧
    commitPullsReturns = ["srv.put(ctx, c, \"pull\", srv.ChangeSet.Pulls)"] := by
  refine ⟨by decide +kernel, rfl, rfl, rfl⟩

end ArvVerif.Tie.C05
