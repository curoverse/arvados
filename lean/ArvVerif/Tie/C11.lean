/-
Tie for C11: source facts regenerated from /repo on every run (Gen/FactsC11.lean) equal what the
model was written against. An edit to the loop conditions of putReplicas (including the retry
status predicate), its two returns or the client methods it calls, uploadToKeepServer's branches /
calls / limits / scan format, the header names, BLOCKSIZE, the entry points' size check, PutHR's
stream path (its calls, HashCheckingReader), asyncbuf's `Read` / `Write` / `CloseWithError`,
discoverServices and its list call, or loadKeepServers' branches / calls / strings breaks one of
these `rfl`s.
-/
import ArvVerif.Gen.FactsC11
import ArvVerif.Model.C11
namespace ArvVerif.Tie.C11
open ArvVerif.Facts.C11

/-- the control skeleton of putReplicas: the drain loop of the deferred goroutine, the
replicasPerThread default (`Cfg.rpt`), the three nested loops (`run`/`step`/`startUploads`), the
error exit, the wait, the 200 test (`receive`) and the retry predicate (`retryable`). -/
theorem tie_putReplicasConds : putReplicasConds =
    ["for active > 0",
     "if replicasPerThread < 1",
     "for retriesRemaining > 0",
     "for replicasTodo > 0",
     "for active*replicasPerThread < replicasTodo",
     "if nextServer < len(sv)",
     "if active == 0 && retriesRemaining == 0",
     "if active > 0",
     "if status.statusCode == 200",
     "if len(msg) > 100",
     "if status.statusCode == 0 || status.statusCode == 408 || status.statusCode == 429 || (status.statusCode >= 500 && status.statusCode != 503)"] := rfl

/-- the retry status predicate, as the last condition of putReplicas (`Model.C11.retryable`) -/
theorem tie_retryPredicate : putReplicasConds.getLast? =
    some "if status.statusCode == 0 || status.statusCode == 408 || status.statusCode == 429 || (status.statusCode >= 500 && status.statusCode != 503)" := rfl

/-- the InsufficientReplicas exit is guarded by "nothing in flight and no retries left" and by
nothing else (`startUploads`' `none` branch; `FailAt` in the proofs) -/
theorem tie_errorExit : putReplicasConds.getD 6 "" = "if active == 0 && retriesRemaining == 0" := rfl

/-- the model's `retryable` is that predicate -/
theorem tie_retryable (code : Nat) : ArvVerif.C11.retryable code =
    (code == 0 || code == 408 || code == 429 || (decide (code ≥ 500) && code != 503)) := rfl

/-- the only methods of the client that putReplicas calls: the request id, the writable roots and
the uploader — no call that reads or writes anything remembered from earlier Puts (`putSeq`) -/
theorem tie_putReplicasClientCalls : putReplicasKcCalls =
    ["kc.getRequestID", "kc.WritableLocalRoots", "kc.uploadToKeepServer"] := rfl

/-- the only two returns: the InsufficientReplicasError and the nil-error return (`Res`) -/
theorem tie_putReplicasReturns : putReplicasReturns =
    ["locator, replicasDone, InsufficientReplicasError(errors.New(msg))",
     "locator, replicasDone, nil"] := rfl

/-- uploadToKeepServer's branches (`Model.C11.upload`) -/
theorem tie_uploadConds : uploadConds =
    ["if err != nil",
     "if expectedLength > 0",
     "if len(kc.StorageClasses) > 0",
     "if err != nil",
     "if xr != \"\"",
     "if err2 != nil && err2 != io.EOF",
     "if resp.StatusCode == http.StatusOK",
     "if resp.StatusCode >= 300 && response == \"\""] := rfl

/-- what uploadToKeepServer calls, debug output and error-text calls aside: it builds the request,
does it, reads the replica header and the body — and does not inspect the error of a failed
exchange (`Http.connErr` is one outcome whatever the error's kind; status 0 in `upload`) -/
theorem tie_uploadCalls :
    uploadCalls.filter (fun c => c != "DebugPrintf" && c != "err.Error" && c != "err2.Error") =
    ["fmt.Sprintf", "http.NewRequest", "ioutil.NopCloser", "req.Header.Add", "req.Header.Add",
     "req.Header.Add", "req.Header.Add", "fmt.Sprint", "len", "req.Header.Add", "strings.Join",
     "kc.httpClient().Do", "kc.httpClient", "resp.Header.Get", "fmt.Sscanf", "resp.Body.Close",
     "io.Copy", "ioutil.ReadAll", "strings.TrimSpace", "string", "errors.New"] := by
  simp [uploadCalls]

/-- default replica count 1, body limit 4096 (`bodyLimit`), status-text substitution from 300 -/
theorem tie_uploadInts : uploadInts = [0, 0, 0, 0, 0, 0, 1, 4096, 300] := rfl

theorem tie_bodyLimit : uploadInts.getD 7 0 = (ArvVerif.C11.bodyLimit : Int) := rfl

/-- the replica header is scanned with "%d" (`parseRep`) -/
theorem tie_scanFormat : uploadStrings.getD 13 "" = "%d" := rfl

theorem tie_headerStored : xKeepReplicasStored = "X-Keep-Replicas-Stored" := rfl
theorem tie_headerDesired : xKeepDesiredReplicas = "X-Keep-Desired-Replicas" := rfl

theorem tie_blockSize : blockSize = ArvVerif.C11.blockSize := rfl

/-- PutHR's size check (`putHR`) and what the entry points pass on (`putHB`, `putB`) -/
theorem tie_putHRConds : putHRConds = ["if dataBytes > 0", "if dataBytes > BLOCKSIZE"] := rfl

theorem tie_putHRReturns : putHRReturns =
    ["\"\", 0, ErrOversizeBlock", "kc.putReplicas(hash, buf.NewReader, dataBytes)"] := rfl

theorem tie_putHBReturns : putHBReturns =
    ["bytes.NewBuffer(buf)", "kc.putReplicas(hash, newReader, int64(len(buf)))"] := rfl

theorem tie_putB : putBText =
    "{ hash := fmt.Sprintf(\"%x\", md5.Sum(buffer)) return kc.PutHB(hash, buffer) }" := rfl

/-- PutHR's stream path (`bufferEnd`, `putHRWire`): a buffer, one copier through the hash-checking
reader, `CloseWithError` with the copier's result, then `putReplicas` with readers of that buffer -/
theorem tie_putHRCalls : putHRCalls =
    ["asyncbuf.NewBuffer", "io.Copy", "buf.CloseWithError", "kc.putReplicas"] := rfl

/-- HashCheckingReader: bytes are passed through; at EOF the hex MD5 is compared with `Check` and
`BadChecksum` replaces EOF on mismatch; other errors pass unchanged (`bufferEnd`) -/
theorem tie_hashCheckRead : hashCheckReadText =
    "{ n, err = hcr.Reader.Read(p) if n > 0 { hcr.Hash.Write(p[:n]) } if err == io.EOF { sum := hcr.Hash.Sum(nil) if fmt.Sprintf(\"%x\", sum) != hcr.Check { err = BadChecksum } } return n, err }" := rfl

theorem tie_hashCheckWriteTo : hashCheckWriteToConds =
    ["if ok", "if err != nil", "if fmt.Sprintf(\"%x\", sum) != hcr.Check"] ∧
    hashCheckWriteToReturns = ["written, err", "written, BadChecksum", "written, nil"] := ⟨rfl, rfl⟩

/-- asyncbuf: a reader returns buffered bytes first, then the buffer's final error
(EOF after `CloseWithError(nil)`, the given error otherwise), and blocks in between -/
theorem tie_asyncReader : asyncReaderConds =
    ["case r.read < r.b.data.Len()", "case r.b.err != nil || len(p) == 0", "default"] ∧
    asyncReaderReturns = ["n, nil", "0, err"] := ⟨rfl, rfl⟩

/-- asyncbuf `CloseWithError` (`AOp.close`): nil means io.EOF; under the lock, wakes the readers.
(The assignment itself is exercised by the `abuf` correspondence cases.) -/
theorem tie_closeWithError : closeWithErrorConds = ["if err == nil"] ∧
    closeWithErrorCalls = ["b.cond.Broadcast", "b.cond.L.Lock", "b.cond.L.Unlock"] ∧
    closeWithErrorReturns = ["nil"] ∧ asyncCloseReturns = ["b.CloseWithError(nil)"] := ⟨rfl, rfl, rfl, rfl⟩

/-- asyncbuf `Write` (`AOp.write`): refused with the close error once closed, appended otherwise;
under the lock, wakes the readers -/
theorem tie_asyncWrite : asyncWriteConds = ["if b.err != nil"] ∧
    asyncWriteReturns = ["0, b.err", "b.data.Write(p)"] ∧
    asyncWriteCalls = ["b.cond.Broadcast", "b.cond.L.Lock", "b.cond.L.Unlock", "b.data.Write"] :=
  ⟨rfl, rfl, rfl⟩

/-- asyncbuf `Read` waits on the condition variable in its default case and copies from the
reader's own offset; `NewReader` makes a reader with offset 0 on the same buffer -/
theorem tie_asyncReaderCalls : asyncReaderCalls =
    ["r.b.cond.L.Lock", "r.b.data.Len", "r.b.data.Bytes", "r.b.cond.L.Unlock", "copy", "len",
     "r.b.cond.L.Unlock", "r.b.cond.Wait"] ∧
    asyncNewReaderReturns = ["&reader{b: b}"] := ⟨rfl, rfl⟩

/-- discoverServices (`discoverURIs`, `discoverAPI`): nothing when discovery is disabled; the
KeepServiceURIs override; otherwise the cached list goes to loadKeepServers -/
theorem tie_discover : discoverConds =
    ["if kc.disableDiscovery", "if kc.Arvados.KeepServiceURIs != nil", "if !ok"] ∧
    discoverCalls = ["kc.setServiceRoots", "kc.loadKeepServers"] := ⟨rfl, rfl⟩

/-- the made-up uuids of the KeepServiceURIs override (`uriUuid`) -/
theorem tie_uriUuid : discoverStrings.getD 0 "" = "00000-bi6l4-%015d" ∧
    ArvVerif.C11.uriUuid 7 = "00000-bi6l4-000000000000007".toList := by
  refine ⟨rfl, ?_⟩
  -- the kernel is slow at `toList` of a string literal, not at the list of its characters
  unfold ArvVerif.C11.uriUuid
  rw [Nat.toString_eq_repr, Nat.toList_repr]
  repeat rw [String.toList_ofList]
  decide +kernel

/-- the API call that fetches the list: GET keep_services/accessible -/
theorem tie_poll : pollCalls = ["ent.arv.Call"] ∧
    pollStrings.take 4 = ["GET", "keep_services", "", "accessible"] := ⟨rfl, rfl⟩

/-- loadKeepServers' branches (`loadStep`): scheme, duplicate URL, read-only, disk type twice -/
theorem tie_loadConds : loadConds =
    ["if service.SSL",
     "if listed[url]",
     "if service.ReadOnly == false",
     "if service.SvcType != \"disk\"",
     "if service.SvcType != \"disk\""] := rfl

/-- the writable map is filled under the read-only test alone (`loadStep`), whatever the type -/
theorem tie_writableGuard : loadConds.getD 2 "" = "if service.ReadOnly == false" := rfl

/-- loadKeepServers builds four fresh maps from the list, formats the URLs and installs the result;
it calls nothing else — in particular it does not consult what the client held before
(`reload`, `C11_reload_last_wins`) -/
theorem tie_loadRebuilds : loadAllCalls =
    ["make", "make", "make", "make", "fmt.Sprintf", "kc.setServiceRoots"] ∧ loadInts = [1, 0] :=
  ⟨rfl, rfl⟩

theorem tie_loadStrings : loadStrings = ["http", "https", "%s://%s:%d", "disk", "disk"] := rfl

theorem tie_loadCalls : loadCalls = ["kc.setServiceRoots"] := rfl

end ArvVerif.Tie.C11
