/-
Tie for C19: source facts regenerated from /repo on every run (Gen/FactsC19.lean) equal what the
model was written against. An edit to SaltToken, to the token discovery, to the content-type
literals, to the provider's switch, to saltAuthToken's branch structure or to keepstore's use of
SaltToken breaks one of these.
-/
import ArvVerif.Gen.FactsC19
import ArvVerif.Model.C19
namespace ArvVerif.Tie.C19
open ArvVerif.Facts.C19
open ArvVerif.C19

/-! ### auth.SaltToken -/

/-- the legacy-token pattern `isObsolete` was written for -/
theorem tie_reObsoleteToken : reObsoleteToken = "^[0-9a-z]{41,}$" := rfl

/-- the integer literals of SaltToken: `len(parts) < 3`, indexes 0, 1, 2 and the salt length 40 -/
theorem tie_saltInts : saltInts = [3, 0, 1, 2, 40] := rfl

/-- the length constant of the model is the last integer literal of SaltToken -/
theorem tie_saltLen : saltInts.getLast? = some (Int.ofNat saltLen) := rfl

theorem tie_saltConds : saltConds =
    ["if len(parts) < 3 || parts[0] != \"v2\"",
     "if reObsoleteToken.MatchString(token)",
     "if len(secret) != 40",
     "if strings.HasPrefix(uuid, remote)"] := rfl

theorem tie_saltReturns : saltReturns =
    ["\"\", ErrObsoleteToken",
     "\"\", ErrTokenFormat",
     "\"v2/\" + uuid + \"/\" + secret, nil",
     "token, nil",
     "\"\", ErrSalted"] := rfl

/-- separator, version word and the pieces of the result are the model's constants -/
theorem tie_saltStrings :
    saltStrings = ["/", "v2", "", "", "%x", "v2/", "/", ""] ∧
    (saltStrings.getD 0 "").toList = sSlash ∧ (saltStrings.getD 1 "").toList = sV2 ∧
    (saltStrings.getD 5 "").toList = sV2Slash := ⟨rfl, rfl, rfl, rfl⟩

/-- the whole function, including the argument order of the MAC: key = secret (`hmac.New(sha1.New,
[]byte(secret))`), message = remote (`io.WriteString(hmac, remote)`), output `%x` -/
theorem tie_saltText : saltText =
    "{ parts := strings.Split(token, \"/\") if len(parts) < 3 || parts[0] != \"v2\" { if reObsoleteToken.MatchString(token) { return \"\", ErrObsoleteToken } return \"\", ErrTokenFormat } uuid := parts[1] secret := parts[2] if len(secret) != 40 { hmac := hmac.New(sha1.New, []byte(secret)) io.WriteString(hmac, remote) secret = fmt.Sprintf(\"%x\", hmac.Sum(nil)) return \"v2/\" + uuid + \"/\" + secret, nil } else if strings.HasPrefix(uuid, remote) { return token, nil } else { return \"\", ErrSalted } }" := rfl

/-! ### token discovery (sdk/go/auth/auth.go) -/

/-- order: Authorization OAuth2/Bearer, Basic, query string, cookie (`requestTokens`) -/
theorem tie_loadCalls : loadCalls =
    ["strings.SplitN", "r.BasicAuth", "url.ParseQuery", "a.loadTokenFromCookie"] := rfl

theorem tie_loadConds : loadConds =
    ["if len(toks) == 2 && (toks[0] == \"OAuth2\" || toks[0] == \"Bearer\")", "if ok", "if ok"] := rfl

theorem tie_loadStrings :
    loadStrings = ["Authorization", " ", "OAuth2", "Bearer", "api_token"] ∧
    (loadStrings.getD 2 "").toList = sOAuth2 ∧ (loadStrings.getD 3 "").toList = sBearerWord ∧
    (loadStrings.getD 4 "").toList = apiTokenKey := ⟨rfl, rfl, rfl, rfl⟩

theorem tie_cookieName : cookieStrings = ["arvados_api_token"] := rfl

/-- `LoadTokensFromHTTPRequestBody` reads the body only for exactly the model's `formCT`, takes
the first `api_token` value and ignores an empty one -/
theorem tie_loadBody :
    loadBodyConds = ["if r.Header.Get(\"Content-Type\") != \"application/x-www-form-urlencoded\"",
                     "if err != nil", "if t != \"\""] ∧
    loadBodyStrings = ["Content-Type", "application/x-www-form-urlencoded", "api_token", ""] ∧
    (loadBodyStrings.getD 1 "").toList = formCT ∧
    (loadBodyStrings.getD 2 "").toList = apiTokenKey := ⟨rfl, rfl, rfl, rfl⟩

/-! ### Handler.saltAuthToken (lib/controller/federation.go) -/

/-- The media type `saltAuthToken` looks for is the model's `formCT`, the same literal the body
loader of sdk/go/auth uses. (The misspelt literal `application/x-www-form-encoded` of finding F7
breaks exactly this.) -/
theorem tie_formCT_same : legacyStrings.getD 2 "" = loadBodyStrings.getD 1 "" := rfl

theorem tie_formCT_legacy : (legacyStrings.getD 2 "").toList = formCT := rfl

/-- the separators that end the media type are the ones `mediaTypeOf` cuts at -/
theorem tie_mediaTypeSeparators : (legacyStrings.getD 1 "").toList = [';', ','] := String.toList_ofList

theorem tie_legacyStrings : legacyStrings =
    ["Content-Type", ";,", "application/x-www-form-urlencoded", "api_token", "", "api_token",
     "saltAuthToken: cluster %s token %s remote %s", "Authorization", "Cookie", "Authorization",
     "Bearer ", "arvados_api_token", "api_token", "api_token"] ∧
    (legacyStrings.getD 10 "").toList = sBearer ∧
    (legacyStrings.getD 3 "").toList = apiTokenKey ∧
    legacyStrings.getD 11 "" = cookieStrings.getD 0 "" := ⟨rfl, rfl, rfl, rfl⟩

/-- branch structure: media type of the body (no "no token found yet" guard, no method test),
parse error ⇒ return, first non-empty api_token, no token ⇒ forward as is, local lookup for
legacy/format errors, header rebuild without Authorization and Cookie, cookies other than
arvados_api_token re-added, query string stripped -/
theorem tie_legacyConds : legacyConds =
    ["if i >= 0",
     "if strings.ToLower(strings.TrimSpace(ct)) == \"application/x-www-form-urlencoded\" && updatedReq.Body != nil",
     "if err != nil",
     "if err != nil",
     "if t != \"\"",
     "if len(creds.Tokens) == 0",
     "if err == auth.ErrObsoleteToken || err == auth.ErrTokenFormat",
     "if err != nil",
     "if !ok || strings.HasPrefix(currentUser.UUID, remote)",
     "if err != nil",
     "if err != nil",
     "if k != \"Authorization\" && k != \"Cookie\"",
     "if cookie.Name != \"arvados_api_token\"",
     "if err != nil",
     "if ok"] := rfl

/-- discovery, media type, body (first api_token, delete, re-encode), salt, local lookup, second
salt, header rebuild, cookies, query-string stripping — in this order -/
theorem tie_legacyCalls : legacyCalls =
    ["creds.LoadTokensFromHTTPRequest", "strings.IndexAny", "strings.ToLower", "strings.TrimSpace",
     "url.ParseQuery", "form.Get", "form.Del", "form.Encode", "auth.SaltToken", "h.validateAPItoken",
     "strings.HasPrefix", "auth.SaltToken", "updatedReq.Header.Set", "req.Cookies",
     "updatedReq.AddCookie", "url.ParseQuery"] := rfl

/-- `validateAPItoken`: v2 prefix split, no row ⇒ not ok, uuid mismatch ⇒ not ok (`resolveLocal`) -/
theorem tie_validateConds : validateConds =
    ["if err != nil", "if strings.HasPrefix(token, \"v2/\")", "if err == sql.ErrNoRows",
     "if err != nil", "if uuid != \"\" && user.Authorization.UUID != uuid", "if err != nil"] := rfl

/-- `TokenV2` is `tokenV2` -/
theorem tie_tokenV2 : tokenV2Text = "{ return \"v2/\" + aca.UUID + \"/\" + aca.APIToken }" := rfl

/-- the two assignments that can index out of range: `uuid = sp[1]`, `token = sp[2]` after
`strings.Split(token, "/")` under the `v2/` prefix test (`legacyToken`, `C19_legacy_panic`) -/
theorem tie_validateAssigns : validateAssigns =
    ["sp := strings.Split(token, \"/\")", "uuid = sp[1]", "token = sp[2]"] := rfl

/-! ### forwarding layers: remoteClusterRequest and proxy.Do (`remoteClusterRequest`, `proxyDo`) -/

/-- the hop-by-hop headers `proxy.Do` drops are the model's `dropHeaders` -/
theorem tie_dropHeaders : dropHeaderNames.map String.toList = dropHeaders := rfl

/-- unknown remote ⇒ 404 before anything else; the outgoing URL takes Path, RawPath and RawQuery
from the REBUILT request (`saltedReq`), not from the incoming one; the rebuilt request is what
`proxy.Do` gets -/
theorem tie_remoteClusterRequest : remoteClusterRequestText =
    "{ remote, ok := h.Cluster.RemoteClusters[remoteID] if !ok { return nil, HTTPError{fmt.Sprintf(\"no proxy available for cluster %v\", remoteID), http.StatusNotFound} } scheme := remote.Scheme if scheme == \"\" { scheme = \"https\" } saltedReq, err := h.saltAuthToken(req, remoteID) if err != nil { return nil, err } urlOut := &url.URL{ Scheme: scheme, Host: remote.Host, Path: saltedReq.URL.Path, RawPath: saltedReq.URL.RawPath, RawQuery: saltedReq.URL.RawQuery, } client := h.secureClient if remote.Insecure { client = h.insecureClient } return h.proxy.Do(saltedReq, urlOut, client) }" := rfl

/-- `proxy.Do`: header copy minus `dropHeaders`, X-Forwarded-For / X-Forwarded-Proto / Via, and a
new request made of Method, the given URL, Host, these headers and the Body of the rebuilt request —
nothing else of the incoming request is consulted -/
theorem tie_proxyDo : proxyDoText =
    "{ hdrOut := http.Header{} for k, v := range reqIn.Header { if !dropHeaders[k] { hdrOut[k] = v } } xff := reqIn.RemoteAddr if xffIn := reqIn.Header.Get(\"X-Forwarded-For\"); xffIn != \"\" { xff = xffIn + \",\" + xff } hdrOut.Set(\"X-Forwarded-For\", xff) if hdrOut.Get(\"X-Forwarded-Proto\") == \"\" { hdrOut.Set(\"X-Forwarded-Proto\", reqIn.URL.Scheme) } hdrOut.Add(\"Via\", reqIn.Proto+\" arvados-controller\") reqOut := (&http.Request{ Method: reqIn.Method, URL: urlOut, Host: reqIn.Host, Header: hdrOut, Body: reqIn.Body, }).WithContext(reqIn.Context()) return client.Do(reqOut) }" := rfl

/-! ### rpc.Conn token placement (`rpcAuthorization`, `rpcReaderTokens`) -/

/-- the only statements of `requestAndDecode` that touch the token list: first token ⇒
`Authorization: Bearer`, none ⇒ `Bearer -`, the rest ⇒ `reader_tokens` -/
theorem tie_rpcTokenAssigns : rpcTokenAssigns =
    ["tokens, err := conn.tokenProvider(ctx)",
     "ctx = arvados.ContextWithAuthorization(ctx, \"Bearer \"+tokens[0])",
     "ctx = arvados.ContextWithAuthorization(ctx, \"Bearer -\")",
     "params[\"reader_tokens\"] = tokens[1:]"] := rfl

theorem tie_rpcConds : rpcConds =
    ["if err != nil", "if len(tokens) > 0", "if err != nil", "if err != nil",
     "if ok && ep.AttrsKey != \"\"", "if ok", "if err == nil && limit < 0", "if ok", "if ok2",
     "if strings.HasSuffix(k, \"_at\")",
     "if ok3 && (strings.HasPrefix(v, \"0001-01-01T00:00:00\") || v == \"\")",
     "if len(tokens) > 1", "if strings.Contains(ep.Path, \"/{uuid}\")"] := rfl

theorem tie_rpcStrings : (rpcStrings.getD 0 "").toList = sBearer ∧
    (rpcStrings.getD 1 "").toList = sBearer ++ ['-'] ∧ rpcStrings.getD 13 "" = "reader_tokens" :=
  ⟨rfl, by decide +kernel, rfl⟩

/-! ### saltedTokenProvider (lib/controller/federation/conn.go) -/

/-- `federation.New`: every remote cluster that is proxied (and is not the cluster itself) gets an
`rpc.Conn` whose token provider is `saltedTokenProvider(local, id)` for ITS OWN id -/
theorem tie_fedNew : fedNewText =
    "{ local := localdb.NewConn(cluster) remotes := map[string]backend{} for id, remote := range cluster.RemoteClusters { if !remote.Proxy || id == cluster.ClusterID { continue } conn := rpc.NewConn(id, &url.URL{Scheme: remote.Scheme, Host: remote.Host}, remote.Insecure, saltedTokenProvider(local, id)) conn.SendHeader = http.Header{\"Via\": {\"HTTP/1.1 arvados-controller\"}} remotes[id] = conn } return &Conn{ cluster: cluster, local: local, remotes: remotes, } }" := rfl

theorem tie_providerConds : providerConds =
    ["if !ok", "switch err", "case nil", "case auth.ErrSalted", "case auth.ErrTokenFormat",
     "case auth.ErrObsoleteToken", "if errStatus(err) == http.StatusUnauthorized", "if err != nil",
     "if strings.HasPrefix(aca.UUID, remoteID)", "if err != nil", "default"] := rfl

/-- every statement of the provider that writes `tokens` or `incoming`: the result list is only
ever appended to (it starts as the nil slice of `var tokens []string`, never as a slice of the
caller's credentials), and `incoming` is only read — the provider has no effect on the request
context (`provSeq` is a plain `map`) -/
theorem tie_providerTokenAssigns : providerTokenAssigns =
    ["incoming, ok := auth.FromContext(ctx)",
     "tokens = append(tokens, salted)",
     "tokens = append(tokens, token)",
     "tokens = append(tokens, token)",
     "tokens = append(tokens, token)",
     "tokens = append(tokens, token)",
     "tokens = append(tokens, salted)"] := rfl

theorem tie_providerCalls : providerCalls =
    ["auth.FromContext", "auth.SaltToken", "local.APIClientAuthorizationCurrent", "errStatus",
     "strings.HasPrefix", "auth.SaltToken"] := rfl

/-! ### keepstore (services/keepstore/proxy_remote.go) -/

/-- `remoteClient` salts exactly once -/
theorem tie_keepCalls : keepCalls = ["auth.SaltToken"] := rfl

/-- `remoteClient` touches no state of the proxy other than the per-remote client map (under the
mutex) and calls SaltToken unconditionally, after the client lookup: its answer depends on
(remote, token) only — `keepSeq` is a plain `map`. A token cache keyed by anything would show up
here as further `rp.` calls or conditions. -/
theorem tie_keepClientStateless :
    keepClientCalls = ["rp.mtx.Lock", "rp.mtx.Unlock", "rp.mtx.Lock", "rp.mtx.Unlock", "auth.SaltToken"] ∧
    keepClientConds = ["if !ok", "if err != nil", "if err != nil", "if rp.clients == nil", "if err != nil"] ∧
    keepClientReturns = ["nil, err", "nil, err", "nil, err", "&kccopy, nil"] := ⟨rfl, rfl, rfl⟩

/-- `Get`: ErrObsoleteToken ⇒ 400, any other error ⇒ 500, before any remote request (`keepGet`) -/
theorem tie_keepGetConds : keepGetConds =
    ["if token == \"\"",
     "if strings.SplitN(r.Header.Get(\"X-Keep-Signature\"), \",\", 2)[0] == \"local\"",
     "if err != nil", "case i == 0", "case strings.HasPrefix(part, \"A\")",
     "case len(part) > 7 && part[0] == 'R' && part[6] == '-'", "if !ok",
     "if err == auth.ErrObsoleteToken", "if err != nil", "if remoteClient == nil", "case nil",
     "case *keepclient.ErrNotFound", "default"] := rfl

end ArvVerif.Tie.C19
