/-
Tie for C08: source facts regenerated from /repo on every run (Gen/FactsC08.lean) equal what the
model in Model/C08.lean, Model/C08_FS.lean and Model/C08_Ext.lean was written against: the branch structure of
filenode.seek/Read/truncate/Write/pruneMemSegments, memSegment/storedSegment primitives, dirnode.flush,
filehandle.*, openFile/Mkdir/Rename/remove/rlookup/treenode.Child, and the default maxBlockSize.
An edit to any of these conditions or to the order of the error returns breaks one of these `rfl`s
(the differential check then decides whether behaviour changed).
-/
import ArvVerif.Gen.FactsC08
import ArvVerif.Model.C08_FS
namespace ArvVerif.Tie.C08
open ArvVerif.Facts.C08

/-- production block size limit 64 MiB; the theorems hold for every `max ≥ 1`, the smoke cases of the check run at this value -/
theorem tie_maxBlockSize : maxBlockSize =
    67108864 := rfl

/-- filenode.seek: EOF test, fast path on equal `repacked` with the fell-off-the-end correction, recomputing loop (Model.C08.seek / locate) -/
theorem tie_seekConds : seekConds =
    ["if ptr.off < 0",
    "if ptr.off >= fn.fileinfo.size",
    "if ptr.repacked == fn.repacked",
    "if ptr.segmentOff >= fn.segments[ptr.segmentIdx].Len()",
    "if ptr.off >= fn.fileinfo.size",
    "for off < ptr.off",
    "if off+segLen > ptr.off"] := rfl

/-- filenode.Read: EOF at segmentIdx ≥ len, advance, normalise at segment end, clear EOF when not the last segment (Model.C08.readAt) -/
theorem tie_readConds : readConds =
    ["if ptr.off < 0",
    "if ptr.segmentIdx >= len(fn.segments)",
    "if n > 0",
    "if ptr.segmentOff == fn.segments[ptr.segmentIdx].Len()",
    "if ptr.segmentIdx < len(fn.segments) && err == io.EOF"] := rfl

/-- filenode.truncate: no-op on equal size, shrink via seek with segmentOff = 0 / mem / stored cases, grow loop with `>= maxBlockSize` and `maxgrow` (Model.C08.truncate / growLoop) -/
theorem tie_truncateConds : truncateConds =
    ["if size == fn.fileinfo.size",
    "if size < fn.fileinfo.size",
    "for i < len(fn.segments)",
    "if ok",
    "if ptr.segmentOff == 0",
    "case *memSegment",
    "default",
    "for size > fn.fileinfo.size",
    "if len(fn.segments) == 0",
    "if !ok || seg.Len() >= maxBlockSize",
    "if maxgrow < grow"] := rfl

/-- filenode.Write: implicit truncate beyond EOF, the loop, cando ≤ maxBlockSize, curWritable / prevAppendable, split (two or three pieces), fit, cangrow, EOF / drop / shrink of cur, grow prev or insert, prune at `>= maxBlockSize`, normalise (Model.C08.restructure / restrSplit / restrShift / curFate / overwrite) -/
theorem tie_writeConds : writeConds =
    ["if startPtr.off > fn.fileinfo.size",
    "if err != nil",
    "if ptr.off < 0",
    "for len(p) > 0 && err == nil",
    "if len(cando) > maxBlockSize",
    "if cur < len(fn.segments)",
    "if prev >= 0 && fn.segments[prev].Len() < maxBlockSize",
    "if ptr.segmentOff > 0 && !curWritable",
    "if max <= len(cando)",
    "if curWritable",
    "if fit < len(cando)",
    "if prevAppendable",
    "if cangrow < len(cando)",
    "if cur == len(fn.segments)",
    "if el <= len(cando)",
    "if prevAppendable",
    "if cur < len(fn.segments)",
    "if ptr.segmentOff >= maxBlockSize",
    "if fn.segments[ptr.segmentIdx].Len() == ptr.segmentOff"] := rfl

/-- order of the segment operations inside the loop body of filenode.Write -/
theorem tie_writeCalls : writeCalls =
    ["fn.truncate",
    "fn.seek",
    "fn.segments[prev].Len",
    "fn.segments[cur].Len",
    "fn.segments[cur+2].Slice",
    "seg.Truncate",
    "fn.segments[prev].Slice",
    "fn.segments[cur].Len",
    "fn.segments[prev].Len",
    "fn.segments[cur].Len",
    "fn.segments[cur].Slice",
    "fn.segments[prev].Len",
    "fn.segments[prev].(*memSegment).Truncate",
    "seg.Truncate",
    "fn.segments[ptr.segmentIdx].(*memSegment).WriteAt",
    "fn.pruneMemSegments",
    "fn.segments[ptr.segmentIdx].Len"] := rfl

/-- pruneMemSegments: which segments are flushed and when the goroutine gives up (Model.C08.pruneSegs / settleSegs) -/
theorem tie_pruneConds : pruneConds =
    ["if !ok || seg.Len() < maxBlockSize || seg.flushing != nil",
    "if seg.flushing != done",
    "if err != nil",
    "if len(fn.segments) <= idx || fn.segments[idx] != seg || len(seg.buf) != len(buf)"] := rfl

/-- memSegment.Truncate: reallocation (and flushing reset) condition (Model.C08.memTruncate) -/
theorem tie_memTruncateConds : memTruncateConds =
    ["if n > cap(me.buf) || (me.flushing != nil && n > len(me.buf))",
    "for newsize < n",
    "for i < n"] := rfl

/-- memSegment.WriteAt: overflow panic, copy-on-write of a buffer shared with a flush (Model.C08.memWriteAt) -/
theorem tie_memWriteAtText : memWriteAtText =
    "{ if off+len(p) > len(me.buf) { panic(\"overflowed segment\") } if me.flushing != nil { me.buf, me.flushing = append([]byte(nil), me.buf...), nil } copy(me.buf[off:], p) }" := rfl

/-- storedSegment.Slice (Model.C08.Seg.slice) -/
theorem tie_storedSliceText : storedSliceText =
    "{ se.offset += n se.length -= n if size >= 0 && se.length > size { se.length = size } return se }" := rfl

/-- dirnode.flush: `> maxBlockSize/2` alone, packing up to maxBlockSize, shortBlocks (Model.C08.flushGroups) -/
theorem tie_flushConds : flushConds =
    ["case *dirnode",
    "case *filenode",
    "case storedSegment",
    "if !ok",
    "if err != nil",
    "case *memSegment",
    "if seg.Len() > maxBlockSize/2",
    "if pendingLen+seg.Len() > maxBlockSize",
    "default",
    "if opts.shortBlocks"] := rfl

/-- filehandle.Write: writable check, O_APPEND repositioning for filenodes (Model.C08_FS.step / concImpl.write) -/
theorem tie_handleWriteConds : handleWriteConds =
    ["if !f.writable",
    "if ok && f.append"] := rfl

/-- filehandle.Read: readable check -/
theorem tie_handleReadConds : handleReadConds =
    ["if !f.readable"] := rfl

/-- filehandle.Seek: whence cases, negative offset, invalidate on change (Model.C08_FS.step / Ptr.seekTo) -/
theorem tie_handleSeekConds : handleSeekConds =
    ["switch whence",
    "case io.SeekStart",
    "case io.SeekCurrent",
    "case io.SeekEnd",
    "if ptr.off < 0",
    "if ptr.off != f.ptr.off"] := rfl

/-- filehandle.Truncate does not check the open mode -/
theorem tie_handleTruncateText : handleTruncateText =
    "{ return f.inode.Truncate(size) }" := rfl

/-- openFile: O_SYNC, parent lookup, access mode switch, directory shortcuts, create / O_EXCL / O_TRUNC order (Model.C08_FS.openFile) -/
theorem tie_openFileConds : openFileConds =
    ["if flag&os.O_SYNC != 0",
    "if err != nil",
    "switch flag & (os.O_RDWR | os.O_RDONLY | os.O_WRONLY)",
    "case os.O_RDWR",
    "case os.O_RDONLY",
    "case os.O_WRONLY",
    "default",
    "if !writable && parent.IsDir()",
    "switch name",
    "case \".\"",
    "case \"\"",
    "case \"..\"",
    "if createMode",
    "if err != nil",
    "if n == nil",
    "if !createMode",
    "if err != nil",
    "if err != nil",
    "if n == nil",
    "if flag&os.O_EXCL != 0",
    "if flag&os.O_TRUNC != 0",
    "if !writable",
    "if n.IsDir()",
    "if err != nil"] := rfl

/-- openFile: error values in order -/
theorem tie_openFileReturns : openFileReturns =
    ["nil, ErrSyncNotSupported",
    "nil, err",
    "nil, fmt.Errorf(\"invalid flags 0x%x\", flag)",
    "&filehandle{inode: parent}, nil",
    "&filehandle{inode: parent.Parent()}, nil",
    "nil, err",
    "nil, os.ErrNotExist",
    "",
    "",
    "nil, err",
    "nil, ErrInvalidArgument",
    "nil, ErrFileExists",
    "nil, fmt.Errorf(\"invalid flag O_TRUNC in read-only mode\")",
    "nil, fmt.Errorf(\"invalid flag O_TRUNC when opening directory\")",
    "nil, err",
    "&filehandle{ inode: n, append: flag&os.O_APPEND != 0, readable: readable, writable: writable, }, nil"] := rfl

/-- Mkdir (Model.C08_FS.doMkdir) -/
theorem tie_mkdirConds : mkdirConds =
    ["if err != nil",
    "if err != nil",
    "if child != nil",
    "if err != nil"] := rfl

/-- Rename: name checks, ancestor locking, moved-into-itself, existing directory target, same-entry test (Model.C08_FS.doRename) -/
theorem tie_renameConds : renameConds =
    ["if oldname == \"\" || oldname == \".\" || oldname == \"..\"",
    "if err != nil",
    "if newname == \".\" || newname == \"..\"",
    "if newname == \"\"",
    "if err != nil",
    "if cfs != newdirf.inode.FS()",
    "for node.Parent() != node && node.Parent().FS() == node.FS()",
    "for i >= 0",
    "if !locked[n]",
    "if oldinode == nil",
    "if locked[oldinode]",
    "if oldinode.FS() != cfs && newdirf.inode != olddirf.inode",
    "if existing != nil && existing.IsDir()",
    "if err != nil",
    "if newdirf.inode == olddirf.inode && newname == oldname"] := rfl

/-- Rename: error values in order; `oldinode, nil` keeps the entry when renamed onto itself (fix 100856b), the final `nil, nil` deletes the old entry -/
theorem tie_renameReturns : renameReturns =
    ["ErrInvalidArgument",
    "fmt.Errorf(\"%q: %s\", olddir, err)",
    "ErrInvalidArgument",
    "fmt.Errorf(\"%q: %s\", newdir, err)",
    "ErrInvalidArgument",
    "oldinode, os.ErrNotExist",
    "oldinode, ErrInvalidArgument",
    "oldinode, ErrInvalidArgument",
    "existing, ErrIsDirectory",
    "oldinode, nil",
    "oldinode, err",
    "oldinode, nil",
    "nil, nil",
    "err"] := rfl

/-- remove (Model.C08_FS.doRemove) -/
theorem tie_removeConds : removeConds =
    ["if name == \"\" || name == \".\" || name == \"..\"",
    "if err != nil",
    "if node == nil",
    "if !recursive && node.IsDir() && node.Size() > 0"] := rfl

/-- remove: error values in order -/
theorem tie_removeReturns : removeReturns =
    ["ErrInvalidArgument",
    "err",
    "nil, os.ErrNotExist",
    "node, ErrDirectoryNotEmpty",
    "nil, nil",
    "err"] := rfl

/-- rlookup path rules (Model.C08_FS.walk) -/
theorem tie_rlookupConds : rlookupConds =
    ["if node.IsDir()",
    "if name == \".\" || name == \"\"",
    "if name == \"..\"",
    "if node == nil || err != nil",
    "if node == nil && err == nil"] := rfl

/-- treenode.Child: special names, replace semantics (delete on nil) -/
theorem tie_treenodeChildConds : treenodeChildConds =
    ["if name == \"\" || name == \".\" || name == \"..\"",
    "if replace == nil",
    "if err != nil",
    "if newchild == nil",
    "if newchild != child"] := rfl

/-- commitBlock: early return on an unfinished flush (async), block assembly, and the async revalidation (index, segment identity, flushing channel) (Model.C08.commitBlock / flushFiles; ASYNC cases) -/
theorem tie_commitBlockConds : commitBlockConds =
    ["if len(refs) == 0",
    "if err != nil",
    "if !sync && seg.flushingUnfinished()",
    "if len(refs) == 1",
    "if block == nil",
    "if err != nil",
    "if !sync",
    "if len(ref.fn.segments) <= ref.idx",
    "if !ok || seg != segs[idx]",
    "if seg.flushing != done",
    "if !sync",
    "if sync"] := rfl

/-- commitBlock: offsets recorded at assembly time, length taken from the segment's CURRENT buffer at completion time (`length: len(data)`) — the class of seeded change C08-b -/
theorem tie_commitBlockAssigns : commitBlockAssigns =
    ["offsets := make([]int, 0, len(refs))",
    "seg.flushing = done",
    "offsets = append(offsets, len(block))",
    "block = seg.buf",
    "block = append(make([]byte, 0, bufsize), seg.buf...)",
    "block = append(block, seg.buf...)",
    "blocksize := len(block)",
    "ref.fn.segments[ref.idx] = storedSegment{ kc: dn.fs, locator: locator, size: blocksize, offset: offsets[idx], length: len(data), }"] := rfl

/-- memSegment.flushingUnfinished: a closed channel is reset to nil (Model.C08 Flush.stale) -/
theorem tie_commitBlockStored : commitBlockStored =
    "{ if me.flushing == nil { return false } select { case <-me.flushing: me.flushing = nil return false default: return true } }" := rfl

/-- pruneMemSegments: snapshot of idx/buf, flushing channel, replacement by a whole-block stored segment (Model.C08.pruneSegs / settleSegs) -/
theorem tie_pruneAssigns : pruneAssigns =
    ["idx, buf := idx, seg.buf",
    "seg.flushing = done",
    "fn.segments[idx] = storedSegment{ kc: fn.FS(), locator: locator, size: len(buf), offset: 0, length: len(buf), }"] := rfl

/-- filenode.Write: every assignment to the segment list, the pointer, the size, cando and the repacked counters, in order (Model.C08.restructure / overwrite) — the class of seeded change C08-a / mutation M2 -/
theorem tie_writeAssigns : writeAssigns =
    ["cando := p",
    "cando = cando[:maxBlockSize]",
    "cando = cando[:max]",
    "fn.segments = append(fn.segments, nil)",
    "fn.segments = append(fn.segments, nil, nil)",
    "fn.segments[cur+2] = fn.segments[cur+2].Slice(ptr.segmentOff+len(cando), -1)",
    "fn.segments[cur] = seg",
    "fn.segments[prev] = fn.segments[prev].Slice(0, ptr.segmentOff)",
    "ptr.segmentIdx++",
    "ptr.segmentOff = 0",
    "fn.repacked++",
    "ptr.repacked++",
    "cando = cando[:fit]",
    "cando = cando[:cangrow]",
    "fn.fileinfo.size += int64(len(cando))",
    "cando = cando[:el]",
    "fn.segments = fn.segments[:len(fn.segments)-1]",
    "fn.segments[cur] = fn.segments[cur].Slice(len(cando), -1)",
    "ptr.segmentIdx--",
    "ptr.segmentOff = fn.segments[prev].Len()",
    "ptr.repacked++",
    "fn.repacked++",
    "fn.segments = append(fn.segments, nil)",
    "ptr.repacked++",
    "fn.repacked++",
    "fn.segments[cur] = seg",
    "ptr.off += int64(len(cando))",
    "ptr.segmentOff += len(cando)",
    "ptr.segmentOff = 0",
    "ptr.segmentIdx++"] := rfl

/-- filenode.truncate: repacked bump, cuts, size updates (Model.C08.truncate / growLoop) -/
theorem tie_truncateAssigns : truncateAssigns =
    ["fn.repacked++",
    "fn.segments = fn.segments[:ptr.segmentIdx]",
    "fn.segments = fn.segments[:ptr.segmentIdx+1]",
    "fn.segments[ptr.segmentIdx] = seg.Slice(0, ptr.segmentOff)",
    "fn.fileinfo.size = size",
    "grow := size - fn.fileinfo.size",
    "fn.segments = append(fn.segments, seg)",
    "fn.segments = append(fn.segments, seg)",
    "grow = maxgrow",
    "fn.fileinfo.size += grow"] := rfl

/-- filenode.seek: pointer updates (Model.C08.seek / locate) -/
theorem tie_seekAssigns : seekAssigns =
    ["ptr.segmentIdx = len(fn.segments)",
    "ptr.segmentOff = 0",
    "ptr.repacked = fn.repacked",
    "ptr.segmentIdx++",
    "ptr.segmentOff = 0",
    "ptr.repacked = fn.repacked",
    "ptr.segmentIdx, ptr.segmentOff = len(fn.segments), 0",
    "ptr.segmentIdx, ptr.segmentOff = 0, 0",
    "ptr.segmentIdx++",
    "ptr.segmentOff = int(ptr.off - off)"] := rfl

/-- filenode.Read: pointer/err updates (Model.C08.readAt) -/
theorem tie_readAssigns : readAssigns =
    ["err = ErrNegativeOffset",
    "err = io.EOF",
    "ptr.off += int64(n)",
    "ptr.segmentOff += n",
    "ptr.segmentIdx++",
    "ptr.segmentOff = 0",
    "err = nil"] := rfl

/-- memSegment.ReadAt (Model.C08.Seg.readAt) -/
theorem tie_memReadAtText : memReadAtText =
    "{ if off > int64(me.Len()) { err = io.EOF return } n = copy(p, me.buf[int(off):]) if n < len(p) { err = io.EOF } return }" := rfl

/-- storedSegment.ReadAt (Model.C08.Seg.readAt) -/
theorem tie_storedReadAtConds : storedReadAtConds =
    ["if off > int64(se.length)",
    "if len(p) > maxlen",
    "if err == nil"] := rfl

/-- memSegment.Slice (Model.C08.Seg.slice) -/
theorem tie_memSliceText : memSliceText =
    "{ if length < 0 { length = len(me.buf) - off } buf := make([]byte, length) copy(buf, me.buf[off:]) return &memSegment{buf: buf} }" := rfl

/-- collectionFileSystem.Flush: not-a-directory, non-recursive for path != "" (Model.C08_FS.doFlush) -/
theorem tie_flushFsConds : flushFsConds =
    ["if err != nil",
    "if !ok",
    "if path != \"\"",
    "if ok"] := rfl

/-- collectionFileSystem.newNode: name check, perm.IsDir (Model.C08_FS.addNode) -/
theorem tie_newNodeConds : newNodeConds =
    ["if name == \"\" || name == \".\" || name == \"..\"",
    "if perm.IsDir()"] := rfl

/-- filehandle.Write: the O_APPEND pointer (Model.C08.appendPtr) -/
theorem tie_handleWriteAssigns : handleWriteAssigns =
    ["f.ptr = filenodePtr{ off: fn.fileinfo.size, segmentIdx: len(fn.segments), segmentOff: 0, repacked: fn.repacked, }"] := rfl

/-- filehandle.Seek: offset arithmetic and invalidation stamp -1 (Model.C08.Ptr.seekTo) -/
theorem tie_handleSeekAssigns : handleSeekAssigns =
    ["ptr.off = off",
    "ptr.off += off",
    "ptr.off = size + off",
    "f.ptr = ptr",
    "f.ptr.repacked = -1"] := rfl

/-- filehandle.Readdir (count <= 0: Model.C08_FS.step Op.hreaddir; count > 0: Model.C08_Ext.stepX) -/
theorem tie_handleReaddirConds : handleReaddirConds =
    ["if !f.inode.IsDir()",
    "if count <= 0",
    "if f.unreaddirs == nil",
    "if err != nil",
    "if len(f.unreaddirs) == 0",
    "if count > len(f.unreaddirs)"] := rfl

/-- fileSystem.Stat = rlookup + FileInfo (Model.C08_FS.step Op.stat) -/
theorem tie_statText : statText =
    "{ node, err := rlookup(fs.root, name) if err != nil { return nil, err } return node.FileInfo(), nil }" := rfl

/-- fileSystem.RemoveAll: trailing slashes trimmed, ErrNotExist becomes nil (Model.C08_FS.doRemove) -/
theorem tie_removeAllText : removeAllText =
    "{ err := fs.remove(strings.TrimRight(name, \"/\"), true) if os.IsNotExist(err) { err = nil } return err }" := rfl

/-- fileSystem.Remove: trailing slashes trimmed -/
theorem tie_removeText : removeText =
    "{ return fs.remove(strings.TrimRight(name, \"/\"), false) }" := rfl

/-- fileSystem.Create = O_CREATE|O_RDWR|O_TRUNC (Model.C08_FS.step Op.create) -/
theorem tie_createText : createText =
    "{ return fs.OpenFile(name, os.O_CREATE|os.O_RDWR|os.O_TRUNC, 0) }" := rfl

/-- treenode.FileInfo: a directory's size is its number of entries (Model.C08_FS.dirSize) -/
theorem tie_treenodeFileInfoText : treenodeFileInfoText =
    "{ n.Lock() defer n.Unlock() n.fileinfo.size = int64(len(n.inodes)) return n.fileinfo }" := rfl

/-- nullnode.Child: lookup below a file is ErrNotADirectory (Model.C08_FS.walk) -/
theorem tie_nullnodeChildText : nullnodeChildText =
    "{ return nil, ErrNotADirectory }" := rfl

/-! ### paged Readdir, Size(), MemorySize(), memSegment.Truncate statements -/

/-- filehandle.Readdir: snapshot on the first paged call, `count` capped at what is left, the page is the
front of the snapshot and the snapshot loses it (Model.C08_Ext.pageStep / stepX) -/
theorem tie_handleReaddirAssigns : handleReaddirAssigns =
    ["f.unreaddirs, err = f.inode.Readdir()",
    "count = len(f.unreaddirs)",
    "ret := f.unreaddirs[:count]",
    "f.unreaddirs = f.unreaddirs[count:]"] := rfl

/-- filehandle.Readdir: results in order — not a directory, whole listing, snapshot error, EOF, a page -/
theorem tie_handleReaddirReturns : handleReaddirReturns =
    ["nil, ErrInvalidOperation",
    "f.inode.Readdir()",
    "nil, err",
    "nil, io.EOF",
    "ret, nil"] := rfl

/-- treenode.Readdir: one FileInfo per entry of the map (Model.C08_Ext.entriesList) -/
theorem tie_treenodeReaddirAssigns : treenodeReaddirAssigns =
    ["fi = make([]os.FileInfo, 0, len(n.inodes))",
    "fi = append(fi, inode.FileInfo())"] := rfl

/-- collectionFileSystem.Size = TreeSize of the root: file sizes plus subdirectories, recursively
(Model.C08_Ext.fsSize / treeSum) -/
theorem tie_fsSizeText : fsSizeText = "{ return fs.fileSystem.root.(*dirnode).TreeSize() }" := rfl
theorem tie_treeSizeAssigns : treeSizeAssigns =
    ["bytes += i.Size()",
    "bytes += i.TreeSize()"] := rfl

/-- dirnode.MemorySize: lengths of memSegments, recursively (Model.C08_Ext.memSize / memOf) -/
theorem tie_memorySizeAssigns : memorySizeAssigns =
    ["size += node.MemorySize()",
    "size += int64(seg.Len())"] := rfl

/-- memSegment.Truncate, statement by statement (Model.C08_Ext.capTruncate / newCap): initial capacity
1024, growth x4, fresh buffer resets `flushing`; in place: reslice and zero the reclaimed part -/
theorem tie_memTruncateAssigns : memTruncateAssigns =
    ["newsize := 1024",
    "newsize = newsize << 2",
    "newbuf := make([]byte, n, newsize)",
    "me.buf, me.flushing = newbuf, nil",
    "oldlen := len(me.buf)",
    "me.buf = me.buf[:n]",
    "me.buf[i] = 0"] := rfl

/-- the production limit satisfies the hypothesis `1 ≤ max` of every C08 theorem -/
theorem tie_maxBlockSize_pos : (1 : Int) ≤ maxBlockSize := by decide

end ArvVerif.Tie.C08
