/-
Tie for C18: source facts regenerated from /repo on every run (Gen/FactsC18.lean) equal what the
model (Model/C18.lean) was written against. An edit to one of the regexps, to the `+A` → `+R<id>-`
replacement, to the acceptance test of CollectionGet, to the local-then-remotes loop, to
rewriteSignatures' scan/compare skeleton or to the fan-out's use of it breaks one of these.
-/
import ArvVerif.Gen.FactsC18
import ArvVerif.Model.C18
namespace ArvVerif.Tie.C18
open ArvVerif.Facts.C18

/-- rewriteManifest: the token regexp (Model: `locPrefix`, `linePart` of the space-delimited tokens
after the first; `[^ \\n]` since fix d80c6cd)
and the literal pieces of the replacement (Model: `replaceSig`). -/
theorem tie_rewriteManifest_literals :
    rewriteManifestStrings = [" [0-9a-f]{32}\\+[^ \\n]*", "+A", "+R", "-"] := rfl

theorem tie_rewriteManifest_calls : rewriteManifestCalls =
    ["regexp.MustCompile(` [0-9a-f]{32}\\+[^ \\n]*`).ReplaceAllStringFunc", "regexp.MustCompile", "strings.Replace"] := rfl

/-- the model's replacement of one `+A` is built from exactly these literals -/
theorem tie_replacement (id : List Char) :
    ArvVerif.C18.replaceSig id (rewriteManifestStrings.getD 1 "").toList =
      (rewriteManifestStrings.getD 2 "").toList ++ id ++ (rewriteManifestStrings.getD 3 "").toList := by
  simp [rewriteManifestStrings, ArvVerif.C18.replaceSig]

/-- PortableDataHash: token and block regexps (Model: `pdhText`, `sizedLen`, `stripTok`), the
output format (Model: `pdh`), and the call skeleton. -/
theorem tie_tokRe : tokRe = " ?[^ ]*" := rfl
theorem tie_blkRe : blkRe = "^ [0-9a-f]{32}\\+\\d+" := rfl
theorem tie_pdh_format : pdhStrings = ["%x+%d"] := rfl
theorem tie_pdh_skeleton : pdhCalls = ["md5.New", "tokRe.ReplaceAllFunc", "blkRe.Find", "h.Write"]
    ∧ pdhConds = ["if m != nil", "if err != nil"] := ⟨rfl, rfl⟩

/-- SignedLocatorRe (Model: `parseSigned`, `isHintPart`, `isSigPart`). -/
theorem tie_signedLocatorRe : signedLocatorRe =
    "^([[:xdigit:]]{32})(\\+[0-9]+)?((\\+[B-Z][A-Za-z0-9@_-]*)*)(\\+A([[:xdigit:]]{40})@([[:xdigit:]]{8}))((\\+[B-Z][A-Za-z0-9@_-]*)*)$" := rfl

/-- the signature part the model accepts has the length the regexp demands: A + 40 + @ + 8 -/
theorem tie_sigPart_length : ArvVerif.C18.isSigPart
    ("A0123456789abcdefABCDEF0123456789abcdef01@5e0000aF".toList) = true := by
  rw [String.toList_ofList]
  decide +kernel

/-- Conn.CollectionGet: branch on a 27-character id, rewrite by-UUID answers of other clusters,
hash test `pdh != UUID && !HasPrefix(UUID, pdh+"+")`, rewrite only for remote answers
(Model: `collectionGet`, `getByUUID`, `fnOutcome`, `pdhOK`). -/
theorem tie_collectionGet_conds : collectionGetConds =
    ["if len(options.UUID) == 27",
     "if err == nil && options.UUID[:5] != conn.cluster.ClusterID",
     "if err != nil",
     "if pdh != options.UUID && !strings.HasPrefix(options.UUID, pdh+\"+\")",
     "if remoteID != \"\"",
     "if err != nil"] := rfl

theorem tie_collectionGet_calls : collectionGetCalls =
    ["conn.chooseBackend(options.UUID).CollectionGet", "conn.chooseBackend", "rewriteManifest",
     "conn.tryLocalThenRemotes", "be.CollectionGet", "arvados.PortableDataHash", "httpErrorf", "rewriteManifest"] := rfl

theorem tie_collectionGet_ints : collectionGetInts = [27, 5, 5, 1] := rfl

/-- The closure of CollectionGet shares nothing with the closures of the other backends or with
the caller except the one-slot channel `first`: every assignment in the function (targets other
than `err…`) is to a variable declared inside the closure or before the fan-out starts, the
rewrite with the answering remote's own id sits inside the closure *before* the `select` that
offers the collection, and what is returned is what was taken from `first`
(Model: `fnOutcome` rewrites with `rid` before `firstAccept`; `collectionGetAnyOrder`). -/
theorem tie_collectionGet_assigns : collectionGetAssigns =
    ["c, err := conn.chooseBackend(options.UUID).CollectionGet(ctx, options)",
     "c.ManifestText = rewriteManifest(c.ManifestText, options.UUID[:5])",
     "first := make(chan arvados.Collection, 1)",
     "remoteOpts := options",
     "remoteOpts.ForwardedFor = conn.cluster.ClusterID + \"-\" + options.ForwardedFor",
     "c, err := be.CollectionGet(ctx, remoteOpts)",
     "pdh := arvados.PortableDataHash(c.ManifestText)",
     "c.ManifestText = rewriteManifest(c.ManifestText, remoteID)"] := rfl

theorem tie_collectionGet_skeleton : collectionGetSkeleton =
    ["if len(options.UUID) == 27 {",
     "call conn.chooseBackend(options.UUID).CollectionGet => c,err", "call conn.chooseBackend",
     "if err == nil && options.UUID[:5] != conn.cluster.ClusterID {", "call rewriteManifest => c.ManifestText", "}",
     "return", "}",
     "call conn.tryLocalThenRemotes => err",
     "func {",
     "call be.CollectionGet => c,err", "if err != nil {", "return", "}",
     "call arvados.PortableDataHash => pdh",
     "if pdh != options.UUID && !strings.HasPrefix(options.UUID, pdh+\"+\") {", "return", "}",
     "if remoteID != \"\" {", "call rewriteManifest => c.ManifestText", "}",
     "case {", "return", "}", "case {", "return", "}",
     "}",
     "if err != nil {", "return", "}",
     "return"] := rfl

theorem tie_collectionGet_returns : collectionGetReturns =
    ["c, err", "err", "err", "nil", "nil", "arvados.Collection{}, err", "<-first, nil"] := rfl

/-- tryLocalThenRemotes: local first; return unless 404 and not forwarded; one result per remote;
first nil wins; 404 only if all were 404, else 502 (Model: `getByPDH`, `recvLoop`). -/
theorem tie_try_conds : tryConds =
    ["if err == nil || errStatus(err) != http.StatusNotFound || forwardedFor != \"\"",
     "for i < cap(errchan)", "if err == nil", "if all404"] := rfl

theorem tie_try_returns : tryReturns =
    ["err", "nil", "notFoundError{}", "httpErrorf(http.StatusBadGateway, \"errors: %v\", errs)"] := rfl

theorem tie_try_assigns : tryAssigns =
    ["ctx, cancel := context.WithCancel(ctx)", "errchan := make(chan error, len(conn.remotes))",
     "all404 := true", "all404 = all404 && errStatus(err) == http.StatusNotFound"] := rfl

/-- federation.Conn holds the cluster configuration and its backends and nothing else: no cache,
no memory of earlier answers (Model: `collectionGetSeq` = every request answered like the first) -/
theorem tie_conn_fields : connFields =
    ["cluster *arvados.Cluster", "local backend", "remotes map[string]backend"] := rfl

/-- chooseBackend (Model: `chooseBackend`) and errStatus (Model: `cancelledStatus` = 500 for
errors without an HTTP status). -/
theorem tie_chooseBackend : chooseBackendConds =
    ["if len(id) == 27", "if len(id) != 5", "if id == conn.cluster.ClusterID", "if ok"] := rfl

theorem tie_errStatus : errStatusText =
    "{ if httpErr, ok := err.(interface{ HTTPStatus() int }); ok { return httpErr.HTTPStatus() } return http.StatusInternalServerError }" := rfl

/-- legacy rewriteSignatures: guards in order (Model: `rewriteSignatures`, `legacyScan`), the
output and hash formats (Model: `Signed.rewritten`, `Signed.hashSize`), the submatch indices. -/
theorem tie_legacy_conds : legacyConds =
    ["if requestError != nil", "if resp.StatusCode != http.StatusOK", "if err != nil", "for scanner.Scan()",
     "if len(tokens) < 3", "if err != nil", "if err != nil", "if m != nil", "if err != nil", "if err != nil",
     "if err != nil", "if err != nil", "if expectHash == \"\"", "if expectHash != col.PortableDataHash",
     "if computedHash != expectHash", "if err != nil"] := rfl

theorem tie_legacy_strings : legacyStrings =
    [" ", "Invalid stream (<3 tokens): %q", "Error updating manifest: %v", " ", "Error updating manifest: %v",
     "%s%s%s+R%s-%s%s", "Error updating manifest: %v", "%s%s", "Error updating manifest: %v",
     "Error updating manifest: %v", "\n", "Error updating manifest: %v", "",
     "portable_data_hash %q on returned record did not match expected hash %q ", "%x+%v",
     "Computed manifest_text hash %q did not match expected hash %q", "Content-Length", "%v"] := rfl

theorem tie_legacy_ints : legacyInts = [0, 0, 1048576, 3, 0, 1, 1, 2, 3, 5, 2, 8, 1, 2] := rfl

theorem tie_legacy_calls : legacyCalls =
    ["md5.New", "io.MultiWriter", "bufio.NewScanner", "strings.Split", "mw.Write", "mw.Write",
     "keepclient.SignedLocatorRe.FindStringSubmatch", "fmt.Fprintf", "fmt.Fprintf", "mw.Write", "mw.Write"] := rfl

/-- legacy fan-out: local first, 404 filtered, every remote's 200 goes through rewriteSignatures
before it can be forwarded; 404 only if every collected error is an HTTP 404
(Model: `legacyFanOut`, `legacyOutcome`). -/
theorem tie_fanout_calls : fanoutCalls =
    ["h.handler.localClusterRequest", "filterLocalClusterResponse", "h.handler.proxy.ForwardResponse",
     "h.handler.remoteClusterRequest", "rewriteSignatures", "h.handler.proxy.ForwardResponse"] := rfl

theorem tie_fanout_conds : fanoutConds =
    ["if effectiveMethod != \"GET\"", "if len(m) != 2", "if newResp != nil || err != nil",
     "if remoteID == h.handler.Cluster.ClusterID", "if remoteID == \"*\"", "if resp != nil && !wasSuccess",
     "if err != nil", "if resp.StatusCode != http.StatusOK", "if err != nil", "for len(errorChan) > 0",
     "if !ok || httperr.Code != http.StatusNotFound"] := rfl

/-- the expected hash handed to rewriteSignatures is the one taken from the request path, the
error code starts at 404 and only ever becomes 502 (Model: `legacyFetchByPDH`, `legacyFanOut`) -/
theorem tie_fanout_assigns : fanoutAssigns =
    ["sharedContext, cancelFunc := context.WithCancel(req.Context())", "pdh := m[1]",
     "success := make(chan *http.Response)",
     "errorChan := make(chan error, len(h.handler.Cluster.RemoteClusters))", "wasSuccess := false",
     "newResponse, err := rewriteSignatures(remote, pdh, resp, nil)", "wasSuccess = true",
     "errorCode := http.StatusNotFound", "errorCode = http.StatusBadGateway"] := rfl

theorem tie_fanout_returns : fanoutReturns =
    ["false", "false", "true", "", "", "", "", "", "true", "true", "true"] := rfl

/-- legacy by-UUID delegate: GET only, a UUID present, prefix `uuid[0:5]` not the own cluster; then
the remote's response goes through `rewriteSignatures(<prefix>, "", …)` (no expected hash) and is
forwarded; an unconfigured prefix is an HTTPError 404 from `remoteClusterRequest`
(Model: `legacyFetchByUUID`). -/
theorem tie_byUUID_skeleton : byUUIDSkeleton =
    ["if effectiveMethod != \"GET\" {", "return", "}",
     "if uuid != \"\" {",
     "if *clusterID != \"\" && *clusterID != h.handler.Cluster.ClusterID {",
     "call h.handler.remoteClusterRequest => resp,err",
     "call rewriteSignatures => newResponse,err",
     "call h.handler.proxy.ForwardResponse",
     "return", "}", "}", "return"] := rfl

theorem tie_byUUID_assigns : byUUIDAssigns =
    ["*clusterID = uuid[0:5]",
     "resp, err := h.handler.remoteClusterRequest(*clusterID, req)",
     "newResponse, err := rewriteSignatures(*clusterID, \"\", resp, err)"] ∧ byUUIDInts = [0, 5] := ⟨rfl, rfl⟩

theorem tie_remoteRequest : remoteRequestConds = ["if !ok", "if scheme == \"\"", "if err != nil", "if remote.Insecure"]
    ∧ remoteRequestReturns =
      ["nil, HTTPError{fmt.Sprintf(\"no proxy available for cluster %v\", remoteID), http.StatusNotFound}",
       "nil, err", "h.proxy.Do(saltedReq, urlOut, client)"] := ⟨rfl, rfl⟩

theorem tie_filterLocal : filterLocalText =
    "{ if requestError != nil { return resp, requestError } if resp.StatusCode == http.StatusNotFound { return nil, nil } return resp, nil }" := rfl

theorem tie_collectionsByPDHRe : collectionsByPDHRe = "^/arvados/v1/collections/([0-9a-fA-F]{32}\\+[0-9]+)+$" := rfl

end ArvVerif.Tie.C18
