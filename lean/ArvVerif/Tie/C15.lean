/-
C15 tie: the regenerated source facts (Gen/FactsC15.lean, extracted from the current /repo tree on
every run) equal what the models assume (Model/C15.lean; towards the end Model/C15_O1, C15_Glue,
C15_Tick). Each theorem names the model definition it pins down. A change of a threshold, of a comparison's strictness, of a guard or of the
order of the calls breaks the corresponding `rfl`/`decide`.
-/
import ArvVerif.Gen.FactsC15
import ArvVerif.Model.C15
import ArvVerif.Model.C15_Glue
import ArvVerif.Model.C15_Tick
namespace ArvVerif.Tie.C15
open ArvVerif.Facts.C15

/-- `shutdownIfBroken`: Hold never; threshold by state; `dur < threshold` keeps the worker (so
`dur ≥ threshold` shuts it down) — `C15.shutdownIfBroken`, `C15.brokenThreshold`. -/
theorem shutdownIfBroken_conds : shutdownIfBrokenConds =
    ["if wkr.idleBehavior == IdleBehaviorHold",
     "if wkr.state == StateUnknown || wkr.state == StateBooting",
     "if dur < threshold"] := rfl

theorem shutdownIfBroken_thresholds : shutdownIfBrokenAssigns =
    ["label, threshold := \"\", wkr.wp.timeoutProbe",
     "label, threshold = \"new \", wkr.wp.timeoutBooting"] := rfl

theorem shutdownIfBroken_skeleton : shutdownIfBrokenSkeleton =
    ["if wkr.idleBehavior == IdleBehaviorHold {", "return", "}",
     "if wkr.state == StateUnknown || wkr.state == StateBooting {", "}",
     "if dur < threshold {", "return", "}",
     "call wkr.shutdown", "return"] := rfl

/-- `eligibleForShutdown` (C14 `Worker.eligibleForShutdown` with `C15.idleTimedOut`): the
comparison with timeoutIdle is `>=`. -/
theorem eligible_conds : eligibleConds =
    ["if wkr.idleBehavior == IdleBehaviorHold", "switch wkr.state", "case StateBooting", "case StateIdle",
     "case StateRunning", "if !draining", "if !rr.givenup", "if !rr.givenup", "default"] := rfl

theorem eligible_returns : eligibleReturns =
    ["false", "draining", "draining || time.Since(wkr.busy) >= wkr.wp.timeoutIdle",
     "false", "false", "false", "true", "false"] := rfl

/-- `shutdownIfIdle` = `if eligibleForShutdown() { shutdown() }`. -/
theorem shutdownIfIdle_skeleton : shutdownIfIdleSkeleton =
    ["call wkr.eligibleForShutdown", "if !wkr.eligibleForShutdown() {", "return", "}",
     "call wkr.shutdown", "return"] := rfl

/-- `setIdleBehavior` stores the behaviour and then calls `shutdownIfIdle` (C14
`Worker.setIdleBehavior`). -/
theorem setIdleBehavior_shape :
    setIdleBehaviorAssigns = ["wkr.idleBehavior = idleBehavior"] ∧
    setIdleBehaviorCalls = ["wkr.saveTags", "wkr.shutdownIfIdle"] := ⟨rfl, rfl⟩

/-- `shutdown()` stamps `updated` and `destroyed`, sets StateShutdown and calls `Destroy` (the
driver's `d=` count; `C15.poolSync`'s second component). -/
theorem shutdown_shape :
    shutdownAssigns = ["wkr.updated = now", "wkr.destroyed = now", "wkr.state = StateShutdown"] ∧
    shutdownCalls = ["wkr.instance.Destroy"] := ⟨rfl, rfl⟩

/-- `onUnkillable`: nothing for Hold, else `setIdleBehavior(Drain)` — `C15.onUnkillable`. -/
theorem onUnkillable_shape :
    onUnkillableConds = ["if wkr.idleBehavior == IdleBehaviorHold"] ∧
    onUnkillableSkeleton = ["defer", "if wkr.idleBehavior == IdleBehaviorHold {", "return", "}",
                            "call wkr.setIdleBehavior"] := ⟨rfl, rfl⟩

/-- `onKilled` → `closeRunner` (the `sigOk` branch of `C15.killRun`). -/
theorem onKilled_calls : onKilledCalls = ["wkr.closeRunner"] := rfl

/-- The guards of `probeAndUpdate` that `C15.mkProbe` and C14's `Worker.probeApply` encode. -/
theorem probeAndUpdate_guards :
    "case StateShutdown" ∈ probeAndUpdateConds ∧
    "if booted || wkr.state == StateUnknown" ∈ probeAndUpdateConds ∧
    "if reportedBroken && wkr.idleBehavior == IdleBehaviorRun" ∈ probeAndUpdateConds ∧
    "if !ok || (!booted && len(ctrUUIDs) == 0 && len(wkr.running) == 0)" ∈ probeAndUpdateConds ∧
    "if wkr.state == StateShutdown && wkr.updated.After(updated)" ∈ probeAndUpdateConds ∧
    "if wkr.shutdownIfBroken(dur)" ∈ probeAndUpdateConds ∧
    "if updated != wkr.updated" ∈ probeAndUpdateConds := by
  simp only [probeAndUpdateConds, List.mem_cons, true_or, or_true, and_self]

/-- Order inside `probeAndUpdate`: boot probe, run probe, drain on "broken", then the failed-probe
branch with `shutdownIfBroken`, then `updateRunning`. -/
theorem probeAndUpdate_call_order :
    probeAndUpdateSkeleton.filter (fun s => (["call wkr.probeBooted => booted,stderr", "call wkr.probeRunning => ctrUUIDs,reportedBroken,ok",
     "call wkr.setIdleBehavior", "call wkr.shutdownIfBroken", "call wkr.updateRunning => changed"] : List String).contains s) =
    ["call wkr.probeBooted => booted,stderr", "call wkr.probeRunning => ctrUUIDs,reportedBroken,ok",
     "call wkr.setIdleBehavior", "call wkr.shutdownIfBroken", "call wkr.updateRunning => changed"] := by decide +kernel

/-- `probeRunning`: the "broken" and "stale" lines and the strict `dur > timeoutStaleRunLock` —
`C15.staleBroken`, `C15.staleAfter`. -/
theorem probeRunning_conds : probeRunningConds =
    ["if u != \"root\"", "if err != nil", "if s == \"\"", "if s == \"broken\"", "if len(toks) == 1",
     "if toks[1] == \"stale\"", "if !staleRunLock", "if wkr.staleRunLockSince.IsZero()",
     "if dur > wkr.wp.timeoutStaleRunLock"] := rfl

theorem probeRunning_command : " --list" ∈ probeRunningStrings ∧ "broken" ∈ probeRunningStrings ∧
    "stale" ∈ probeRunningStrings := by
  simp only [probeRunningStrings, List.mem_cons, true_or, or_true, and_self]

/-- `runProbes`: a worker is skipped when already Shutdown or when `shutdownIfIdle()` fires,
otherwise probed — `C15.probeTick`. -/
theorem runProbes_shape :
    runProbesConds = ["if maxPPS < 1", "if wkr.state == StateShutdown || wkr.shutdownIfIdle()", "if !ok"] ∧
    runProbesCalls = ["wkr.shutdownIfIdle", "wkr.ProbeAndUpdate"] := ⟨rfl, rfl⟩

/-- `runSync` lists the instances and re-arms its timer. -/
theorem runSync_calls : runSyncCalls = ["wp.getInstancesAndSync", "timer.Reset"] := rfl

/-- `Pool.sync`: the retry is for an *existing* worker in StateShutdown whose `destroyed` stamp is
strictly older than timeoutShutdown; a worker survives iff updated after the threshold —
`C15.syncStep`, `C15.retryOf`, `C15.poolSync`. -/
theorem poolSync_conds : poolSyncConds =
    ["if !ok", "if isNew",
     "if wkr.state == StateShutdown && time.Since(wkr.destroyed) > wp.timeoutShutdown",
     "if wkr.updated.After(threshold)", "if wp.mDisappearances != nil",
     "if wp.mTimeFromShutdownToGone != nil && !wkr.destroyed.IsZero()", "if !wp.loaded", "if notify"] := rfl

theorem poolSync_retry_shape :
    poolSyncSkeleton.take 13 =
    ["defer", "for {", "if !ok {", "continue", "}", "call wp.updateWorker => wkr,isNew", "if isNew {",
     "} else {", "if wkr.state == StateShutdown && time.Since(wkr.destroyed) > wp.timeoutShutdown {",
     "call wkr.shutdown", "}", "}", "}"] := rfl

/-- `StartContainer` considers only Idle workers in run mode of the requested type. -/
theorem startContainer_conds : startContainerPoolConds =
    ["if w.instType == it && w.state == StateIdle && w.idleBehavior == IdleBehaviorRun",
     "if wkr == nil || w.busy.After(wkr.busy)", "if wkr == nil"] := rfl

/-- `remoteRunner.Kill`: second call is a no-op; per tick: closed → return; strictly after the TERM
deadline → `givenup = true; onUnkillable`; otherwise SIGTERM — `C15.killRun`. -/
theorem kill_shape :
    killConds = ["if rr.stopping", "case rr.isClosed()", "case time.Now().After(termDeadline)", "default"] ∧
    killAssigns = ["rr.stopping = true", "termDeadline := time.Now().Add(rr.timeoutTERM)",
                   "t := time.NewTicker(rr.timeoutSignal)", "rr.givenup = true"] ∧
    killSkeleton = ["if rr.stopping {", "return", "}", "go", "func {",
                    "call time.Now().Add => termDeadline", "call time.NewTicker => t", "defer", "for {",
                    "call rr.isClosed", "case {", "return", "}",
                    "call time.Now().After", "case {", "call rr.onUnkillable", "return", "}",
                    "case {", "call rr.kill", "}", "}", "}"] := ⟨rfl, rfl, rfl⟩

/-- `kill(sig)`: `onKilled` only when the remote command succeeded. -/
theorem killCmd_skeleton : killCmdSkeleton =
    ["if rr.remoteUser != \"root\" {", "}", "call rr.executor.Execute => stdout,stderr,err",
     "if err != nil {", "return", "}", "call rr.onKilled"] := rfl

/-- `fixStaleLocks`: loop while a worker is Unknown; `stale` recomputed per iteration from Locked
entries not in `Running()`; return when empty; wait for pool notification or timeout; unlock the
last `stale` — `C15.fslRun`, `C14.staleLocks`. -/
theorem fixStaleLocks_shape :
    fixStaleLocksConds = ["for sch.pool.CountWorkers()[worker.StateUnknown] > 0",
                          "if ent.Container.State != arvados.ContainerStateLocked", "if running",
                          "if len(stale) == 0", "if err != nil"] ∧
    fixStaleLocksAssigns = ["stale = nil", "stale = append(stale, uuid)"] ∧
    fixStaleLocksSkeleton.filter (fun s => (["call sch.pool.Subscribe => wp", "call sch.pool.Unsubscribe", "call time.NewTimer => timeout",
       "call sch.pool.CountWorkers", "call sch.pool.Running => running",
       "call sch.queue.Entries => qEntries,_", "call sch.queue.Unlock => err"] : List String).contains s) =
    ["call sch.pool.Subscribe => wp", "call sch.pool.Unsubscribe", "call time.NewTimer => timeout",
       "call sch.pool.CountWorkers", "call sch.pool.Running => running",
       "call sch.queue.Entries => qEntries,_", "call sch.queue.Unlock => err"] := ⟨rfl, rfl, by decide +kernel⟩

/-- `uuidLock` re-arms the scheduler's wake-up timer exactly in the refused branch —
`C15.asyncEffectW`. -/
theorem uuidLock_wakeup : uuidLockSkeleton =
    ["defer", "if locked {", "call sch.wakeup.Reset", "return", "}", "return"] := rfl

/-- The scheduler's main loop: queue polled by a ticker goroutine; `fixStaleLocks` once; then
`runQueue; sync` on every queue/pool notification or wake-up (the fair actions of P2). -/
theorem schedRun_calls :
    schedRunSkeleton.filter (fun s => (["call sch.queue.Update => err", "call sch.queue.Update => err", "call time.NewTicker => poll",
     "call sch.queue.Update => err", "call sch.fixStaleLocks", "call sch.pool.Subscribe => poolNotify",
     "call sch.queue.Subscribe => queueNotify", "call sch.runQueue", "call sch.sync"] : List String).contains s) =
    ["call sch.queue.Update => err", "call sch.queue.Update => err", "call time.NewTicker => poll",
     "call sch.queue.Update => err", "call sch.fixStaleLocks", "call sch.pool.Subscribe => poolNotify",
     "call sch.queue.Subscribe => queueNotify", "call sch.runQueue", "call sch.sync"] := by decide +kernel

/-- `sync`'s guards for the two "process died" responses: cancel a Running container that is on
no worker only when no worker is Unknown; requeue a Locked one whose process exited before the
last queue update (C14 `syncEntry`). -/
theorem sync_response_guards :
    "if !anyUnknownWorkers" ∈ syncConds ∧
    "if !exited.IsZero() && qUpdated.After(exited)" ∈ syncConds ∧
    "if running && !exited.IsZero() && qUpdated.After(exited)" ∈ syncConds := by
  simp only [syncConds, List.mem_cons, true_or, or_true, and_self]

/-- `cancel` / `requeue`: latch, then the queue call. -/
theorem cancel_requeue_shape :
    cancelSkeleton = ["call sch.uuidLock", "if !sch.uuidLock(uuid, \"cancel\") {", "return", "}", "defer",
                      "call sch.uuidUnlock", "call sch.queue.Cancel => err", "if err != nil {", "}"] ∧
    requeueSkeleton = ["call sch.uuidLock", "if !sch.uuidLock(uuid, \"requeue\") {", "return", "}", "defer",
                       "call sch.uuidUnlock", "call sch.queue.Unlock => err", "if err != nil {", "}"] := ⟨rfl, rfl⟩

/-- `Pool.Create`: refused at quota or while throttled; the background goroutine registers the
deletion of the pending entry (`defer delete(wp.creating, secret)`) directly after the cloud call
returns — before any error is looked at — so every outcome removes it; a quota error sets
`atQuotaUntil`; success calls `updateWorker` — `C15.CPool.call`, `C15.CPool.ret`. -/
theorem create_skeleton : createSkeleton =
    ["if wp.loadRunnerData() != nil {", "return", "}", "defer",
     "call time.Now().Before", "call wp.instanceSet.throttleCreate.Error",
     "if time.Now().Before(wp.atQuotaUntil) || wp.instanceSet.throttleCreate.Error() != nil {", "return", "}",
     "if wp.maxConcurrentInstanceCreateOps > 0 && len(wp.creating) >= wp.maxConcurrentInstanceCreateOps {",
     "call wp.instanceSet.throttleCreate.ErrorUntil", "return", "}",
     "go", "func {", "defer", "call wp.notify", "call wp.instanceSet.Create => inst,err",
     "defer", "defer", "call delete",
     "if err != nil {", "if ok && err.IsQuotaError() {", "call time.AfterFunc", "}",
     "call wp.instanceSet.throttleCreate.CheckRateLimitError", "return", "}",
     "call wp.updateWorker", "}", "return"] := rfl

theorem create_assigns : createAssigns =
    ["wp.creating[secret] = createCall{time: now, instanceType: it}", "wp.atQuotaErr = err",
     "wp.atQuotaUntil = time.Now().Add(quotaErrorTTL)"] := rfl

/-- `Unallocated` skips Shutdown, Running, non-run-mode and busy workers and adds the pending
Create calls — `C15.CPool.unallocated`, `Inst.unallocReal` of the liveness system. -/
theorem unallocated_conds : unallocatedConds =
    ["if !ok || t.After(cc.time)",
     "if wkr.state == StateShutdown || wkr.state == StateRunning || wkr.idleBehavior != IdleBehaviorRun || len(wkr.running) > 0",
     "if wkr.state == StateUnknown && creating[it] > 0 && wkr.appeared.After(oldestCreate[it])"] := rfl

/-- `shutdown()` has no guard: calling it again on a worker that is already in StateShutdown issues
another `Destroy` (this is how `Pool.sync` retries). -/
theorem shutdown_unguarded : shutdownSkeleton =
    ["go", "go", "func {", "call wkr.instance.Destroy => err", "if err != nil {", "return", "}", "}"] := rfl

/-- `startContainer`'s completion closure is guarded: it leaves alone a runner that is no longer the one
in `wkr.starting` (adopted or dropped meanwhile) — `C15.RW.startDone`; fix of finding F15a. -/
theorem startContainer_closure_guarded :
    startContainerConds = ["if wkr.state != StateRunning", "if wkr.wp.mTimeFromQueueToCrunchRun != nil",
                           "if wkr.starting[ctr.UUID] != rr"] ∧
    startContainerAssigns = ["wkr.starting[ctr.UUID] = rr", "wkr.state = StateRunning", "wkr.updated = now",
                             "wkr.busy = now", "wkr.running[ctr.UUID] = rr", "wkr.lastUUID = ctr.UUID"] := ⟨rfl, rfl⟩

/-- `runSync`: after `getInstancesAndSync()` — failed or not; the `if err != nil` block only logs, it has
no `continue`/`return` — the timer is re-armed: `C15.runSyncIter`. `getInstancesAndSync` fails while the
list throttle holds off or when `Instances()` fails, otherwise runs `Pool.sync`. -/
theorem runSync_skeleton :
    runSyncSkeleton = ["call time.NewTimer => timer", "for {", "case {", "call wp.getInstancesAndSync => err",
                       "if err != nil {", "}", "call timer.Reset", "}", "case {", "return", "}", "}"] ∧
    getInstancesAndSyncSkeleton =
      ["call wp.instanceSet.throttleInstances.Error => err", "if err != nil {", "return", "}",
       "call wp.instanceSet.Instances => instances,err", "if err != nil {",
       "call wp.instanceSet.throttleInstances.CheckRateLimitError", "return", "}", "call wp.sync", "return"] :=
  ⟨rfl, rfl⟩

/-- `reportSSHConnected` returns at once when the instance has no worker in the pool (fix of finding
F15b; `C15.reportSSHConnected`). -/
theorem reportSSHConnected_guarded : reportSSHConnectedConds =
    ["if wkr == nil", "if wkr.state != StateBooting || !wkr.firstSSHConnection.IsZero()",
     "if wp.mTimeToSSH != nil"] := rfl

/-- `saveTags` merges the two managed tags into the instance's own tag map (`tags[k] = v`) and writes
that whole map back (`SetTags(tags)`), only when something differs — `C15.saveTags`. -/
theorem saveTags_shape :
    saveTagsAssigns = ["tags := instance.Tags()",
      "update := cloud.InstanceTags{ wkr.wp.tagKeyPrefix + tagKeyInstanceType: wkr.instType.Name, wkr.wp.tagKeyPrefix + tagKeyIdleBehavior: string(wkr.idleBehavior), }",
      "save := false", "tags[k] = v", "save = true"] ∧
    saveTagsConds = ["if tags[k] != v", "if save", "if err != nil"] ∧
    setTagsLines = ["err := instance.SetTags(tags)"] := ⟨rfl, rfl, rfl⟩

/-- `worker.Close()`: `defer wkr.executor.Close()` is registered first, before the mutex is taken and
`defer wkr.mtx.Unlock()`, so it runs last, after the unlock — `C15.workerClose`. -/
theorem workerClose_shape :
    workerCloseCalls = ["wkr.executor.Close", "wkr.mtx.Lock", "wkr.mtx.Unlock", "rr.Close", "rr.Close"] ∧
    workerCloseSkeleton = ["defer", "call wkr.executor.Close", "call wkr.mtx.Lock", "defer",
                           "call wkr.mtx.Unlock", "for {", "}", "for {", "}"] := ⟨rfl, rfl⟩

/-- The quota back-off is a fixed minute (why quota scenarios get a longer deadline). -/
theorem quota_ttl : "quotaErrorTTL = time.Minute" ∈ poolTimeConsts := by
  simp only [poolTimeConsts, List.mem_cons, true_or, or_true]

/-- `probeRunning` classifies the lines as C14's `parseProbe` does (used by `C15.probeOfLines`): the only
thing ever appended to `running` is a whole single-token line; a `"<uuid> stale"` line sets the stale-run-lock
flag and nothing else (`C15_resp_dead_process_detected`, `C15_resp_stale_not_adopted`; seeded change C15-g also
counted it as running). -/
theorem probeRunning_assigns : probeRunningAssigns =
    ["ok = true", "staleRunLock := false", "reportsBroken = true", "running = append(running, s)",
     "staleRunLock = true", "wkr.staleRunLockSince = time.Time{}", "wkr.staleRunLockSince = time.Now()",
     "reportsBroken = true"] := rfl

theorem probeRunning_skeleton : probeRunningSkeleton =
    ["if u != \"root\" {", "}", "if err != nil {", "return", "}",
     "call strings.Split", "for {",
     "if s == \"\" {", "} else {", "if s == \"broken\" {", "} else {",
     "call strings.Split => toks", "if len(toks) == 1 {", "call append => running", "} else {",
     "if toks[1] == \"stale\" {", "}", "}", "}", "}", "}",
     "defer",
     "if !staleRunLock {", "} else {", "if wkr.staleRunLockSince.IsZero() {", "} else {",
     "if dur > wkr.wp.timeoutStaleRunLock {", "}", "}", "}", "return"] := rfl

/-- Every goroutine body releases the latch on every path: `defer sch.uuidUnlock(uuid)` is the statement
directly after the refused-latch return, before any other return (`C15.runBody`, `C15_resp_latch_released`;
seeded change C15-h released it by hand after `queue.Lock` and missed the early return). `cancel` and `requeue`
are pinned by `cancel_requeue_shape`. -/
theorem lockContainer_skeleton : lockContainerSkeleton =
    ["call sch.uuidLock", "if !sch.uuidLock(uuid, \"lock\") {", "return", "}",
     "defer", "call sch.uuidUnlock",
     "call sch.queue.Get => ctr,ok", "if !ok || ctr.State != arvados.ContainerStateQueued {", "return", "}",
     "call sch.queue.Lock => err", "if err != nil {", "return", "}",
     "call sch.queue.Get => ctr,ok", "if !ok {", "} else {",
     "if ctr.State != arvados.ContainerStateLocked {", "}", "}"] := rfl

theorem kill_skeleton : killSchedSkeleton =
    ["call sch.uuidLock", "if !sch.uuidLock(uuid, \"kill\") {", "return", "}",
     "defer", "call sch.uuidUnlock", "call sch.pool.KillContainer", "call sch.pool.ForgetContainer"] := rfl

/-- `uuidUnlock` deletes the entry (C14 `uuidUnlock`). -/
theorem uuidUnlock_deletes : uuidUnlockCalls = ["delete"] := rfl

/-- `Pool.runProbes` is the loop `for range probeticker.C { … }` over a `time.Ticker` (`C15.Driven` over
`C15.periodic`): first `shutdownIfIdle` of every worker, then a probe of every worker not shut down; the only
way out is `wp.stop`. -/
theorem runProbes_skeleton : runProbesSkeleton =
    ["if maxPPS < 1 {", "}", "call time.NewTicker => limitticker", "defer",
     "call time.NewTicker => probeticker", "defer",
     "for {",
     "for {", "call wkr.shutdownIfIdle", "if wkr.state == StateShutdown || wkr.shutdownIfIdle() {", "continue", "}", "}",
     "for {", "if !ok {", "continue", "}", "go", "call wkr.ProbeAndUpdate",
     "case {", "return", "}", "case {", "}", "}",
     "}"] := rfl

/-- `Scheduler.run` (`C15.schedRun`, `C15_no_pass_before_recovery`): first queue update (retried until it
succeeds), the poll goroutine `for range poll.C { queue.Update() }` over a ticker, `fixStaleLocks`, the two
subscriptions, then for ever `runQueue; sync; select` — the only `return` is the stop case. -/
theorem schedRun_skeleton : schedRunSkeleton =
    ["defer", "call sch.queue.Update => err", "for {", "if d < time.Second {", "}", "call sch.queue.Update => err", "}",
     "call time.NewTicker => poll", "defer",
     "go", "func {", "for {", "call sch.queue.Update => err", "if err != nil {", "}", "}", "}",
     "call sch.fixStaleLocks",
     "call sch.pool.Subscribe => poolNotify", "defer", "call sch.queue.Subscribe => queueNotify", "defer",
     "for {", "call sch.runQueue", "call sch.sync",
     "case {", "return", "}", "case {", "}", "case {", "}", "case {", "}", "}"] := rfl

/-- `dispatcher.run` (`C15.dispRun`, `C15_shutdown_order`): the deferred calls are registered in the order
close(stopped), instanceSet.Stop, pool.Stop, … sched.Stop — so they run scheduler first, `stopped` last. -/
theorem dispRun_skeleton : dispRunSkeleton =
    ["defer", "call close", "defer", "call disp.instanceSet.Stop", "defer", "call disp.pool.Stop",
     "if staleLockTimeout == 0 {", "}", "if pollInterval <= 0 {", "}",
     "call scheduler.New => sched", "call sched.Start", "defer", "call sched.Stop"] := rfl

end ArvVerif.Tie.C15
