/-
Tie for C01: source facts regenerated from /repo on every run (Gen/FactsC01.lean) equal what the
model was written against. An edit that drops or reorders the digest checks, turns the `continue`
after a mismatch into a return, changes the order of the early exits of handlePUT, the comparison
loop of collision.go, the stat bound, the read-only/full guards of WriteBlock/Touch or the
round-robin choice breaks one of these `rfl`s.
-/
import ArvVerif.Gen.FactsC01
import ArvVerif.Model.C01
namespace ArvVerif.Tie.C01
open ArvVerif.Facts.C01

/-- keepstore.go BlockSize = Model.C01.blockSize (the stat bound, the GET buffer, the PUT limit) -/
theorem tie_blockSize : blockSize = (ArvVerif.C01.blockSize : Int) := by decide +kernel

/-- GetBlock: error → next volume; the MD5 of what was read is compared with the requested hash (`filehash != hash`) on every volume (Model.C01.getLoop) -/
theorem tie_getBlockConds : getBlockConds =
  ["if err != nil",
   "if !os.IsNotExist(err)",
   "if err == VolumeBusyError",
   "if filehash != hash",
   "if errorToCaller == DiskHashError"] := rfl

/-- GetBlock returns only after a client disconnect, on a digest match (`size, nil`) or after the loop (`0, errorToCaller`): a mismatch does not return (it `continue`s) -/
theorem tie_getBlockReturns : getBlockReturns =
  ["0, ErrClientDisconnect",
   "size, nil",
   "0, errorToCaller"] := rfl

/-- GetBlock iterates AllReadable(), reads with vol.Get and hashes with md5.Sum -/
theorem tie_getBlockCalls : getBlockCalls =
  ["volmgr.AllReadable",
   "vol.Get",
   "md5.Sum"] := rfl

/-- PutBlock: the digest check comes first; CompareAndTouch result nil/CollisionError ends it; NextWritable; loop over writables with nil / FullError / other (Model.C01.putBlock, putNew, putViaLoop, putLoop) -/
theorem tie_putBlockConds : putBlockConds =
  ["if blockhash != hash",
   "if err == nil || err == CollisionError",
   "if ctx.Err() != nil",
   "if mnt != nil",
   "if err != nil",
   "if ctx.Err() != nil",
   "if len(writables) == 0",
   "if ctx.Err() != nil",
   "switch err",
   "case nil",
   "case FullError",
   "default",
   "if allFull"] := rfl

/-- PutBlock call order: md5.Sum before CompareAndTouch before NextWritable/Put before AllWritable/Put -/
theorem tie_putBlockCalls : putBlockCalls =
  ["md5.Sum",
   "CompareAndTouch",
   "volmgr.NextWritable",
   "mnt.Put",
   "volmgr.AllWritable",
   "vol.Put"] := rfl

/-- PutBlock outcomes: RequestHashError, CompareAndTouch's (n, err), Replication of the mount written, FullError, GenericError (Model.C01.PutOutcome) -/
theorem tie_putBlockReturns : putBlockReturns =
  ["0, RequestHashError",
   "n, err",
   "0, ErrClientDisconnect",
   "mnt.Replication, nil",
   "0, ErrClientDisconnect",
   "0, FullError",
   "0, ErrClientDisconnect",
   "vol.Replication, nil",
   "0, FullError",
   "0, GenericError"] := rfl

/-- CompareAndTouch: CollisionError stops, IsNotExist and other errors continue, Touch error continues (Model.C01.compareAndTouch) -/
theorem tie_catConds : catConds =
  ["if ctx.Err() != nil",
   "if err == CollisionError",
   "if os.IsNotExist(err)",
   "if err != nil",
   "if err != nil"] := rfl

/-- CompareAndTouch iterates AllWritable(), Compare then Touch -/
theorem tie_catCalls : catCalls =
  ["volmgr.AllWritable",
   "mnt.Compare",
   "mnt.Touch"] := rfl

/-- CompareAndTouch returns the collision, the mount's Replication, or bestErr -/
theorem tie_catReturns : catReturns =
  ["0, ctx.Err()",
   "0, err",
   "mnt.Replication, nil",
   "0, bestErr"] := rfl

/-- handleGET: remote proxy only for +R hints, signature check only with BlobSigning, then buffer, GetBlock, KeepError code -/
theorem tie_handleGetConds : handleGetConds =
  ["if strings.Contains(locator, \"+R\") && !strings.Contains(locator, \"+A\")",
   "if rtr.cluster.Collections.BlobSigning",
   "if err != nil",
   "if err != nil",
   "if err != nil",
   "if ok"] := rfl

/-- handleGET: GetBlock, then Content-Length = size and the buffer prefix as body (Model.C01.handleGet) -/
theorem tie_handleGetCalls : handleGetCalls =
  ["http.Error",
   "getBufferWithContext",
   "http.Error",
   "GetBlock",
   "http.Error",
   "resp.Header().Set",
   "resp.Header().Set",
   "resp.Write"] := rfl

/-- handlePUT: 411 without Content-Length, 413 above BlockSize, 503 without writable mounts, before the body is read (Model.C01.handlePut) -/
theorem tie_handlePutConds : handlePutConds =
  ["if req.ContentLength == -1",
   "if req.ContentLength > BlockSize",
   "if len(rtr.volmgr.AllWritable()) == 0",
   "if err != nil",
   "if err != nil",
   "if err != nil",
   "if ok",
   "if rtr.cluster.Collections.BlobSigningKey != \"\" && apiToken != \"\""] := rfl

/-- handlePUT: AllWritable check, io.ReadFull of the body, PutBlock -/
theorem tie_handlePutCalls : handlePutCalls =
  ["http.Error",
   "http.Error",
   "rtr.volmgr.AllWritable",
   "http.Error",
   "http.Error",
   "io.ReadFull",
   "http.Error",
   "PutBlock",
   "http.Error"] := rfl

/-- compareReaderWithBuf: buffer = min(1<<20, len(expect)); mismatch test `n > len(cmp) || cmp[:n] != buf[:n]`; EOF with/without remaining expected bytes (Model.C01.compareReaderWithBuf) -/
theorem tie_compareConds : compareConds =
  ["if bufLen > len(expect) && len(expect) > 0",
   "if n > len(cmp) || bytes.Compare(cmp[:n], buf[:n]) != 0",
   "if err == io.EOF",
   "if len(cmp) != 0",
   "if err != nil"] := rfl

/-- compareReaderWithBuf returns collisionOrCorrupt(matched prefix, current chunk, rest of reader), collisionOrCorrupt(matched prefix) at early EOF, nil, or a read error -/
theorem tie_compareReturns : compareReturns =
  ["ctx.Err()",
   "collisionOrCorrupt(hash, expect[:len(expect)-len(cmp)], buf[:n], rdr)",
   "collisionOrCorrupt(hash, expect[:len(expect)-len(cmp)], nil, nil)",
   "nil",
   "err"] := rfl

/-- collisionOrCorrupt: digest of everything = expected → CollisionError else DiskHashError (Model.C01.collisionOrCorruptBytes) -/
theorem tie_collisionConds : collisionConds =
  ["if fmt.Sprintf(\"%x\", h.Sum(nil)) == expectMD5",
   "if buf2 != nil",
   "for rdr != nil && err == nil",
   "if rdr != nil && err != io.EOF"] := rfl

/-- UnixVolume.stat: size > BlockSize → TooLongError (Model.C01.volStat) -/
theorem tie_statConds : statConds =
  ["if err == nil",
   "if stat.Size() < 0",
   "if stat.Size() > BlockSize"] := rfl

/-- ReadBlock: stat error → translateError; bytes copied ≠ stat size → ErrUnexpectedEOF -/
theorem tie_readBlockConds : readBlockConds =
  ["if err != nil",
   "if err == nil && n != stat.Size()"] := rfl

/-- WriteBlock: ReadOnly → MethodDisabledError, IsFull → FullError, then only I/O error exits — MkdirAll, TempFile, copy, close, Chtimes, flock of the file being replaced (`if err == nil` = such a file exists), rename (Model.C01.volWrite) -/
theorem tie_writeBlockConds : writeBlockConds =
  ["if v.volume.ReadOnly",
   "if v.IsFull()",
   "if err != nil",
   "if tmperr != nil",
   "if err != nil",
   "if err != nil",
   "if err != nil",
   "if err != nil",
   "if err == nil",
   "if err != nil",
   "if err != nil"] := rfl

/-- WriteBlock returns (since fix 7e105eb the flock of an existing file at the block path is taken
before the rename; a lock failure is one more I/O-error exit that leaves the block path unchanged) -/
theorem tie_writeBlockReturns : writeBlockReturns =
  ["MethodDisabledError",
   "FullError",
   "fmt.Errorf(\"error creating directory %s: %s\", bdir, err)",
   "fmt.Errorf(\"TempFile(%s, tmp%s) failed: %s\", bdir, loc, tmperr)",
   "err",
   "err",
   "err",
   "err",
   "fmt.Errorf(\"error locking %s: %s\", bpath, err)",
   "err",
   "nil"] := rfl

/-- Touch: refused on a read-only volume (Model.C01.volTouch) -/
theorem tie_touchConds : touchConds =
  ["if v.volume.ReadOnly",
   "if err != nil",
   "if err != nil",
   "if e != nil"] := rfl

/-- UnixVolume.Compare: stat (+translateError) then compareReaderWithBuf (Model.C01.volCompare) -/
theorem tie_compareVolCalls : compareVolCalls =
  ["v.stat",
   "v.translateError",
   "compareReaderWithBuf"] := rfl

/-- getWithPipe maps EOF / ErrUnexpectedEOF of the bounded read to success (Model.C01.readFull) -/
theorem tie_getWithPipeConds : getWithPipeConds =
  ["if err == io.EOF || err == io.ErrUnexpectedEOF"] := rfl

/-- getWithPipe: ReadBlock into the pipe, io.ReadFull into the buffer -/
theorem tie_getWithPipeCalls : getWithPipeCalls =
  ["br.ReadBlock",
   "io.ReadFull"] := rfl

/-- NextWritable: nil without writables, else writables[++counter % len] (Model.C01.nextWritable) -/
theorem tie_nextWritableText : nextWritableText =
  "{ if len(vm.writables) == 0 { return nil } i := atomic.AddUint32(&vm.counter, 1) return vm.writables[i%uint32(len(vm.writables))] }" := rfl

/-- AllReadable = readables (every mount, Model.C01.allReadable) -/
theorem tie_allReadableText : allReadableText =
  "{ return vm.readables }" := rfl

/-- AllWritable = writables (Model.C01.allWritable) -/
theorem tie_allWritableText : allWritableText =
  "{ return vm.writables }" := rfl

/-- makeRRVolumeManager: Replication < 1 → 1 (Model.C01.effRepl); every mount is readable; writable iff not ReadOnly -/
theorem tie_mkVolMgrConds : mkVolMgrConds =
  ["if !ok && len(cfgvol.AccessViaHosts) > 0",
   "if !ok",
   "if err != nil",
   "if len(sc) == 0",
   "if repl < 1",
   "if !mnt.KeepMount.ReadOnly"] := rfl

/-! ### HTTP codes of the KeepError values (composite literals in keepstore.go) -/

/-- the `var (...)` block of KeepError values, line by line -/
theorem tie_keepErrorLines : keepErrorLines =
  ["BadRequestError     = &KeepError{400, \"Bad Request\"}",
   "UnauthorizedError   = &KeepError{401, \"Unauthorized\"}",
   "CollisionError      = &KeepError{500, \"Collision\"}",
   "RequestHashError    = &KeepError{422, \"Hash mismatch in request\"}",
   "PermissionError     = &KeepError{403, \"Forbidden\"}",
   "DiskHashError       = &KeepError{500, \"Hash mismatch in stored data\"}",
   "ExpiredError        = &KeepError{401, \"Expired permission signature\"}",
   "NotFoundError       = &KeepError{404, \"Not Found\"}",
   "VolumeBusyError     = &KeepError{503, \"Volume backend busy\"}",
   "GenericError        = &KeepError{500, \"Fail\"}",
   "FullError           = &KeepError{503, \"Full\"}",
   "SizeRequiredError   = &KeepError{411, \"Missing Content-Length\"}",
   "TooLongError        = &KeepError{413, \"Block is too large\"}",
   "MethodDisabledError = &KeepError{405, \"Method disabled\"}",
   "ErrNotImplemented   = &KeepError{500, \"Unsupported configuration\"}",
   "ErrClientDisconnect = &KeepError{503, \"Client disconnected\"}"] := rfl

open ArvVerif.C01 in
/-- the status codes the model answers with are the codes of the KeepError values the handlers
return: each line of the block is `<name> = &KeepError{` ++ the model's code ++ `, "<message>"}`.
GetBlock: NotFoundError / DiskHashError; PutBlock: RequestHashError / CollisionError / FullError /
GenericError; handlePUT: SizeRequiredError / TooLongError; ErrClientDisconnect. -/
theorem tie_keepErrorCodes :
    keepErrorLines[7]? = some ("NotFoundError       = &KeepError{" ++ Nat.repr (getErrStatus .notFound) ++ ", \"Not Found\"}") ∧
    keepErrorLines[5]? = some ("DiskHashError       = &KeepError{" ++ Nat.repr (getErrStatus .diskHash) ++ ", \"Hash mismatch in stored data\"}") ∧
    keepErrorLines[3]? = some ("RequestHashError    = &KeepError{" ++ Nat.repr (putStatus .requestHash) ++ ", \"Hash mismatch in request\"}") ∧
    keepErrorLines[2]? = some ("CollisionError      = &KeepError{" ++ Nat.repr (putStatus .collision) ++ ", \"Collision\"}") ∧
    keepErrorLines[10]? = some ("FullError           = &KeepError{" ++ Nat.repr (putStatus .full) ++ ", \"Full\"}") ∧
    keepErrorLines[9]? = some ("GenericError        = &KeepError{" ++ Nat.repr (putStatus .generic) ++ ", \"Fail\"}") ∧
    keepErrorLines[11]? = some ("SizeRequiredError   = &KeepError{" ++
      Nat.repr (handlePut (fun (b : Nat) => b) (fun _ => 0) ([] : List (Vol Nat Nat)) 0 0 0 false).1.status ++
      ", \"Missing Content-Length\"}") ∧
    keepErrorLines[12]? = some ("TooLongError        = &KeepError{" ++
      Nat.repr (handlePut (fun (b : Nat) => b) (fun _ => ArvVerif.C01.blockSize + 1) ([] : List (Vol Nat Nat)) 0 0 0 true).1.status ++
      ", \"Block is too large\"}") ∧
    keepErrorLines[15]? = some ("ErrClientDisconnect = &KeepError{" ++
      Nat.repr (handleGetEnv (fun (b : Nat) => b) (fun _ => 0) ⟨true, some 0⟩ [(⟨false, false, 1, fun _ => none⟩ : Vol Nat Nat)] 0).status ++
      ", \"Client disconnected\"}") := by
  -- on character lists: appending string literals is slow in the kernel
  have line : ∀ {l pre post : String} {n : Nat},
      l.toList = pre.toList ++ (Nat.toDigits 10 n ++ post.toList) → some l = some (pre ++ Nat.repr n ++ post) := by
    intro l pre post n hl
    rw [Option.some_inj, ← String.toList_inj, String.toList_append, String.toList_append, Nat.toList_repr,
      List.append_assoc]
    exact hl
  have chars : ∀ {cs : List Char}, (String.ofList cs).toList = cs := String.toList_ofList
  refine ⟨line ?_, line ?_, line ?_, line ?_, line ?_, line ?_, line ?_, line ?_, line ?_⟩ <;>
    (rw [chars, chars, chars]; rfl)

/-- the literal codes in the model's handlePut / handlePutEnv / handleGetEnv early exits -/
theorem tie_handlerLiteralCodes :
    (ArvVerif.C01.handlePut (fun (b : Nat) => b) (fun _ => 0) ([] : List (ArvVerif.C01.Vol Nat Nat)) 0 0 0 false).1.status = 411 ∧
    (ArvVerif.C01.handlePut (fun (b : Nat) => b) (fun _ => ArvVerif.C01.blockSize + 1) ([] : List (ArvVerif.C01.Vol Nat Nat)) 0 0 0 true).1.status = 413 ∧
    (ArvVerif.C01.handlePut (fun (b : Nat) => b) (fun _ => 0) ([] : List (ArvVerif.C01.Vol Nat Nat)) 0 0 0 true).1.status = 503 ∧
    (ArvVerif.C01.handleGetEnv (fun (b : Nat) => b) (fun _ => 0) ⟨false, none⟩ ([] : List (ArvVerif.C01.Vol Nat Nat)) 0).status = 503 := by
  decide +kernel

/-- handlePUT answers a short body with the literal 500 and a missing buffer with
http.StatusServiceUnavailable (Model.C01.handlePutEnv) -/
theorem tie_handlePutInts : handlePutInts = [1, 0, 500] := rfl

/-- getBufferWithContext: a buffer, or ErrClientDisconnect when ctx ends first (Model.C01.GetEnv.bufOk) -/
theorem tie_getBufferReturns : getBufferReturns = ["buf, nil", "nil, ErrClientDisconnect"] := rfl

/-- the model's NextWritable on two writable mounts alternates starting with the second (counter
starts at 0 and is incremented before use), as the source text above prescribes -/
theorem tie_nextWritable_model :
    (ArvVerif.C01.nextWritable ([⟨false, false, 1, fun _ => none⟩, ⟨false, false, 1, fun _ => none⟩] :
      List (ArvVerif.C01.Vol Nat Nat)) 0) = (some 1, 1) := by decide +kernel

/-- handlers.go keeps no per-block state between requests: its package-level variables are the node
status, its lock and two regexps (premise of Model/C01_History.lean: the answer to a request is a function
of the current mount contents, not of earlier reads) -/
theorem tie_handlersPackageVars : handlersPackageVars =
  ["var st NodeStatus",
   "var stLock sync.Mutex",
   "var validLocatorRe = regexp.MustCompile(`^[0-9a-f]{32}$`)",
   "var authRe = regexp.MustCompile(`^(OAuth2|Bearer)\\s+(.*)`)"] := rfl

end ArvVerif.Tie.C01
