/-
Tie for C09: source facts regenerated from /repo on every run (Gen/FactsC09.lean) equal what the
model in Model/C09.lean / C09_FS.lean was written against: the literals, branch conditions,
bookkeeping assignments and control skeleton of dirnode.marshalManifest, dirnode.flush,
dirnode.commitBlock (PutB error returned before any segment is replaced), filenode.pruneMemSegments
(failure leaves the mem segment), contextGroup.Go/Wait (first error wins and cancels), the throttle,
sortedNames, Sync, the escape regexps, and of dirnode.loadManifest / createFileAndParents (modelled in
Model/C10_Fs.lean, which C09 loads through). An edit to any of these breaks one of the `rfl`s below
(the differential check then decides whether behaviour changed). The path ties (`tie_commit_paths`,
`tie_prune_paths`, `tie_cg_paths`) are computed over the skeletons and state what the micro-step model of
Model/C09_Conc.lean relies on.
-/
import ArvVerif.Gen.FactsC09
import ArvVerif.Model.C09_FS
namespace ArvVerif.Tie.C09
open ArvVerif.Facts.C09

/-- production block size limit (the theorems hold for every `max`; smoke cases run at this value) -/
theorem tie_maxBlockSize : maxBlockSize =
    67108864 := rfl

/-- throttle capacity: at most 4 Keep writes in flight (the model's script order is the start order when the capacity is 1, which is what cases with a failure script use) -/
theorem tie_concurrentWriters : concurrentWriters =
    4 := rfl

/-- `manifestEscape`: Model `C10.fsEscapePred` (`c ≤ 32`, `:`, `\\`); 0x7f is NOT in the class (finding F9a) -/
theorem tie_manifestEscapedChar : manifestEscapedChar =
    "[\\000-\\040:\\s\\\\]" := rfl

/-- `manifestUnescape`: Model `C10.fsUnescape` -/
theorem tie_manifestEscapeSeq : manifestEscapeSeq =
    "\\\\([0-7]{3}|\\\\)" := rfl

/-- `\\%03o` of the byte: Model `C10.octDigits` -/
theorem tie_manifestEscapeFuncText : manifestEscapeFuncText =
    "{ return fmt.Sprintf(\"\\\\%03o\", byte(seq[0])) }" := rfl

/-- marshalManifest: empty directory / root test, the three inode cases, empty file, re-use of the last block, merge of contiguous parts of the same name, no tokens ⇒ no line, no blocks ⇒ the empty-block locator (Model `dirText`, `emitSeg`, `emitFile`, `lineOf`) -/
theorem tie_marshalConds : marshalConds =
    ["if len(dn.inodes) == 0",
    "if prefix == \".\"",
    "if ok",
    "case *dirnode",
    "case *filenode",
    "default",
    "if err != nil",
    "if len(node.segments) == 0",
    "case storedSegment",
    "if len(blocks) > 0 && blocks[len(blocks)-1] == seg.locator",
    "if prev >= 0 && fileparts[prev].name == name && fileparts[prev].offset+fileparts[prev].length == next.offset",
    "default",
    "if len(filetokens) == 0",
    "if len(blocks) == 0"] := rfl

/-- the literals of marshalManifest: marker stream, the empty-block locator, token format, separators -/
theorem tie_marshalStrings : marshalStrings =
    [".",
    "",
    " d41d8cd98f00b204e9800998ecf8427e+0 0:0:\\056\n",
    "can't marshal inode type %T",
    "",
    "/",
    "can't marshal segment type %T",
    "%d:%d:%s",
    "d41d8cd98f00b204e9800998ecf8427e+0",
    " ",
    " ",
    " ",
    " ",
    "\n",
    ""] := rfl

/-- the bookkeeping of the stream builder: `streamLen -= size` on a repeated locator, offset = streamLen + seg.offset, `length += next.length` on a merge, `streamLen += size` (Model `emitSeg`) -/
theorem tie_marshalAssigns : marshalAssigns =
    ["rootdir := \"\"",
    "fileparts = append(fileparts, filepart{name: name})",
    "streamLen -= int64(seg.size)",
    "blocks = append(blocks, seg.locator)",
    "next := filepart{ name: name, offset: streamLen + int64(seg.offset), length: int64(seg.length), }",
    "fileparts[prev].length += next.length",
    "fileparts = append(fileparts, next)",
    "streamLen += int64(seg.size)",
    "blocks = []string{\"d41d8cd98f00b204e9800998ecf8427e+0\"}",
    "rootdir = manifestEscape(prefix) + \" \" + strings.Join(blocks, \" \") + \" \" + strings.Join(filetokens, \" \") + \"\\n\""] := rfl

/-- control skeleton of marshalManifest: early return for an empty directory BEFORE any flush, waitPrune, one `cg.Go` per subdirectory, one for the own files which first calls `dn.flush` and returns its error, `cg.Wait` decides the returned error (Model `flushDir9`, `marshal9`) -/
theorem tie_marshalSkeleton : marshalSkeleton =
    ["defer",
    "if len(dn.inodes) == 0 {",
    "if prefix == \".\" {",
    "return",
    "}",
    "call manifestEscape",
    "return",
    "}",
    "call dn.sortedNames => names",
    "for {",
    "if ok {",
    "call fn.waitPrune",
    "}",
    "}",
    "for {",
    "defer",
    "case {",
    "}",
    "case {",
    "}",
    "case {",
    "}",
    "}",
    "for {",
    "call cg.Go",
    "func {",
    "return",
    "}",
    "}",
    "call cg.Go",
    "func {",
    "call dn.flush => err",
    "if err != nil {",
    "return",
    "}",
    "for {",
    "if len(node.segments) == 0 {",
    "continue",
    "}",
    "for {",
    "case {",
    "if len(blocks) > 0 && blocks[len(blocks)-1] == seg.locator {",
    "} else {",
    "}",
    "if prev >= 0 && fileparts[prev].name == name && fileparts[prev].offset+fileparts[prev].length == next.offset {",
    "} else {",
    "}",
    "}",
    "case {",
    "}",
    "}",
    "}",
    "for {",
    "call manifestEscape",
    "}",
    "if len(filetokens) == 0 {",
    "return",
    "} else {",
    "if len(blocks) == 0 {",
    "}",
    "}",
    "call manifestEscape",
    "return",
    "}",
    "call cg.Wait => err",
    "return"] := rfl

/-- dirnode.flush: stored segments get their local locator, a mem segment longer than maxBlockSize/2 is committed alone, smaller ones are packed while they fit, the last group only with shortBlocks (Model `C08.flushGroups`) -/
theorem tie_flushConds : flushConds =
    ["case *dirnode",
    "case *filenode",
    "case storedSegment",
    "if !ok",
    "if err != nil",
    "case *memSegment",
    "if seg.Len() > maxBlockSize/2",
    "if pendingLen+seg.Len() > maxBlockSize",
    "default",
    "if opts.shortBlocks"] := rfl

/-- control skeleton of dirnode.flush: every group goes through `cg.Go(commitBlock)`, the result is `cg.Wait()` -/
theorem tie_flushSkeleton : flushSkeleton =
    ["defer",
    "func {",
    "call cg.Go",
    "func {",
    "call dn.commitBlock",
    "return",
    "}",
    "}",
    "for {",
    "case {",
    "for {",
    "defer",
    "}",
    "call cg.Go",
    "func {",
    "call node.flush",
    "return",
    "}",
    "}",
    "case {",
    "for {",
    "case {",
    "if !ok {",
    "call dn.fs.LocalLocator => loc,err",
    "if err != nil {",
    "return",
    "}",
    "}",
    "}",
    "case {",
    "if seg.Len() > maxBlockSize/2 {",
    "call goCommit",
    "continue",
    "}",
    "if pendingLen+seg.Len() > maxBlockSize {",
    "call goCommit",
    "}",
    "}",
    "case {",
    "}",
    "}",
    "}",
    "}",
    "if opts.shortBlocks {",
    "call goCommit",
    "}",
    "call cg.Wait",
    "return"] := rfl

/-- dirnode.commitBlock: nothing for no refs, context check first, async-only checks, `if err != nil` right after PutB, `if sync { return <-errs }` -/
theorem tie_commitConds : commitConds =
    ["if len(refs) == 0",
    "if err != nil",
    "if !sync && seg.flushingUnfinished()",
    "if len(refs) == 1",
    "if block == nil",
    "if err != nil",
    "if !sync",
    "if len(ref.fn.segments) <= ref.idx",
    "if !ok || seg != segs[idx]",
    "if seg.flushing != done",
    "if !sync",
    "if sync"] := rfl

/-- control skeleton of commitBlock: `ctx.Err` → return; throttle; PutB; on error `return` BEFORE the loop that replaces segments (Model `commitK`: `fail` leaves the mem segments, `skip` = the ctx.Err return) -/
theorem tie_commitSkeleton : commitSkeleton =
    ["if len(refs) == 0 {",
    "return",
    "}",
    "call ctx.Err => err",
    "if err != nil {",
    "return",
    "}",
    "for {",
    "call seg.flushingUnfinished",
    "if !sync && seg.flushingUnfinished() {",
    "call close",
    "return",
    "}",
    "if len(refs) == 1 {",
    "} else {",
    "if block == nil {",
    "} else {",
    "}",
    "}",
    "}",
    "call dn.fs.throttle().Acquire",
    "call dn.fs.throttle",
    "go",
    "func {",
    "defer",
    "call close",
    "defer",
    "call close",
    "call dn.fs.PutB => locator,_,err",
    "call dn.fs.throttle().Release",
    "call dn.fs.throttle",
    "if err != nil {",
    "return",
    "}",
    "for {",
    "if !sync {",
    "if len(ref.fn.segments) <= ref.idx {",
    "continue",
    "} else {",
    "if !ok || seg != segs[idx] {",
    "continue",
    "} else {",
    "if seg.flushing != done {",
    "continue",
    "}",
    "}",
    "}",
    "}",
    "call atomic.AddInt64",
    "if !sync {",
    "}",
    "}",
    "}",
    "if sync {",
    "return",
    "}",
    "return"] := rfl

/-- commitBlock: `seg.flushing = done` for every ref before the write (Model `markStale` on failure), the block is the concatenation of the buffers, the stored segment is (locator, blocksize, offsets[idx], len(data)) (Model `C08.commitBlock`) -/
theorem tie_commitAssigns : commitAssigns =
    ["offsets := make([]int, 0, len(refs))",
    "seg.flushing = done",
    "offsets = append(offsets, len(block))",
    "block = seg.buf",
    "block = append(make([]byte, 0, bufsize), seg.buf...)",
    "block = append(block, seg.buf...)",
    "blocksize := len(block)",
    "errs := make(chan error, 1)",
    "ref.fn.segments[ref.idx] = storedSegment{ kc: dn.fs, locator: locator, size: blocksize, offset: offsets[idx], length: len(data), }"] := rfl

/-- pruneMemSegments: only full mem segments without a flushing channel; the goroutine gives up when the buffer was replaced, when PutB failed, or when the segment moved/resized (Model `pruneSegsK`, `C08.settleSegs`) -/
theorem tie_pruneConds : pruneConds =
    ["if !ok || seg.Len() < maxBlockSize || seg.flushing != nil",
    "if seg.flushing != done",
    "if err != nil",
    "if len(fn.segments) <= idx || fn.segments[idx] != seg || len(seg.buf) != len(buf)"] := rfl

/-- control skeleton of pruneMemSegments: throttle.Acquire by the WRITER before `go`, PutB, Release, then the file lock; `if err != nil { return }` leaves the mem segment in place -/
theorem tie_pruneSkeleton : pruneSkeleton =
    ["for {",
    "if !ok || seg.Len() < maxBlockSize || seg.flushing != nil {",
    "continue",
    "}",
    "call fn.fs.throttle().Acquire",
    "call fn.fs.throttle",
    "go",
    "func {",
    "defer",
    "call close",
    "call fn.FS().PutB => locator,_,err",
    "call fn.FS",
    "call fn.fs.throttle().Release",
    "call fn.fs.throttle",
    "call fn.Lock",
    "defer",
    "if seg.flushing != done {",
    "return",
    "}",
    "if err != nil {",
    "return",
    "}",
    "if len(fn.segments) <= idx || fn.segments[idx] != seg || len(seg.buf) != len(buf) {",
    "return",
    "}",
    "call fn.FS",
    "}",
    "}"] := rfl

/-- contextGroup.Go: no new func once an error is recorded; the first error is recorded and cancels the context -/
theorem tie_cgGoSkeleton : cgGoSkeleton =
    ["defer",
    "if cg.err != nil {",
    "return",
    "}",
    "call cg.wg.Add",
    "go",
    "func {",
    "defer",
    "call cg.wg.Done",
    "call f => err",
    "defer",
    "if err != nil && cg.err == nil {",
    "call cg.cancel",
    "}",
    "}"] := rfl

/-- contextGroup.Go conditions -/
theorem tie_cgGoConds : cgGoConds =
    ["if cg.err != nil",
    "if err != nil && cg.err == nil"] := rfl

/-- contextGroup.Wait returns the first recorded error, else the context's -/
theorem tie_cgWaitReturns : cgWaitReturns =
    ["cg.err",
    "cg.ctx.Err()"] := rfl

/-- contextGroup.Wait is a barrier: it waits (unconditionally, first thing) for EVERY func started with Go — also
after the context was cancelled — before it looks at the error. The model's save (`flushFilesK`/`marshal9`) lets every
started Keep write of the save finish (commit or fail) before the save returns; sync-mode commitBlock replaces segments
without re-validation because of exactly this. -/
theorem tie_cgWaitSkeleton : cgWaitSkeleton =
    ["call cg.wg.Wait",
    "call cg.mtx.Lock",
    "defer",
    "call cg.mtx.Unlock",
    "if cg.err != nil {",
    "return",
    "}",
    "call cg.ctx.Err",
    "return"] := rfl

/-- throttle = buffered channel -/
theorem tie_throttleAcquireText : throttleAcquireText =
    "{ t.c <- struct{}{} }" := rfl

/-- throttle = buffered channel -/
theorem tie_throttleReleaseText : throttleReleaseText =
    "{ <-t.c }" := rfl

/-- names in byte order (`sort.Strings`): Model `C08.sortedFiles` / `sortedDirs` (insertion sort on distinct keys) -/
theorem tie_sortedNamesText : sortedNamesText =
    "{ names := make([]string, 0, len(dn.inodes)) for name := range dn.inodes { names = append(names, name) } sort.Strings(names) return names }" := rfl

/-- Sync = MarshalManifest(".") then the collection update with that text -/
theorem tie_syncCalls : syncCalls =
    ["fs.MarshalManifest",
    "fs.RequestAndDecode"] := rfl

/-- Flush(path) with a non-empty path flushes the files of that directory only -/
theorem tie_flushOptsStrings : flushOptsStrings =
    ["names := dn.sortedNames()",
    "names = filenames"] := rfl

/-! ### the loader (every saved text is read back through it) -/

/-- loadManifest: trailing newline, stream name first, locator vs file token by `:`, ParseInt checks (incl. the `offset+length < offset` wrap test), the `.` marker special case (`fnode == nil && err == nil && length == 0`), rewind `pos > offset`, the range loop with its skip / stop / clip tests, `next > offset+length` break, past-the-end error, the three per-line errors (Model: `C10.fsLoad`, which C09 uses to reload every saved text and which `C09_marker_line_loads` / `C09_marshal_fsLoad` are about) -/
theorem tie_loadManifestConds : loadManifestConds =
    ["if streams[len(streams)-1] != \"\"",
    "if i == 0",
    "if !strings.Contains(token, \":\")",
    "if anyFileTokens",
    "if len(toks) < 2",
    "if err != nil || length < 0",
    "if len(segments) == 0",
    "if len(toks) != 3",
    "if err != nil || offset < 0",
    "if err != nil || length < 0 || offset+length < offset",
    "if fnode == nil && err == nil && length == 0",
    "if err != nil || (fnode == nil && length != 0)",
    "if pos > offset",
    "for segIdx < len(segments)",
    "if next <= offset || seg.Len() == 0",
    "if pos >= offset+length",
    "if pos < offset",
    "if pos+int64(blkOff+blkLen) > offset+length",
    "if blkLen > 0",
    "if next > offset+length",
    "if segIdx == len(segments) && pos < offset+length",
    "if !anyFileTokens",
    "if len(segments) == 0",
    "if dirname == \"\""] := rfl

/-- loadManifest bookkeeping: the cursor (`segIdx, pos = 0, 0`; `pos = next` on skip and after a fully used block, NOT before the break), block offset/length clipping -/
theorem tie_loadManifestAssigns : loadManifestAssigns =
    ["segments := []storedSegment{}",
    "segments = segments[:0]",
    "dirname = manifestUnescape(token)",
    "segments = append(segments, storedSegment{ locator: token, size: int(length), offset: 0, length: int(length), })",
    "anyFileTokens = true",
    "segIdx, pos = 0, 0",
    "segIdx++",
    "next := pos + int64(seg.Len())",
    "pos = next",
    "blkOff = int(offset - pos)",
    "blkLen := seg.Len() - blkOff",
    "blkLen = int(offset + length - pos - int64(blkOff))",
    "pos = next"] := rfl

/-- createFileAndParents: `""`/`.` skipped, `..` only below the root, missing parents created, a file in the way is an error, basename `.` = directory marker (returns nil, nil), permittedName, existing file re-used, directory in the way is an error (Model: `C10.createFileAndParents` / `walkParents`) -/
theorem tie_createFileConds : createFileConds =
    ["switch name",
    "case \"\"",
    "case \".\"",
    "case \"..\"",
    "if node == dn",
    "if child == nil",
    "if err != nil",
    "if !child.IsDir()",
    "if err != nil",
    "if basename == \".\"",
    "if !permittedName(basename)",
    "case nil",
    "if err != nil",
    "case *filenode",
    "case *dirnode",
    "default"] := rfl

/-- createFileAndParents return values in source order -/
theorem tie_createFileReturns : createFileReturns =
    ["nil, ErrInvalidArgument",
    "nil, err",
    "child, nil",
    "child, ErrFileExists",
    "child, nil",
    "",
    "",
    "",
    "nil, err",
    "child, nil",
    "child, nil",
    "child, ErrIsDirectory",
    "child, ErrInvalidArgument",
    ""] := rfl

/-- Collection.FileSystem: throttle of concurrentWriters, loadManifest on the fresh root, backdateTree -/
theorem tie_fileSystemCalls : fileSystemCalls =
    ["newThrottle",
    "root.loadManifest",
    "backdateTree"] := rfl

/-! ### the model's constants are the source's literals -/

/-- the empty-block locator the model writes for a stream without data -/
theorem tie_model_emptyLoc : ArvVerif.C09.emptyLoc = ArvVerif.C10.str (marshalStrings.getD 8 "") := rfl

/-- the empty-directory marker: what the model appends to the escaped stream name -/
theorem tie_model_marker :
    ArvVerif.C10.bSpace :: (ArvVerif.C09.emptyLoc ++ ArvVerif.C10.bSpace :: (ArvVerif.C09.markerTok ++ [ArvVerif.C10.bNL])) =
      ArvVerif.C10.str (marshalStrings.getD 2 "") := by decide +kernel

/-- the escape predicate the model uses is the regexp's class -/
theorem tie_model_escapePred (c : UInt8) :
    ArvVerif.C10.fsEscapePred c = (decide (c ≤ 32) || c == 58 || c == 92) := rfl

/-- DEL is not escaped (finding F9a) -/
theorem tie_model_del_not_escaped : ArvVerif.C10.fsEscapePred 127 = false := by decide

/-! ### the protocol facts Model/C09_Conc.lean relies on, as path properties of the regenerated skeletons
(weaker than the exact skeleton ties above — they survive harmless rewrites — and they name what matters) -/

/-- the entries strictly between the first `a` and the next `b` -/
def between (l : List String) (a b : String) : List String :=
  ((l.dropWhile (· != a)).drop 1).takeWhile (· != b)

/-- the entries after the first `a` -/
def after (l : List String) (a : String) : List String := (l.dropWhile (· != a)).drop 1

/-- `commitBlock`: the context is checked once, before anything is marked (Model `check`: spawned → waiting | skip,
and no second check after `Acquire`); no path leaves between `Acquire` and the start of the goroutine (Model
`acquire`: waiting → writing only — otherwise a marked segment would keep an open channel or a slot would leak);
the goroutine's first statements defer `close(done)` then `close(errs)` (Model `closeDone` always enabled after
`ret`); `Release` directly follows `PutB`, before the error test (Model `release`: answered b → released b for
both b); the only return of the goroutine before the replacement loop is the error return. -/
theorem tie_commit_paths :
    (commitSkeleton.filter (· == "call ctx.Err => err")).length = 1 ∧
    "call ctx.Err => err" ∉ after commitSkeleton "call dn.fs.throttle().Acquire" ∧
    "return" ∉ between commitSkeleton "call dn.fs.throttle().Acquire" "go" ∧
    (after commitSkeleton "go").take 5 = ["func {", "defer", "call close", "defer", "call close"] ∧
    between commitSkeleton "call dn.fs.PutB => locator,_,err" "call dn.fs.throttle().Release" = [] ∧
    (between commitSkeleton "call dn.fs.throttle().Release" "for {").filter (· == "return") = ["return"] ∧
    (commitSkeleton.filter (· == "call dn.fs.throttle().Acquire")).length = 1 ∧
    (commitSkeleton.filter (· == "call dn.fs.throttle().Release")).length = 1 := by decide +kernel

/-- `pruneMemSegments` (the background writers `bg` of the model): the writer takes the slot before `go`; no path
leaves between `Acquire` and `go`; the goroutine defers `close(done)` first; it gives the slot back right after
PutB and BEFORE it asks for the file lock (a save holds that lock while it waits for a slot: the other order
deadlocks — Model `bgRelease` needs nothing) -/
theorem tie_prune_paths :
    "return" ∉ between pruneSkeleton "call fn.fs.throttle().Acquire" "go" ∧
    (after pruneSkeleton "go").take 3 = ["func {", "defer", "call close"] ∧
    "return" ∉ between pruneSkeleton "call fn.FS().PutB => locator,_,err" "call fn.fs.throttle().Release" ∧
    "call fn.Lock" ∉ between pruneSkeleton "go" "call fn.fs.throttle().Release" ∧
    "call fn.Lock" ∈ after pruneSkeleton "call fn.fs.throttle().Release" ∧
    (pruneSkeleton.filter (· == "call fn.fs.throttle().Acquire")).length = 1 ∧
    (pruneSkeleton.filter (· == "call fn.fs.throttle().Release")).length = 1 := by decide +kernel

/-- `contextGroup`: `Go` tests `cg.err` before `wg.Add` and `go` (Model `spawn`: dropped | spawned); inside the
goroutine `wg.Done` is deferred before `f` runs and the error test comes after `f` (Model `finish`); `Wait` starts
with `wg.Wait` (Model `wait`: enabled only when every task is done) -/
theorem tie_cg_paths :
    (cgGoSkeleton.takeWhile (· != "call cg.wg.Add")).filter (· == "if cg.err != nil {") = ["if cg.err != nil {"] ∧
    between cgGoSkeleton "call cg.wg.Add" "call f => err" = ["go", "func {", "defer", "call cg.wg.Done"] ∧
    "call cg.cancel" ∈ after cgGoSkeleton "if err != nil && cg.err == nil {" ∧
    cgWaitSkeleton.head? = some "call cg.wg.Wait" := by decide +kernel

end ArvVerif.Tie.C09
