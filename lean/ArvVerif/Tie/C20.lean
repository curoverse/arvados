/-
Tie for C20: source facts regenerated from /repo on every run (Gen/FactsC20.lean) equal what the
model (Model/C20.lean) was written against. An edit to a rejection rule, the grouping, the loop
(batch rebuild, progress test, zero-items stop, error propagation), the merge callback in any of
the six generated_*List functions, or chooseBackend breaks one of these.
-/
import ArvVerif.Gen.FactsC20
import ArvVerif.Model.C20
namespace ArvVerif.Tie.C20
open ArvVerif.Facts.C20

/-- Every condition of splitListRequest in source order: pass-through test (`plan`), the filter
classification (`classifyFilter`), intersection (`scanFilters`), the 27-character rule and prefix
grouping (`wellFormed`, `groups`), the empty / local-only shortcuts and the four rejection rules
(`plan`), backend selection (`backendFor`), select rewrite (`remoteOpts`), the loop with batch
rebuild, progress test and zero-items stop (`clusterLoop`), first-error collection (`run`). -/
theorem tie_splitConds : splitConds =
    ["if opts.BypassFederation || opts.ForwardedFor != \"\"",
     "if f.Attr != \"uuid\"",
     "if f.Operator == \"=\"",
     "if ok",
     "if f.Operator == \"in\"",
     "if ok",
     "if ok",
     "if ok",
     "if matchAllFilters == nil",
     "if !matchThisFilter[uuid]",
     "if matchAllFilters == nil",
     "if len(uuid) != 27",
     "if todoByRemote[uuid[:5]] == nil",
     "if len(todoByRemote) == 0",
     "if len(todoByRemote) == 1 && todoByRemote[conn.cluster.ClusterID] != nil",
     "if cannotSplit",
     "if opts.Count != \"none\"",
     "if opts.Limit >= 0 || opts.Offset != 0 || len(opts.Order) > 0",
     "if nUUIDs > max",
     "if clusterID == conn.cluster.ClusterID",
     "if backend == nil",
     "if remoteOpts.Select != nil",
     "for len(todo) > 0",
     "if len(batch) > len(todo)",
     "if err != nil",
     "if ok",
     "if len(done) == 0",
     "if !progress",
     "if err != nil && firstErr == nil"] := rfl

/-- Control skeleton of splitListRequest: where `fn` (the backend call + merge callback) is called,
where errors are produced, which branches return, break or continue. In particular: every
rejection returns before the goroutines are started; inside the loop the error test follows the
call directly and returns; `delete` happens only for uuids still in todo and any other returned
uuid produces an error and returns (fix d542fa4, `accepts`); zero items breaks, no progress returns
an error. -/
theorem tie_splitSkeleton : splitSkeleton =
    ["if opts.BypassFederation || opts.ForwardedFor != \"\" {", "call fn => _,err", "return", "}",
     "for {",
     "if f.Attr != \"uuid\" {", "continue", "}",
     "if f.Operator == \"=\" {", "if ok {", "} else {", "call httpErrorf", "return", "}",
     "} else {",
     "if f.Operator == \"in\" {", "if ok {", "for {", "if ok {", "}", "}", "} else {", "if ok {", "for {", "}",
     "} else {", "call httpErrorf", "return", "}", "}",
     "} else {", "continue", "}", "}",
     "if matchAllFilters == nil {", "} else {", "for {", "if !matchThisFilter[uuid] {", "call delete", "}", "}", "}",
     "}",
     "if matchAllFilters == nil {", "call fn => _,err", "return", "}",
     "for {", "if len(uuid) != 27 {", "} else {", "if todoByRemote[uuid[:5]] == nil {", "}", "}", "}",
     "if len(todoByRemote) == 0 {", "return", "}",
     "if len(todoByRemote) == 1 && todoByRemote[conn.cluster.ClusterID] != nil {", "call fn => _,err", "return", "}",
     "if cannotSplit {", "call httpErrorf", "return", "}",
     "if opts.Count != \"none\" {", "call httpErrorf", "return", "}",
     "if opts.Limit >= 0 || opts.Offset != 0 || len(opts.Order) > 0 {", "call httpErrorf", "return", "}",
     "if nUUIDs > max {", "call httpErrorf", "return", "}",
     "defer", "call cancel",
     "for {", "go", "func {",
     "for {", "}",
     "if clusterID == conn.cluster.ClusterID {", "} else {", "if backend == nil {", "call httpErrorf", "return", "}", "}",
     "if remoteOpts.Select != nil {", "}",
     "for {",
     "if len(batch) > len(todo) {", "for {", "}", "}",
     "call fn => done,err",
     "if err != nil {", "call httpErrorf", "return", "}",
     "for {", "if ok {", "call delete", "} else {", "call httpErrorf", "return", "}", "}",
     "if len(done) == 0 {", "break", "} else {", "if !progress {", "call httpErrorf", "return", "}", "}",
     "}", "}", "}",
     "for {", "if err != nil && firstErr == nil {", "call cancel", "}", "}",
     "return"] := rfl

/-- What is returned where: pass-through returns the callback's error; the two operand-type errors
and the four rejection rules return 400 (`statusBadRequest`); no well-formed uuid returns nil; the
end returns the first error. -/
theorem tie_splitReturns : splitReturns =
    ["err",
     "httpErrorf(http.StatusBadRequest, \"invalid operand type %T for filter %q\", f.Operand, f)",
     "httpErrorf(http.StatusBadRequest, \"invalid operand type %T in filter %q\", f.Operand, f)",
     "err",
     "nil",
     "err",
     "httpErrorf(http.StatusBadRequest, \"cannot execute federated list query: each filter must be either 'uuid = ...' or 'uuid in [...]'\")",
     "httpErrorf(http.StatusBadRequest, \"cannot execute federated list query unless count==\\\"none\\\"\")",
     "httpErrorf(http.StatusBadRequest, \"cannot execute federated list query with limit, offset, or order parameter\")",
     "httpErrorf(http.StatusBadRequest, \"cannot execute federated list query because number of UUIDs (%d) exceeds page size limit %d\", nUUIDs, max)",
     "", "", "", "",
     "firstErr"] := rfl

/-- What each goroutine reports: 404 (`statusNotFound`) for a cluster without proxy, 502
(`statusBadGateway`) for a backend error, for a returned item that is not (or no longer) wanted and
for a no-progress answer, nil at the end. -/
theorem tie_splitSends : splitSends =
    ["errs <- httpErrorf(http.StatusNotFound, \"cannot execute federated list query: no proxy available for cluster %q\", clusterID)",
     "errs <- httpErrorf(http.StatusBadGateway, \"%s\", err.Error())",
     "errs <- httpErrorf(http.StatusBadGateway, \"cannot execute federated list query: cluster %q returned item %q which was not requested or was already returned\", clusterID, uuid)",
     "errs <- httpErrorf(http.StatusBadGateway, \"cannot make progress in federated list query: cluster %q returned %d items but none had the requested UUIDs\", clusterID, len(done))",
     "errs <- nil"] := rfl

theorem tie_httpErrorf : httpErrorfText = "{ return httpserver.ErrorWithStatus(fmt.Errorf(format, args...), code) }" := rfl

/-- State updates: cannotSplit, the per-filter set and the intersection start, grouping by
`uuid[:5]` with the uuid counter, batch = all of todo / rebuilt from todo, local vs remotes map,
"uuid" prepended to a non-nil select, the batch filter `uuid in batch` replacing all filters, the
progress flag, first error kept. -/
theorem tie_splitAssigns : splitAssigns =
    ["cannotSplit := false",
     "matchThisFilter := map[string]bool{}",
     "cannotSplit = true",
     "matchThisFilter[uuid] = true",
     "matchThisFilter[uuid] = true",
     "matchThisFilter[uuid] = true",
     "cannotSplit = true",
     "matchAllFilters = matchThisFilter",
     "nUUIDs := 0",
     "todoByRemote := map[string]map[string]bool{}",
     "todoByRemote[uuid[:5]] = map[string]bool{}",
     "todoByRemote[uuid[:5]][uuid] = true",
     "nUUIDs++",
     "batch := make([]string, 0, len(todo))",
     "batch = append(batch, uuid)",
     "backend = conn.local",
     "backend = conn.remotes[clusterID]",
     "remoteOpts := opts",
     "remoteOpts.Select = append([]string{\"uuid\"}, remoteOpts.Select...)",
     "batch = batch[:0]",
     "batch = append(batch, uuid)",
     "remoteOpts.Filters = []arvados.Filter{{\"uuid\", \"in\", batch}}",
     "progress := false",
     "progress = true",
     "firstErr = err"] := rfl

/-- the integer literals: uuid length and prefix length are the model's -/
theorem tie_splitInts : splitInts =
    [0, (ArvVerif.C20.uuidLen : Int), (ArvVerif.C20.prefixLen : Int), (ArvVerif.C20.prefixLen : Int),
     (ArvVerif.C20.prefixLen : Int), 0, 1, 0, 0, 0, 0, 0, 0, 0] := rfl

/-- the string literals the model's `sUuid`, `sEq`, `sIn`, `sNone` stand for -/
theorem tie_splitStrings :
    splitStrings.take 3 = ["", String.ofList ArvVerif.C20.sUuid, String.ofList ArvVerif.C20.sEq] ∧
    splitStrings[4]? = some (String.ofList ArvVerif.C20.sIn) ∧
    splitStrings[7]? = some (String.ofList ArvVerif.C20.sNone) ∧
    splitStrings.drop 12 = [String.ofList ArvVerif.C20.sUuid, String.ofList ArvVerif.C20.sUuid,
      String.ofList ArvVerif.C20.sIn, "%s",
      "cannot execute federated list query: cluster %q returned item %q which was not requested or was already returned",
      "cannot make progress in federated list query: cluster %q returned %d items but none had the requested UUIDs"] :=
  ⟨rfl, rfl, rfl, rfl⟩

/-! ### the merge callback, identical in all six generated_*List functions -/

/-- Skeleton of generated_<T>List (`forwarded`, the merge in `run` / `mergePages`): backend call,
error returned before anything is merged, merge under the mutex (`merged = cl` for the first
non-empty page, append + needSort for later non-empty ones), uuids of all returned items handed
back to splitListRequest, final sort only if needSort. -/
def mergeSkeletonFor (ty : String) : List String :=
  ["call needSort.Store",
   "call conn.splitListRequest => err",
   "func {",
   "call backend." ++ ty ++ "List => cl,err",
   "if err != nil {", "return", "}",
   "call mtx.Lock", "defer", "call mtx.Unlock",
   "if len(merged.Items) == 0 {", "} else {", "if len(cl.Items) > 0 {",
   "call append => merged.Items", "call needSort.Store", "}", "}",
   "for {", "call append => uuids", "}",
   "return", "}",
   "call needSort.Load",
   "if needSort.Load().(bool) {", "call sort.Slice", "func {", "return", "}", "}",
   "if merged.Items == nil {", "}",
   "return"]

def mergeAssignsFor (ty : String) : List String :=
  ["options.ForwardedFor = conn.cluster.ClusterID + \"-\" + options.ForwardedFor",
   "cl, err := backend." ++ ty ++ "List(ctx, options)",
   "merged = cl",
   "merged.Items = append(merged.Items, cl.Items...)",
   "uuids := make([]string, 0, len(cl.Items))",
   "uuids = append(uuids, item.UUID)",
   "mi, mj := merged.Items[i].ModifiedAt, merged.Items[j].ModifiedAt",
   "merged.Items = []arvados." ++ ty ++ "{}"]

/-- Return values of generated_<T>List: the callback returns the backend's error before merging and
otherwise the uuids of all returned items; the sort comparator is `mj.Before(mi)` with
`mi, mj := …[i].ModifiedAt, …[j].ModifiedAt`, i.e. "modified_at desc" (`tsGe`); the function returns
the merged list together with splitListRequest's error. -/
def mergeReturns : List String := ["nil, err", "uuids, nil", "mj.Before(mi)", "merged, err"]

theorem tie_mergeReturns : collReturns = mergeReturns ∧ ctrReturns = mergeReturns ∧ crReturns = mergeReturns ∧
    grpReturns = mergeReturns ∧ specReturns = mergeReturns ∧ userReturns = mergeReturns :=
  ⟨rfl, rfl, rfl, rfl, rfl, rfl⟩

theorem tie_coll : collSkeleton = mergeSkeletonFor "Collection" ∧ collAssigns = mergeAssignsFor "Collection" ∧
    collEntry = ["conn.generated_CollectionList(ctx, options)"] :=
  ⟨rfl, rfl, rfl⟩
theorem tie_ctr : ctrSkeleton = mergeSkeletonFor "Container" ∧ ctrAssigns = mergeAssignsFor "Container" ∧
    ctrEntry = ["conn.generated_ContainerList(ctx, options)"] :=
  ⟨rfl, rfl, rfl⟩
theorem tie_cr : crSkeleton = mergeSkeletonFor "ContainerRequest" ∧ crAssigns = mergeAssignsFor "ContainerRequest" ∧
    crEntry = ["conn.generated_ContainerRequestList(ctx, options)"] :=
  ⟨rfl, rfl, rfl⟩
theorem tie_grp : grpSkeleton = mergeSkeletonFor "Group" ∧ grpAssigns = mergeAssignsFor "Group" ∧
    grpEntry = ["conn.generated_GroupList(ctx, options)"] :=
  ⟨rfl, rfl, rfl⟩
theorem tie_spec : specSkeleton = mergeSkeletonFor "Specimen" ∧ specAssigns = mergeAssignsFor "Specimen" ∧
    specEntry = ["conn.generated_SpecimenList(ctx, options)"] :=
  ⟨rfl, rfl, rfl⟩
/-- UserList reaches generated_UserList unless a different LoginCluster is configured (the drivers
set Login.LoginCluster only for kind `user@<id>`). -/
theorem tie_user : userSkeleton = mergeSkeletonFor "User" ∧ userAssigns = mergeAssignsFor "User" ∧
    userEntry = ["resp, err", "arvados.UserList{}, err", "resp, nil", "conn.generated_UserList(ctx, options)"] ∧
    userListConds = ["if id != \"\" && id != conn.cluster.ClusterID && !options.BypassFederation",
      "if err != nil", "if err != nil"] :=
  ⟨rfl, rfl, rfl, rfl⟩

/-- conn.go UserList / batchUpdateUsers (`userListDetour`, `runUserList`): the detour condition, the
single call to chooseBackend(LoginCluster), the prefix test, "update only if there is something to
update", errors returned. -/
theorem tie_userListDetour :
    userListCalls = ["conn.chooseBackend(id).UserList", "conn.chooseBackend", "conn.batchUpdateUsers",
      "conn.generated_UserList"] ∧
    batchUpdateCalls = ["strings.HasPrefix", "conn.local.UserBatchUpdate"] ∧
    batchUpdateConds = ["if !strings.HasPrefix(user.UUID, id)", "if user.ModifiedAt.IsZero()",
      "if user.CreatedAt.IsZero()", "if err != nil", "if err != nil", "if len(options.Select) > 0",
      "if ok && userAttrsCachedFromLoginCluster[k]", "if !userAttrsCachedFromLoginCluster[k]",
      "if len(batchOpts.Updates) > 0", "if err != nil"] :=
  ⟨rfl, rfl, rfl⟩

/-! ### the transport under the `hlist` correspondence op (not modelled, only tied and exercised)

`arvados.Client` sends GET parameters of ≥ 1000 encoded bytes as a POST form with
X-Http-Method-Override; the controller router parses the form *before* it rewrites the method (Go's
ParseForm ignores the body of a GET). The `hlist` generator stream is built around that threshold. -/

theorem tie_clientPostThreshold : clientInts = [1000] ∧
    clientConds = ["if ok", "if c.APIHost == \"\"", "if c.loadedFromEnv", "if err != nil", "if urlValues == nil",
      "if body != nil || ((method == \"GET\" || method == \"HEAD\") && len(urlValues.Encode()) < 1000)",
      "if err != nil", "if err != nil", "if (method == \"GET\" || method == \"HEAD\") && body != nil"] :=
  ⟨rfl, rfl⟩

theorem tie_routerMethodOverride : routerServeSkeleton =
    ["case {", "}", "case {", "}",
     "if r.Method == \"OPTIONS\" {", "return", "}",
     "if r.Method == \"POST\" {",
     "call r.ParseForm",
     "call r.FormValue => m",
     "if m != \"\" {", "} else {", "call r.Header.Get => m", "if m != \"\" {", "}", "}", "}",
     "call rtr.mux.ServeHTTP"] := rfl

/-! ### conn.go chooseBackend (`ArvVerif.C20.chooseBackend`) -/

theorem tie_chooseBackend :
    chooseConds = ["if len(id) == 27", "if len(id) != 5", "if id == conn.cluster.ClusterID", "if ok"] ∧
    chooseReturns = ["conn.local", "conn.local", "be", "conn.local"] :=
  ⟨rfl, rfl⟩

/-! ### inventory: which list methods exist and what `ListOptions` holds -/

/-- generated.go holds exactly the five copies of the template (`generated_CollectionList` in list.go),
made by generate.go from that template for exactly these type names; conn.go has exactly six `…List`
methods, one per modelled kind (each tied to its `generated_…List` by `tie_coll` … `tie_user`). A new
list method, or a generated copy for a further type, breaks this tie. -/
theorem tie_listInventory :
    generatedFuncs =
      ["func (conn *Conn) generated_ContainerList(ctx context.Context, options arvados.ListOptions) (arvados.ContainerList, error) {",
       "func (conn *Conn) generated_ContainerRequestList(ctx context.Context, options arvados.ListOptions) (arvados.ContainerRequestList, error) {",
       "func (conn *Conn) generated_GroupList(ctx context.Context, options arvados.ListOptions) (arvados.GroupList, error) {",
       "func (conn *Conn) generated_SpecimenList(ctx context.Context, options arvados.ListOptions) (arvados.SpecimenList, error) {",
       "func (conn *Conn) generated_UserList(ctx context.Context, options arvados.ListOptions) (arvados.UserList, error) {"] ∧
    connListMethods =
      ["func (conn *Conn) CollectionList(ctx context.Context, options arvados.ListOptions) (arvados.CollectionList, error) {",
       "func (conn *Conn) ContainerList(ctx context.Context, options arvados.ListOptions) (arvados.ContainerList, error) {",
       "func (conn *Conn) ContainerRequestList(ctx context.Context, options arvados.ListOptions) (arvados.ContainerRequestList, error) {",
       "func (conn *Conn) GroupList(ctx context.Context, options arvados.ListOptions) (arvados.GroupList, error) {",
       "func (conn *Conn) SpecimenList(ctx context.Context, options arvados.ListOptions) (arvados.SpecimenList, error) {",
       "func (conn *Conn) UserList(ctx context.Context, options arvados.ListOptions) (arvados.UserList, error) {"] ∧
    generateTypes =
      ["orig := regexp.MustCompile(`(?ms)\\nfunc [^\\n]*generated_CollectionList\\(.*?\\n}\\n`).Find(buf)",
       "for _, t := range []string{\"Container\", \"ContainerRequest\", \"Group\", \"Specimen\", \"User\"} {"] :=
  ⟨rfl, rfl, rfl⟩

/-- every field of `arvados.ListOptions`: Filters, Count, Limit, Offset, Order, BypassFederation,
ForwardedFor are read by `plan`; Select is rewritten by `remoteOpts`; ClusterID, Where, Distinct,
IncludeTrash, IncludeOldVersions, Include are carried by the model's `Opts` and forwarded untouched
(`C20_options_forwarded`). A further option breaks this tie. -/
theorem tie_listOptionsFields : listOptionsFields =
    ["ClusterID string", "Select []string", "Filters []Filter", "Where map[string]interface{}", "Limit int64",
     "Offset int64", "Order []string", "Distinct bool", "Count string", "IncludeTrash bool",
     "IncludeOldVersions bool", "BypassFederation bool", "ForwardedFor string", "Include string"] := rfl

end ArvVerif.Tie.C20
