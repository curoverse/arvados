/-
Tie for C14, runner part: source facts of lib/dispatchcloud/worker/runner.go and of the worker
callbacks it drives = what Model/C14_Runner.lean was written against.
-/
import ArvVerif.Gen.FactsC14
namespace ArvVerif.Tie.C14
open ArvVerif.Facts.C14

/-- `remoteRunner.Start()` has no result: its only `return` is bare, after logging the error of
the start command. The caller cannot (and must not) conclude from a failed command that no process
exists — `Worker.startDone` takes no outcome (seed C14-h made `Start` return a bool and freed the
worker at once when it was false). -/
theorem tie_runner_Start_returns_nothing : runnerStartReturns = [""] := rfl

theorem tie_runner_Start : runnerStartSkeleton =
  ["for {",
   "}",
   "if rr.remoteUser != \"root\" {",
   "}",
   "call rr.executor.Execute => stdout,stderr,err",
   "if err != nil {",
   "return",
   "}"] := rfl

/-- `Kill`: nothing when already stopping (`Runner.kill`); otherwise one goroutine whose loop
tests, in this order, closed → return, deadline → `onUnkillable` and return, default → `rr.kill`
(`Runner.tickAct`, `Worker.killTick`). The loop never calls `Close` or `onKilled` itself. -/
theorem tie_runner_Kill : runnerKillSkeleton =
  ["if rr.stopping {",
   "return",
   "}",
   "go",
   "func {",
   "defer",
   "for {",
   "call rr.isClosed",
   "case {",
   "return",
   "}",
   "case {",
   "call rr.onUnkillable",
   "return",
   "}",
   "case {",
   "call rr.kill",
   "}",
   "}",
   "}"] := rfl

theorem tie_runner_Kill_conds : runnerKillConds =
  ["if rr.stopping",
   "case rr.isClosed()",
   "case time.Now().After(termDeadline)",
   "default"] := rfl

/-- the only flags `Kill` sets: `stopping` before the loop, `givenup` in the deadline branch -/
theorem tie_runner_Kill_assigns : runnerKillAssigns =
  ["rr.stopping = true",
   "rr.givenup = true"] := rfl

/-- `rr.kill(sig)`: `onKilled` is called only when `crunch-run --kill` returned without error
(`killOk` of `Worker.killTick`; truthful kill is the guard of L3 `Step.killed`). -/
theorem tie_runner_signal : runnerSignalSkeleton =
  ["if rr.remoteUser != \"root\" {",
   "}",
   "call rr.executor.Execute => stdout,stderr,err",
   "if err != nil {",
   "return",
   "}",
   "call rr.onKilled"] := rfl

theorem tie_runner_Close : runnerCloseCalls = ["close"] := rfl

/-- `onKilled` = `closeRunner` under the lock (`Worker.onKilled`) -/
theorem tie_worker_onKilled : onKilledCalls =
  ["wkr.mtx.Lock",
   "wkr.mtx.Unlock",
   "wkr.closeRunner",
   "wkr.wp.notify"] := rfl

/-- `onUnkillable`: held worker untouched, otherwise `setIdleBehavior(Drain)` (`Worker.onUnkillable`);
it neither closes a runner nor shuts the worker down directly. -/
theorem tie_worker_onUnkillable : onUnkillableSkeleton =
  ["defer",
   "if wkr.idleBehavior == IdleBehaviorHold {",
   "return",
   "}",
   "call wkr.setIdleBehavior"] := rfl

theorem tie_worker_onUnkillable_conds : onUnkillableConds =
  ["if wkr.idleBehavior == IdleBehaviorHold"] := rfl

/-- `eligibleForShutdown` (`Worker.eligibleForShutdown`): never on hold; Booting: draining; Idle:
draining or idle timeout; Running: draining and every runner in `running` and in `starting` has
given up; any other state: no. -/
theorem tie_worker_eligibleForShutdown : eligibleForShutdownConds =
  ["if wkr.idleBehavior == IdleBehaviorHold",
   "switch wkr.state",
   "case StateBooting",
   "case StateIdle",
   "case StateRunning",
   "if !draining",
   "if !rr.givenup",
   "if !rr.givenup",
   "default"] ∧ eligibleForShutdownReturns =
  ["false",
   "draining",
   "draining || time.Since(wkr.busy) >= wkr.wp.timeoutIdle",
   "false",
   "false",
   "false",
   "true",
   "false"] := ⟨rfl, rfl⟩

end ArvVerif.Tie.C14
