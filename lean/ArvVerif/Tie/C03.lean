/-
Tie for C03: source facts regenerated from /repo on every run (Gen/FactsC03.lean) equal what the
model (Model/C03.lean, Model/C03_Conc.lean) was written against. An edit to the comparison in
HashCheckingReader, the Content-Length rule or retry rule of getOrHead, the cache's refetch
condition / read-then-close sequence, or storedSegment.ReadAt's bounds breaks one of these.
-/
import ArvVerif.Gen.FactsC03
import ArvVerif.Model.C03
namespace ArvVerif.Tie.C03
open ArvVerif.Facts.C03

theorem tie_blockSize : blockSize = (ArvVerif.C03.blockSize : Int) := by decide
theorem tie_defaultMaxBlocks : defaultMaxBlocks = (ArvVerif.C03.defaultMaxBlocks : Int) := by decide

/-- Read: hash what was read, and on io.EOF compare `%x` of the sum with Check; mismatch → BadChecksum
(Model.endErr / hcrRead). -/
theorem tie_hcrRead :
    hcrReadConds = ["if n > 0", "if err == io.EOF", "if fmt.Sprintf(\"%x\", sum) != hcr.Check"] ∧
    hcrReadAssigns = ["n, err = hcr.Reader.Read(p)", "sum := hcr.Hash.Sum(nil)", "err = BadChecksum"] ∧
    hcrReadReturns = ["n, err"] := ⟨rfl, rfl, rfl⟩

/-- WriteTo: copy to dest and hash, return a copy error, else compare (Model.writeTo). -/
theorem tie_hcrWriteTo :
    hcrWriteToSkeleton =
      ["if ok {", "call writeto.WriteTo => written,err", "call io.MultiWriter", "} else {",
       "call io.Copy => written,err", "call io.MultiWriter", "}", "if err != nil {", "return", "}",
       "call hcr.Hash.Sum => sum", "if fmt.Sprintf(\"%x\", sum) != hcr.Check {", "return", "}", "return"] ∧
    hcrWriteToReturns = ["written, err", "written, BadChecksum", "written, nil"] := ⟨rfl, rfl⟩

/-- Close: drain into the hash, close, copy error first, close error second, then compare
(Model.closeR). -/
theorem tie_hcrClose :
    hcrCloseSkeleton =
      ["call io.Copy => _,err", "if ok {", "call closer.Close => closeErr", "if err == nil {", "}", "}",
       "if err != nil {", "return", "}", "call hcr.Hash.Sum",
       "if fmt.Sprintf(\"%x\", hcr.Hash.Sum(nil)) != hcr.Check {", "return", "}", "return"] ∧
    hcrCloseAssigns = ["_, err = io.Copy(hcr.Hash, hcr.Reader)", "closer, ok := hcr.Reader.(io.Closer)",
       "closeErr := closer.Close()", "err = closeErr"] ∧
    hcrCloseReturns = ["err", "BadChecksum", "nil"] := ⟨rfl, rfl, rfl⟩

/-- getOrHead's decisions, in source order (Model.getOrHead / rounds / tryServers / accept200). -/
theorem tie_getOrHeadConds : getOrHeadConds =
    ["if strings.HasPrefix(locator, \"d41d8cd98f00b204e9800998ecf8427e+0\")",
     "if len(parts) < 2", "if err != nil", "for triesRemaining > 0", "if err != nil",
     "if req.Header.Get(\"Authorization\") == \"\"", "if req.Header.Get(\"X-Request-Id\") == \"\"",
     "if err != nil", "if resp.StatusCode != http.StatusOK",
     "if resp.StatusCode == 408 || resp.StatusCode == 429 || resp.StatusCode >= 500",
     "if resp.StatusCode == 404", "if expectLength < 0", "if resp.ContentLength < 0",
     "if resp.ContentLength >= 0 && expectLength != resp.ContentLength", "if method == \"GET\"",
     "if count404 == numServers"] := rfl

/-- the retry predicate the model uses is the one in that condition -/
theorem tie_retryable (c : Nat) :
    ArvVerif.C03.retryable c = true ↔ (c = 408 ∨ c = 429 ∨ c ≥ 500) := by
  simp [ArvVerif.C03.retryable, or_assoc]

/-- the empty-block shortcut literal -/
theorem tie_emptyLocator :
    (getOrHeadStrings.head?.getD "").toList = ArvVerif.C03.emptyLocator := rfl

/-- bookkeeping of the retry rounds: tries = 1 + Retries, the next round tries the retry list,
404s are counted against the initial number of servers, expectLength comes from the hint or from
the Content-Length. -/
theorem tie_getOrHeadAssigns : getOrHeadAssigns =
    ["expectLength = -1", "expectLength = -1", "expectLength = n", "triesRemaining := 1 + kc.Retries",
     "serversToTry := kc.getSortedRoots(locator)", "numServers := len(serversToTry)", "count404 := 0",
     "triesRemaining--", "retryList = nil", "retryList = append(retryList, host)",
     "retryList = append(retryList, host)", "count404++", "expectLength = resp.ContentLength",
     "serversToTry = retryList"] := rfl

/-- every successful GET body is wrapped in a HashCheckingReader checking against locator[0:32] -/
theorem tie_getOrHeadReader :
    getOrHeadReturns.getD 3 "" =
      "HashCheckingReader{ Reader: resp.Body, Hash: md5.New(), Check: locator[0:32], }, expectLength, url, resp.Header, nil" ∧
    getOrHeadReturns.length = 6 ∧
    getOrHeadReaderCalls = ["strings.HasPrefix", "strings.SplitN", "strconv.ParseInt", "kc.getSortedRoots", "md5.New"] ∧
    getCalls = ["kc.getOrHead"] ∧ readAtCalls = ["kc.cache().ReadAt", "kc.cache"] := ⟨rfl, rfl, rfl, rfl, rfl⟩

/-- BlockCache.Get: key, buffer size, refetch condition `!ok || b.err != nil`, ReadFull then Close,
first error wins, outcome stored (Model.fetchBody / fetch, Model.C03_Conc.apply). -/
theorem tie_cacheGet :
    cacheGetConds = ["if len(parts) >= 2", "if err == nil && datasize >= 0", "if c.cache == nil",
      "if !ok || b.err != nil", "if err == nil && (size < 0 || size > int64(bufsize))", "if err == nil",
      "if err == nil"] ∧
    cacheGetCalls = ["strings.SplitN", "strconv.ParseInt", "make", "make", "kc.Get", "rdr.Close", "make",
      "io.ReadFull", "rdr.Close", "close", "c.Sweep"] ∧
    cacheGetAssigns = ["cacheKey := locator[:32]", "bufsize := BLOCKSIZE",
      "datasize, err := strconv.ParseInt(parts[1], 10, 32)", "bufsize = int(datasize)",
      "c.cache = make(map[string]*cacheBlock)", "c.cache[cacheKey] = b",
      "err = fmt.Errorf(\"error reading %q: size %d exceeds buffer size %d\", locator, size, bufsize)",
      "data = make([]byte, size, bufsize)", "_, err = io.ReadFull(rdr, data)", "err2 := rdr.Close()",
      "err = err2", "b.data, b.err = data, err"] := ⟨rfl, rfl, rfl⟩

/-- BlockCache.ReadAt (Model.readAtEntry) and Sweep (Model.sweep). -/
theorem tie_cacheReadAt :
    cacheReadAtConds = ["if err != nil", "if off > len(buf)"] ∧
    cacheReadAtReturns = ["0, err", "0, io.ErrUnexpectedEOF", "copy(p, buf[off:]), nil"] ∧
    sweepConds = ["if max == 0", "if len(c.cache) <= max", "if !b.lastUse.After(threshold)"] := ⟨rfl, rfl, rfl⟩

/-- storedSegment.ReadAt (Model.segReadAt). -/
theorem tie_segReadAt : segReadAtText =
    "{ if off > int64(se.length) { return 0, io.EOF } maxlen := se.length - int(off) if len(p) > maxlen { p = p[:maxlen] n, err = se.kc.ReadAt(se.locator, p, int(off)+se.offset) if err == nil { err = io.EOF } return } return se.kc.ReadAt(se.locator, p, int(off)+se.offset) }" := rfl

/-- CollectionFileReader opens the file through the collection filesystem backed by this client. -/
theorem tie_collectionFileReader : collectionFileReaderCalls =
    ["(&arvados.Collection{ManifestText: mText}).FileSystem", "fs.OpenFile"] := rfl

/-- Sweep only deletes map entries (Model.sweep / Model.C03_Conc `sweep`): nothing of an evicted
block is kept or handed on. -/
theorem tie_sweepText : sweepText =
    "{ max := c.MaxBlocks if max == 0 { max = defaultMaxBlocks } c.mtx.Lock() defer c.mtx.Unlock() if len(c.cache) <= max { return } lru := make([]time.Time, 0, len(c.cache)) for _, b := range c.cache { lru = append(lru, b.lastUse) } sort.Sort(sort.Reverse(timeSlice(lru))) threshold := lru[max] for loc, b := range c.cache { if !b.lastUse.After(threshold) { delete(c.cache, loc) } } }" := rfl

/-- The write path does not touch the block cache (the model's cache changes only in Get's fetch,
Sweep and Clear): PutB and PutHB call nothing but the hash and putReplicas. -/
theorem tie_writesBypassCache :
    putBCalls = ["fmt.Sprintf", "md5.Sum", "kc.PutHB"] ∧
    putHBCalls = ["bytes.NewBuffer", "kc.putReplicas", "int64", "len"] ∧
    clearAssigns = ["c.cache = nil"] := ⟨rfl, rfl, rfl⟩

/-- filenode.Read (Model.fileRead): seek, EOF past the last segment, one segment read, pointer
advance, EOF at a segment end that is not the file end becomes nil. -/
theorem tie_filenodeRead : filenodeReadText =
    "{ ptr = fn.seek(startPtr) if ptr.off < 0 { err = ErrNegativeOffset return } if ptr.segmentIdx >= len(fn.segments) { err = io.EOF return } n, err = fn.segments[ptr.segmentIdx].ReadAt(p, int64(ptr.segmentOff)) if n > 0 { ptr.off += int64(n) ptr.segmentOff += n if ptr.segmentOff == fn.segments[ptr.segmentIdx].Len() { ptr.segmentIdx++ ptr.segmentOff = 0 if ptr.segmentIdx < len(fn.segments) && err == io.EOF { err = nil } } } return }" := rfl

/-- filenode.seek (Model.seek / locate) and filehandle.Seek (Model.fileSeek / fileSeekW: the three
whences, a negative target is refused with the old offset, a changed offset — and nothing else — marks
the pointer stale, `repacked = -1`; the segment position is never adjusted by Seek). -/
theorem tie_filenodeSeek :
    filenodeSeekConds = ["if ptr.off < 0", "if ptr.off >= fn.fileinfo.size", "if ptr.repacked == fn.repacked",
      "if ptr.segmentOff >= fn.segments[ptr.segmentIdx].Len()", "if ptr.off >= fn.fileinfo.size",
      "for off < ptr.off", "if off+segLen > ptr.off"] ∧
    filehandleReadCalls = ["f.inode.RLock", "f.inode.RUnlock", "f.inode.Read"] ∧
    filehandleSeekAssigns = ["size := f.inode.Size()", "ptr := f.ptr", "ptr.off = off", "ptr.off += off",
      "ptr.off = size + off", "f.ptr = ptr", "f.ptr.repacked = -1"] ∧
    filehandleSeekConds = ["switch whence", "case io.SeekStart", "case io.SeekCurrent", "case io.SeekEnd",
      "if ptr.off < 0", "if ptr.off != f.ptr.off"] ∧
    filehandleSeekReturns = ["f.ptr.off, ErrNegativeOffset", "f.ptr.off, nil"] := ⟨rfl, rfl, rfl, rfl, rfl⟩

/-- loadManifest's stream-offset → block-segment loop (Model.walkBlocks / loadTokensN): these
conditions occur, in this order (other parse conditions of loadManifest belong to C10). -/
theorem tie_loadManifestWalk :
    (["if pos > offset", "for segIdx < len(segments)", "if next <= offset || seg.Len() == 0",
      "if pos >= offset+length", "if pos < offset", "if pos+int64(blkOff+blkLen) > offset+length",
      "if blkLen > 0", "if next > offset+length",
      "if segIdx == len(segments) && pos < offset+length"].isSublist loadManifestConds) = true := by
  -- greedy matching from the left, comparing the literals syntactically; deciding `isSublist` would
  -- evaluate equality of string literals in the kernel, which is slow
  rw [List.isSublist_iff_sublist]
  unfold loadManifestConds
  repeat first
    | exact List.nil_sublist _
    | apply List.Sublist.cons_cons
    | apply List.Sublist.cons

end ArvVerif.Tie.C03
