/-
Tie for C06: source facts regenerated from /repo on every run (Gen/FactsC06.lean) equal what the
models were written against. An edit to the paging conditions, filters or assignments, to the index
readers' loop, to GetIndex's suffix test, to handleIndex's error path, or to the error guards of
Balancer.Run / GetCurrentState / CheckSanityLate breaks one of these theorems.
-/
import ArvVerif.Gen.FactsC06
import ArvVerif.Model.C06
import ArvVerif.Model.C06_Index
import ArvVerif.Proofs.C06_Run
import ArvVerif.Model.C06_GCSShape
namespace ArvVerif.Tie.C06
open ArvVerif.Facts.C06 ArvVerif.C06

/-- The loop's conditions, in source order: the page-size default (`effLimit`), the overlap-skip rule
(`skip`), the four-way hand-over chain (`advance`) and the final count test (`finalCheck`). -/
theorem tie_eachCollection_conds : eachCollectionConds =
  ["if progress == nil",
   "if err != nil",
   "if limit <= 0",
   "if err != nil",
   "if last.ModifiedAt == coll.ModifiedAt && last.UUID >= coll.UUID",
   "if err != nil",
   "if len(page.Items) == 0 && !gettingExactTimestamp",
   "if last.ModifiedAt.IsZero()",
   "if len(page.Items) > 0 && last.ModifiedAt == filterTime",
   "if gettingExactTimestamp",
   "if err != nil",
   "if callCount < checkCount"] := rfl

/-- Filter attributes and operators of each mode in source order — `=`/`>` (exact timestamp with uuid
cursor, `Filt.eq`), `>` (`Filt.gt`), `>=`/`!=` (`Filt.ge`), `<=` (final count) — the order string,
`count=none`, and the selected fields. -/
theorem tie_eachCollection_strings : eachCollectionStrings =
  ["modified_at, uuid",
   "none",
   "uuid",
   "unsigned_manifest_text",
   "modified_at",
   "portable_data_hash",
   "replication_desired",
   "storage_classes_desired",
   "GET",
   "arvados/v1/collections",
   "BUG: Last collection on the page (%s) has no modified_at timestamp; cannot make progress",
   "modified_at",
   "=",
   "uuid",
   ">",
   "modified_at",
   ">",
   "modified_at",
   ">=",
   "uuid",
   "!=",
   "modified_at",
   "<=",
   "Retrieved %d collections with modtime <= T=%q, but server now reports there are %d collections with modtime <= T"] := rfl

/-- The state updates: `callCount++` and `last = coll` per callback, `filterTime` only in `>=` mode. -/
theorem tie_eachCollection_assigns : eachCollectionAssigns =
  ["limit := pageSize",
   "limit = 1<<31 - 1",
   "callCount := 0",
   "gettingExactTimestamp := false",
   "callCount++",
   "last = coll",
   "gettingExactTimestamp = true",
   "gettingExactTimestamp = false",
   "filterTime = last.ModifiedAt"] := rfl

/-- Every error is returned (request error ×3 sites + callback error, BUG, count mismatch). -/
theorem tie_eachCollection_returns : eachCollectionReturns =
  ["err",
   "err",
   "err",
   "fmt.Errorf(\"BUG: Last collection on the page (%s) has no modified_at timestamp; cannot make progress\", last.UUID)",
   "err",
   "fmt.Errorf(\"Retrieved %d collections with modtime <= T=%q, but server now reports there are %d collections with modtime <= T\", callCount, filterTime, checkCount)",
   "nil"] := rfl

theorem tie_eachCollection_ints : eachCollectionInts = [0, 1, 31, 1, 0, 0, 0] := rfl

/-- `limit = 1<<31 - 1` when `pageSize <= 0` -/
theorem tie_effLimit : effLimit 0 = 1 <<< 31 - 1 ∧ effLimit (-3) = 1 <<< 31 - 1 ∧ effLimit 7 = 7 := by decide

/-- the count requests: `count=exact` (with `limit=0`) -/
theorem tie_countCollections_strings : countCollectionsStrings =
  ["exact",
   "GET",
   "arvados/v1/collections"] := rfl

/-- `arvados.Client.DoAndDecode`, the helper under every API request of the sweep: a 200 response is
decoded with `json.Unmarshal` whenever the caller wants a result (an empty or cut-short body is then a
decode error — the model's "request k fails"); every non-200, non-redirect status is an error. -/
theorem tie_doAndDecode_conds : doAndDecodeConds =
  ["if err != nil",
   "if err != nil",
   "case resp.StatusCode == http.StatusOK && dst == nil",
   "case resp.StatusCode == http.StatusOK",
   "case isRedirectStatus(resp.StatusCode) && dst == nil",
   "case isRedirectStatus(resp.StatusCode)",
   "if err != nil",
   "default"] := rfl

theorem tie_doAndDecode_returns : doAndDecodeReturns =
  ["err",
   "err",
   "nil",
   "json.Unmarshal(buf, dst)",
   "nil",
   "err",
   "json.Unmarshal(buf, dst)",
   "newTransactionError(req, resp, buf)"] := rfl

/-- `KeepService.index`: status test, scanner loop, `sawEOF` tests, field count, legacy-seconds fix,
final `!sawEOF` (`ksLoop`, `parseLine`, `fixMtime`). -/
theorem tie_ksIndex_conds : ksIndexConds =
  ["if err != nil",
   "if err != nil",
   "if resp.StatusCode != 200",
   "for scanner.Scan()",
   "if scanner.Err() != nil",
   "if sawEOF",
   "if line == \"\"",
   "if len(fields) != 2",
   "if err != nil",
   "if mtime < 1e12",
   "if err != nil",
   "if !sawEOF"] := rfl

theorem tie_ksIndex_assigns : ksIndexAssigns =
  ["sawEOF := false",
   "sawEOF = true",
   "mtime, err := strconv.ParseInt(fields[1], 10, 64)",
   "mtime = mtime * 1e9"] := rfl

/-- a `bufio.Scanner` with the default split function (`ScanLines`: no call to `scanner.Split`),
`strings.Split`, `strconv.ParseInt` -/
theorem tie_ksIndex_calls : ksIndexCalls =
  ["bufio.NewScanner",
   "scanner.Scan",
   "scanner.Err",
   "scanner.Text",
   "strings.Split",
   "strconv.ParseInt",
   "scanner.Err"] := rfl

theorem tie_ksIndex_strings : ksIndexStrings =
  ["GET",
   "NewRequestWithContext(%v): %v",
   "Do(%v): %v",
   "%v: %d %v",
   "Index response contained non-terminal blank line",
   "",
   " ",
   "Malformed index line %q: %d fields",
   "Malformed index line %q: mtime: %v",
   "Error scanning index response: %v",
   "Index response had no EOF marker"] := rfl

/-- `GetIndex`: the completeness test (`getIndex`) -/
theorem tie_getIndex_conds : getIndexConds =
  ["if url == \"\"",
   "if prefix != \"\"",
   "if err != nil",
   "if err != nil",
   "if resp.StatusCode != http.StatusOK",
   "if err != nil",
   "if !bytes.Equal(respBody, []byte(\"\\n\")) && !bytes.HasSuffix(respBody, []byte(\"\\n\\n\"))"] := rfl

/-- … and what it returns: every failure is an error, success strips the last byte. -/
theorem tie_getIndex_returns : getIndexReturns =
  ["nil, ErrNoSuchKeepServer",
   "nil, err",
   "nil, err",
   "nil, fmt.Errorf(\"Got http status code: %d\", resp.StatusCode)",
   "nil, err",
   "nil, ErrIncompleteIndex",
   "bytes.NewReader(respBody[0 : len(respBody)-1]), nil"] := rfl

/-- `handleIndex`: `IndexTo` is called in a loop, its error is followed by `return`, and the single
`resp.Write` (the terminating newline) comes after the loop, outside every condition
(`handleIndex`). -/
theorem tie_handleIndex_steps : stepsOf handleIndexSkeleton =
    [⟨"http.Error".toList, false, false, ["!rtr.isSystemAuth(GetAPIToken(req))".toList]⟩,
     ⟨"http.Error".toList, false, false, ["mnt == nil".toList, "!uuid == \"\"".toList]⟩,
     ⟨"v.IndexTo".toList, true, true, ["for".toList]⟩,
     ⟨"resp.Write".toList, false, false, []⟩] := by
  rw [stepsOf_eq]
  unfold handleIndexSkeleton
  simp only [List.map_cons, List.map_nil]
  repeat rw [String.toList_ofList]
  decide +kernel

/-- The guard list extracted from the current `Balancer.Run` is the model's `runSteps`. -/
theorem tie_run_steps : stepsOf ArvVerif.Facts.C06.runSkeleton = runSteps := by
  rw [stepsOf_eq]
  unfold ArvVerif.Facts.C06.runSkeleton runSteps
  simp only [List.map_cons, List.map_nil]
  repeat rw [String.toList_ofList]
  decide +kernel

/-- `ClearTrashLists` empties every change set and calls `CommitTrash` (so the trash requests it
sends are empty lists). -/
theorem tie_clearTrashLists : clearTrashListsText =
  "{ for _, srv := range bal.KeepServices { srv.ChangeSet = &ChangeSet{} } return bal.CommitTrash(ctx, c) }" := rfl

theorem tie_commitPulls : commitPullsCalls = ["bal.commitAsync",    "srv.CommitPulls"] := rfl
theorem tie_commitTrash : commitTrashCalls = ["bal.commitAsync",    "srv.CommitTrash"] := rfl

/-! `GetCurrentState` — structural ties (a literal of the whole skeleton would
break on any harmless rewrite of the device-table loops or of the logging): `GCS.shapeOf` cuts the
regenerated skeleton into prologue / goroutine bodies / epilogue (`call len` tokens dropped). -/

/-- The skeleton is cut once; the three ties below are the parts of this evaluation. -/
theorem getCurrentState_shape :
    (GCS.shapeOf getCurrentStateSkeleton).bodies = [GCS.workerBody, GCS.processorBody, GCS.scannerBody] ∧
    (GCS.shapeOf getCurrentStateSkeleton).epi = GCS.epilogue ∧
    GCS.hasBlock GCS.ddGuard (GCS.shapeOf getCurrentStateSkeleton).pro = true ∧
    ((GCS.shapeOf getCurrentStateSkeleton).pro.filter
      (fun t => t == "go" || t == "call wg.Wait" || t == "call close")) = [] := by
  decide +kernel

/-- The three goroutine literals, in source order, are exactly the index worker, the collection
processor and the collection scanner the small-step model `Model/C06_GCS.lean` describes: error →
non-blocking offer to `errs`, `cancel()`, return; `len(errs) > 0` tests; drain loop; `close(collQ)`. -/
theorem tie_getCurrentState_goroutines :
    (GCS.shapeOf getCurrentStateSkeleton).bodies = [GCS.workerBody, GCS.processorBody, GCS.scannerBody] :=
  getCurrentState_shape.1

/-- Outside the goroutines, from the first `go` on: the two further `wg.Add`, `wg.Wait`, then
`if len(errs) > 0 { return <-errs }` and `return nil` — nothing else. -/
theorem tie_getCurrentState_epilogue : (GCS.shapeOf getCurrentStateSkeleton).epi = GCS.epilogue :=
  getCurrentState_shape.2.1

/-- Before the first goroutine: the discovery-document request is followed by `if err != nil { return }`
(`getCurrentStateFails`), and no goroutine is started, waited for, nor `collQ` closed there. -/
theorem tie_getCurrentState_prologue :
    GCS.hasBlock GCS.ddGuard (GCS.shapeOf getCurrentStateSkeleton).pro = true ∧
    ((GCS.shapeOf getCurrentStateSkeleton).pro.filter
      (fun t => t == "go" || t == "call wg.Wait" || t == "call close")) = [] :=
  getCurrentState_shape.2.2

/-- `CheckSanityLate` (`checkSanityLateFails`) -/
theorem tie_checkSanityLate_conds : checkSanityLateConds =
  ["if bal.errors != nil",
   "if bal.collScanned == 0",
   "if desired > 0",
   "if !anyDesired",
   "if dr < 1"] := rfl

theorem tie_checkSanityLate_returns : checkSanityLateReturns =
  ["fmt.Errorf(\"cannot proceed safely after deferred errors\")",
   "fmt.Errorf(\"received zero collections\")",
   "fmt.Errorf(\"zero blocks have desired replication>0\")",
   "fmt.Errorf(\"Default replication (%d) is less than 1\", dr)",
   "nil"] := rfl

end ArvVerif.Tie.C06
