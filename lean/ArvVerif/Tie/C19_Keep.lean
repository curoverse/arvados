/-
C19 tie facts, keepstore part: the regenerated source facts about keepstore's remote GET path
(services/keepstore/proxy_remote.go, handlers.go), keepclient and arvadosclient, equated with what
Model/C19_Keep.lean assumes.
-/
import ArvVerif.Gen.FactsC19
import ArvVerif.Model.C19_Keep
namespace ArvVerif.Tie.C19
open ArvVerif.Facts.C19 ArvVerif.C19

/-! ### remoteClient: how a remote's keep client is built -/

/-- the only string literal of `remoteClient` is the placeholder token of the `arvados.Client` the
remote's keep client is built from (`AuthToken: "xxx"`): nothing of the caller's request goes into
the client that does service discovery at the remote's API endpoint -/
theorem tie_keepPlaceholder :
    keepClientStrings = ["xxx"] ∧ (keepClientStrings.getD 0 "").toList = placeholderToken := ⟨rfl, rfl⟩

/-- every assignment of `remoteClient`: the cached client comes from the map or from
`MakeKeepClient(arvadosclient.New(c))`; the caller's token is written to COPIES only
(`accopy`, `kccopy`), and the copy that is returned holds the result of `SaltToken(token, remoteID)` -/
theorem tie_keepClientAssigns : keepClientAssigns =
    ["kc, ok := rp.clients[remoteID]",
     "ac, err := arvadosclient.New(c)",
     "kc, err = keepclient.MakeKeepClient(ac)",
     "accopy := *kc.Arvados",
     "accopy.ApiToken = token",
     "kccopy := *kc",
     "kccopy.Arvados = &accopy",
     "token, err := auth.SaltToken(token, remoteID)",
     "kccopy.Arvados.ApiToken = token"] := rfl

/-- `MakeKeepClient` = `New` (reads the discovery document) + `discoverServices` (reads the keep
service list): the two requests of `keepClientFor` -/
theorem tie_makeKeepClient : makeKeepClientText = "{ kc := New(arv) return kc, kc.discoverServices() }" := rfl

/-- `arvadosclient.CallRaw` (both of those requests) sends `Authorization: OAuth2 <ApiToken>` -/
theorem tie_callRawAuth : callRawStrings.contains "OAuth2 %s" = true ∧ callRawStrings.contains "Authorization" = true := by
  decide +kernel

/-! ### GetAPIToken -/

theorem tie_keepAuthRe : keepAuthRe = "^(OAuth2|Bearer)\\s+(.*)" := rfl

/-- first header value only (`auth[0]`), submatch 2, otherwise the empty string -/
theorem tie_getAPIToken : getAPITokenConds = ["if ok", "if match != nil"] ∧
    getAPITokenReturns = ["match[2]", "\"\""] := ⟨rfl, rfl⟩

/-! ### remoteProxy.Get: locator rewriting -/

/-- every assignment of `Get` to the token, the chosen client and the locator parts: the token is
read once from the request, the remote id is `part[1:6]`, the last `+R` hint's client wins, the
`+R` hint becomes `"A" + part[7:]`, every other part that is not dropped is kept as it is -/
theorem tie_keepGetAssigns : keepGetAssigns =
    ["token := GetAPIToken(r)",
     "remoteID := part[1:6]",
     "remoteClient = kc",
     "part = \"A\" + part[7:]",
     "parts = append(parts, part)",
     "locator := strings.Join(parts, \"+\")"] := rfl

/-! ### keepclient: where a block request goes and what it carries -/

/-- `getSortedRoots`: a 7-character `+K@xxxxx` part puts `https://keep.xxxxx.arvadosapi.com` in
front of the client's own services (`isProxyHint`, `proxyHints`; the F19d mechanism) -/
theorem tie_sortedRoots :
    sortedRootsConds = ["if len(hint) < 7 || hint[0:2] != \"K@\"", "if len(hint) == 7", "if len(hint) == 29", "if ok"] ∧
    sortedRootsStrings = ["+", "K@", "https://keep.", ".arvadosapi.com"] ∧
    (sortedRootsStrings.getD 1 "").toList = sKAt := ⟨rfl, rfl, rfl⟩

/-- `getOrHead`: the empty-block short cut and `Authorization: OAuth2 <ApiToken>` on every request
that has no Authorization header yet (keepstore passes no header) -/
theorem tie_getOrHead :
    getOrHeadConds.take 1 = ["if strings.HasPrefix(locator, \"d41d8cd98f00b204e9800998ecf8427e+0\")"] ∧
    (getOrHeadStrings.getD 0 "").toList = emptyBlockPrefix ∧
    getOrHeadConds.contains "if req.Header.Get(\"Authorization\") == \"\"" = true ∧
    (getOrHeadStrings.getD 8 "").toList = sOAuth2sp := ⟨rfl, rfl, by decide +kernel, rfl⟩

end ArvVerif.Tie.C19
