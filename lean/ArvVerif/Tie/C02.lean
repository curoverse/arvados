/-
Tie for C02: source facts regenerated from the /repo working tree on every run (Gen/FactsC02.lean)
equal what the model was written against. The ordered FS-call skeletons are tied twice: here
(translator `calls_in_func` / `skeleton_in_func`) and at run time (the instrumenter's points.json is
sent to the model driver as a `points` case and every observed point sequence is compared with the
model's).
-/
import ArvVerif.Gen.FactsC02
import ArvVerif.Model.C02
namespace ArvVerif.Tie.C02
open ArvVerif.Facts.C02 ArvVerif.C02

/-- IndexTo lists only names matching this pattern (Model.isBlockName: exactly 32 characters, all of [0-9a-f]) -/
theorem tie_blockFileRe : blockFileRe =
  "^[0-9a-f]{32}$" := rfl

/-- IndexTo / EmptyTrash descend only into directories matching this pattern (Model.isBlockDir) -/
theorem tie_blockDirRe : blockDirRe =
  "^[0-9a-f]+$" := rfl

/-- EmptyTrash's trash-name pattern (Model.isTrashName: 32 hex, ".trash.", one or more decimal digits, to the end) -/
theorem tie_trashLocRe : trashLocRe =
  "/([0-9a-f]{32})\\.trash\\.(\\d+)$" := rfl

/-- control skeleton of WriteBlock: every filesystem call, the `if err != nil { … Remove …; return }` block after each, the final `return` (Model.writeBlockEvs is written against exactly this) -/
theorem tie_writeBlockSkel : writeBlockSkel =
  ["if v.volume.ReadOnly {",
   "return",
   "}",
   "call v.IsFull",
   "if v.IsFull() {",
   "return",
   "}",
   "call os.MkdirAll => err",
   "if err != nil {",
   "return",
   "}",
   "call v.os.TempFile => tmpfile,tmperr",
   "if tmperr != nil {",
   "return",
   "}",
   "call v.lock => err",
   "if err != nil {",
   "return",
   "}",
   "defer",
   "call v.unlock",
   "call io.Copy => n,err",
   "call v.os.stats.TickOutBytes",
   "if err != nil {",
   "call tmpfile.Close",
   "call v.os.Remove",
   "call tmpfile.Name",
   "return",
   "}",
   "call tmpfile.Close => err",
   "if err != nil {",
   "call tmpfile.Name",
   "call v.os.Remove",
   "call tmpfile.Name",
   "return",
   "}",
   "call v.os.stats.TickOps",
   "call v.os.stats.Tick",
   "call os.Chtimes => err",
   "call tmpfile.Name",
   "if err != nil {",
   "call tmpfile.Name",
   "call v.os.Remove",
   "call tmpfile.Name",
   "return",
   "}",
   "call v.os.OpenFile => oldf,err",
   "if err == nil {",
   "defer",
   "call v.lockfile => err",
   "if err != nil {",
   "call v.os.Remove",
   "call tmpfile.Name",
   "return",
   "}",
   "defer",
   "call v.unlockfile",
   "}",
   "call v.os.Rename => err",
   "call tmpfile.Name",
   "if err != nil {",
   "call tmpfile.Name",
   "call v.os.Remove",
   "call tmpfile.Name",
   "return",
   "}",
   "return"] := rfl

/-- what WriteBlock returns on each path: nil only at the very end -/
theorem tie_writeBlockReturns : writeBlockReturns =
  ["MethodDisabledError",
   "FullError",
   "fmt.Errorf(\"error creating directory %s: %s\", bdir, err)",
   "fmt.Errorf(\"TempFile(%s, tmp%s) failed: %s\", bdir, loc, tmperr)",
   "err",
   "err",
   "err",
   "err",
   "fmt.Errorf(\"error locking %s: %s\", bpath, err)",
   "err",
   "nil"] := rfl

/-- the temp file is created in the block's directory under the name "tmp"+loc+<random suffix>; the block path is blockPath(loc) (Model.tmpName / tmpPath / blockPath) -/
theorem tie_writeBlockTemp : writeBlockTemp =
  ["bdir := v.blockDir(loc)",
   "tmpfile, tmperr := v.os.TempFile(bdir, \"tmp\"+loc)",
   "bpath := v.blockPath(loc)"] := rfl

/-- control skeleton of Trash (Model.trashEvs) -/
theorem tie_trashSkel : trashSkel =
  ["if v.volume.ReadOnly || !v.cluster.Collections.BlobTrash {",
   "return",
   "}",
   "call v.lock => err",
   "if err != nil {",
   "return",
   "}",
   "defer",
   "call v.unlock",
   "call v.os.OpenFile => f,err",
   "if err != nil {",
   "return",
   "}",
   "defer",
   "call v.lockfile => e",
   "if e != nil {",
   "return",
   "}",
   "defer",
   "call v.unlockfile",
   "call v.os.Stat => fi,err",
   "if err != nil {",
   "return",
   "} else {",
   "call time.Since",
   "if time.Since(fi.ModTime()) < v.cluster.Collections.BlobSigningTTL.Duration() {",
   "return",
   "}",
   "}",
   "if v.cluster.Collections.BlobTrashLifetime == 0 {",
   "call v.os.Remove",
   "return",
   "}",
   "call v.os.Rename",
   "return"] := rfl

/-- the trash name format (Model.trashName) -/
theorem tie_trashStrings : trashStrings =
  ["%v.trash.%d"] := rfl

/-- Untrash's prefix test (Model.isTrashLike / untrashEvs) -/
theorem tie_untrashStrings : untrashStrings =
  ["readdir",
   "%v.trash.",
   "utimes",
   "Untrash(%s): block restored, but updating its timestamp failed"] := rfl

/-- Untrash renames the first entry with that prefix and stops at the first success (Model.untrashEvs) -/
theorem tie_untrashConds : untrashConds =
  ["if v.volume.ReadOnly",
   "if err != nil",
   "if len(files) == 0",
   "if strings.HasPrefix(f.Name(), prefix)",
   "if err == nil",
   "if tserr != nil",
   "if foundTrash == false"] := rfl

/-- EmptyTrash: regexp must match with 2 groups, deadline must have passed, walk descends into hex-named directories only (Model.emptyTrashVictims) -/
theorem tie_emptyTrashConds : emptyTrashConds =
  ["if v.cluster.Collections.BlobDeleteConcurrency < 1",
   "if info.Mode().IsDir()",
   "if len(matches) != 3",
   "if err != nil",
   "if deadline > time.Now().Unix()",
   "if err != nil",
   "for i < v.cluster.Collections.BlobDeleteConcurrency",
   "if err != nil",
   "if !info.Mode().IsDir()",
   "if path == v.Root || blockDirRe.MatchString(info.Name())",
   "if err != nil"] := rfl

/-- IndexTo's filters (Model.index) -/
theorem tie_indexConds : indexConds =
  ["if err != nil",
   "if err == io.EOF",
   "if err != nil",
   "if !strings.HasPrefix(names[0], prefix) && !strings.HasPrefix(prefix, names[0])",
   "if !blockDirRe.MatchString(names[0])",
   "if err != nil",
   "if err == io.EOF",
   "if err != nil",
   "if !strings.HasPrefix(name, prefix)",
   "if !blockFileRe.MatchString(name)",
   "if err != nil"] := rfl

/-- blockDir = <root>/<loc[0:3]> (Model.blockDir) -/
theorem tie_blockDirText : blockDirText =
  "{ return filepath.Join(v.Root, loc[0:3]) }" := rfl

/-- blockPath = blockDir/<loc> (Model.blockPath) -/
theorem tie_blockPathText : blockPathText =
  "{ return filepath.Join(v.blockDir(loc), loc) }" := rfl

/-- GET reads blockPath(loc) (Model.getBlock) -/
theorem tie_readBlockCalls : readBlockCalls =
  ["v.blockPath",
   "v.stat",
   "v.translateError",
   "v.getFunc"] := rfl

/-- putWithPipe, structural facts instead of the whole text (Model.PStep: the pipe is closed with the error
chosen by the first select; that error is nil only when it came from copyErr or putErr):
every assignment to `err` (the three select branches, then the final `<-putErr`) … -/
theorem tie_putWithPipeErrAssigns : putWithPipeErrAssigns =
  ["err = <-copyErr", "err = <-putErr", "err = ctx.Err()", "err = <-putErr"] := rfl

/-- … the pipe writer is closed in exactly one place, with that `err` (`PStep.close`; a plain `pipew.Close()` or
`CloseWithError(nil)` would make the writer see EOF after a prefix) … -/
theorem tie_pipeWriterCloseLines : pipeWriterCloseLines = ["go pipew.CloseWithError(err)"] := rfl

/-- … and what putWithPipe returns: the first select's error, the context's error, or WriteBlock's result;
its only `if` is `err != nil` (the control skeleton below fixes the order of all of these). -/
theorem tie_putWithPipeReturns : putWithPipeReturns = ["err", "ctx.Err()", "err"] ∧
    putWithPipeConds = ["if err != nil"] := ⟨rfl, rfl⟩

/-- putWithPipe's skeleton -/
theorem tie_putWithPipeSkel : putWithPipeSkel =
  ["call io.Pipe => piper,pipew",
   "go",
   "func {",
   "call io.Copy => _,err",
   "}",
   "go",
   "func {",
   "call bw.WriteBlock",
   "}",
   "case {",
   "}",
   "case {",
   "}",
   "call ctx.Done",
   "case {",
   "call ctx.Err => err",
   "}",
   "go",
   "call pipew.CloseWithError",
   "go",
   "call io.Copy",
   "if err != nil {",
   "return",
   "}",
   "call ctx.Done",
   "case {",
   "call ctx.Err",
   "return",
   "}",
   "case {",
   "return",
   "}"] := rfl

/-- handlePUT: every error path returns before resp.Write; PutBlock is called before the reply; the buffer goes back to the pool exactly once on every path (Model.handlePut) -/
theorem tie_handlePutSkel : handlePutSkel =
  ["defer",
   "if req.ContentLength == -1 {",
   "call http.Error",
   "return",
   "}",
   "if req.ContentLength > BlockSize {",
   "call http.Error",
   "return",
   "}",
   "if len(rtr.volmgr.AllWritable()) == 0 {",
   "call http.Error",
   "return",
   "}",
   "call getBufferWithContext => buf,err",
   "if err != nil {",
   "call http.Error",
   "return",
   "}",
   "call io.ReadFull => _,err",
   "if err != nil {",
   "call http.Error",
   "call bufs.Put",
   "return",
   "}",
   "call PutBlock => replication,err",
   "call bufs.Put",
   "if err != nil {",
   "if ok {",
   "}",
   "call http.Error",
   "return",
   "}",
   "if rtr.cluster.Collections.BlobSigningKey != \"\" && apiToken != \"\" {",
   "}",
   "call resp.Write"] := rfl

/-- PutBlock: checksum, CompareAndTouch, NextWritable().Put, then every writable volume (Model.handlePut / attemptsEvs) -/
theorem tie_putBlockSkel : putBlockSkel =
  ["call md5.Sum",
   "if blockhash != hash {",
   "return",
   "}",
   "call CompareAndTouch => n,err",
   "if err == nil || err == CollisionError {",
   "return",
   "} else {",
   "if ctx.Err() != nil {",
   "return",
   "}",
   "}",
   "call volmgr.NextWritable => mnt",
   "if mnt != nil {",
   "call mnt.Put => err",
   "if err != nil {",
   "} else {",
   "return",
   "}",
   "}",
   "if ctx.Err() != nil {",
   "return",
   "}",
   "call volmgr.AllWritable => writables",
   "if len(writables) == 0 {",
   "return",
   "}",
   "for {",
   "call vol.Put => err",
   "if ctx.Err() != nil {",
   "return",
   "}",
   "case {",
   "return",
   "}",
   "case {",
   "continue",
   "}",
   "case {",
   "}",
   "}",
   "if allFull {",
   "return",
   "}",
   "return"] := rfl

/-- UnixVolume.Put goes through putWithPipe -/
theorem tie_unixPutText : unixPutText =
  "{ return putWithPipe(ctx, loc, block, v) }" := rfl

/-- calls that only tick statistics counters; they are excluded from instrumentation (-exclude) -/
def statsCalls : List String :=
  ["v.os.stats.TickOutBytes", "v.os.stats.TickOps", "v.os.stats.Tick", "v.os.stats.TickErr"]

def fsCalls (l : List String) : List String := l.filter (fun c => !statsCalls.contains c)

/-- The ordered FS-call skeleton of WriteBlock — MkdirAll, TempFile, io.Copy, [Close, Remove],
Close, [Remove], Chtimes, [Remove], OpenFile(bpath), lockfile, [Remove], unlockfile, Rename, [Remove] — is the list the model numbers its points by. -/
theorem tie_writeBlockCalls : fsCalls writeBlockCalls = skeleton .writeBlock := by decide +kernel
theorem tie_touchCalls : fsCalls touchCalls = skeleton .touch := by decide +kernel
theorem tie_trashCalls : fsCalls trashCalls = skeleton .trash := by decide +kernel
theorem tie_untrashCalls : fsCalls untrashCalls = skeleton .untrash := by decide +kernel
theorem tie_emptyTrashCalls :
    emptyTrashCalls = ["unixTrashLocRegexp.FindStringSubmatch", "v.os.Remove", "blockDirRe.MatchString"] ∧
    fsCalls (emptyTrashCalls.filter (fun c => c == "v.os.Remove")) = skeleton .emptyTrash :=
  ⟨rfl, by decide +kernel⟩

/-- UnixVolume.Compare, whole text (tiny function): stat, then read-and-compare under getFunc;
nothing else — in particular no call that changes the volume (Model.compareEvs: no-effect events) -/
theorem tie_compareText : compareText =
  "{ path := v.blockPath(loc) if _, err := v.stat(path); err != nil { return v.translateError(err) } return v.getFunc(ctx, path, func(rdr io.Reader) error { return compareReaderWithBuf(ctx, rdr, expect, loc[:32]) }) }" := rfl

/-- CompareAndTouch: the context is checked right after Compare, before anything else is done with
its result; Touch only after a nil Compare (Model.handlePut `compareCancelled`, Model.putCore) -/
theorem tie_compareAndTouchSkel : compareAndTouchSkel =
  ["for {",
   "call mnt.Compare => err",
   "call ctx.Err",
   "if ctx.Err() != nil {",
   "call ctx.Err",
   "return",
   "} else {",
   "if err == CollisionError {",
   "return",
   "} else {",
   "call os.IsNotExist",
   "if os.IsNotExist(err) {",
   "continue",
   "} else {",
   "if err != nil {",
   "continue",
   "}",
   "}",
   "}",
   "}",
   "call mnt.Touch => err",
   "if err != nil {",
   "continue",
   "}",
   "return",
   "}",
   "return"] := rfl

theorem tie_getFuncCalls : fsCalls getFuncCalls = skeleton .getFunc := by decide +kernel
theorem tie_statCalls : fsCalls statCalls = skeleton .stat := by decide +kernel

/-- osWithStats.TempFile, whole text (tiny function): the temp file is created by ioutil.TempFile,
i.e. O_EXCL with a random suffix, so two writers never share a temp file (the `sfx ≠` hypothesis
of C02_concurrent_writes_atomic; Model.createTemp) -/
theorem tie_tempFileText : tempFileText =
  "{ o.stats.TickOps(\"create\") o.stats.Tick(&o.stats.CreateOps) f, err := ioutil.TempFile(dir, base) o.stats.TickErr(err) return f, err }" := rfl

/-- compareReaderWithBuf: a match is reported only at EOF with nothing left to compare; more bytes
than expected, or EOF before all expected bytes, go to collisionOrCorrupt (Model.putCore: Touch only
when the stored bytes EQUAL the request body) -/
theorem tie_compareBufConds : compareBufConds =
  ["if bufLen > len(expect) && len(expect) > 0",
   "if n > len(cmp) || bytes.Compare(cmp[:n], buf[:n]) != 0",
   "if err == io.EOF",
   "if len(cmp) != 0",
   "if err != nil"] := rfl
theorem tie_compareBufReturns : compareBufReturns =
  ["ctx.Err()",
   "collisionOrCorrupt(hash, expect[:len(expect)-len(cmp)], buf[:n], rdr)",
   "collisionOrCorrupt(hash, expect[:len(expect)-len(cmp)], nil, nil)",
   "nil",
   "err"] := rfl

/-- the literals the model's names are built from -/
theorem tie_tmpPrefix : tmpPrefix = "tmp".toList := String.toList_ofList.symm
theorem tie_trashInfix : trashInfix = ".trash.".toList := String.toList_ofList.symm

/-- PUT, GET, TOUCH, DELETE and untrash are only routed for 32-hex hashes (Model.handlePut's
`isBlockName` guard, `Op.evs`) -/
theorem tie_routes : routes.take 10 =
    ["/{hash:[0-9a-f]{32}}", "GET", "HEAD", "/{hash:[0-9a-f]{32}}+{hints}", "GET", "HEAD",
     "/{hash:[0-9a-f]{32}}", "PUT", "/{hash:[0-9a-f]{32}}", "DELETE"] ∧
    routes.contains "/untrash/{hash:[0-9a-f]{32}}" = true ∧
    (routes.drop 16).take 2 = ["/{hash:[0-9a-f]{32}}", "TOUCH"] :=
  ⟨rfl, by decide +kernel, rfl⟩

/-! ### several volumes (Model/C02_MV.lean) -/

/-- `writables` = the mounts that are not ReadOnly; every mount is readable; all three lists in the
same (mount) order (Model.MVCfg.writables) -/
theorem tie_mkVolMgr :
    mkVolMgrAppends = ["vm.mounts = append(vm.mounts, mnt)", "vm.readables = append(vm.readables, mnt)",
      "vm.writables = append(vm.writables, mnt)"] ∧
    mkVolMgrConds.getLast? = some "if !mnt.KeepMount.ReadOnly" := ⟨rfl, rfl⟩

/-- NextWritable: round robin over `writables` (Model.putBlockMV: `ws[next % ws.length]?`, nil when empty) -/
theorem tie_nextWritableText : nextWritableText =
  "{ if len(vm.writables) == 0 { return nil } i := atomic.AddUint32(&vm.counter, 1) return vm.writables[i%uint32(len(vm.writables))] }" := rfl

theorem tie_allWritableReadable : allWritableText = "{ return vm.writables }" ∧ allReadableText = "{ return vm.readables }" :=
  ⟨rfl, rfl⟩

/-- GetBlock: every readable volume in order; an error or a checksum mismatch ⇒ next volume; the first
good copy is returned (Model.getBlockOver) -/
theorem tie_getBlockSkel : getBlockSkel =
  ["call volmgr.AllReadable", "for {", "call vol.Get => size,err", "case {", "return", "}", "case {", "}",
   "if err != nil {", "if !os.IsNotExist(err) {", "}", "if err == VolumeBusyError {", "}", "continue", "}",
   "call md5.Sum", "if filehash != hash {", "continue", "}", "if errorToCaller == DiskHashError {", "}",
   "return", "}", "return"] := rfl

/-- GET /index: IndexTo of every readable mount, one after the other (Model.indexMV) -/
theorem tie_handleIndexSkel : handleIndexSkel =
  ["if !rtr.isSystemAuth(GetAPIToken(req)) {", "return", "}", "if prefix == \"\" {", "}", "if uuid == \"\" {",
   "call rtr.volmgr.AllReadable => vols", "} else {", "call rtr.volmgr.Lookup => mnt", "if mnt == nil {", "return",
   "} else {", "}", "}", "for {", "call v.IndexTo => err", "if err != nil {", "return", "}", "}"] := rfl

end ArvVerif.Tie.C02
